/-
  Regular expressions over bytes, with Brzozowski derivatives.

  Core Lean only; everything computational here is evaluated by the kernel in
  `Properties/C18.lean`, so the definitions are structural recursions over
  constructor data, byte classes are 256-bit `Nat` masks, and equality is a
  hand-written structural `Bool` function (no derived instances).
-/
namespace Libconfig

/-- Regular expressions over bytes.  A byte class is a bit mask: byte `b`
belongs to `cls m` iff bit `b` of `m` is set. -/
inductive Rx where
  | empty                     -- ∅ : matches nothing
  | eps                       -- ε : matches the empty word
  | cls (mask : Nat)          -- one byte of the class
  | cat (a b : Rx)
  | alt (a b : Rx)
  | star (a : Rx)
deriving Repr, Inhabited

namespace Rx

/-- bit `b` of `m` -/
def mem (m b : Nat) : Bool := Nat.beq ((m >>> b) % 2) 1

/-! ### derived forms -/
/-- `a+` -/
@[reducible] def plus (a : Rx) : Rx := .cat a (.star a)
/-- `a?` -/
@[reducible] def opt (a : Rx) : Rx := .alt .eps a
/-- `a{n}` -/
def rep : Nat → Rx → Rx
  | 0, _ => .eps
  | n+1, a => .cat a (rep n a)
/-- `a{n,m}` (`m ≥ n`): `a{n}` followed by at most `m-n` optional copies -/
def repUpTo : Nat → Rx → Rx
  | 0, _ => .eps
  | k+1, a => .alt .eps (.cat a (repUpTo k a))
def repRange (n m : Nat) (a : Rx) : Rx := .cat (rep n a) (repUpTo (m - n) a)

/-! ### denotational semantics -/
inductive Matches : Rx → List Nat → Prop
  | eps : Matches .eps []
  | cls {m b : Nat} : mem m b = true → Matches (.cls m) [b]
  | cat {a b : Rx} {u v : List Nat} : Matches a u → Matches b v → Matches (.cat a b) (u ++ v)
  | altL {a b : Rx} {w : List Nat} : Matches a w → Matches (.alt a b) w
  | altR {a b : Rx} {w : List Nat} : Matches b w → Matches (.alt a b) w
  | starNil {a : Rx} : Matches (.star a) []
  | starCons {a : Rx} {u v : List Nat} :
      Matches a u → Matches (.star a) v → Matches (.star a) (u ++ v)

theorem not_matches_empty {w : List Nat} : ¬ Matches .empty w := fun h => nomatch h

theorem matches_eps_iff {w : List Nat} : Matches .eps w ↔ w = [] :=
  ⟨fun h => by cases h; rfl, fun h => h ▸ .eps⟩

theorem matches_cls_iff {m : Nat} {w : List Nat} :
    Matches (.cls m) w ↔ ∃ b, w = [b] ∧ mem m b = true :=
  ⟨fun h => by cases h with | cls hb => exact ⟨_, rfl, hb⟩,
   fun ⟨_, hw, hb⟩ => hw ▸ .cls hb⟩

theorem matches_cat_iff {a b : Rx} {w : List Nat} :
    Matches (.cat a b) w ↔ ∃ u v, w = u ++ v ∧ Matches a u ∧ Matches b v :=
  ⟨fun h => by cases h with | cat h1 h2 => exact ⟨_, _, rfl, h1, h2⟩,
   fun ⟨_, _, hw, h1, h2⟩ => hw ▸ .cat h1 h2⟩

theorem matches_alt_iff {a b : Rx} {w : List Nat} :
    Matches (.alt a b) w ↔ Matches a w ∨ Matches b w :=
  ⟨fun h => by
      cases h with
      | altL h => exact .inl h
      | altR h => exact .inr h,
   fun h => h.elim .altL .altR⟩

/-! ### structural equality -/
def beq : Rx → Rx → Bool
  | .empty, .empty => true
  | .eps, .eps => true
  | .cls m, .cls n => Nat.beq m n
  | .cat a b, .cat c d => beq a c && beq b d
  | .alt a b, .alt c d => beq a c && beq b d
  | .star a, .star c => beq a c
  | _, _ => false

theorem beq_eq : ∀ {a b : Rx}, beq a b = true → a = b := by
  intro a
  induction a with
  | empty => intro b h; cases b <;> first | rfl | cases h
  | eps => intro b h; cases b <;> first | rfl | cases h
  | cls m => intro b h; cases b <;> first | exact congrArg cls (Nat.eq_of_beq_eq_true h) | cases h
  | cat x y ihx ihy =>
    intro b h
    cases b <;> first | cases h | (simp only [beq, Bool.and_eq_true] at h; rw [ihx h.1, ihy h.2])
  | alt x y ihx ihy =>
    intro b h
    cases b <;> first | cases h | (simp only [beq, Bool.and_eq_true] at h; rw [ihx h.1, ihy h.2])
  | star x ihx => intro b h; cases b <;> first | cases h | rw [ihx h]

theorem beq_refl : ∀ (a : Rx), beq a a = true := by
  intro a
  induction a <;> simp only [beq, Nat.beq_refl, Bool.and_self, *]

/-! ### nullability -/
def nullable : Rx → Bool
  | .empty => false
  | .eps => true
  | .cls _ => false
  | .cat a b => nullable a && nullable b
  | .alt a b => nullable a || nullable b
  | .star _ => true

private theorem nullable_of_matches {r : Rx} {w : List Nat} (h : Matches r w) :
    w = [] → nullable r = true := by
  induction h with
  | eps => intro _; rfl
  | cls _ => intro h; cases h
  | cat _ _ ih1 ih2 =>
    intro h
    have h' := List.append_eq_nil_iff.mp h
    simp [nullable, ih1 h'.1, ih2 h'.2]
  | altL _ ih => intro h; simp [nullable, ih h]
  | altR _ ih => intro h; simp [nullable, ih h]
  | starNil => intro _; rfl
  | starCons _ _ _ _ => intro _; rfl

theorem nullable_iff {r : Rx} : nullable r = true ↔ Matches r [] := by
  constructor
  · intro h
    induction r with
    | empty => cases h
    | eps => exact .eps
    | cls _ => cases h
    | cat a b iha ihb =>
      simp [nullable] at h
      exact .cat (u := []) (v := []) (iha h.1) (ihb h.2)
    | alt a b iha ihb =>
      simp [nullable] at h
      exact h.elim (fun h => .altL (iha h)) (fun h => .altR (ihb h))
    | star _ _ => exact .starNil
  · intro h; exact nullable_of_matches h rfl

/-! ### normalising smart constructors -/

/-- concatenation with `∅` absorbing and `ε` neutral -/
def mkCat : Rx → Rx → Rx
  | .empty, _ => .empty
  | .eps, b => b
  | _, .empty => .empty
  | a, .eps => a
  | a, b => .cat a b

theorem mkCat_iff {a b : Rx} {w : List Nat} :
    Matches (mkCat a b) w ↔ Matches (.cat a b) w := by
  unfold mkCat
  split
  · exact ⟨nofun, fun h => by
      obtain ⟨_, _, _, h1, _⟩ := matches_cat_iff.mp h; exact nomatch h1⟩
  · exact ⟨fun h => .cat (u := []) .eps h, fun h => by
      obtain ⟨u, v, hw, h1, h2⟩ := matches_cat_iff.mp h
      cases matches_eps_iff.mp h1; simpa [hw] using h2⟩
  · exact ⟨nofun, fun h => by
      obtain ⟨_, _, _, _, h2⟩ := matches_cat_iff.mp h; exact nomatch h2⟩
  · exact ⟨fun h => by simpa using Matches.cat (v := []) h .eps, fun h => by
      obtain ⟨u, v, hw, h1, h2⟩ := matches_cat_iff.mp h
      cases matches_eps_iff.mp h2; simpa [hw] using h1⟩
  · exact Iff.rfl

/-- is `a` one of the alternatives on the right spine of `b`? -/
def altMem (a : Rx) : Rx → Bool
  | .alt x y => beq a x || altMem a y
  | b => beq a b

theorem altMem_sound {a : Rx} {w : List Nat} (ha : Matches a w) :
    ∀ {b : Rx}, altMem a b = true → Matches b w := by
  intro b
  induction b with
  | alt x y _ ihy =>
    intro h
    simp only [altMem, Bool.or_eq_true] at h
    cases h with
    | inl h => exact .altL (beq_eq h ▸ ha)
    | inr h => exact .altR (ihy h)
  | _ => intro h; exact beq_eq h ▸ ha

/-- add one (non-`alt`) alternative in front of a right-nested alternation,
dropping `∅` and duplicates -/
def altCons (a b : Rx) : Rx :=
  match a, b with
  | .empty, b => b
  | a, .empty => a
  | a, b => if altMem a b then b else .alt a b

theorem altCons_iff {a b : Rx} {w : List Nat} :
    Matches (altCons a b) w ↔ Matches a w ∨ Matches b w := by
  unfold altCons
  split
  · exact ⟨.inr, fun h => h.elim (fun h => nomatch h) id⟩
  · exact ⟨.inl, fun h => h.elim id (fun h => nomatch h)⟩
  · split
    · next h => exact ⟨.inr, fun h' => h'.elim (fun ha => altMem_sound ha h) id⟩
    · exact matches_alt_iff

/-- alternation, normalised: right-nested, without `∅`, without repeated
alternatives -/
def mkAlt : Rx → Rx → Rx
  | .alt x y, b => mkAlt x (mkAlt y b)
  | a, b => altCons a b

theorem mkAlt_iff {a b : Rx} {w : List Nat} :
    Matches (mkAlt a b) w ↔ Matches a w ∨ Matches b w := by
  induction a generalizing b with
  | alt x y ihx ihy =>
    simp only [mkAlt]
    rw [ihx, ihy, matches_alt_iff, or_assoc]
  | _ => simp only [mkAlt]; exact altCons_iff

/-! ### Brzozowski derivative -/
def deriv (b : Nat) : Rx → Rx
  | .empty => .empty
  | .eps => .empty
  | .cls m => if mem m b then .eps else .empty
  | .cat x y =>
    if nullable x then mkAlt (mkCat (deriv b x) y) (deriv b y) else mkCat (deriv b x) y
  | .alt x y => mkAlt (deriv b x) (deriv b y)
  | .star x => mkCat (deriv b x) (.star x)

private theorem deriv_sound {b : Nat} {r : Rx} :
    ∀ {w : List Nat}, Matches (deriv b r) w → Matches r (b :: w) := by
  induction r with
  | empty => intro w h; exact nomatch h
  | eps => intro w h; exact nomatch h
  | cls m =>
    intro w h
    simp only [deriv] at h
    by_cases hm : mem m b = true
    · simp only [hm, if_true] at h
      cases matches_eps_iff.mp h
      exact .cls hm
    · simp only [hm] at h
      exact nomatch h
  | cat x y ihx ihy =>
    intro w h
    simp only [deriv] at h
    have hcat : Matches (mkCat (deriv b x) y) w → Matches (.cat x y) (b :: w) := by
      intro h
      obtain ⟨u, v, hw, h1, h2⟩ := matches_cat_iff.mp (mkCat_iff.mp h)
      subst hw
      exact Matches.cat (ihx h1) h2
    by_cases hn : nullable x = true
    · simp only [hn, if_true] at h
      cases mkAlt_iff.mp h with
      | inl h => exact hcat h
      | inr h => exact Matches.cat (u := []) (nullable_iff.mp hn) (ihy h)
    · simp only [hn] at h
      exact hcat h
  | alt x y ihx ihy =>
    intro w h
    simp only [deriv] at h
    cases mkAlt_iff.mp h with
    | inl h => exact .altL (ihx h)
    | inr h => exact .altR (ihy h)
  | star x ihx =>
    intro w h
    simp only [deriv] at h
    obtain ⟨u, v, hw, h1, h2⟩ := matches_cat_iff.mp (mkCat_iff.mp h)
    subst hw
    exact Matches.starCons (ihx h1) h2

private theorem deriv_complete {b : Nat} {r : Rx} {w' : List Nat} (h : Matches r w') :
    ∀ {w : List Nat}, w' = b :: w → Matches (deriv b r) w := by
  induction h with
  | eps => intro w h; cases h
  | cls hm =>
    intro w h
    cases h
    simp only [deriv, hm, if_true]
    exact .eps
  | @cat x y u v h1 h2 ih1 ih2 =>
    intro w h
    simp only [deriv]
    cases u with
    | nil =>
      have hn : nullable x = true := nullable_iff.mpr h1
      simp only [hn, if_true]
      exact mkAlt_iff.mpr (.inr (ih2 (by simpa using h)))
    | cons c u' =>
      simp only [List.cons_append, List.cons.injEq] at h
      obtain ⟨rfl, rfl⟩ := h
      have hc : Matches (mkCat (deriv c x) y) (u' ++ v) :=
        mkCat_iff.mpr (.cat (ih1 rfl) h2)
      by_cases hn : nullable x = true
      · simp only [hn, if_true]; exact mkAlt_iff.mpr (.inl hc)
      · simp only [hn]; exact hc
  | altL _ ih => intro w h; simp only [deriv]; exact mkAlt_iff.mpr (.inl (ih h))
  | altR _ ih => intro w h; simp only [deriv]; exact mkAlt_iff.mpr (.inr (ih h))
  | starNil => intro w h; cases h
  | @starCons x u v h1 h2 ih1 ih2 =>
    intro w h
    cases u with
    | nil => exact ih2 (by simpa using h)
    | cons c u' =>
      simp only [List.cons_append, List.cons.injEq] at h
      obtain ⟨rfl, rfl⟩ := h
      simp only [deriv]
      exact mkCat_iff.mpr (.cat (ih1 rfl) h2)

theorem deriv_iff {b : Nat} {r : Rx} {w : List Nat} :
    Matches (deriv b r) w ↔ Matches r (b :: w) :=
  ⟨deriv_sound, fun h => deriv_complete h rfl⟩

/-- derivative by a word -/
def derivs : List Nat → Rx → Rx
  | [], r => r
  | b :: w, r => derivs w (deriv b r)

theorem derivs_iff {u : List Nat} : ∀ {r : Rx} {w : List Nat},
    Matches (derivs u r) w ↔ Matches r (u ++ w) := by
  induction u with
  | nil => intro r w; exact Iff.rfl
  | cons b u ih => intro r w; simp only [derivs, List.cons_append]; rw [ih, deriv_iff]

/-- executable matcher -/
def matchesB (r : Rx) (w : List Nat) : Bool := nullable (derivs w r)

theorem matchesB_iff {r : Rx} {w : List Nat} : matchesB r w = true ↔ Matches r w := by
  unfold matchesB
  rw [nullable_iff, derivs_iff, List.append_nil]

instance (r : Rx) (w : List Nat) : Decidable (Matches r w) :=
  decidable_of_iff _ matchesB_iff

end Rx
end Libconfig
