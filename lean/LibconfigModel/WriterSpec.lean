import LibconfigModel.Writer
/-
  The writer's output as a sequence of lexical items (specification side of C19
  and C01): `wtoksValue` / `wtoksElems` / `wtoksMembers` / `wtoksConfig` mirror the writer but
  emit tokens and white space separately, `WTok.bytes` renders one item, `norm` erases exactly what the
  output options are allowed to change.
-/
namespace Libconfig

inductive WTok where
  | ws (b : Bytes)                      -- spaces, tabs, newlines
  | name (nm : Bytes)
  | assign (c : Nat)                    -- `=` or `:`
  | semi
  | comma
  | punct (c : Nat)                     -- ( ) [ ] { }
  | bool (v : Bool)
  | int (bits : Nat) (v : Int) (hex : Bool)
  | float (b : Nat) (text : Bytes)
  | str (s : Bytes)
  | unknown                             -- "???"
deriving Repr, DecidableEq, Inhabited

def WTok.bytes : WTok → Bytes
  | .ws b => b
  | .name nm => nm
  | .assign c => [c]
  | .semi => [59]
  | .comma => [44]
  | .punct c => [c]
  | .bool v => if v then bytesOfString "true" else bytesOfString "false"
  | .int bits v hex =>
    (if hex then [48, 120] ++ hexOfInt bits v else intToDec v) ++ (if bits == 64 then [76] else [])
  | .float _ text => text
  | .str s => [34] ++ escapeString s ++ [34]
  | .unknown => bytesOfString "???"

def scalarTok (bufLen : Nat) (c : Config) (n : Node) : WTok :=
  let fmt := effFormat c n
  if n.ty == T_BOOL then .bool (n.ival != 0)
  else if n.ty == T_INT then .int 32 n.ival (fmt == FMT_HEX)
  else if n.ty == T_INT64 then .int 64 n.ival (fmt == FMT_HEX)
  else if n.ty == T_FLOAT then
    .float n.fval (formatDouble bufLen n.fval c.floatPrecision (c.opt OPT_SCIENTIFIC))
  else if n.ty == T_STRING then .str (n.sval.getD [])
  else .unknown

def prefixToks (c : Config) (depth : Nat) (name : Option Bytes) (ty : Nat) : List WTok :=
  (if depth > 1 then [WTok.ws (indent depth c.tabWidth)] else []) ++
  (match name with
   | some nm =>
     [.name nm, .ws [32],
      .assign (if ty == T_GROUP then (if c.opt OPT_COLON_GROUPS then 58 else 61)
               else (if c.opt OPT_COLON_NONGROUPS then 58 else 61)), .ws [32]]
   | none => [])

def suffixToks (c : Config) (depth : Nat) : List WTok :=
  if depth > 0 then (if c.opt OPT_SEMICOLON then [WTok.semi] else []) ++ [.ws [10]] else []

mutual
def wtoksValue (bufLen : Nat) (c : Config) (depth : Nat) : Node → List WTok
  | .mk name ty fmt ival fval sval kids hook line file =>
    if ty == T_LIST then [.punct 40, .ws [32]] ++ wtoksElems bufLen c (depth + 1) kids ++ [.punct 41]
    else if ty == T_ARRAY then [.punct 91, .ws [32]] ++ wtoksElems bufLen c (depth + 1) kids ++ [.punct 93]
    else if ty == T_GROUP then
      (if depth > 0 then
        (if c.opt OPT_BRACE_SEPARATE then
          [WTok.ws [10]] ++ (if depth > 1 then [WTok.ws (indent depth c.tabWidth)] else [])
         else []) ++ [.punct 123, .ws [10]]
       else []) ++
      wtoksMembers bufLen c (depth + 1) kids ++
      (if depth > 1 then [WTok.ws (indent depth c.tabWidth)] else []) ++
      (if depth > 0 then [.punct 125] else [])
    else [scalarTok bufLen c (.mk name ty fmt ival fval sval [] hook line file)]
def wtoksElems (bufLen : Nat) (c : Config) (depth : Nat) : List Node → List WTok
  | [] => []
  | k :: ks => wtoksValue bufLen c depth k ++ (if ks.isEmpty then [] else [.comma]) ++ [.ws [32]] ++
      wtoksElems bufLen c depth ks
def wtoksMembers (bufLen : Nat) (c : Config) (depth : Nat) : List Node → List WTok
  | [] => []
  | k :: ks => prefixToks c depth k.name k.ty ++ wtoksValue bufLen c depth k ++
      suffixToks c depth ++ wtoksMembers bufLen c depth ks
end

def wtoksConfig (bufLen : Nat) (c : Config) : List WTok :=
  prefixToks c 0 c.root.name c.root.ty ++ wtoksValue bufLen c 0 c.root ++ suffixToks c 0

/-- Erase what the output options may change: white space, `;`, the choice of
`=`/`:`, the spelling of floats and the hex/decimal choice of integers that
follow the default format. -/
def normTok : WTok → Option WTok
  | .ws _ => none
  | .semi => none
  | .assign _ => some (.assign 0)
  | .int bits v _ => some (.int bits v false)
  | .float b _ => some (.float b [])
  | t => some t

def norm (ts : List WTok) : List WTok := ts.filterMap normTok

/-- the presentation attributes of a configuration -/
structure OutOpts where
  options : Nat
  tabWidth : Nat
  floatPrecision : Nat
  defaultFormat : Nat

def Config.withOut (c : Config) (o : OutOpts) : Config :=
  { c with options := o.options, tabWidth := o.tabWidth, floatPrecision := o.floatPrecision,
           defaultFormat := o.defaultFormat }

/-- the lines of a byte string (split at `\n`) -/
def linesOf (b : Bytes) : List Bytes := b.splitOn 10

end Libconfig
