import LibconfigModel.RoundTrip
import LibconfigModel.Properties.C02
import LibconfigModel.Proofs.C01ParseDeep
import LibconfigModel.Proofs.C09
import LibconfigModel.Proofs.Bytes
/-
  C01, parsing half — "the parser rebuilds the tree".

  `config_write` followed by `config_read` is a composition of three steps: the writer renders
  the tree as a sequence of lexical items (Properties/C19.lean), the scanner turns the bytes back
  into tokens (the lexing half, proved elsewhere), and the parser — the bison LALR(1) automaton
  over the TRANSLATED tables `Generated.parser`, with the semantic actions of lib/grammar.y —
  consumes the tokens.  This file states the third step: fed with the tokens that the written
  form of a configuration `c` denotes (`tokensOfConfig`, RoundTrip.lean), `libconfig_yyparse`
  accepts and has rebuilt exactly the tree the documentation promises (`expectedRoot`).

  Statements only; the proof is in LibconfigModel/Proofs/C01Parse*.lean:
    C01ParseStep    parser configurations, fuel-free reachability, shift / reduce iterations
    C01ParseStatic  the kernel-evaluated facts about the compiled tables (47 states)
    C01ParseSpec    token sequence / expected tree by recursion on the tree
    C01ParseSem     what each semantic action does to the tree under construction
    C01ParseDenote  the reference interpreter reads the written tokens as the expected tree
    C01ParseGeneral the parse follows the interpreter (the simulation of Proofs/C10ProvSim*.lean):
                    the simulation lemmas below and the whole parse (partial and total
                    correctness with respect to the fuel)
    C01ParseDeep    the counterexample to the statement without a bound on the nesting depth

  Contents: `expectedRoot`, `ParseOK` / `RoundTripOK`; the headline theorem `C01_parse_rebuilds`
  (+ `C01_parse_accepts`: the parse does return); the corollaries for `__config_read` and the
  three read functions (`C01_readCore_rebuilds`, `C01_read_rebuilds`, …), with the lexing half
  as an explicit hypothesis; a concrete instance evaluated by the kernel; the simulation lemmas
  for a part of a text (`C01_value_simulation`, `C01_elements_simulation`,
  `C01_members_simulation`); the FINDING that the depth bound is necessary
  (`C01_deep_nesting_exhausts`, `C01_unbounded_statement_false`).
-/
namespace Libconfig.C01Parse
open Libconfig

/-! ### the expected result -/

mutual
/-- a tree without source positions (as in Properties/C10.lean) -/
def stripPos : Node → Node
  | .mk name ty fmt ival fval sval kids hook _ _ =>
    .mk name ty fmt ival fval sval (stripPosList kids) hook 0 none
def stripPosList : List Node → List Node
  | [] => []
  | k :: ks => stripPos k :: stripPosList ks
end

/-- What a written scalar is read back as: same name and type; booleans as 0/1; integers with
their value and the format the writer used (a hex literal sets `FMT_HEX`, a decimal one sets
the default); floats with the value `strtod` gives to the written text; strings with their
bytes (a NULL string comes back as the empty string); hook, position and everything else at the
defaults of a fresh setting. -/
def expectedScalar (bufLen : Nat) (c : Config) (n : Node) : Node :=
  if n.ty == T_BOOL then { name := n.name, ty := T_BOOL, ival := if n.ival != 0 then 1 else 0 }
  else if n.ty == T_INT then
    { name := n.name, ty := T_INT, ival := n.ival,
      fmt := if effFormat c n == FMT_HEX then FMT_HEX else FMT_DEFAULT }
  else if n.ty == T_INT64 then
    { name := n.name, ty := T_INT64, ival := n.ival,
      fmt := if effFormat c n == FMT_HEX then FMT_HEX else FMT_DEFAULT }
  else if n.ty == T_FLOAT then
    { name := n.name, ty := T_FLOAT,
      fval := F64.strtod (formatDouble bufLen n.fval c.floatPrecision (c.opt OPT_SCIENTIFIC)) }
  else if n.ty == T_STRING then { name := n.name, ty := T_STRING, sval := some (n.sval.getD []) }
  else { name := n.name, ty := n.ty }

mutual
/-- What a written setting is read back as: aggregates keep name, type and the order of their
children. -/
def expectedNode (bufLen : Nat) (c : Config) : Node → Node
  | .mk name ty fmt ival fval sval kids hook line file =>
    if isAggregateTy ty then { name := name, ty := ty, kids := expectedList bufLen c kids }
    else expectedScalar bufLen c (.mk name ty fmt ival fval sval [] hook line file)
def expectedList (bufLen : Nat) (c : Config) : List Node → List Node
  | [] => []
  | k :: ks => expectedNode bufLen c k :: expectedList bufLen c ks
end

/-- the tree that reading the written form of `c` is expected to build (positions apart) -/
def expectedRoot (bufLen : Nat) (c : Config) : Node := expectedNode bufLen c c.root

/-! ### the side conditions -/

mutual
/-- no setting of type NONE -/
def noNoneB : Node → Bool
  | .mk _ ty _ _ _ _ kids _ _ _ => ty != T_NONE && noNoneListB kids
def noNoneListB : List Node → Bool
  | [] => true
  | k :: ks => noNoneB k && noNoneListB ks
end

mutual
/-- the values of string settings contain no NUL byte -/
def nulFreeB : Node → Bool
  | .mk _ ty _ _ _ sval kids _ _ _ =>
    (ty != T_STRING || (sval.getD []).all (· != 0)) && nulFreeListB kids
def nulFreeListB : List Node → Bool
  | [] => true
  | k :: ks => nulFreeB k && nulFreeListB ks
end

mutual
/-- nesting depth below a setting: 0 for a scalar or an empty aggregate -/
def depth : Node → Nat
  | .mk _ _ _ _ _ _ kids _ _ _ => depthList kids
def depthList : List Node → Nat
  | [] => 0
  | k :: ks => max (depth k + 1) (depthList ks)
end

/-- The deepest nesting the parser's stack (`YYMAXDEPTH` = 10000 entries) can take for every
shape of tree.  The most expensive shape is a group nested as a second (or later) member of the
enclosing group: six stack entries per level (`setting_list NAME $@1 = { $@4`); a tree of depth
`D` never needs more than 6·`D` + 3 entries, and 6·1666 + 3 < 10000.
The bound is sharp: the tree of depth 1667 in which every group holds a boolean and then the next
group makes `yyparse` return "memory exhausted" (checked by running the compiled model; for lists,
which cost two entries per level, see `C01_deep_nesting_exhausts`). -/
def maxNesting : Nat := 1666

/-- What the parsing half needs of the configuration: the tree is well-formed in the sense of
WF.lean (root a nameless group, members of groups have distinct valid names, elements of lists
and arrays are nameless, arrays hold scalars of one type, scalars are childless, types are
in range), no setting has type NONE, and the nesting is not deeper than the parser's stack
allows (see `C01_deep_nesting_exhausts` for why this last condition cannot be dropped). -/
def ParseOK (c : Config) : Bool := c.wfb && noNoneB c.root && decide (depth c.root ≤ maxNesting)

/-- the side condition of the whole round trip: `ParseOK`, and string values are NUL-free
(which only the lexing half needs) -/
def RoundTripOK (c : Config) : Bool := ParseOK c && nulFreeB c.root

/-! ### agreement with the definitions the proofs use -/

mutual
theorem stripPos_pp : (n : Node) → stripPos n = C01PP.stripPos n
  | .mk _ _ _ _ _ _ kids _ _ _ => by rw [stripPos, C01PP.stripPos, stripPosList_pp kids]
theorem stripPosList_pp : (ks : List Node) → stripPosList ks = C01PP.stripPosList ks
  | [] => by rw [stripPosList, C01PP.stripPosList]
  | k :: ks => by rw [stripPosList, C01PP.stripPosList, stripPos_pp k, stripPosList_pp ks]
end

mutual
theorem expectedNode_pp (bufLen : Nat) (c : Config) :
    (n : Node) → expectedNode bufLen c n = C01PP.expNode bufLen c n
  | .mk _ _ _ _ _ _ kids _ _ _ => by
    rw [expectedNode, C01PP.expNode, expectedList_pp bufLen c kids]; rfl
theorem expectedList_pp (bufLen : Nat) (c : Config) :
    (ks : List Node) → expectedList bufLen c ks = C01PP.expList bufLen c ks
  | [] => by rw [expectedList, C01PP.expList]
  | k :: ks => by
    rw [expectedList, C01PP.expList, expectedNode_pp bufLen c k, expectedList_pp bufLen c ks]
end

mutual
theorem depth_pp : (n : Node) → depth n = C01PP.nodeDepth n
  | .mk _ _ _ _ _ _ kids _ _ _ => by rw [depth, C01PP.nodeDepth, depthList_pp kids]
theorem depthList_pp : (ks : List Node) → depthList ks = C01PP.listDepth ks
  | [] => by rw [depthList, C01PP.listDepth]
  | k :: ks => by rw [depthList, C01PP.listDepth, depth_pp k, depthList_pp ks]
end

/-- the local conditions of WF.lean, in the form the proofs use -/
theorem kidsOKB_of_localWFb {n : Node} (h : n.localWFb = true) :
    n.ty ≤ 8 ∧ C01PP.kidsOKB n.ty n.kids = true := by
  simp only [Node.localWFb, Node.isAggregate, Bool.and_eq_true, decide_eq_true_eq] at h
  obtain ⟨⟨⟨⟨h8, hsc⟩, hg⟩, hli⟩, har⟩ := h
  refine ⟨h8, ?_⟩
  unfold C01PP.kidsOKB
  by_cases h1 : (n.ty == T_GROUP) = true
  · rw [if_pos h1]
    rw [Bool.or_eq_true, bne_iff_ne, ne_eq, ← beq_iff_eq] at hg
    exact hg.resolve_left (fun h => h h1)
  rw [if_neg h1]
  by_cases h2 : (n.ty == T_LIST) = true
  · rw [if_pos h2]
    rw [Bool.or_eq_true, bne_iff_ne, ne_eq, ← beq_iff_eq] at hli
    exact hli.resolve_left (fun h => h h2)
  rw [if_neg h2]
  by_cases h3 : (n.ty == T_ARRAY) = true
  · rw [if_pos h3]
    rw [Bool.or_eq_true, bne_iff_ne, ne_eq, ← beq_iff_eq] at har
    exact har.resolve_left (fun h => h h3)
  rw [if_neg h3]
  rw [Bool.not_eq_true] at h1 h2 h3
  unfold isAggregateTy at hsc
  rw [h1, h2, h3] at hsc
  exact hsc

mutual
theorem okNode_of_wfb : (n : Node) → n.wfb = true → noNoneB n = true → C01PP.okNode n = true
  | .mk name ty fmt ival fval sval kids hook line file => by
    intro hw hn
    rw [Node.wfb, Bool.and_eq_true] at hw
    rw [noNoneB, Bool.and_eq_true, bne_iff_ne] at hn
    obtain ⟨h8, hk⟩ := kidsOKB_of_localWFb hw.1
    have h1 : 1 ≤ ty := Nat.pos_of_ne_zero hn.1
    rw [C01PP.okNode, okList_of_wfb kids hw.2 hn.2, hk, decide_eq_true h1, decide_eq_true h8]
    rfl
theorem okList_of_wfb : (ks : List Node) → wfbList ks = true → noNoneListB ks = true →
    C01PP.okList ks = true
  | [] => fun _ _ => rfl
  | k :: ks => by
    intro hw hn
    rw [wfbList, Bool.and_eq_true] at hw
    rw [noNoneListB, Bool.and_eq_true] at hn
    rw [C01PP.okList, okNode_of_wfb k hw.1 hn.1, okList_of_wfb ks hw.2 hn.2]
    rfl
end

/-- `ParseOK` unpacked -/
theorem parseOK_spec {c : Config} (h : ParseOK c = true) :
    c.WF ∧ C01PP.okNode c.root = true ∧ c.root.name = none ∧ c.root.ty = T_GROUP ∧
      C01PP.nodeDepth c.root ≤ 1666 := by
  unfold ParseOK at h
  simp only [Bool.and_eq_true, decide_eq_true_eq] at h
  obtain ⟨⟨hw, hn⟩, hd⟩ := h
  have hwf := (C04.cfg_wfb_iff c).mp hw
  unfold Config.wfb at hw
  simp only [Bool.and_eq_true] at hw
  refine ⟨hwf, okNode_of_wfb c.root hw.2 hn, hwf.rootNameless, hwf.rootGroup, ?_⟩
  rw [← depth_pp]
  exact hd

/-! ### the theorem -/

/-- **The parser rebuilds the tree** (any environment over the compiled tables and actions).
`E` may have any scanner, world and include configuration: what matters is the token sequence
its scanner delivers. -/
theorem C01_parse_rebuilds_env (E : ParserEnv) (hP : E.P = Generated.parser)
    (hA : E.acts = Generated.parseActions) (bufLen : Nat) (c : Config) (hc : ParseOK c = true)
    (fuel : Nat) (s₀ s₁ s' : ScanState) (ctx₀ ctx' : ParseCtx) (r : ParseResult)
    (hlex : C02.LexesTo E s₀ (tokensOfConfig Generated.tokens bufLen c) s₁)
    (hroot : stripPos ctx₀.cfg.root = { ty := T_GROUP }) (hpar : ctx₀.parent = some [])
    (hstr : ctx₀.str = none)
    (h : yyparse E fuel s₀ ctx₀ = (s', ctx', r)) (hr : r ≠ .outOfFuel) :
    r = .accept ∧ stripPos ctx'.cfg.root = expectedRoot bufLen c := by
  obtain ⟨_, hok, hname, hty, hd⟩ := parseOK_spec hc
  rw [stripPos_pp] at hroot ⊢
  unfold expectedRoot
  rw [expectedNode_pp]
  exact C01PP.parse_rebuilds_core ⟨hP, hA⟩ bufLen c hok hname hty hd (C01PP.lexT_of_lexesTo hlex)
    hroot hpar hstr h hr

/-- **C01_parse_rebuilds.**  Let `c` satisfy `ParseOK` (a fortiori: `RoundTripOK`).  Let the
scanner of the parser environment `theEnv w c₀ lexFuel` (compiled scanner and parser tables, any
world, any reading configuration `c₀` — its options, `ALLOW_OVERRIDES` and `AUTOCONVERT`
included, do not matter), started in `s₀`, deliver the tokens `tokensOfConfig Generated.tokens
bufLen c` denoted by the written form of `c` and then end of input.  Let `ctx₀` be a parse
context over a cleared configuration, as `__config_read` sets it up: the root is an empty group
(its source file may be set), `ctx->parent` is the root, `ctx->string` is empty; `ctx->setting`
and every other field of the reading configuration are arbitrary.  Then whatever `yyparse`
returns with enough fuel is: accept, with a tree that — source positions apart — is
`expectedRoot bufLen c`. -/
theorem C01_parse_rebuilds (w : World) (c₀ : Config) (lexFuel : Nat) (bufLen : Nat) (c : Config)
    (hc : ParseOK c = true) (fuel : Nat) (s₀ s₁ s' : ScanState) (ctx₀ ctx' : ParseCtx)
    (r : ParseResult)
    (hlex : C02.LexesTo (theEnv w c₀ lexFuel) s₀ (tokensOfConfig Generated.tokens bufLen c) s₁)
    (hroot : stripPos ctx₀.cfg.root = { ty := T_GROUP }) (hpar : ctx₀.parent = some [])
    (hstr : ctx₀.str = none)
    (h : yyparse (theEnv w c₀ lexFuel) fuel s₀ ctx₀ = (s', ctx', r)) (hr : r ≠ .outOfFuel) :
    r = .accept ∧ stripPos ctx'.cfg.root = expectedRoot bufLen c :=
  C01_parse_rebuilds_env (theEnv w c₀ lexFuel) rfl rfl bufLen c hc fuel s₀ s₁ s' ctx₀ ctx' r hlex
    hroot hpar hstr h hr

/-- the same under the side condition of the whole round trip -/
theorem C01_parse_rebuilds_roundTripOK (w : World) (c₀ : Config) (lexFuel : Nat) (bufLen : Nat)
    (c : Config) (hc : RoundTripOK c = true) (fuel : Nat) (s₀ s₁ s' : ScanState)
    (ctx₀ ctx' : ParseCtx) (r : ParseResult)
    (hlex : C02.LexesTo (theEnv w c₀ lexFuel) s₀ (tokensOfConfig Generated.tokens bufLen c) s₁)
    (hroot : stripPos ctx₀.cfg.root = { ty := T_GROUP }) (hpar : ctx₀.parent = some [])
    (hstr : ctx₀.str = none)
    (h : yyparse (theEnv w c₀ lexFuel) fuel s₀ ctx₀ = (s', ctx', r)) (hr : r ≠ .outOfFuel) :
    r = .accept ∧ stripPos ctx'.cfg.root = expectedRoot bufLen c := by
  unfold RoundTripOK at hc
  rw [Bool.and_eq_true] at hc
  exact C01_parse_rebuilds w c₀ lexFuel bufLen c hc.1 fuel s₀ s₁ s' ctx₀ ctx' r hlex hroot hpar hstr h hr

/-! ### `config_read_string` / `config_read` / `config_read_file` of the written form -/

/-- the scan state `__config_read` starts from: the input bytes, the name of the top-level file
(if any) as current file and as first entry of the file-name vector -/
def readScanStart (filename : Option Bytes) (inp : Bytes) : ScanState :=
  { buf := { rest := inp }, topFile := filename,
    filenames := match filename with | some f => [f] | none => [] }

/-- **Reading back the written form**, with the lexing half as an explicit hypothesis, for
`__config_read` on arbitrary input bytes (the common core of the three read functions): if the
compiled scanner, started on the input, delivers the tokens the written form of `c` denotes and
then end of input, then the read — with enough fuel — succeeds and leaves the expected tree,
whatever the configuration `c₀` held before and whatever its options are. -/
theorem C01_readCore_rebuilds (w : World) (c₀ : Config) (filename : Option Bytes) (inp : Bytes)
    (bufLen : Nat) (c : Config) (hc : ParseOK c = true) (fuel : Nat) (s₁ : ScanState)
    (hlex : C02.LexesTo (theEnv w c₀ fuel) (readScanStart filename inp)
      (tokensOfConfig Generated.tokens bufLen c) s₁)
    (hfuel : (readCore w c₀ filename inp fuel).result ≠ .outOfFuel) :
    (readCore w c₀ filename inp fuel).ok = true ∧
      (readCore w c₀ filename inp fuel).result = .accept ∧
      stripPos (readCore w c₀ filename inp fuel).cfg.root = expectedRoot bufLen c := by
  obtain ⟨s', ctx', r, hp, hres, hok, hcfg⟩ := C09P.readCore_parse w c₀ filename inp fuel
  rw [hres] at hfuel
  have h := C01_parse_rebuilds w c₀ fuel bufLen c hc fuel (readScanStart filename inp)
    s₁ s' { cfg := C09P.start c₀ filename } ctx' r hlex rfl rfl rfl hp hfuel
  rw [hok, hres, hcfg, C09P.finish_root]
  exact ⟨by rw [h.1]; rfl, h.1, h.2⟩

/-- `config_read_string(config_write(c))` -/
theorem C01_read_rebuilds (w : World) (c₀ : Config) (bufLen : Nat) (c : Config)
    (hc : ParseOK c = true) (fuel : Nat) (s₁ : ScanState)
    (hlex : C02.LexesTo (theEnv w c₀ fuel) (readScanStart none (cstr (c.write bufLen)))
      (tokensOfConfig Generated.tokens bufLen c) s₁)
    (hfuel : (read w c₀ (.string (c.write bufLen)) fuel).result ≠ .outOfFuel) :
    (read w c₀ (.string (c.write bufLen)) fuel).ok = true ∧
      (read w c₀ (.string (c.write bufLen)) fuel).result = .accept ∧
      stripPos (read w c₀ (.string (c.write bufLen)) fuel).cfg.root = expectedRoot bufLen c :=
  C01_readCore_rebuilds w c₀ none (cstr (c.write bufLen)) bufLen c hc fuel s₁ hlex hfuel

/-- `config_read` from a stream that holds the written form -/
theorem C01_read_stream_rebuilds (w : World) (c₀ : Config) (bufLen : Nat) (c : Config)
    (hc : ParseOK c = true) (fuel : Nat) (s₁ : ScanState)
    (hlex : C02.LexesTo (theEnv w c₀ fuel) (readScanStart none (c.write bufLen))
      (tokensOfConfig Generated.tokens bufLen c) s₁)
    (hfuel : (read w c₀ (.stream (c.write bufLen)) fuel).result ≠ .outOfFuel) :
    (read w c₀ (.stream (c.write bufLen)) fuel).ok = true ∧
      (read w c₀ (.stream (c.write bufLen)) fuel).result = .accept ∧
      stripPos (read w c₀ (.stream (c.write bufLen)) fuel).cfg.root = expectedRoot bufLen c :=
  C01_readCore_rebuilds w c₀ none (c.write bufLen) bufLen c hc fuel s₁ hlex hfuel

/-- `config_read_file` of a file that holds the written form -/
theorem C01_read_file_rebuilds (w : World) (c₀ : Config) (path : Bytes) (bufLen : Nat)
    (c : Config) (hc : ParseOK c = true) (fuel : Nat) (s₁ : ScanState)
    (hfile : w.open? path = some (c.write bufLen))
    (hlex : C02.LexesTo (theEnv w c₀ fuel) (readScanStart (some path) (c.write bufLen))
      (tokensOfConfig Generated.tokens bufLen c) s₁)
    (hfuel : (read w c₀ (.file path) fuel).result ≠ .outOfFuel) :
    (read w c₀ (.file path) fuel).ok = true ∧
      (read w c₀ (.file path) fuel).result = .accept ∧
      stripPos (read w c₀ (.file path) fuel).cfg.root = expectedRoot bufLen c := by
  rw [C09P.read_file w c₀ path _ fuel hfile] at hfuel ⊢
  exact C01_readCore_rebuilds w c₀ (some path) (c.write bufLen) bufLen c hc fuel s₁ hlex hfuel

/-! ### a concrete instance (evaluated by the kernel)

The hypotheses of `C01_parse_rebuilds` / `C01_read_rebuilds` are satisfiable and the conclusion
says something: for the configuration below — every kind of setting, a hexadecimal integer, a
boolean stored as 7, a string with characters that are escaped, a NULL string, an empty list,
nested aggregates — the compiled scanner does deliver the predicted tokens from the written
bytes, so the theorem applies and yields the tree; the kernel confirms the result independently
by running `read`. -/

/-- ```
a = 0x1F;
g :
{
  l = ( true, "x\"\n", ( ), 1.5 );
  v = [ 5L, -7L ];
};
z = "";
``` -/
def exampleConfig : Config :=
  { root := { ty := T_GROUP, kids := [
      { name := some [97], ty := T_INT, ival := 31, fmt := FMT_HEX },
      { name := some [103], ty := T_GROUP, kids := [
          { name := some [108], ty := T_LIST, kids := [
              { ty := T_BOOL, ival := 7 }, { ty := T_STRING, sval := some [120, 34, 10] },
              { ty := T_LIST }, { ty := T_FLOAT, fval := 0x3FF8000000000000 } ] },
          { name := some [118], ty := T_ARRAY, kids := [
              { ty := T_INT64, ival := 5 }, { ty := T_INT64, ival := -7 } ] } ] },
      { name := some [122], ty := T_STRING } ] } }

/-- run the scanner to end of input, collecting the tokens (`n` bounds their number) -/
def lexAll (E : ParserEnv) : Nat → ScanState → Option (List (Nat × TokVal))
  | 0, _ => none
  | n + 1, s =>
    match yylex E.T E.sacts E.w E.ic E.lexFuel s with
    | (_, .eof) => some []
    | (s', .tok t v) => (lexAll E n s').map ((t, v) :: ·)
    | _ => none

theorem lexAll_sound {E : ParserEnv} : ∀ (n : Nat) (s : ScanState) (toks : List (Nat × TokVal)),
    lexAll E n s = some toks → ∃ s', C02.LexesTo E s toks s'
  | 0, _, _, h => by cases h
  | n + 1, s, toks, h => by
    rw [lexAll] at h
    split at h
    · rename_i s' hy
      cases h
      exact ⟨s', .eof s s' hy⟩
    · rename_i s' t v hy
      cases hr : lexAll E n s' with
      | none => rw [hr] at h; cases h
      | some ts =>
        rw [hr] at h
        cases h
        obtain ⟨s'', hl⟩ := lexAll_sound n s' ts hr
        exact ⟨s'', .tok s s' s'' t v ts hy hl⟩
    · cases h

/-- one row per setting, in document order: a decidable view of a tree -/
structure Row where
  name : Option Bytes
  ty : Nat
  fmt : Nat
  ival : Int
  fval : Nat
  sval : Option Bytes
  nkids : Nat
  hook : Nat
  line : Nat
  file : Option Bytes
deriving DecidableEq, Repr

mutual
def rows : Node → List Row
  | .mk name ty fmt ival fval sval kids hook line file =>
    ⟨name, ty, fmt, ival, fval, sval, kids.length, hook, line, file⟩ :: rowsList kids
def rowsList : List Node → List Row
  | [] => []
  | k :: ks => rows k ++ rowsList ks
end

/-- the side condition holds -/
example : RoundTripOK exampleConfig = true := by decide +kernel

/-- the written form -/
example : exampleConfig.write Generated.FLOAT_BUF_SIZE = bytesOfString
    "a = 0x1F;\ng : \n{\n  l = ( true, \"x\\\"\\n\", ( ), 1.5 );\n  v = [ 5L, -7L ];\n};\nz = \"\";\n" := by
  rw [bytesOfString_ofList]; decide +kernel

/-- the lexing hypothesis holds: the compiled scanner, on the written bytes, delivers exactly
`tokensOfConfig` (34 tokens) and then end of input -/
theorem example_lexes : ∃ s₁, C02.LexesTo (theEnv {} Config.init 1000)
    (readScanStart none (cstr (exampleConfig.write Generated.FLOAT_BUF_SIZE)))
    (tokensOfConfig Generated.tokens Generated.FLOAT_BUF_SIZE exampleConfig) s₁ :=
  lexAll_sound 100 _ _ (by decide +kernel)

/-- one run of `read` by the kernel: the outcome, and what the example after the next says about
the tree -/
theorem example_read :
    (read {} Config.init (.string (exampleConfig.write Generated.FLOAT_BUF_SIZE)) 1000).result =
      .accept ∧
    (rows (expectedRoot Generated.FLOAT_BUF_SIZE exampleConfig) =
      [⟨none, 1, 0, 0, 0, none, 3, 0, 0, none⟩,
       ⟨some [97], 2, 1, 31, 0, none, 0, 0, 0, none⟩,
       ⟨some [103], 1, 0, 0, 0, none, 2, 0, 0, none⟩,
       ⟨some [108], 8, 0, 0, 0, none, 4, 0, 0, none⟩,
       ⟨none, 6, 0, 1, 0, none, 0, 0, 0, none⟩,
       ⟨none, 5, 0, 0, 0, some [120, 34, 10], 0, 0, 0, none⟩,
       ⟨none, 8, 0, 0, 0, none, 0, 0, 0, none⟩,
       ⟨none, 4, 0, 0, 0x3FF8000000000000, none, 0, 0, 0, none⟩,
       ⟨some [118], 7, 0, 0, 0, none, 2, 0, 0, none⟩,
       ⟨none, 3, 0, 5, 0, none, 0, 0, 0, none⟩,
       ⟨none, 3, 0, -7, 0, none, 0, 0, 0, none⟩,
       ⟨some [122], 5, 0, 0, 0, some [], 0, 0, 0, none⟩] ∧
    rows (stripPos (read {} Config.init
        (.string (exampleConfig.write Generated.FLOAT_BUF_SIZE)) 1000).cfg.root) =
      rows (expectedRoot Generated.FLOAT_BUF_SIZE exampleConfig) ∧
    (rows (read {} Config.init
        (.string (exampleConfig.write Generated.FLOAT_BUF_SIZE)) 1000).cfg.root).map (·.line) =
      [0, 1, 2, 4, 4, 4, 4, 4, 5, 5, 5, 7]) := by
  decide +kernel

/-- so `C01_read_rebuilds` applies: reading the written form back succeeds with the expected
tree -/
example :
    (read {} Config.init (.string (exampleConfig.write Generated.FLOAT_BUF_SIZE)) 1000).ok = true ∧
    (read {} Config.init (.string (exampleConfig.write Generated.FLOAT_BUF_SIZE)) 1000).result = .accept ∧
    stripPos (read {} Config.init (.string (exampleConfig.write Generated.FLOAT_BUF_SIZE)) 1000).cfg.root =
      expectedRoot Generated.FLOAT_BUF_SIZE exampleConfig := by
  obtain ⟨s₁, h⟩ := example_lexes
  exact C01_read_rebuilds {} Config.init Generated.FLOAT_BUF_SIZE exampleConfig (by decide +kernel)
    1000 s₁ h (by rw [example_read.1]; decide)

/-- … which is this tree (the hexadecimal format kept, `true` read back as 1, the NULL string as
the empty string, the float as 1.5), different from the empty root the parse started from; the
kernel, running `read` itself, finds the same (with the source lines 1, 2, 4, 5, 7 that
`stripPos` erases) -/
example :
    rows (expectedRoot Generated.FLOAT_BUF_SIZE exampleConfig) =
      [⟨none, 1, 0, 0, 0, none, 3, 0, 0, none⟩,
       ⟨some [97], 2, 1, 31, 0, none, 0, 0, 0, none⟩,
       ⟨some [103], 1, 0, 0, 0, none, 2, 0, 0, none⟩,
       ⟨some [108], 8, 0, 0, 0, none, 4, 0, 0, none⟩,
       ⟨none, 6, 0, 1, 0, none, 0, 0, 0, none⟩,
       ⟨none, 5, 0, 0, 0, some [120, 34, 10], 0, 0, 0, none⟩,
       ⟨none, 8, 0, 0, 0, none, 0, 0, 0, none⟩,
       ⟨none, 4, 0, 0, 0x3FF8000000000000, none, 0, 0, 0, none⟩,
       ⟨some [118], 7, 0, 0, 0, none, 2, 0, 0, none⟩,
       ⟨none, 3, 0, 5, 0, none, 0, 0, 0, none⟩,
       ⟨none, 3, 0, -7, 0, none, 0, 0, 0, none⟩,
       ⟨some [122], 5, 0, 0, 0, some [], 0, 0, 0, none⟩] ∧
    rows (stripPos (read {} Config.init
        (.string (exampleConfig.write Generated.FLOAT_BUF_SIZE)) 1000).cfg.root) =
      rows (expectedRoot Generated.FLOAT_BUF_SIZE exampleConfig) ∧
    (rows (read {} Config.init
        (.string (exampleConfig.write Generated.FLOAT_BUF_SIZE)) 1000).cfg.root).map (·.line) =
      [0, 1, 2, 4, 4, 4, 4, 4, 5, 5, 5, 7] :=
  example_read.2

/-- The same for the reading configuration's options: with `ALLOW_OVERRIDES` and `AUTOCONVERT`
set and other presentation attributes in the written configuration (no semicolons, `=` for
groups, scientific notation, hexadecimal default format) the theorem applies just the same. -/
def exampleConfig' : Config :=
  { exampleConfig with options := OPT_COLON_NONGROUPS ||| OPT_SCIENTIFIC, defaultFormat := FMT_HEX }

example : RoundTripOK exampleConfig' = true := by decide +kernel

theorem example_lexes' : ∃ s₁, C02.LexesTo
    (theEnv {} { Config.init with options := OPT_ALLOW_OVERRIDES ||| OPT_AUTOCONVERT } 1000)
    (readScanStart none (cstr (exampleConfig'.write Generated.FLOAT_BUF_SIZE)))
    (tokensOfConfig Generated.tokens Generated.FLOAT_BUF_SIZE exampleConfig') s₁ :=
  lexAll_sound 100 _ _ (by decide +kernel)

example :
    (read {} { Config.init with options := OPT_ALLOW_OVERRIDES ||| OPT_AUTOCONVERT }
      (.string (exampleConfig'.write Generated.FLOAT_BUF_SIZE)) 1000).ok = true ∧
    (rows (expectedRoot Generated.FLOAT_BUF_SIZE exampleConfig')).map (·.fmt) =
      [0, 1, 0, 0, 0, 0, 0, 0, 0, 1, 1, 0] := by
  obtain ⟨s₁, h⟩ := example_lexes'
  exact ⟨(C01_read_rebuilds {} _ Generated.FLOAT_BUF_SIZE exampleConfig' (by decide +kernel)
    1000 s₁ h (by decide +kernel)).1, by decide +kernel⟩

/-! ### … and it does return -/

/-- Termination: under the hypotheses of `C01_parse_rebuilds` there is a bound `N` such that
with any fuel ≥ `N` the parser returns (so the proviso "not the out-of-fuel outcome" of
`C01_parse_rebuilds` is met by all sufficiently large fuels): it accepts with the expected tree. -/
theorem C01_parse_accepts (w : World) (c₀ : Config) (lexFuel : Nat) (bufLen : Nat) (c : Config)
    (hc : ParseOK c = true) (s₀ s₁ : ScanState) (ctx₀ : ParseCtx)
    (hlex : C02.LexesTo (theEnv w c₀ lexFuel) s₀ (tokensOfConfig Generated.tokens bufLen c) s₁)
    (hroot : stripPos ctx₀.cfg.root = { ty := T_GROUP }) (hpar : ctx₀.parent = some [])
    (hstr : ctx₀.str = none) :
    ∃ N s' ctx', (∀ fuel, N ≤ fuel →
        yyparse (theEnv w c₀ lexFuel) fuel s₀ ctx₀ = (s', ctx', .accept)) ∧
      stripPos ctx'.cfg.root = expectedRoot bufLen c := by
  obtain ⟨_, hok, hname, hty, hd⟩ := parseOK_spec hc
  rw [stripPos_pp] at hroot
  obtain ⟨N, s', ctx', h1, h2⟩ := C01PP.parse_accepts_core (C01PP.compiled_theEnv w c₀ lexFuel)
    bufLen c hok hname hty hd (C01PP.lexT_of_lexesTo hlex) hroot hpar hstr
  refine ⟨N, s', ctx', h1, ?_⟩
  rw [stripPos_pp]
  unfold expectedRoot
  rw [expectedNode_pp]
  exact h2

/-! ### the simulation lemmas for a value, elements, members

`C01_parse_rebuilds` is the simulation of the reference interpreter by `yyparseLoop`
(`C10Prov.sim_all`) at the tokens of a written configuration, which the interpreter reads as the
expected tree (`C01PP.denote_written`).  The same for a single written value in the middle of a
token list reads as follows (`C01PP.value_general`; for the elements of a list and for the members
of a group `C01PP.elements_general`, `C01PP.members_general`).

Vocabulary (Proofs/C01ParseStep.lean, C01ParseSem.lean): a parser configuration `⟨stack,
lookahead, scanner state, parse context⟩`; `Reaches E a b` — from `a` the loop arrives in `b`
after finitely many iterations, or runs out of fuel before; `Inp E la sc toks` — the lookahead
and what the scanner will deliver are the tokens `toks`; `ValCtx q qv` — `q` is a state that
expects a value (8 after `NAME $@1 =`, 26 after `( $@3`, 42 after `value_list ,`) and `qv` its
goto on `value`; `View ctx K pp pn none st` — `ctx->parent` is at index path `pp`, the node there
is `pn`, the whole tree is `K pn`, `ctx->string` is empty, `ctx->setting` is `st`; `Slot st pp pn
pre nm` — the next value goes behind the finished children `pre` of `pn` (into the fresh member
named `nm` that `$@1` created, resp. as a new element of a list); `Built … n ctx'` — the parent
now has the children `pre ++ [n']` with `stripPos n' =` the expected form of `n`. -/
theorem C01_value_simulation (E : ParserEnv) (hP : E.P = Generated.parser)
    (hA : E.acts = Generated.parseActions) (bufLen : Nat) (c : Config) (n : Node)
    (hok : C01PP.okNode n = true) (q qv : Nat) (hq : C01PP.ValCtx q qv) (vq : TokVal)
    (rest : List (Nat × TokVal)) (la : Lookahead) (sc : ScanState) (ctx : ParseCtx)
    (K : Node → Node) (pp : Path) (pn : Node) (st : Option Path) (pre : List Node) (t : Nat)
    (v : TokVal) (ks : List (Nat × TokVal))
    (hdepth : rest.length + 6 * C01PP.nodeDepth n + 5 < 10000)
    (hview : C01PP.View ctx K pp pn none st) (hslot : C01PP.Slot st pp pn pre n.name)
    (hparent : pn.ty ≠ T_ARRAY) (hfollow : translateTok Generated.parser t ≠ Grammar.STRING)
    (hinp : C01PP.Inp E la sc (C01PP.tokValue bufLen c n ++ (t, v) :: ks)) :
    ∃ la' sc' ctx' vv,
      C01PP.Reaches E ⟨(q, vq) :: rest, la, sc, ctx⟩ ⟨(qv, vv) :: (q, vq) :: rest, la', sc', ctx'⟩ ∧
      C01PP.Inp E la' sc' ((t, v) :: ks) ∧ C01PP.Built bufLen c K pp pn pre n ctx' :=
  C01PP.value_general ⟨hP, hA⟩ bufLen c n hok hq hdepth hview hslot hparent hfollow hinp

/-- ELEMENTS (of a list; arrays are analogous with states 25 / 33 / 40 / 34, see
`C10Prov.sim_arrayRest`): in state 26 (after `( $@3`), with `ctx->parent` at a list `a`, in front of the
tokens of the elements `kids` (commas between them) followed by `)`, the loop arrives in state 37
(`value_list_optional` pushed) in front of the `)`, and `a` has the expected elements appended. -/
theorem C01_elements_simulation (E : ParserEnv) (hP : E.P = Generated.parser)
    (hA : E.acts = Generated.parseActions) (bufLen : Nat) (c : Config) (kids : List Node)
    (hok : ∀ k ∈ kids, C01PP.okNode k = true) (hnameless : ∀ k ∈ kids, k.name = none)
    (v26 : TokVal) (rest : List (Nat × TokVal)) (la : Lookahead) (sc : ScanState) (ctx : ParseCtx)
    (K : Node → Node) (pp : Path) (a : Node) (st : Option Path) (t : Nat) (v : TokVal)
    (ks : List (Nat × TokVal))
    (hdepth : rest.length + 6 * C01PP.listDepth kids + 1 < 10000)
    (hview : C01PP.View ctx K pp a none st) (hlist : a.ty = T_LIST)
    (hinp : C01PP.Inp E la sc (C01PP.tokElems bufLen c kids ++ C01PP.tLE :: (t, v) :: ks)) :
    ∃ la' sc' ctx' vv ks2 st',
      C01PP.Reaches E ⟨(26, v26) :: rest, la, sc, ctx⟩ ⟨(37, vv) :: (26, v26) :: rest, la', sc', ctx'⟩ ∧
      C01PP.Inp E la' sc' (C01PP.tLE :: (t, v) :: ks) ∧
      C01PP.View ctx' K pp { a with kids := a.kids ++ ks2 } none st' ∧
      C01PP.stripPosList ks2 = C01PP.expList bufLen c kids :=
  C01PP.elements_general ⟨hP, hA⟩ bufLen c kids hok hnameless hdepth hview hlist hinp

/-- MEMBERS: in a state `q0` in which a list of settings may start (0 at top level, 27 after
`{ $@4`; `q1` = 3 resp. 38 is the state after `setting_list`), with `ctx->parent` at a group `pn`
that is still empty, in front of the tokens of the settings `k :: ks` (`name = value`, each
followed by `;` if the writer's options say so) followed by a token that is not a string, comma
or semicolon, the loop arrives in `q1` in front of that token, and the group has the expected
members. -/
theorem C01_members_simulation (E : ParserEnv) (hP : E.P = Generated.parser)
    (hA : E.acts = Generated.parseActions) (bufLen : Nat) (c : Config) (q0 q1 : Nat)
    (hq : C01PP.MemCtx q0 q1) (k : Node) (ks : List Node)
    (hok : ∀ x ∈ k :: ks, C01PP.okNode x = true) (hnames : ∀ x ∈ k :: ks, C01PP.nameOKB x = true)
    (hdistinct : ((k :: ks).map (·.name)).Nodup) (v0 : TokVal) (rest : List (Nat × TokVal))
    (la : Lookahead) (sc : ScanState) (ctx : ParseCtx) (K : Node → Node) (pp : Path) (pn : Node)
    (st : Option Path) (t : Nat) (v : TokVal) (ks' : List (Nat × TokVal))
    (hdepth : rest.length + 6 * C01PP.listDepth (k :: ks) + 3 < 10000)
    (hview : C01PP.View ctx K pp pn none st) (hgroup : pn.ty = T_GROUP) (hempty : pn.kids = [])
    (hfollow : C01PP.MemFollow t)
    (hinp : C01PP.Inp E la sc (C01PP.tokMembers bufLen c (k :: ks) ++ (t, v) :: ks')) :
    ∃ la' sc' ctx' vv ks2 st',
      C01PP.Reaches E ⟨(q0, v0) :: rest, la, sc, ctx⟩ ⟨(q1, vv) :: (q0, v0) :: rest, la', sc', ctx'⟩ ∧
      C01PP.Inp E la' sc' ((t, v) :: ks') ∧
      C01PP.View ctx' K pp { pn with kids := pn.kids ++ ks2 } none st' ∧
      C01PP.stripPosList ks2 = C01PP.expList bufLen c (k :: ks) :=
  C01PP.members_general ⟨hP, hA⟩ bufLen c hq k ks hok hnames hdistinct hdepth hview hgroup hempty
    hfollow hinp

/-- the two member contexts of the compiled automaton -/
theorem C01_member_contexts : C01PP.MemCtx 0 3 ∧ C01PP.MemCtx 27 38 := ⟨C01PP.mem_0, C01PP.mem_27⟩

/-- the three value contexts of the compiled automaton -/
theorem C01_value_contexts : C01PP.ValCtx 8 21 ∧ C01PP.ValCtx 26 35 ∧ C01PP.ValCtx 42 46 :=
  ⟨C01PP.val_8, C01PP.val_26, C01PP.val_42⟩

/-! ### FINDING: the statement is false without the bound on the nesting depth

The statement without a bound on the depth (well-formed, no NONE, NUL-free strings) is
false of the model, because it is false of the C code: `libconfig_yyparse` has a stack limit
(`YYMAXDEPTH` = 10000) and gives up with "memory exhausted" (return value 2) when an input nests
too deeply.  `config_write` happily writes such a tree, `config_read` of the result fails.  The
counterexample is `a = ( ( … ( ) … ) )` with 4998 nested lists (`deepConfig 4997`): each `(` costs
two stack entries (`LIST_START $@3`), on top of the four of the bottom and `NAME $@1 =`; after the
4998-th the stack has 10000 entries.  (Groups nested as second members cost six entries per
level and reach the limit at depth 1667 — hence `maxNesting` = 1666.)  A parse of that size is
beyond evaluation by the kernel, so the counterexample is proved, with the lemmas of the
simulation: `C01_deep_nesting_exhausts`. -/

/-- the statement without the depth bound -/
def UnboundedStatement : Prop :=
  ∀ (w : World) (c₀ : Config) (lexFuel bufLen : Nat) (c : Config),
    (c.wfb && noNoneB c.root && nulFreeB c.root) = true →
    ∀ (fuel : Nat) (s₀ s₁ s' : ScanState) (ctx₀ ctx' : ParseCtx) (r : ParseResult),
      C02.LexesTo (theEnv w c₀ lexFuel) s₀ (tokensOfConfig Generated.tokens bufLen c) s₁ →
      stripPos ctx₀.cfg.root = { ty := T_GROUP } → ctx₀.parent = some [] → ctx₀.str = none →
      yyparse (theEnv w c₀ lexFuel) fuel s₀ ctx₀ = (s', ctx', r) → r ≠ .outOfFuel →
      r = .accept ∧ stripPos ctx'.cfg.root = expectedRoot bufLen c

/-- `d + 1` nested lists, the innermost empty: `( ( … ( ) … ) )` -/
def nestedLists : Nat → Node
  | 0 => { ty := T_LIST }
  | d + 1 => { ty := T_LIST, kids := [nestedLists d] }

/-- the configuration `a = ( ( … ( ) … ) )` with `d + 1` nested lists -/
def deepConfig (d : Nat) : Config :=
  { root := { ty := T_GROUP, kids := [{ nestedLists d with name := some [97] }] } }

theorem nestedLists_pp (d : Nat) : nestedLists d = C01PP.nestedLists d := by
  induction d with
  | zero => rfl
  | succ d ih => rw [nestedLists, C01PP.nestedLists, ih]

theorem deepConfig_pp (d : Nat) : deepConfig d = C01PP.deepConfig d := by
  unfold deepConfig C01PP.deepConfig
  rw [nestedLists_pp]

theorem nestedLists_ok (d : Nat) :
    (nestedLists d).wfb = true ∧ noNoneB (nestedLists d) = true ∧
      nulFreeB (nestedLists d) = true ∧ (nestedLists d).name = none ∧
      (nestedLists d).ty = T_LIST := by
  induction d with
  | zero => exact ⟨by decide, by decide, by decide, rfl, rfl⟩
  | succ d ih =>
    obtain ⟨h1, h2, h3, h4, h5⟩ := ih
    refine ⟨?_, ?_, ?_, rfl, rfl⟩
    · rw [nestedLists, Node.wfb, wfbList, wfbList, h1]
      simp [Node.localWFb, Node.isAggregate, isAggregateTy, h4, T_LIST, T_GROUP, T_ARRAY]
    · rw [nestedLists, noNoneB, noNoneListB, noNoneListB, h2]
      rfl
    · rw [nestedLists, nulFreeB, nulFreeListB, nulFreeListB, h3]
      rfl

/-- the deep configurations satisfy every side condition but the depth bound … -/
theorem deepConfig_ok (d : Nat) :
    ((deepConfig d).wfb && noNoneB (deepConfig d).root && nulFreeB (deepConfig d).root) = true := by
  obtain ⟨h1, h2, h3, h4, h5⟩ := nestedLists_ok d
  have e : ∀ n : Node, ({ n with name := some [97] } : Node).wfb = n.wfb ∧
      noNoneB { n with name := some [97] } = noNoneB n ∧
      nulFreeB { n with name := some [97] } = nulFreeB n := by
    intro n; cases n
    exact ⟨by simp [Node.wfb, Node.localWFb, Node.isAggregate], by simp [noNoneB],
      by simp [nulFreeB]⟩
  simp only [Bool.and_eq_true]
  refine ⟨⟨?_, ?_⟩, ?_⟩
  · unfold Config.wfb
    show (_ && _ && Node.wfb (Node.mk _ _ _ _ _ _ _ _ _ _)) = true
    rw [Node.wfb, wfbList, wfbList, (e _).1, h1]
    simp [Node.localWFb, Node.isAggregate, isAggregateTy, T_LIST, T_GROUP, T_ARRAY, nodupB, deepConfig]
    decide
  · show noNoneB (Node.mk _ _ _ _ _ _ _ _ _ _) = true
    rw [noNoneB, noNoneListB, noNoneListB, (e _).2.1, h2]
    rfl
  · show nulFreeB (Node.mk _ _ _ _ _ _ _ _ _ _) = true
    rw [nulFreeB, nulFreeListB, nulFreeListB, (e _).2.2, h3]
    rfl

/-- … but not `ParseOK`: the depth of `deepConfig d` is `d + 1` -/
theorem depth_deepConfig (d : Nat) : depth (deepConfig d).root = d + 1 := by
  have h : ∀ d, depth (nestedLists d) = d := by
    intro d
    induction d with
    | zero => rfl
    | succ d ih => rw [nestedLists, depth, depthList, depthList, ih]; simp
  have e : ∀ n : Node, depth { n with name := some [97] } = depth n := by
    intro n; cases n; simp [depth]
  show depth (Node.mk _ _ _ _ _ _ _ _ _ _) = _
  rw [depth, depthList, depthList, e, h]
  simp

/-- **The counterexample.**  For `a = ( ( … ( ) … ) )` with at least 4998 nested lists, under
exactly the hypotheses of `C01_parse_rebuilds` (except the depth bound), whatever `yyparse`
returns with enough fuel is `exhausted` ("memory exhausted", `yyparse` returns 2) — not
acceptance. -/
theorem C01_deep_nesting_exhausts (d : Nat) (hd : 4997 ≤ d) (w : World) (c₀ : Config)
    (lexFuel bufLen fuel : Nat) (s₀ s₁ s' : ScanState) (ctx₀ ctx' : ParseCtx) (r : ParseResult)
    (hlex : C02.LexesTo (theEnv w c₀ lexFuel) s₀
      (tokensOfConfig Generated.tokens bufLen (deepConfig d)) s₁)
    (hroot : stripPos ctx₀.cfg.root = { ty := T_GROUP }) (hpar : ctx₀.parent = some [])
    (hstr : ctx₀.str = none)
    (h : yyparse (theEnv w c₀ lexFuel) fuel s₀ ctx₀ = (s', ctx', r)) (hr : r ≠ .outOfFuel) :
    r = .exhausted := by
  rw [stripPos_pp] at hroot
  rw [deepConfig_pp] at hlex
  exact C01PP.deep_exhausts bufLen (C01PP.compiled_theEnv w c₀ lexFuel) d hd
    (C01PP.lexT_of_lexesTo hlex) hroot hpar hstr h hr

/-- … and with enough fuel it does return that. -/
theorem C01_deep_nesting_exhausts_total (d : Nat) (hd : 4997 ≤ d) (w : World) (c₀ : Config)
    (lexFuel bufLen : Nat) (s₀ s₁ : ScanState) (ctx₀ : ParseCtx)
    (hlex : C02.LexesTo (theEnv w c₀ lexFuel) s₀
      (tokensOfConfig Generated.tokens bufLen (deepConfig d)) s₁)
    (hroot : stripPos ctx₀.cfg.root = { ty := T_GROUP }) (hpar : ctx₀.parent = some [])
    (hstr : ctx₀.str = none) :
    ∃ N, ∀ fuel, N ≤ fuel → (yyparse (theEnv w c₀ lexFuel) fuel s₀ ctx₀).2.2 = .exhausted := by
  rw [stripPos_pp] at hroot
  rw [deepConfig_pp] at hlex
  exact C01PP.deep_exhausts_total bufLen (C01PP.compiled_theEnv w c₀ lexFuel) d hd
    (C01PP.lexT_of_lexesTo hlex) hroot hpar hstr

/-- Hence: as soon as some scanner run delivers the tokens of the written form of `deepConfig
4997` (which is what the lexing half of C01 establishes for every written form), the statement
without the depth bound is refuted. -/
theorem C01_unbounded_statement_false (w : World) (c₀ : Config) (lexFuel bufLen : Nat)
    (s₀ s₁ : ScanState)
    (hlex : C02.LexesTo (theEnv w c₀ lexFuel) s₀
      (tokensOfConfig Generated.tokens bufLen (deepConfig 4997)) s₁) :
    ¬ UnboundedStatement := by
  intro H
  obtain ⟨N, hN⟩ := C01_deep_nesting_exhausts_total 4997 (Nat.le_refl _) w c₀ lexFuel bufLen s₀ s₁
    { cfg := {} } hlex rfl rfl rfl
  have hres := hN N (Nat.le_refl _)
  cases hp : yyparse (theEnv w c₀ lexFuel) N s₀ { cfg := {} } with
  | mk s' rest =>
    cases rest with
    | mk ctx' r =>
      rw [hp] at hres
      simp only at hres
      have := H w c₀ lexFuel bufLen (deepConfig 4997) (deepConfig_ok 4997) N s₀ s₁ s'
        { cfg := {} } ctx' r hlex rfl rfl rfl hp (by rw [hres]; decide)
      rw [hres] at this
      exact absurd this.1 (by decide)

end Libconfig.C01Parse
