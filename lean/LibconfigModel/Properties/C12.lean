import LibconfigModel.Generated.Constants
import LibconfigModel.WriteFile
/-
  C12 — config_write_file never reports success for an incomplete file.
  For every configuration and every outcome of the I/O steps (an arbitrary oracle).
-/
namespace Libconfig.C12

/-- every I/O step the call performs succeeded -/
def allOk (c : Config) (io : IOFaults) : Bool :=
  io.openOk && io.writeOk && (!c.opt OPT_FSYNC || io.fsyncOk) && io.closeOk

/-- Success is reported exactly when opening, every write including the final flush, the
requested fsync and the close all succeeded. -/
theorem C12_iff (bufLen : Nat) (c : Config) (io : IOFaults) :
    (writeFile bufLen c io).ret = allOk c io := by
  unfold writeFile allOk
  cases io.openOk; · rfl
  cases io.writeOk; · rfl
  cases c.opt OPT_FSYNC <;> cases io.fsyncOk <;> cases io.closeOk <;> rfl

/-- Reported success implies a complete file: its content is exactly what `config_write`
produces for the same configuration. -/
theorem C12_success_complete (bufLen : Nat) (c : Config) (io : IOFaults)
    (h : (writeFile bufLen c io).ret = true) :
    io.openOk = true ∧ io.writeOk = true ∧ (c.opt OPT_FSYNC = true → io.fsyncOk = true) ∧
    io.closeOk = true ∧ (writeFile bufLen c io).fileBytes = some (c.write bufLen) := by
  have hb := (writeFile_of_ret bufLen c io).2
  rw [h] at hb
  rw [C12_iff, allOk] at h
  simp only [Bool.and_eq_true, Bool.or_eq_true, Bool.not_eq_true'] at h
  obtain ⟨⟨⟨ho, hw⟩, hf⟩, hc⟩ := h
  exact ⟨ho, hw, fun h5 => hf.resolve_left (by rw [h5]; decide), hc, hb⟩

/-- Any failing step is reported as an I/O failure. -/
theorem C12_failure_reported (bufLen : Nat) (c : Config) (io : IOFaults) (h : allOk c io = false) :
    (writeFile bufLen c io).ret = false ∧ (writeFile bufLen c io).cfg.errType = ERR_FILE_IO ∧
    (writeFile bufLen c io).fileBytes = none := by
  rw [← C12_iff bufLen] at h
  rw [(writeFile_of_ret bufLen c io).1, (writeFile_of_ret bufLen c io).2, h]
  exact ⟨rfl, rfl, rfl⟩

/-- The buffered data is flushed before the fsync, and the stream is closed last: on
every path that opened the file, `fclose` is the final call; when fsync is requested and
reached, `fflush` precedes it. -/
theorem C12_call_order (bufLen : Nat) (c : Config) (io : IOFaults) (h : io.openOk = true) :
    (writeFile bufLen c io).calls.getLast? = some .fclose ∧
    (IOCall.fsync ∈ (writeFile bufLen c io).calls →
      (writeFile bufLen c io).calls.take 3 = [.fopen, .write, .fflush]) := by
  unfold writeFile
  rw [h]
  cases io.writeOk; · exact ⟨rfl, fun _ => rfl⟩
  cases c.opt OPT_FSYNC <;> cases io.fsyncOk <;> cases io.closeOk <;> exact ⟨rfl, fun _ => rfl⟩

/-- the settings are never modified by writing -/
theorem C12_settings_untouched (bufLen : Nat) (c : Config) (io : IOFaults) :
    (writeFile bufLen c io).cfg.root = c.root := writeFile_root bufLen c io

/-! Non-vacuity: a failing flush with everything else fine is reported -/
example : (writeFile 341 Config.init { writeOk := false }).ret = false := by decide
example : (writeFile 341 Config.init {}).ret = true := by decide

/-- Bridge: the fsync option bit and the I/O error type -/
theorem C12_constants :
    Generated.CONFIG_OPTION_FSYNC = OPT_FSYNC ∧ Generated.CONFIG_ERR_FILE_IO = ERR_FILE_IO ∧ Generated.CONFIG_ERR_NONE = ERR_NONE := by decide

end Libconfig.C12
