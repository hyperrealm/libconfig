import LibconfigModel.Properties.C04
import LibconfigModel.Properties.C02
import LibconfigModel.Proofs.C04Read
/-
  C04 (continued) — reads preserve well-formedness too, so the invariant holds along EVERY
  history of the public API.  Statements only; helper lemmas live in
  LibconfigModel/Proofs/C04Read*.lean.
-/
namespace Libconfig.C04

/-- Whatever bytes are read, from whatever source, succeeding or failing (syntax error,
duplicate, mismatched element, include error, stack exhaustion, …), the configuration left
behind is well-formed. -/
theorem C04_read (w : World) (c : Config) (src : Source) (fuel : Nat) (h : c.WF) :
    (read w c src fuel).cfg.WF :=
  C09P.read_ind (Q := fun r => r.cfg.WF) w c src fuel (fun _ _ _ => C04R.readCore_wf ..)
    fun _ _ _ => ⟨h.1, h.2, h.3⟩

theorem C04_step_all (s : State) (op : Op) (h : s.cfg.WF) : (step s op).1.cfg.WF := by
  cases hop : isRead op with
  | false => exact C04_step s op h hop
  | true =>
    cases op <;> simp only [isRead, Bool.false_eq_true] at hop
    case read src => exact C04_read s.world s.cfg src readFuel h

/-- Every history from `config_init` ends in a well-formed state. -/
theorem C04_history_all (ops : List Op) : (run ops).cfg.WF :=
  foldl_wf ops (fun op _ s h => C04_step_all s op h) State.init C04_init

end Libconfig.C04
