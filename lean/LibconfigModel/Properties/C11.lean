import LibconfigModel.Read
import LibconfigModel.Proofs.C11
import LibconfigModel.Proofs.C11Tree
/-
  C11 — reads release every file and buffer whatever point they fail at.
  Helper lemmas: LibconfigModel/Proofs/C11.lean (ledger), Proofs/C11Tree.lean (file names).

  The include machinery of the model (Scanner.lean / Read.lean) emits an `IOEvent` for
  every `fopen`, `fclose`, `yy_create_buffer` and `yy_delete_buffer` it performs for
  included files.  `ledger` (Read.lean) replays such an event list: the multiset of
  streams currently open, the number of live include buffers, and two error counters
  (`stray`: a close of something that is not open, `under`: a buffer deleted twice).
  The theorems quantify over every file system `w`, every configuration (include
  directory, include function), every input and every fuel — hence over every include
  tree and every place at which the read can fail — and have no hypothesis about the
  outcome of the read.

  Partial: absence of leaks inside the generated flex/bison code and inside libc is
  observed by LeakSanitizer in the dynamic part of the check, not proved.
-/
namespace Libconfig.C11

open Libconfig.C11P Libconfig.C09P

/-- **Every file opened is closed, every include buffer created is deleted** — for every
world, configuration, source and fuel, whatever the outcome (accept, abort, exhausted,
echo, crash, out-of-fuel): at return no stream is open, no include buffer is alive, no
buffer was deleted twice, and a close that does not match an open stream can only name a
path that cannot be opened at all (the model emits `fclose` for a frame whose current
file failed to open, where scanctx.c tests `current_stream` first). -/
theorem C11_balanced (w : World) (c : Config) (src : Source) (fuel : Nat) :
    (ledger (read w c src fuel).events).opened = [] ∧
    (ledger (read w c src fuel).events).bufs = 0 ∧
    (ledger (read w c src fuel).events).under = 0 ∧
    ∀ p ∈ (ledger (read w c src fuel).events).stray, w.open? p = none := by
  have core : ∀ fn inp, Good w [] (ledger (readCore w c fn inp fuel).events) [] 0 :=
    fun fn inp => readCore_good w c fn inp fuel [] (fun _ h => by cases h)
  cases src with
  | string s => exact ⟨(core _ _).opened, (core _ _).bufs, (core _ _).under, (core _ _).stray⟩
  | stream s => exact ⟨(core _ _).opened, (core _ _).bufs, (core _ _).under, (core _ _).stray⟩
  | file path =>
    cases hw : w.open? path with
    | none => rw [C09P.read_noOpen w c path fuel hw]; exact ⟨rfl, rfl, rfl, fun _ h => by cases h⟩
    | some content =>
      rw [C09P.read_file w c path content fuel hw]
      have hb : AllOpenable w [path] := fun p hp => by
        simp only [List.mem_singleton] at hp; subst hp; rw [hw]; rfl
      have hg := readCore_good w c (some path) content fuel [path] hb
      have hrun : ledger ([IOEvent.fopen path true] ++ (readCore w c (some path) content fuel).events ++
            [IOEvent.fclose path]) =
          (Ledger.run { opened := [path] } (readCore w c (some path) content fuel).events).step
            (.fclose path) := by
        unfold ledger
        rw [run_append, run_append]
        rfl
      rw [hrun]
      have hop : (Ledger.run { opened := [path] } (readCore w c (some path) content fuel).events).opened =
          [path] := by simpa using hg.opened
      have hmem : path ∈ (Ledger.run { opened := [path] }
          (readCore w c (some path) content fuel).events).opened := by rw [hop]; exact List.mem_cons_self
      simp only [Ledger.step, if_pos hmem]
      refine ⟨by rw [hop]; simp, hg.bufs, hg.under, hg.stray⟩

/-- the same as a single boolean, with the outcome named explicitly -/
theorem C11_balanced_every_outcome (w : World) (c : Config) (src : Source) (fuel : Nat)
    (r : ParseResult) (_h : (read w c src fuel).result = r) :
    (ledger (read w c src fuel).events).balanced = true := by
  obtain ⟨h1, h2, h3, _⟩ := C11_balanced w c src fuel
  simp [Ledger.balanced, h1, h2, h3]

/-- **The caller's stream is not touched.**  Reading from a string or from the caller's
`FILE*` performs no stream operation except on include files (every path an event names is
one of the names the include function returned, which the configuration owns afterwards);
`config_read_file` opens its file first, closes it last, and everything in between is
balanced on its own — no close in between refers to the top-level stream. -/
theorem C11_caller_stream_untouched (w : World) (c : Config) (fuel : Nat) :
    (∀ s, ∀ e ∈ (read w c (.string s) fuel).events, ∀ p, e.path = some p →
        p ∈ (read w c (.string s) fuel).cfg.filenames) ∧
    (∀ s, ∀ e ∈ (read w c (.stream s) fuel).events, ∀ p, e.path = some p →
        p ∈ (read w c (.stream s) fuel).cfg.filenames) ∧
    (∀ path content, w.open? path = some content →
      ∃ mid, (read w c (.file path) fuel).events = [IOEvent.fopen path true] ++ mid ++ [IOEvent.fclose path] ∧
        (ledger mid).balanced = true ∧ path ∉ (ledger mid).stray) ∧
    (∀ path, w.open? path = none → (read w c (.file path) fuel).events = [IOEvent.fopen path false]) := by
  refine ⟨fun s => readCore_events_named w c none _ fuel, fun s => readCore_events_named w c none _ fuel,
    fun path content hw => ?_, fun path hw => by simp [read, hw]⟩
  refine ⟨(readCore w c (some path) content fuel).events, by simp [read, hw], ?_, ?_⟩
  · have hg := readCore_good w c (some path) content fuel [] (fun _ h => by cases h)
    have h1 := hg.opened; have h2 := hg.bufs; have h3 := hg.under
    simp only [List.append_nil] at h1
    simp [Ledger.balanced, ledger, h1, h2, h3]
  · intro hm
    have hg := readCore_good w c (some path) content fuel [] (fun _ h => by cases h)
    have := hg.stray path hm
    rw [hw] at this; cases this

/-- **File names stay valid.**  The file name reported with an error is one of the strings
of the file-name vector that `__config_read` hands to the configuration
(`config->filenames`, released only by `config_clear` / `config_destroy` / the next read) —
never a string owned by a popped include frame or by the scan context. -/
theorem C11_names_live (w : World) (c : Config) (src : Source) (fuel : Nat) :
    ∀ p, (read w c src fuel).cfg.errFile = some p → p ∈ (read w c src fuel).cfg.filenames :=
  read_ind (Q := fun r => ∀ p, r.cfg.errFile = some p → p ∈ r.cfg.filenames) w c src fuel
    (fun fn inp _ => readCore_errFile_named w c fn inp fuel) fun _ _ _ => nofun

/-- … and so is the source file recorded on **every setting** of the resulting tree
(`config_setting_source_file`): whenever the input was actually parsed — whatever the
outcome, so also for the partial tree left by a failed read — each setting's file is a
string of `config->filenames`. -/
theorem C11_setting_names_live (w : World) (c : Config) (filename : Option Bytes) (inp : Bytes)
    (fuel : Nat) (path : Path) (m : Node) (p : Bytes)
    (hm : (readCore w c filename inp fuel).cfg.root.get? path = some m) (hp : m.file = some p) :
    p ∈ (readCore w c filename inp fuel).cfg.filenames :=
  C11T.readCore_files_named w c filename inp fuel path m hm p hp

/-- The same for the three entry points.  The hypothesis is needed only for
`config_read_file` on a file that cannot be opened: that call leaves the old tree and the
old file-name vector in place, so they must have been consistent before. -/
theorem C11_setting_names_live_read (w : World) (c : Config) (src : Source) (fuel : Nat)
    (hc : ∀ path m, c.root.get? path = some m → ∀ p, m.file = some p → p ∈ c.filenames)
    (path : Path) (m : Node) (p : Bytes)
    (hm : (read w c src fuel).cfg.root.get? path = some m) (hp : m.file = some p) :
    p ∈ (read w c src fuel).cfg.filenames :=
  read_ind (Q := fun r => C11T.FilesIn r.cfg.filenames r.cfg.root) w c src fuel
    (fun fn inp _ => C11T.readCore_files_named w c fn inp fuel) (fun _ _ _ => hc) path m hm p hp

/-- the file-name vector is owned by the configuration until it is cleared: `config_clear`
is what releases it -/
theorem C11_names_released_by_clear (c : Config) : (c.clear).1.filenames = [] := rfl

/-- The two scanner actions that open and close files and create and delete buffers — the
`<INCLUDE>\"` directive action and the shared `<<EOF>>` action — are the catalogued ones in
the compiled scanner (texts re-read from lib/scanner.c on every run). -/
theorem C11_actions :
    Generated.scanActions.getD 27 .unknown = .includeDirective Generated.tokens.error ∧
    Generated.scanner.eofActionKnown = true := by decide

/-! ### the invariant behind the theorems (exported for inspection) -/

/-- Between any two scanner calls the open streams are exactly the current files of the
frames on the include stack (innermost first), and there is one include buffer per frame. -/
theorem C11_invariant (T : FlexTables) (acts : List ScanAct) (w : World) (ic : IncludeCfg) (fuel : Nat)
    (s : ScanState)
    (h : (ledger s.events).opened = openOf w s.stack ∧ (ledger s.events).bufs = s.stack.length ∧
      (ledger s.events).under = 0 ∧ ∀ p ∈ (ledger s.events).stray, w.open? p = none) :
    let s' := (yylex T acts w ic fuel s).1
    (ledger s'.events).opened = openOf w s'.stack ∧ (ledger s'.events).bufs = s'.stack.length ∧
      (ledger s'.events).under = 0 ∧ ∀ p ∈ (ledger s'.events).stray, w.open? p = none := by
  have hi : Inv w [] s := ⟨by simpa [ledger] using h.1, h.2.1, h.2.2.1, h.2.2.2⟩
  have := yylex_inv T acts w ic [] (fun _ h => by cases h) fuel s hi
  exact ⟨by simpa [ledger] using this.opened, this.bufs, this.under, this.stray⟩

/-! ### non-vacuity: a read that opens and closes a file, and one that fails inside it -/

private def wEx : World :=
  { files := [(bytesOfString "t", some (bytesOfString "@include \"i\"\nb = 2;\n")),
              (bytesOfString "i", some (bytesOfString "a = 1;\nq = ;\n"))] }

example : (read wEx Config.init (.file (bytesOfString "t")) 1000).events =
    [.fopen (bytesOfString "t") true, .fopen (bytesOfString "i") true, .newBuf,
     .fclose (bytesOfString "i"), .delBuf, .fclose (bytesOfString "t")] ∧
    (read wEx Config.init (.file (bytesOfString "t")) 1000).result = .abort := by
  decide +kernel

end Libconfig.C11
