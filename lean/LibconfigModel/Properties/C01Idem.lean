import LibconfigModel.Properties.C01RoundTrip
import LibconfigModel.Proofs.C01IdemTree
import LibconfigModel.Proofs.C01IdemSciOK
import LibconfigModel.Proofs.C01IdemSciTree
import LibconfigModel.Proofs.Bytes
/-
  C01 (continued) — idempotence of the written text.

  "Writing the configuration that was read back from a written configuration gives the same bytes
  again": `config_write ∘ config_read ∘ config_write = config_write`.

  G1 (float level)  `C01_float_idem`: with scientific notation off, precision ≤ 26 and the
      library's buffer (FLOAT_BUF_SIZE = 341), the text `libconfig_format_double` writes for a
      finite double is a fixed point of `text ↦ strtod ↦ libconfig_format_double`.
      (`C01_float_readback`: the double read back is finite, has the same sign — also for ±0 and
      for values that print as zero — and `%.{p}f` rounds it to the same integer;
      `C01_reround`: the arithmetic core.)
  G2 (tree level)   `C01_rewrite_expected`: the configuration `c` with its tree replaced by the
      expected result of the round trip (`C01Parse.expectedRoot`) writes the same bytes as `c`;
      `C01_rewrite_same`: so does the configuration that `config_read_string` actually builds
      from the written form, when the reader has `c`'s options / tab width / float precision /
      default format.
      FINDING: the statement needs a hypothesis on the `format` field of integer settings that
      `LexOK` / `ParseOK` do not supply (`FmtOK`); without it it is false of the model
      (`C01_rewrite_unrestricted_false`).

  G3 (scientific notation, `%.{p}g` and the 17-digit re-rendering)
      FINDING: the float lemma is false as it stands (`C01_float_idem_sci_unrestricted_false`):
      at precision 16 (`C01_sci_p16`) and for denormals from precision 2 on (`C01_sci_denormal`).
      Side conditions of `floatOK` discharged: `C01_sci_length` (the rendering is not cut),
      `C01_sci_no_overflow` (the text does not read back as an infinity), hence
      `C01_floatOK_sci`, `C01_roundtrip_sci` (the round trip with finiteness as the only
      condition on floats, either notation).  On the way: `C01_floorLog10_spec`
      (`F64.floorLog10` is correct), `C01_sci_digits`, `C01_sci_value`.
      The float lemma with the hypotheses the findings call for: `C01_float_idem_sci`
      (precision ≤ 15 on normal doubles and zeros; precision ≥ 17 — `C01_sci_exact`: the double
      itself comes back; the re-rendered case), resting on `C01_ofRat_err` and `C01_spacing`.
      Tree level: `C01_rewrite_same_general`, `C01_rewrite_same_sci`.

  Helpers: Proofs/C01IdemFloat.lean, C01IdemTree.lean (G1, G2); C01IdemLog.lean,
  C01IdemSciDigits.lean, C01IdemSciLen.lean, C01IdemSciText.lean, C01IdemSciVal.lean,
  C01IdemSciOK.lean, C01IdemSciErr.lean, C01IdemSciCore.lean, C01IdemSciIdem.lean,
  C01IdemSciTree.lean (G3); the arithmetic of rounding in Proofs/F64Arith.lean, F64Round.lean; reading a
  rendering back on its decimal grid (either notation) in Proofs/F64Grid.lean.
-/
namespace Libconfig.C01Idem
open Libconfig C01L C01Parse

/-! ## G1 — the float lemma -/

/-- **the arithmetic core.**  `divRoundEven n d` is `n/d` rounded to the nearest integer, ties to
even.  If `S·P/T` rounds to `N` and `S'` is at least as close to `N·T/P` as `S` is, then `S'·P/T`
rounds to `N` too.  (`S`, `S'`: magnitudes of two doubles scaled by `T = 2^1074`; `P = 10^p`.) -/
theorem C01_reround (S S' P T : Nat) (hT : 0 < T)
    (hnear : F64R.dist (F64.divRoundEven (S * P) T * T) (S' * P) ≤
      F64R.dist (F64.divRoundEven (S * P) T * T) (S * P)) :
    F64.divRoundEven (S' * P) T = F64.divRoundEven (S * P) T :=
  F64R.dre_of_nearer (S * P) (S' * P) T hT hnear

/-- `F64R.dist` is the distance of two natural numbers -/
example (a b : Nat) : F64R.dist a b = Int.natAbs ((a : Int) - (b : Int)) := rfl

/-- `%.{p}f` prints the integer `round-half-even(|b|·10^p)`, `|b| = sMag b / 2^1074` -/
theorem C01_scaledRound (b p : Nat) :
    F64.scaledRound b p = F64.divRoundEven (F64R.sMag b * 10 ^ p) (2 ^ 1074) :=
  C01I.scaledRound_eq b p

/-- **what is read back.**  For a finite double `b` (any sign, zero and denormals included) and a
precision `p ≤ 26`, the double `strtod` makes of the written text is finite, has the sign of `b`
(so `-0.0`, and a negative value that prints as `-0.0`, come back as `-0.0`), and `%.{p}f` rounds
it to the same integer as `b`. -/
theorem C01_float_readback (b p : Nat) (hfin : F64.isFinite b = true) (hp : p ≤ 26) :
    let b' := F64.strtod (formatDouble 341 b p false)
    F64.isFinite b' = true ∧ F64.signBit b' = F64.signBit b ∧
      F64.scaledRound b' p = F64.scaledRound b p :=
  C01I.readback b p hfin hp

/-- **C01_float_idem** (G1).  Scientific notation off, precision at most 26, the buffer of
`__config_write_value` (FLOAT_BUF_SIZE = 341, so that `snprintf` cuts nothing): for every finite
double `b` — no bound on the bit pattern is needed; the sign bit, exponent and fraction fields are
read off `b` by division — the text written for the double that is read back from the text written
for `b` is that same text. -/
theorem C01_float_idem (b p : Nat) (hfin : F64.isFinite b = true) (hp : p ≤ 26) :
    formatDouble 341 (F64.strtod (formatDouble 341 b p false)) p false = formatDouble 341 b p false :=
  C01I.formatDouble_idem b p hfin hp

/-- … with the constant of the library -/
theorem C01_float_idem_lib (b p : Nat) (hfin : F64.isFinite b = true) (hp : p ≤ 26) :
    formatDouble Generated.FLOAT_BUF_SIZE
        (F64.strtod (formatDouble Generated.FLOAT_BUF_SIZE b p false)) p false =
      formatDouble Generated.FLOAT_BUF_SIZE b p false :=
  C01I.formatDouble_idem b p hfin hp

/-- the post-processing of `libconfig_format_double` (append `.0`, strip trailing zeros) does not
get in the way: the value `strtod` reads off the written text is decided by the digits
`N = scaledRound b p` alone — the written text is sign, integer digits, point, fraction digits,
and its digit string denotes `N` up to a power of ten -/
theorem C01_float_text (b p : Nat) (hfin : F64.isFinite b = true) (hp : p ≤ 26) :
    ∃ ip fq z y, formatDouble 341 b p false = signBytes (F64.signBit b) ++ ip ++ 46 :: fq ∧
      ip ≠ [] ∧ AllDigits ip ∧ AllDigits fq ∧ fq ≠ [] ∧
      digitsVal 10 (ip ++ fq) * 10 ^ z = F64.scaledRound b p * 10 ^ y ∧ fq.length + z = p + y ∧
      F64.strtod (formatDouble 341 b p false) =
        (if digitsVal 10 (ip ++ fq) = 0 then F64.mkBits (F64.signBit b) 0 0
         else F64.ofRat (F64.signBit b) (digitsVal 10 (ip ++ fq)) (10 ^ fq.length)) := by
  obtain ⟨ip, fq, h1, h2, h3, h4, h5, h6, h7, h8⟩ := C01L.fixed_text b p hfin hp
  refine ⟨ip, fq, p, fq.length, h1, h2, h3, h4, h5, h8, Nat.add_comm _ _, ?_⟩
  rw [h1, C01I.strtod_form' _ ip fq h2 h3 h4 h6 h7]
  split
  · next h0 => rw [h0, F64R.ofRat_zero]
  · rfl

/-! ### instances, evaluated by the kernel

Each line: the text written for `b`, the double read back from it, and the text written for that
double. -/

/-- writes, reads back, writes again -/
def trip (b p : Nat) : Bytes × Nat × Bytes :=
  (formatDouble 341 b p false, F64.strtod (formatDouble 341 b p false),
   formatDouble 341 (F64.strtod (formatDouble 341 b p false)) p false)

/-- a text that reads back as the double it was written for is written again as it stands -/
theorem trip_fix (b p : Nat) (h : F64.strtod (formatDouble 341 b p false) = b) :
    (trip b p).2.1 = b ∧ (trip b p).2.2 = (trip b p).1 := by
  simp only [trip, h, and_self]

/-- 0.1 at the default precision 6: `0.1` → 0.1 → `0.1` -/
example : F64.isFinite 0x3FB999999999999A = true ∧
    trip 0x3FB999999999999A 6 = (bytesOfString "0.1", 0x3FB999999999999A, bytesOfString "0.1") := by
  decide +kernel

/-- 0.1 at precision 20: all 20 digits of the binary value are written; the same double comes back -/
example : trip 0x3FB999999999999A 20 =
    (bytesOfString "0.10000000000000000555", 0x3FB999999999999A,
     bytesOfString "0.10000000000000000555") := by
  decide +kernel

/-- 1/3 at precision 6: `0.333333` reads back as a DIFFERENT double (the one nearest to
0.333333), which is written as `0.333333` again -/
example : trip 0x3FD5555555555555 6 =
    (bytesOfString "0.333333", 0x3FD55553EF6B5D46, bytesOfString "0.333333") := by
  decide +kernel

/-- 2^53 + 2 (the successor of 2^53; 2^53 + 1 is not a double) -/
example : trip 0x4340000000000001 6 =
    (bytesOfString "9007199254740994.0", 0x4340000000000001, bytesOfString "9007199254740994.0") := by
  decide +kernel

/-- DBL_MAX at precision 0: 309 digits, `.0` appended; comes back as DBL_MAX -/
example : (trip 0x7FEFFFFFFFFFFFFF 0).1.length = 311 ∧ (trip 0x7FEFFFFFFFFFFFFF 0).2.1 = 0x7FEFFFFFFFFFFFFF ∧
    (trip 0x7FEFFFFFFFFFFFFF 0).2.2 = (trip 0x7FEFFFFFFFFFFFFF 0).1 :=
  have h : (trip 0x7FEFFFFFFFFFFFFF 0).1.length = 311 ∧
      F64.strtod (formatDouble 341 0x7FEFFFFFFFFFFFFF 0 false) = 0x7FEFFFFFFFFFFFFF := by decide +kernel
  ⟨h.1, trip_fix _ 0 h.2⟩

/-- DBL_MAX at precision 15 and at precision 26 -/
example : (trip 0x7FEFFFFFFFFFFFFF 15).2.1 = 0x7FEFFFFFFFFFFFFF ∧
    (trip 0x7FEFFFFFFFFFFFFF 15).2.2 = (trip 0x7FEFFFFFFFFFFFFF 15).1 ∧
    (trip 0x7FEFFFFFFFFFFFFF 26).2.2 = (trip 0x7FEFFFFFFFFFFFFF 26).1 :=
  have h15 := trip_fix 0x7FEFFFFFFFFFFFFF 15 (by decide +kernel)
  ⟨h15.1, h15.2, (trip_fix _ 26 (by decide +kernel)).2⟩

/-- the smallest denormal 2^-1074 prints as `0.0`, which reads back as +0.0 — another double, the
same text -/
example : trip 1 6 = (bytesOfString "0.0", 0, bytesOfString "0.0") ∧
    trip 1 26 = (bytesOfString "0.0", 0, bytesOfString "0.0") := by
  decide +kernel

/-- −0.0: the sign is written and comes back -/
example : trip (2 ^ 63) 6 = (bytesOfString "-0.0", 2 ^ 63, bytesOfString "-0.0") := by
  decide +kernel

/-- −1e-10 at precision 6 rounds to zero but keeps its sign: `-0.0` → −0.0 → `-0.0` -/
example : trip 0xBDDB7CDFD9D7BDBB 6 = (bytesOfString "-0.0", 2 ^ 63, bytesOfString "-0.0") := by
  decide +kernel

/-- ties go to the even neighbour, on both passes: 0.5 → `0.0`, 1.5 → `2.0`, 2.5 → `2.0` at
precision 0; 0.125 → `0.12`, 0.375 → `0.38` at precision 2 -/
example : trip 0x3FE0000000000000 0 = (bytesOfString "0.0", 0, bytesOfString "0.0") ∧
    trip 0x3FF8000000000000 0 = (bytesOfString "2.0", 0x4000000000000000, bytesOfString "2.0") ∧
    trip 0x4004000000000000 0 = (bytesOfString "2.0", 0x4000000000000000, bytesOfString "2.0") ∧
    trip 0x3FC0000000000000 2 = (bytesOfString "0.12", 0x3FBEB851EB851EB8, bytesOfString "0.12") ∧
    trip 0x3FD8000000000000 2 = (bytesOfString "0.38", 0x3FD851EB851EB852, bytesOfString "0.38") := by
  decide +kernel

/-- the hypothesis `isFinite` is needed: an infinity is written as `inf.0`, which `strtod` (on the
language of float literals) does not read as a number — the text is not a fixed point -/
example : F64.isFinite F64.posInf = false ∧
    trip F64.posInf 6 = (bytesOfString "inf.0", 0, bytesOfString "0.0") := by
  decide +kernel

/-! ## G2 — the tree -/

/-- the presentation attributes `config_write` looks at: options, tab width, float precision,
default format -/
example (c c' : Config) : C01I.SameAttrs c c' ↔
    (c'.options = c.options ∧ c'.tabWidth = c.tabWidth ∧ c'.floatPrecision = c.floatPrecision ∧
      c'.defaultFormat = c.defaultFormat) := Iff.rfl

/-- **the format condition.**  Every INT / INT64 setting has a `format` that
`config_setting_set_format` accepts (`CONFIG_FORMAT_DEFAULT` = 0 or `CONFIG_FORMAT_HEX` = 1) —
or the configuration's default format is not HEX.  (The API cannot break it: see
`C01_setFormat_ok`; the model's `Node` type can.) -/
def FmtOK (c : Config) : Bool := C01I.nodeFmt c c.root

/-- what `FmtOK` asks of one integer setting -/
example (c : Config) (fmt : Nat) :
    C01I.intFmtOK c fmt = (decide (fmt ≤ 1) || c.defaultFormat != FMT_HEX) := rfl

/-- `config_setting_set_format` stores nothing but 0 or 1 -/
theorem C01_setFormat_ok (n n' : Node) (f : Nat) (h : n.setFormat f = some n') : n'.fmt ≤ 1 := by
  unfold Node.setFormat at h
  split at h
  · cases h
  · rename_i hc
    simp only [Bool.or_eq_true, Bool.and_eq_true, bne_iff_ne, ne_eq, not_or, not_and,
      Decidable.not_not] at hc
    cases h
    show f ≤ 1
    by_cases h0 : f = FMT_DEFAULT
    · rw [h0]; decide
    · rw [hc.2 h0]; decide

/-- **the tree lemma, general form.**  Any buffer size, any notation: if every float setting's text
is a fixed point of read-then-write (`floatIdem`, a decidable check) and every integer setting's
format survives (`intFmtOK`), then a configuration `c'` that holds the expected result of the
round trip and has the presentation attributes of `c` writes exactly the bytes `c` wrote. -/
theorem C01_rewrite_expected_general (bufLen : Nat) (c c' : Config) (ha : C01I.SameAttrs c c')
    (hroot : c'.root = expectedRoot bufLen c) (h : C01I.nodeIdem bufLen c c.root = true) :
    c'.write bufLen = c.write bufLen :=
  C01I.write_expected bufLen c c' ha hroot h

/-- **C01_rewrite_expected** (G2).  Default notation (scientific off, precision ≤ 26, the
library's buffer): for a configuration whose floats are finite (`LexOKfin` — which also asks for
readable names, integer ranges and NUL-free strings; only the finiteness is used) and whose
integer formats are sane (`FmtOK`),
`c' := { c with root := expectedRoot … c }` writes the same bytes as `c`.
Integers keep value and effective format; booleans are written `true` for any non-zero value and
come back as 1; a NULL string and the empty string are both written `""`; floats: G1; the order of
children is kept.  (`ParseOK` is not needed for this step: children of scalar settings are
ignored by the writer and by `expectedRoot` alike.) -/
theorem C01_rewrite_expected (c : Config) (hsci : c.opt OPT_SCIENTIFIC = false)
    (hprec : c.floatPrecision ≤ 26) (hl : LexOKfin c = true) (hfmt : FmtOK c = true) :
    ({ c with root := expectedRoot Generated.FLOAT_BUF_SIZE c } : Config).write Generated.FLOAT_BUF_SIZE =
      c.write Generated.FLOAT_BUF_SIZE :=
  C01I.write_expected 341 c _ ⟨rfl, rfl, rfl, rfl⟩ rfl
    (C01I.nodeIdem_of_fin c hsci hprec c.root hl hfmt)

/-- source positions (`line`, `file`) are not written -/
theorem C01_write_ignores_positions (bufLen : Nat) (c c' : Config) (ha : C01I.SameAttrs c c')
    (hroot : c.root = stripPos c'.root) : c'.write bufLen = c.write bufLen :=
  C01I.write_of_stripPos bufLen c c' ha hroot

/-- **C01_rewrite_same** (G2, corollary).  `config_write(c)`, then `config_read_string` into a
configuration `c₀` that has `c`'s options, tab width, float precision and default format (any old
tree, include directory, error record, hooks; any world; enough fuel), then `config_write` again:
the same bytes.  Hypotheses: those of the round trip under the default notation
(`C01_roundtrip_default`) and `FmtOK`. -/
theorem C01_rewrite_same (c : Config) (hsci : c.opt OPT_SCIENTIFIC = false)
    (hprec : c.floatPrecision ≤ 26) (hl : LexOKfin c = true) (hp : ParseOK c = true)
    (hfmt : FmtOK c = true) (w : World) (c₀ : Config) (ha : C01I.SameAttrs c c₀) (fuel : Nat)
    (hfuel : fuel ≥ 8 * (c.write Generated.FLOAT_BUF_SIZE).length + 10) :
    (read w c₀ (.string (c.write Generated.FLOAT_BUF_SIZE)) fuel).cfg.write Generated.FLOAT_BUF_SIZE =
      c.write Generated.FLOAT_BUF_SIZE :=
  C01I.rewrite_of_roundtrip 341 c c₀ ha (C01I.nodeIdem_of_fin c hsci hprec c.root hl hfmt) w _ fuel
    (C01RoundTrip.C01_roundtrip_default c hsci hprec hl hp w c₀ fuel hfuel).2.2

/-- … for the other two read functions -/
theorem C01_rewrite_same_stream (c : Config) (hsci : c.opt OPT_SCIENTIFIC = false)
    (hprec : c.floatPrecision ≤ 26) (hl : LexOKfin c = true) (hp : ParseOK c = true)
    (hfmt : FmtOK c = true) (w : World) (c₀ : Config) (ha : C01I.SameAttrs c c₀) (fuel : Nat)
    (hfuel : fuel ≥ 8 * (c.write Generated.FLOAT_BUF_SIZE).length + 10) :
    (read w c₀ (.stream (c.write Generated.FLOAT_BUF_SIZE)) fuel).cfg.write Generated.FLOAT_BUF_SIZE =
      c.write Generated.FLOAT_BUF_SIZE :=
  C01I.rewrite_of_roundtrip 341 c c₀ ha (C01I.nodeIdem_of_fin c hsci hprec c.root hl hfmt) w _ fuel
    (C01RoundTrip.C01_roundtrip_default_stream c hsci hprec hl hp w c₀ fuel hfuel).2.2

theorem C01_rewrite_same_file (c : Config) (hsci : c.opt OPT_SCIENTIFIC = false)
    (hprec : c.floatPrecision ≤ 26) (hl : LexOKfin c = true) (hp : ParseOK c = true)
    (hfmt : FmtOK c = true) (w : World) (c₀ : Config) (ha : C01I.SameAttrs c c₀) (path : Bytes)
    (hfile : w.open? path = some (c.write Generated.FLOAT_BUF_SIZE)) (fuel : Nat)
    (hfuel : fuel ≥ 8 * (c.write Generated.FLOAT_BUF_SIZE).length + 10) :
    (read w c₀ (.file path) fuel).cfg.write Generated.FLOAT_BUF_SIZE =
      c.write Generated.FLOAT_BUF_SIZE :=
  C01I.rewrite_of_roundtrip 341 c c₀ ha (C01I.nodeIdem_of_fin c hsci hprec c.root hl hfmt) w _ fuel
    (C01RoundTrip.C01_roundtrip_default_file c hsci hprec hl hp w c₀ path hfile fuel hfuel).2.2

/-! ### FINDING: without `FmtOK` the statement is false of the model

`config_setting_get_format` returns the setting's own format when it is non-zero and the
configuration's default format otherwise; the writer prints hexadecimal exactly when the result
is `CONFIG_FORMAT_HEX` = 1.  A setting whose own format is neither 0 nor 1 (say 2) is therefore
written in decimal even when the default format is HEX; the decimal literal reads back with
format 0, and format 0 under a HEX default is written in hexadecimal.  Such a format cannot be
stored through `config_setting_set_format` (`C01_setFormat_ok`), and the parser stores 0 or 1
only, so this is a gap between the model's state space and the reachable states, not a defect of
the library; the hypothesis `FmtOK` closes it. -/

/-- the statement as first asked for: no condition on the formats -/
def C01_rewrite_unrestricted : Prop :=
  ∀ c : Config, c.opt OPT_SCIENTIFIC = false → c.floatPrecision ≤ 26 → LexOKfin c = true →
    ParseOK c = true →
    ({ c with root := expectedRoot Generated.FLOAT_BUF_SIZE c } : Config).write Generated.FLOAT_BUF_SIZE =
      c.write Generated.FLOAT_BUF_SIZE

/-- `a = 10;` with the setting's format 2 under a HEX default -/
def oddFormat : Config :=
  { root := { ty := T_GROUP, kids := [{ name := some [97], ty := T_INT, ival := 10, fmt := 2 }] },
    defaultFormat := FMT_HEX }

/-- the counterexample: every other hypothesis holds, the first writing is `a = 10;`, the second
`a = 0xA;` -/
theorem C01_oddFormat : oddFormat.opt OPT_SCIENTIFIC = false ∧ oddFormat.floatPrecision ≤ 26 ∧
    LexOKfin oddFormat = true ∧ ParseOK oddFormat = true ∧ FmtOK oddFormat = false ∧
    oddFormat.write Generated.FLOAT_BUF_SIZE = bytesOfString "a = 10;\n" ∧
    ({ oddFormat with root := expectedRoot Generated.FLOAT_BUF_SIZE oddFormat } : Config).write
      Generated.FLOAT_BUF_SIZE = bytesOfString "a = 0xA;\n" := by
  decide +kernel

theorem C01_rewrite_unrestricted_false : ¬ C01_rewrite_unrestricted := by
  intro h
  obtain ⟨h1, h2, h3, h4, -, h6, h7⟩ := C01_oddFormat
  have := h oddFormat h1 h2 h3 h4
  rw [h6, h7] at this
  revert this
  decide +kernel

/-! ### instances, evaluated by the kernel -/

/-- ```
a = 0x1F;          (own format HEX)
b = 0xFF;          (format 0, the configuration's default format is HEX)
n = 0xFFFFFFFFFFFFFFFFL;   (−1 as INT64 under the HEX default)
g :
{
  l = ( true, "x\"\n", ( ), 0.1, 0.333333, -0.0, 0.0 );
  v = [ 1.5, 0.0 ];
};
z = "";            (a NULL string)
```
floats: 0.1, 1/3, −1e-10, the smallest denormal; 1.5, 2^-1074; the boolean holds 7 -/
def sample : Config :=
  { root := { ty := T_GROUP, kids := [
      { name := some [97], ty := T_INT, ival := 31, fmt := FMT_HEX },
      { name := some [98], ty := T_INT, ival := 255 },
      { name := some [110], ty := T_INT64, ival := -1 },
      { name := some [103], ty := T_GROUP, kids := [
          { name := some [108], ty := T_LIST, kids := [
              { ty := T_BOOL, ival := 7 }, { ty := T_STRING, sval := some [120, 34, 10] },
              { ty := T_LIST }, { ty := T_FLOAT, fval := 0x3FB999999999999A },
              { ty := T_FLOAT, fval := 0x3FD5555555555555 },
              { ty := T_FLOAT, fval := 0xBDDB7CDFD9D7BDBB }, { ty := T_FLOAT, fval := 1 } ] },
          { name := some [118], ty := T_ARRAY, kids := [
              { ty := T_FLOAT, fval := 0x3FF8000000000000 }, { ty := T_FLOAT, fval := 1 } ] } ] },
      { name := some [122], ty := T_STRING } ] },
    defaultFormat := FMT_HEX }

/-- the written form -/
example : sample.write Generated.FLOAT_BUF_SIZE = bytesOfString
    ("a = 0x1F;\nb = 0xFF;\nn = 0xFFFFFFFFFFFFFFFFL;\ng : \n{\n" ++
     "  l = ( true, \"x\\\"\\n\", ( ), 0.1, 0.333333, -0.0, 0.0 );\n  v = [ 1.5, 0.0 ];\n};\nz = \"\";\n") := by
  rw [bytesOfString_append, bytesOfString_ofList, bytesOfString_ofList]; decide +kernel

/-- the hypotheses of `C01_rewrite_expected` / `C01_rewrite_same` hold of it; the written form has
139 bytes -/
theorem sample_ok : sample.opt OPT_SCIENTIFIC = false ∧ sample.floatPrecision ≤ 26 ∧ LexOKfin sample = true ∧
    ParseOK sample = true ∧ FmtOK sample = true ∧
    (sample.write Generated.FLOAT_BUF_SIZE).length = 139 := by
  decide +kernel

example : sample.opt OPT_SCIENTIFIC = false ∧ sample.floatPrecision ≤ 26 ∧ LexOKfin sample = true ∧
    ParseOK sample = true ∧ FmtOK sample = true ∧
    (sample.write Generated.FLOAT_BUF_SIZE).length = 139 :=
  sample_ok

/-- the expected tree is NOT the written tree (so the conclusion is not trivial): the boolean 7
became 1, the NULL string the empty string, 1/3 and −1e-10 and the denormals other doubles, the
format of `b` stayed 0 -/
example :
    rows (expectedRoot 341 sample) =
      [⟨none, 1, 0, 0, 0, none, 5, 0, 0, none⟩,
       ⟨some [97], 2, 1, 31, 0, none, 0, 0, 0, none⟩,
       ⟨some [98], 2, 1, 255, 0, none, 0, 0, 0, none⟩,
       ⟨some [110], 3, 1, -1, 0, none, 0, 0, 0, none⟩,
       ⟨some [103], 1, 0, 0, 0, none, 2, 0, 0, none⟩,
       ⟨some [108], 8, 0, 0, 0, none, 7, 0, 0, none⟩,
       ⟨none, 6, 0, 1, 0, none, 0, 0, 0, none⟩,
       ⟨none, 5, 0, 0, 0, some [120, 34, 10], 0, 0, 0, none⟩,
       ⟨none, 8, 0, 0, 0, none, 0, 0, 0, none⟩,
       ⟨none, 4, 0, 0, 0x3FB999999999999A, none, 0, 0, 0, none⟩,
       ⟨none, 4, 0, 0, 0x3FD55553EF6B5D46, none, 0, 0, 0, none⟩,
       ⟨none, 4, 0, 0, 0x8000000000000000, none, 0, 0, 0, none⟩,
       ⟨none, 4, 0, 0, 0, none, 0, 0, 0, none⟩,
       ⟨some [118], 7, 0, 0, 0, none, 2, 0, 0, none⟩,
       ⟨none, 4, 0, 0, 0x3FF8000000000000, none, 0, 0, 0, none⟩,
       ⟨none, 4, 0, 0, 0, none, 0, 0, 0, none⟩,
       ⟨some [122], 5, 0, 0, 0, some [], 0, 0, 0, none⟩] := by
  decide +kernel

/-- **`C01_rewrite_expected` applied** -/
example : ({ sample with root := expectedRoot Generated.FLOAT_BUF_SIZE sample } : Config).write
    Generated.FLOAT_BUF_SIZE = sample.write Generated.FLOAT_BUF_SIZE :=
  have ⟨hsci, hprec, hl, _, hfmt, _⟩ := sample_ok
  C01_rewrite_expected sample hsci hprec hl hfmt

/-- a reading configuration with `sample`'s presentation attributes that is not fresh otherwise: an
old tree, an include directory, an old error record -/
def reader : Config :=
  { root := { ty := T_GROUP, kids := [{ name := some [97], ty := T_STRING, sval := some [120] }] },
    defaultFormat := FMT_HEX, includeDir := some [47, 116, 109, 112], errType := ERR_PARSE,
    errLine := 3, errText := some [120] }

/-- **`C01_rewrite_same` applied** (fuel 8·139 + 10 = 1122) -/
example : (read {} reader (.string (sample.write Generated.FLOAT_BUF_SIZE)) 1122).cfg.write
    Generated.FLOAT_BUF_SIZE = sample.write Generated.FLOAT_BUF_SIZE :=
  have ⟨hsci, hprec, hl, hp, hfmt, hlen⟩ := sample_ok
  C01_rewrite_same sample hsci hprec hl hp hfmt {} reader ⟨rfl, rfl, rfl, rfl⟩ 1122 (by rw [hlen]; decide)

/-- … and the kernel, running the reader and the writer themselves, finds the same bytes; the
tree it read is the expected one, positions apart -/
example : (read {} reader (.string (sample.write 341)) 1122).cfg.write 341 = sample.write 341 ∧
    rows (stripPos (read {} reader (.string (sample.write 341)) 1122).cfg.root) =
      rows (expectedRoot 341 sample) := by
  decide +kernel

/-- the reader's presentation attributes matter (that is why `SameAttrs` is a hypothesis): read
into a configuration whose float precision is 2, `0.333333` is written `0.33` the second time -/
example : (read {} { Config.init with floatPrecision := 2 } (.string (sample.write 341)) 1122).cfg.write 341 ≠
    sample.write 341 := by
  decide +kernel

/-! ## G3 — scientific notation (`CONFIG_OPTION_ALLOW_SCIENTIFIC_NOTATION`): findings

With `%.{p}g` the written text is NOT always a fixed point of read-then-write.  Two families of
counterexamples, both evaluated by the kernel (and both reproduce with glibc's `printf` /
`strtod`, of which `F64.fmtG` / `F64.strtod` are exact models):

* precision 16 — one digit short of the 17 that identify a double.  The successor of the double
  nearest to 10^23 is written `1e+23`; `1e+23` reads back as the double nearest to 10^23, which
  lies below 10^23 and is written `9.999999999999999e+22`.  (At precision ≤ 15 the spacing of the
  doubles is fine enough, at precision ≥ 17 the double itself comes back.)
* denormals, already at precision 2 — the spacing 2^-1074 of the doubles is coarser than the
  decimal grid.  21·2^-1074 = 1.0375…e-322 is written `1e-322`, which reads back as 20·2^-1074 =
  9.88…e-323, written `9.9e-323`.
-/

/-- writes, reads back, writes again — scientific notation allowed -/
def tripSci (b p : Nat) : Bytes × Nat × Bytes :=
  (formatDouble 341 b p true, F64.strtod (formatDouble 341 b p true),
   formatDouble 341 (F64.strtod (formatDouble 341 b p true)) p true)

/-- the statement of G1 for `%.{p}g` -/
def C01_float_idem_sci_unrestricted : Prop :=
  ∀ b p : Nat, F64.isFinite b = true → p ≤ 26 →
    formatDouble 341 (F64.strtod (formatDouble 341 b p true)) p true = formatDouble 341 b p true

/-- precision 16, near 10^23 -/
theorem C01_sci_p16 : F64.isFinite 0x44B52D02C7E14AF7 = true ∧
    tripSci 0x44B52D02C7E14AF7 16 =
      (bytesOfString "1e+23", 0x44B52D02C7E14AF6, bytesOfString "9.999999999999999e+22") := by
  decide +kernel

/-- precision 2, a denormal -/
theorem C01_sci_denormal : F64.isFinite 21 = true ∧
    tripSci 21 2 = (bytesOfString "1e-322", 20, bytesOfString "9.9e-323") := by
  decide +kernel

theorem C01_float_idem_sci_unrestricted_false : ¬ C01_float_idem_sci_unrestricted := by
  intro h
  obtain ⟨hf, ht⟩ := C01_sci_denormal
  have := h 21 2 hf (by omega)
  unfold tripSci at ht
  obtain ⟨e1, e2⟩ := Prod.mk.inj ht
  rw [(Prod.mk.inj e2).2, e1] at this
  revert this
  decide +kernel

/-- the same values at neighbouring precisions, and ordinary values at the default precision 6,
are fixed points; DBL_MAX at precision 5 takes the 17-digit re-rendering (`1.7977e+308` would
read back as an infinity) and comes back exactly -/
example :
    tripSci 0x44B52D02C7E14AF7 15 = (bytesOfString "1e+23", 0x44B52D02C7E14AF6, bytesOfString "1e+23") ∧
    tripSci 0x44B52D02C7E14AF7 17 = (bytesOfString "1.0000000000000001e+23", 0x44B52D02C7E14AF7,
      bytesOfString "1.0000000000000001e+23") ∧
    tripSci 21 17 = (bytesOfString "1.0375378562666177e-322", 21,
      bytesOfString "1.0375378562666177e-322") ∧
    tripSci 0x3FB999999999999A 6 = (bytesOfString "0.1", 0x3FB999999999999A, bytesOfString "0.1") ∧
    tripSci 0x412E848000000000 6 = (bytesOfString "1e+06", 0x412E848000000000, bytesOfString "1e+06") ∧
    tripSci 0x7FEFFFFFFFFFFFFF 5 = (bytesOfString "1.7976931348623157e+308", 0x7FEFFFFFFFFFFFFF,
      bytesOfString "1.7976931348623157e+308") := by
  decide +kernel

/-! ## G3 — scientific notation: the two side conditions of `floatOK` discharged

`C01L.floatOK` (Properties/C01Lex.lean) keeps two executable side conditions as hypotheses when
`CONFIG_OPTION_ALLOW_SCIENTIFIC_NOTATION` is on: the `%.{p}g` rendering (or its 17-digit
re-rendering) is not cut by the `snprintf` limit, and the written text does not read back as an
infinity.  Both hold for every finite double (precision ≤ 70); the proof needs the correctness of
`F64.floorLog10` and an error analysis of 17-digit rounding. -/

/-- **`F64.floorLog10` is correct**: for a positive ratio whose bit lengths differ by less than
1040 (every finite double: between −1074 and 1023), `10^x0 ≤ num/den < 10^(x0+1)`
(cross-multiplied: negative exponents move to the other side) -/
theorem C01_floorLog10_spec (num den : Nat) (hn : 0 < num) (hd : 0 < den)
    (h1 : -1080 ≤ (F64.bitLen num : Int) - (F64.bitLen den : Int))
    (h2 : (F64.bitLen num : Int) - (F64.bitLen den : Int) < 1040) :
    den * 10 ^ (F64.floorLog10 num den).toNat ≤ num * 10 ^ (-F64.floorLog10 num den).toNat ∧
    num * 10 ^ (-(F64.floorLog10 num den + 1)).toNat <
      den * 10 ^ (F64.floorLog10 num den + 1).toNat :=
  ⟨(C01I.floorLog10_spec num den hn hd h1 h2).1, (C01I.floorLog10_spec num den hn hd h1 h2).2.1⟩

/-- instances: the smallest denormal 2^-1074 ≈ 4.94e-324 and DBL_MAX ≈ 1.797e308 (the extremes of
the range of bit-length differences: −1074 and 1023), and small ratios -/
example : F64.floorLog10 1 (2 ^ 1074) = -324 ∧
    F64.floorLog10 ((2 ^ 53 - 1) * 2 ^ 971) 1 = 308 ∧ F64.floorLog10 1 10 = -1 ∧
    F64.floorLog10 999 1000 = -1 ∧ F64.floorLog10 1000 1 = 3 ∧
    (F64.bitLen 1 : Int) - (F64.bitLen (2 ^ 1074) : Int) = -1074 ∧
    (F64.bitLen ((2 ^ 53 - 1) * 2 ^ 971) : Int) - (F64.bitLen 1 : Int) = 1023 := by
  decide +kernel

/-- the digits `d` and the decimal exponent `x` of `%.{p}g` (p ≥ 1) of a finite non-zero double:
`10^(p-1) ≤ d < 10^p`, and `x` is the decimal exponent `x0` of the magnitude or, after a carry,
`x0 + 1` -/
theorem C01_sci_digits (b p : Nat) (hfin : F64.isFinite b = true) (hm : F64.mant b ≠ 0) (hp : 1 ≤ p) :
    10 ^ (p - 1) ≤ (C01P.gDX b p).1 ∧ (C01P.gDX b p).1 < 10 ^ p ∧
      ((C01P.gDX b p).2 = C01I.gX0 b ∨ (C01P.gDX b p).2 = C01I.gX0 b + 1) ∧
      -330 ≤ C01I.gX0 b ∧ C01I.gX0 b ≤ 320 :=
  have h := C01I.gDX_spec b p hfin hm hp
  have h0 := C01I.gX0_spec b hfin hm
  ⟨h.1, h.2.1, h.2.2.1, h0.2.2.1, h0.2.2.2⟩

/-- **first side condition**: `%.{p}g` of a finite double has at most `max p 1 + 7` characters,
so with the library's buffer nothing is cut for precisions up to 330 -/
theorem C01_sci_length (b p : Nat) (hfin : F64.isFinite b = true) :
    (F64.fmtG b p).length ≤ (if p = 0 then 1 else p) + 7 ∧
    (p ≤ 330 → (C01P.rawText 341 b p true).length ≤ 341 - 4) :=
  ⟨C01I.fmtG_length b p hfin, C01I.rawText_sci_fits b p hfin⟩

/-- what `strtod` reads off the written text (`%.{P}g` of a finite non-zero double, post-processed):
the correctly rounded double of a positive ratio `N/Dn` equal to `d0·10^sh`, where
`sh = x0 - P + 1` and `d0` is `|b| / 10^sh` rounded half-even -/
theorem C01_sci_value (b P : Nat) (hfin : F64.isFinite b = true) (hm : F64.mant b ≠ 0) (hP : 1 ≤ P)
    (hP70 : P ≤ 70) :
    ∃ N Dn, 0 < N ∧ 0 < Dn ∧ F64.strtod (C01I.sciText b P) = F64.ofRat (F64.signBit b) N Dn ∧
      N * 10 ^ (-C01I.gSh b P).toNat = C01I.gQ b P * 10 ^ (C01I.gSh b P).toNat * Dn := by
  obtain ⟨N, Dn, h⟩ := C01I.sciText_value b P hfin hm hP hP70
  refine ⟨N, Dn, Nat.pos_of_mul_pos_right (b := 10 ^ (-C01I.gSh b P).toNat) ?_, h.dpos, h.value, h.ratio⟩
  rw [h.ratio]
  exact Nat.mul_pos (Nat.mul_pos (Nat.lt_of_lt_of_le (C01I.pow10_pos _) (C01I.gQ_spec b P hfin hm hP).2.2.1)
    (C01I.pow10_pos _)) h.dpos

/-- **second side condition**: the text written for a finite double never reads back as an
infinity (a short rendering that would is replaced by the 17-digit one, which exceeds the
magnitude by a factor of at most 1 + 1/(2·10^16) and stays below the overflow threshold) -/
theorem C01_sci_no_overflow (b p : Nat) (hfin : F64.isFinite b = true) (hp : p ≤ 70) :
    F64.isInf (F64.strtod (formatDouble 341 b p true)) = false :=
  C01I.sci_no_overflow b p hfin hp

/-- **C01_floatOK_sci**: with scientific notation allowed, a precision of at most 70 and the
library's buffer, every finite double satisfies `floatOK` -/
theorem C01_floatOK_sci (c : Config) (b : Nat) (hfin : F64.isFinite b = true)
    (hsci : c.opt OPT_SCIENTIFIC = true) (hp : c.floatPrecision ≤ 70) : floatOK 341 c b = true :=
  C01I.floatOK_sci c b hfin hsci hp

/-- hence `LexOK` reduces to `LexOKfin` for either notation … -/
theorem C01_lexOK_of_fin_any (c : Config)
    (hp : c.floatPrecision ≤ 26 ∨ (c.opt OPT_SCIENTIFIC = true ∧ c.floatPrecision ≤ 70))
    (h : LexOKfin c = true) : LexOK 341 c = true :=
  C01I.lexOK_of_fin_any c hp h

/-- … and the round trip holds with finiteness as the only condition on floats, scientific
notation allowed (compare `C01RoundTrip.C01_roundtrip_default`) -/
theorem C01_roundtrip_sci (c : Config)
    (hprec : c.floatPrecision ≤ 26 ∨ (c.opt OPT_SCIENTIFIC = true ∧ c.floatPrecision ≤ 70))
    (hl : LexOKfin c = true) (hp : ParseOK c = true) (w : World) (c₀ : Config) (fuel : Nat)
    (hfuel : fuel ≥ 8 * (c.write Generated.FLOAT_BUF_SIZE).length + 10) :
    let r := read w c₀ (.string (c.write Generated.FLOAT_BUF_SIZE)) fuel
    r.ok = true ∧ r.result = .accept ∧
      stripPos r.cfg.root = expectedRoot Generated.FLOAT_BUF_SIZE c :=
  C01RoundTrip.C01_roundtrip_string 341 c (C01I.lexOK_of_fin_any c hprec hl) hp w c₀ fuel hfuel

/-- instances: DBL_MAX at precision 5 under scientific notation takes the re-rendering; the
smallest denormal is written `4.94066e-324`; both satisfy `floatOK` by the theorem, and the kernel
agrees -/
example : floatOK 341 { Config.init with options := OPT_SCIENTIFIC, floatPrecision := 5 }
      0x7FEFFFFFFFFFFFFF = true ∧
    formatDouble 341 1 6 true = bytesOfString "4.94066e-324" ∧
    floatOK 341 { Config.init with options := OPT_SCIENTIFIC } 1 = true := by
  decide +kernel

/-! ## G3 — scientific notation: the float lemma, with the hypotheses the findings call for -/

/-- **C01_float_idem_sci.**  `%.{p}g` (precision ≤ 70, the library's buffer): the written text is
a fixed point of read-then-write
* for precisions up to 15, when the double is normal (exponent field ≠ 0) or zero — the
  spacing of normal doubles, a relative 2^-52, is finer than the 15-digit decimal grid;
* for precisions from 17 on — the double read back IS the double written (sign and magnitude);
* whenever the 17-digit re-rendering is taken (the short rendering reads back as an infinity).
Precision 16 and denormals at low precision are excluded, and have to be: `C01_sci_p16`,
`C01_sci_denormal`. -/
theorem C01_float_idem_sci (b p : Nat) (hfin : F64.isFinite b = true) (hp : p ≤ 70)
    (hcase : (p ≤ 15 ∧ (F64.expField b ≠ 0 ∨ F64.mant b = 0)) ∨ 17 ≤ p ∨
      F64.isInf (F64.strtod (F64.fmtG b p)) = true) :
    formatDouble 341 (F64.strtod (formatDouble 341 b p true)) p true = formatDouble 341 b p true :=
  C01I.formatDouble_idem_sci b p hfin hp hcase

/-- seventeen digits and more: sign and magnitude of the double come back (hence, for bit
patterns below 2^64, the double itself) -/
theorem C01_sci_exact (b P : Nat) (hfin : F64.isFinite b = true) (hm : F64.mant b ≠ 0)
    (hP : 17 ≤ P) (hP70 : P ≤ 70) (hinf : F64.isInf (F64.strtod (C01I.sciText b P)) = false) :
    F64.isFinite (F64.strtod (C01I.sciText b P)) = true ∧
    F64.signBit (F64.strtod (C01I.sciText b P)) = F64.signBit b ∧
    F64R.sMag (F64.strtod (C01I.sciText b P)) = F64R.sMag b :=
  have hb := C01I.back_of b P hfin hm (by omega) hP70 hinf
  ⟨hb.fin, hb.sign, C01I.back_exact b P _ hfin hm hP hP70 hb⟩

/-- the two facts about doubles the proof rests on: the rounding error of `F64.ofRat` is at most
half a unit in the last place (relative 2^-53 for a normalised result, absolute 2^-1075
otherwise), and doubles of different magnitude are at least a relative 2^-53 apart -/
theorem C01_ofRat_err (neg : Bool) (num den : Nat) (hn : num > 0) (hd : den > 0)
    (hfinite : F64.isFinite (F64.ofRat neg num den) = true) :
    2 ^ 53 * F64R.errR num den (F64.ofRat neg num den) ≤ num * 2 ^ 1074 ∨
      2 * F64R.errR num den (F64.ofRat neg num den) ≤ den :=
  C01I.ofRat_err neg num den hn hd hfinite

theorem C01_spacing (b b' : Nat) (hne : F64R.sMag b' ≠ F64R.sMag b) :
    F64R.sMag b ≤ F64R.dist (F64R.sMag b') (F64R.sMag b) * 2 ^ 53 :=
  C01I.spacing b b' hne

/-- instances of `C01_float_idem_sci`, the hypotheses evaluated by the kernel: π at precision 6
(normal), DBL_MAX at precision 5 (re-rendered), the smallest denormal at precision 17 -/
example : formatDouble 341 (F64.strtod (formatDouble 341 0x400921FB54442D18 6 true)) 6 true =
    formatDouble 341 0x400921FB54442D18 6 true :=
  C01_float_idem_sci _ 6 (by decide +kernel) (by omega) (.inl ⟨by omega, .inl (by decide +kernel)⟩)

example : formatDouble 341 (F64.strtod (formatDouble 341 0x7FEFFFFFFFFFFFFF 5 true)) 5 true =
    formatDouble 341 0x7FEFFFFFFFFFFFFF 5 true :=
  C01_float_idem_sci _ 5 (by decide +kernel) (by omega) (.inr (.inr (by decide +kernel)))

example : formatDouble 341 (F64.strtod (formatDouble 341 1 17 true)) 17 true =
    formatDouble 341 1 17 true :=
  C01_float_idem_sci _ 17 (by decide +kernel) (by omega) (.inr (.inl (by omega)))

example : tripSci 0x400921FB54442D18 6 =
    (bytesOfString "3.14159", 0x400921F9F01B866E, bytesOfString "3.14159") := by decide +kernel

/-! ### … and the tree, for either notation -/

/-- **C01_rewrite_same_general.**  Any buffer size and notation: under the hypotheses of the
round trip (`LexOK`, `ParseOK`) and the leaf conditions of the tree lemma (`nodeIdem`: every float
text a fixed point, every integer format sane), reading the written form into a configuration
with the same presentation attributes and writing again gives the same bytes. -/
theorem C01_rewrite_same_general (bufLen : Nat) (c : Config) (hl : LexOK bufLen c = true)
    (hp : ParseOK c = true) (hid : C01I.nodeIdem bufLen c c.root = true) (w : World) (c₀ : Config)
    (ha : C01I.SameAttrs c c₀) (fuel : Nat) (hfuel : fuel ≥ 8 * (c.write bufLen).length + 10) :
    (read w c₀ (.string (c.write bufLen)) fuel).cfg.write bufLen = c.write bufLen :=
  C01I.rewrite_of_roundtrip bufLen c c₀ ha hid w _ fuel
    (C01RoundTrip.C01_roundtrip_string bufLen c hl hp w c₀ fuel hfuel).2.2

/-- the condition on the floats of a configuration written with scientific notation: finite, and
normal or zero unless the precision is at least 17 -/
def SciFloatsOK (c : Config) : Bool := C01I.nodeFloats (C01I.sciFloatOK c.floatPrecision) c.root

example (p b : Nat) : C01I.sciFloatOK p b =
    (F64.isFinite b && (decide (17 ≤ p) || (decide (p ≤ 15) && (F64.expField b != 0 || F64.mant b == 0)))) :=
  rfl

/-- **C01_rewrite_same_sci.**  `CONFIG_OPTION_ALLOW_SCIENTIFIC_NOTATION` on, precision ≤ 70:
write, read, write gives the same bytes, for configurations that satisfy `LexOKfin`, `ParseOK`,
`FmtOK` and `SciFloatsOK`. -/
theorem C01_rewrite_same_sci (c : Config) (hsci : c.opt OPT_SCIENTIFIC = true)
    (hprec : c.floatPrecision ≤ 70) (hl : LexOKfin c = true) (hp : ParseOK c = true)
    (hfmt : FmtOK c = true) (hfl : SciFloatsOK c = true) (w : World) (c₀ : Config)
    (ha : C01I.SameAttrs c c₀) (fuel : Nat)
    (hfuel : fuel ≥ 8 * (c.write Generated.FLOAT_BUF_SIZE).length + 10) :
    (read w c₀ (.string (c.write Generated.FLOAT_BUF_SIZE)) fuel).cfg.write Generated.FLOAT_BUF_SIZE =
      c.write Generated.FLOAT_BUF_SIZE :=
  C01_rewrite_same_general 341 c (C01I.lexOK_of_fin_any c (.inr ⟨hsci, hprec⟩) hl) hp
    (C01I.nodeIdem_of 341 c _ (fun b hb => C01I.floatIdem_sci c b hsci hprec hb) c.root hfl hfmt)
    w c₀ ha fuel hfuel

/-- `sample` with scientific notation allowed, without its denormals:
```
… l = ( true, "x\"\n", ( ), 0.1, 0.333333, -1e-10, 1e+23 ); v = [ 1.5, 1.79769e+308 ]; …
``` -/
def sampleSci : Config :=
  { root := { ty := T_GROUP, kids := [
      { name := some [97], ty := T_INT, ival := 31, fmt := FMT_HEX },
      { name := some [103], ty := T_GROUP, kids := [
          { name := some [108], ty := T_LIST, kids := [
              { ty := T_BOOL, ival := 7 }, { ty := T_STRING, sval := some [120, 34, 10] },
              { ty := T_LIST }, { ty := T_FLOAT, fval := 0x3FB999999999999A },
              { ty := T_FLOAT, fval := 0x3FD5555555555555 },
              { ty := T_FLOAT, fval := 0xBDDB7CDFD9D7BDBB },
              { ty := T_FLOAT, fval := 0x44B52D02C7E14AF7 } ] },
          { name := some [118], ty := T_ARRAY, kids := [
              { ty := T_FLOAT, fval := 0x3FF8000000000000 },
              { ty := T_FLOAT, fval := 0x7FEFFFFFFFFFFFFF } ] } ] },
      { name := some [122], ty := T_STRING } ] },
    options := OPT_SEMICOLON ||| OPT_COLON_GROUPS ||| OPT_BRACE_SEPARATE ||| OPT_SCIENTIFIC }

example : sampleSci.write Generated.FLOAT_BUF_SIZE = bytesOfString
    ("a = 0x1F;\ng : \n{\n  l = ( true, \"x\\\"\\n\", ( ), 0.1, 0.333333, -1e-10, 1e+23 );\n" ++
     "  v = [ 1.5, 1.79769e+308 ];\n};\nz = \"\";\n") := by
  rw [bytesOfString_append, bytesOfString_ofList, bytesOfString_ofList]; decide +kernel

/-- **`C01_rewrite_same_sci` applied** (all hypotheses by the kernel) -/
example : (read {} sampleSci (.string (sampleSci.write Generated.FLOAT_BUF_SIZE)) 1000).cfg.write
    Generated.FLOAT_BUF_SIZE = sampleSci.write Generated.FLOAT_BUF_SIZE :=
  C01_rewrite_same_sci sampleSci (by decide +kernel) (by decide +kernel) (by decide +kernel)
    (by decide +kernel) (by decide +kernel) (by decide +kernel) {} sampleSci ⟨rfl, rfl, rfl, rfl⟩
    1000 (by decide +kernel)

/-- `SciFloatsOK` is needed: with the denormal 21·2^-1074 at precision 2 the second writing
differs (`1e-322` / `9.9e-323`) -/
def sampleDenormal : Config :=
  { root := { ty := T_GROUP, kids := [{ name := some [97], ty := T_FLOAT, fval := 21 }] },
    options := OPT_SEMICOLON ||| OPT_SCIENTIFIC, floatPrecision := 2 }

example : LexOKfin sampleDenormal = true ∧ ParseOK sampleDenormal = true ∧
    FmtOK sampleDenormal = true ∧ SciFloatsOK sampleDenormal = false ∧
    sampleDenormal.write 341 = bytesOfString "a = 1e-322;\n" ∧
    (read {} sampleDenormal (.string (sampleDenormal.write 341)) 1000).cfg.write 341 =
      bytesOfString "a = 9.9e-323;\n" := by
  decide +kernel

end Libconfig.C01Idem
