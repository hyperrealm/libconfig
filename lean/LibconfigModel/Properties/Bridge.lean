import LibconfigModel.Step
import LibconfigModel.Writer
import LibconfigModel.Generated.FunctionTables
import LibconfigModel.Proofs.Bounded
/-
  Bridges between hand-written model functions and the code, for functions whose domain is
  finite: tools/translate.py compiles a probe that #includes lib/libconfig.c and evaluates the
  REAL function over its whole domain on every run (Generated/FunctionTables.lean); the
  theorems below state that the model function takes the same value at EVERY argument.  For
  these functions the tie between model and code is therefore complete, not sampled: a change
  of the C function changes the table and breaks the theorem; a change of the model likewise.

  No property file imports this one: it is an obligation of its own in the checks C01, C02,
  C04, C05, C07 and C19 (tools/props.py lists it among their modules) — C04: valid names, type
  classes, what an array accepts; C05: which settings take a format; C19: tab-width clamp,
  precision; C01/C19: the writer's string escaping.
-/
namespace Libconfig.Bridge

/-- `f (hi - n), …, f (hi - 1)` are the first `n` entries of `xs`: one pass over the list.  The
position is computed from the remaining count, which the recursion keeps a numeral: a counter
running upwards would reach the kernel as `0 + 1 + 1 + …`, re-evaluated at every use. -/
def allZip {α} [BEq α] (f : Nat → α) (hi : Nat) : List α → Nat → Bool
  | _, 0 => true
  | [], _ + 1 => false
  | x :: xs, n + 1 => (f (hi - (n + 1)) == x) && allZip f hi xs n

theorem allZip_sound {α} [BEq α] (f : Nat → α) (hi : Nat) (d : α) :
    ∀ (xs : List α) (n : Nat), n ≤ hi → allZip f hi xs n = true →
      ∀ i, i < n → (f (hi - n + i) == xs.getD i d) = true
  | _, 0, _, _, i, hi' => by omega
  | [], _ + 1, _, h, _, _ => by simp [allZip] at h
  | x :: xs, n + 1, hn, h, i, hi' => by
    simp only [allZip, Bool.and_eq_true] at h
    cases i with
    | zero => exact h.1
    | succ i =>
      rw [show hi - (n + 1) + (i + 1) = hi - n + i by omega]
      exact allZip_sound f hi d xs n (by omega) h.2 i (by omega)

/-- A sweep `allFrom (fun c => f c == t.getD (idx c) d) lo n` costs the kernel one list traversal
per entry; this is the same fact from a single pass over the table. -/
theorem allFrom_table {α} [BEq α] (f : Nat → α) (t : List α) (d : α) (idx : Nat → Nat) (k lo n : Nat)
    (hidx : ∀ i, i < n → idx (lo + i) = k + i)
    (h : allZip f (lo + n) (t.drop k) n = true) :
    allFrom (fun c => f c == t.getD (idx c) d) lo n = true := by
  refine allFrom_complete _ n lo fun w h1 h2 => ?_
  obtain ⟨i, rfl⟩ : ∃ i, w = lo + i := ⟨w - lo, by omega⟩
  have := allZip_sound f (lo + n) d _ n (by omega) h i (by omega)
  rw [Nat.add_sub_cancel, List.getD_eq_getElem?_getD, List.getElem?_drop,
    ← List.getD_eq_getElem?_getD] at this
  rw [hidx i (by omega)]
  exact this

/-- value of a segment table at `w` (`none` outside every segment) -/
def segLookup : List (Nat × Nat × Bool × Nat) → Nat → Option Nat
  | [], _ => none
  | (lo, hi, ident, v) :: rest, w => if lo ≤ w && w ≤ hi then some (if ident then w else v) else segLookup rest w

/-! ### names -/

/-- `__config_validate_name`, character by character: the first byte of a name and every
later byte are accepted by the model exactly when the real function accepts them (evaluated
on the one-byte string `c` and on the two-byte string `a c`, for every byte 1..255). -/
theorem name_table :
    allFrom (fun c => validName [c] == Generated.nameFirstTable.getD c false) 1 255 = true ∧
    allFrom (fun c => validName [97, c] == Generated.nameRestTable.getD c false) 1 255 = true :=
  ⟨allFrom_table _ _ _ id 1 1 255 (fun _ _ => rfl) (by decide +kernel),
   allFrom_table _ _ _ id 1 1 255 (fun _ _ => rfl) (by decide +kernel)⟩

theorem name_first (c : Nat) (h1 : 1 ≤ c) (h2 : c < 256) :
    validName [c] = Generated.nameFirstTable.getD c false := by
  have := allFrom_sound _ 255 1 name_table.1 c h1 (by omega)
  exact beq_iff_eq.mp this

theorem name_rest (c : Nat) (h1 : 1 ≤ c) (h2 : c < 256) :
    validName [97, c] = Generated.nameRestTable.getD c false := by
  have := allFrom_sound _ 255 1 name_table.2 c h1 (by omega)
  exact beq_iff_eq.mp this

theorem validName_chars (c : Nat) (cs : Bytes) :
    validName (c :: cs) = (validName [c] && cs.all fun d => validName [97, d]) := by
  have h97 : (isUpper 97 || isLower 97) = true := by decide
  simp [validName, isAlpha, h97]

/-! ### type classes -/

theorem type_tables :
    allFrom (fun t => isScalarTy (t : Nat) == Generated.typeScalarTable.getD t false) 0 9 = true ∧
    allFrom (fun t => isAggregateTy t == Generated.typeAggregateTable.getD t false) 0 9 = true ∧
    allFrom (fun t => (t == T_INT || t == T_INT64 || t == T_FLOAT) == Generated.typeNumberTable.getD t false) 0 9 = true := by
  decide +kernel

/-! ### what an array accepts, which settings take a format -/

/-- the model's answer for `config_setting_add(array, NULL, t)` on an empty array (`a = 1`) or
an array whose first element has type `a` (2..6) -/
def modelArrayAdd (a t : Nat) : Bool :=
  let s0 := run ([.add [] (some [97]) (T_ARRAY : Nat)] ++ (if a ≥ 2 then [Op.add [0] none (a : Nat)] else []))
  match (step s0 (.add [0] none (t : Nat))).2.res with
  | .ptr (some _) => true
  | _ => false

theorem array_add_table :
    allFrom (fun i => modelArrayAdd (i / 9 + 1) (i % 9) == Generated.arrayAddTable.getD i false) 0 54 = true := by
  decide +kernel

/-- the model's answer for `config_setting_set_format(setting of type t, f)` -/
def modelFormatOk (t f : Nat) : Bool :=
  let s0 := run [.add [] (some [120]) (t : Nat)]
  match (step s0 (.setFormat [0] f)).2.res with
  | .flag b => b
  | _ => false

theorem format_table :
    allFrom (fun i => modelFormatOk (i / 4) (i % 4) == Generated.formatOkTable.getD i false) 0 36 = true := by
  decide +kernel

/-- the model's account of the whole life of a format: the default format is `d0` when
`config_setting_set_format(setting of type t, f)` is called and `d1` when the setting is
observed: 100·success + 10·(format stored in the setting) + effective format -/
def modelFormatEffect (t d0 f d1 : Nat) : Nat :=
  let s0 := run [.add [] (some [120]) (t : Nat), .setDefaultFormat d0]
  let r := step s0 (.setFormat [0] f)
  let s1 := (step r.1 (.setDefaultFormat d1)).1
  let ok := match r.2.res with | .flag true => 100 | _ => 0
  let stored := match s1.cfg.root.kids with | n :: _ => n.fmt | [] => 99
  let eff := match (step s1 (.getFormat [0])).2.res with | .nat e => e.toNat | _ => 99
  ok + 10 * stored + eff

/-- An explicitly assigned format is stored as given — whatever the default format is at that
moment — and the effective format follows the default exactly when nothing was assigned:
the model equals the real functions on the whole domain (9 types × 2 defaults × 4 requested
formats × 2 later defaults). -/
theorem format_effect_table :
    allFrom (fun i => modelFormatEffect (i / 16) (i / 8 % 2) (i / 2 % 4) (i % 2) == Generated.formatEffectTable.getD i 7777) 0 144 = true :=
  allFrom_table _ _ _ id 0 0 144 (fun _ _ => rfl) (by decide +kernel)

/-! ### which typed lookups and assignments succeed (the success pattern of C07's conversion table)

For every stored type 0..8, every requested kind and both auto-convert settings, on the
canonical values 1 / 1.0 / "x" / true: whether the typed lookup succeeds, and for the typed
assignment the success flag together with the setting's type afterwards.  (The VALUES of the
conversions are C07's theorems and the boundary grid; this table makes the success pattern a
complete tie.) -/

def kindOf : Nat → Kind
  | 0 => .int | 1 => .int64 | 2 => .float | 3 => .bool | _ => .string

/-- `config_init`, auto-convert `a`, a member `x` of type `t` holding the canonical value -/
def cellState (t : Nat) (a : Bool) : State :=
  run ([.setOption OPT_AUTOCONVERT a, .add [] (some [120]) (t : Nat)] ++
       (if t == T_INT then [Op.setInt [0] 1] else if t == T_INT64 then [Op.setInt64 [0] 1]
        else if t == T_FLOAT then [Op.setFloat [0] 0x3FF0000000000000] else if t == T_STRING then [Op.setString [0] (some [120])]
        else if t == T_BOOL then [Op.setBool [0] 1] else []))

def modelGetOk (t k : Nat) (a : Bool) : Bool :=
  match (step (cellState t a) (.lookupVal (kindOf k) [] (some [120]))).2.res with
  | .optVal (some _) => true
  | _ => false

def modelSetResult (t k : Nat) (a : Bool) : Nat :=
  let s0 := run [.setOption OPT_AUTOCONVERT a, .add [] (some [120]) (t : Nat)]
  let op : Op := match k with
    | 0 => .setInt [0] 1 | 1 => .setInt64 [0] 1 | 2 => .setFloat [0] 0x3FF0000000000000
    | 3 => .setBool [0] 1 | _ => .setString [0] (some [120])
  let (s1, o) := step s0 op
  (match o.res with | .flag true => 100 | _ => 0) + (match s1.cfg.root.get? [0] with | some n => n.ty | none => 99)

theorem get_table :
    allFrom (fun i => modelGetOk (i / 10) (i / 2 % 5) (i % 2 == 1) == Generated.getOkTable.getD i false) 0 90 = true := by
  decide +kernel

theorem set_table :
    allFrom (fun i => modelSetResult (i / 10) (i / 2 % 5) (i % 2 == 1) == Generated.setResultTable.getD i 999) 0 90 = true := by
  decide +kernel

/-! ### presentation attributes over all `unsigned short` arguments

The probe evaluates the setter/getter pair for all 65536 arguments and compresses the answers
into maximal segments; the bridge pins the segment list to the documented behaviour ("widths
above 15 act as 15"; the precision is stored as given) and the model is proved equal to the
table at every argument. -/

theorem tab_width_segs : Generated.tabWidthSegs = [(0, 15, true, 0), (16, 65535, false, 15)] := by decide
theorem float_precision_segs : Generated.floatPrecisionSegs = [(0, 65535, true, 0)] := by decide

/-- `config_set_tab_width(w)` for every `unsigned short w`: the model's value is the real one -/
theorem tab_width (w : Nat) (h : w < 65536) :
    segLookup Generated.tabWidthSegs w = some (Config.init.setTabWidth w).tabWidth := by
  rw [tab_width_segs]
  unfold Config.setTabWidth
  by_cases h15 : w ≤ 15
  · simp [segLookup, h15]
  · have h16 : 16 ≤ w := by omega
    have h0 : ¬ (w ≤ 15) := h15
    simp [segLookup, h0, h16]; omega

/-- `config_set_float_precision(p)` for every `unsigned short p` -/
theorem float_precision (p : Nat) (h : p < 65536) :
    segLookup Generated.floatPrecisionSegs p =
      some (step State.init (.setFloatPrecision p)).1.cfg.floatPrecision := by
  rw [float_precision_segs]
  have : p ≤ 65535 := by omega
  simp [segLookup, this, step, State.withCfg]

/-! ### the scanner's `\xHH` escape and the option word -/

/-- the hex-digit alphabet of the probe: `0123456789abcdefABCDEF` -/
def hexDigitAt (i : Nat) : Nat :=
  if i < 10 then 48 + i else if i < 16 then 97 + (i - 10) else 65 + (i - 16)

/-- what the `.appendHexChar` action of Scanner.lean appends for the lexeme `\xHH`
(`digitsVal 16 (text.drop 2) % 256`), encoded like the probe's table: the byte, +1000 when
the rest of the literal is still visible behind it (a byte 0 ends the C string) -/
def modelHexEscape (x i j : Nat) : Int :=
  let text : Bytes := [92, if x == 1 then 88 else 120, hexDigitAt i, hexDigitAt j]
  let b := digitsVal 16 (text.drop 2) % 256
  if b == 0 then 0 else (b : Int) + 1000

theorem hex_escape_table :
    allFrom (fun n => modelHexEscape (n / 484) (n / 22 % 22) (n % 22) == Generated.hexEscapeTable.getD n (-1)) 0 968 = true :=
  allFrom_table _ _ _ id 0 0 968 (fun _ _ => rfl) (by decide +kernel)

/-- `config_set_option(1 <<< bit, flag)` on the initial option word, every bit position -/
theorem option_set_table :
    allFrom (fun n => (Config.init.setOption (2 ^ (n / 2)) (n % 2 == 1)).options == Generated.optionSetTable.getD n 0) 0 64 = true := by
  decide +kernel

/-! ### the writer's string escaping -/

/-- what the writer prints for every one-byte string 1..255 is what `escapeString` gives;
`escapeString` is a `flatMap`, so this determines it on every string -/
theorem escape_table :
    allFrom (fun c => escapeString [c] == Generated.writerEscapeTable.getD (c - 1) []) 1 255 = true :=
  allFrom_table _ _ _ (· - 1) 0 1 255 (fun i _ => by omega) (by decide +kernel)

theorem escape_byte (c : Nat) (h1 : 1 ≤ c) (h2 : c < 256) :
    escapeString [c] = Generated.writerEscapeTable.getD (c - 1) [] := by
  have := allFrom_sound _ 255 1 escape_table c h1 (by omega)
  exact beq_iff_eq.mp this

theorem escapeString_bytes (s : Bytes) : escapeString s = s.flatMap fun c => escapeString [c] := by
  unfold escapeString
  induction s with
  | nil => rfl
  | cons c cs ih => simp [List.flatMap_cons]

end Libconfig.Bridge
