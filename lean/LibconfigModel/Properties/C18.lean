import LibconfigModel.Proofs.C18
import LibconfigModel.Generated.ScannerTables
import LibconfigModel.Generated.ParserTables
/-
  C18 — at every position of every input the scanner recognises the longest
  lexeme matching the documented token patterns, preferring the earlier rule on
  ties; a byte that begins no token is reported (rule 47, TOK_GARBAGE), never
  skipped (flex's default ECHO rule 48 is unreachable).

  The compiled automaton (`Flex.next` over the tables regenerated from
  lib/scanner.c) is compared with the rule list `ScanSpec.documented`
  transcribed from the manual / scanner.l, for all byte strings over the full
  256-byte alphabet, in each of the five start conditions, at and away from
  the beginning of a line.  The comparison is a bisimulation check between the
  flex automaton and the derivative automaton of the rule list, evaluated by
  the kernel (`decide +kernel`; no `native_decide`) on one byte of each class
  of bytes that neither side tells apart.
-/
namespace Libconfig.C18
open ScanSpec Bisim

/-- one byte of each class of bytes that neither the flex tables nor the documented rules tell
apart -/
def reps : List Nat := mkReps (sameSig Generated.scanner documented) 256 []

/-- The kernel's part of C18, in one evaluation (so that `reps` and the steps of the automaton
are computed once): the closure of the start pairs under the bytes of `reps` exists, with equal
labels and equal jam behaviour throughout (`checkClosure`); on each of these bytes alone the
compiled scanner selects one of the rules 1 … 47.  That `reps` has a byte of every class is
`covers_mkReps`. -/
theorem scanner_checked :
    (checkClosure Generated.scanner documented reps 10000 &&
      coverOn Generated.scanner 48 reps 5) = true := by decide +kernel

/-- the flex rule count is the length of the documented list (47 rules of
scanner.l + flex's default rule) -/
example : Generated.scanner.numRules = documented.length := by decide

/-- **Automaton equivalence.**  In every start condition, at and away from the
beginning of a line, on every byte string, the compiled scanner selects the
same rule and the same lexeme length as the documented rule list. -/
theorem C18_equiv : ∀ sc, sc < 5 → ∀ (bol : Bool) (inp : List Nat), (∀ b ∈ inp, b < 256) →
    Flex.next Generated.scanner sc bol inp = specNext documented sc bol inp :=
  checkClosure_sound (fuel := 10000) (covers_mkReps _ _) (Bool.and_eq_true _ _ ▸ scanner_checked).1

/-- **Longest match, earliest rule on ties.**  `specNext documented` returns
`(r, n)` exactly when `inp.take n` is a non-empty prefix matched by the active
rule `r`, no active rule matches a longer prefix, and no earlier active rule
matches the same prefix (booleans before names, floats before integers, …). -/
theorem C18_longest_first (sc : Nat) (bol : Bool) (inp : List Nat) (r n : Nat) :
    specNext documented sc bol inp = some (r, n) ↔ Selects documented sc bol inp r n :=
  specNext_eq_some_iff

/-- … and it returns nothing exactly when no active rule matches any non-empty prefix. -/
theorem C18_longest_first_none (sc : Nat) (bol : Bool) (inp : List Nat) :
    specNext documented sc bol inp = none ↔
      ∀ m, 0 < m → m ≤ inp.length → ∀ i, ¬ RuleMatches documented sc bol i (inp.take m) :=
  specNext_eq_none_iff

/-- The same, stated for the compiled scanner. -/
theorem C18_flex_longest_first (sc : Nat) (hsc : sc < 5) (bol : Bool) (inp : List Nat)
    (hb : ∀ b ∈ inp, b < 256) (r n : Nat) :
    Flex.next Generated.scanner sc bol inp = some (r, n) ↔ Selects documented sc bol inp r n := by
  rw [C18_equiv sc hsc bol inp hb]; exact specNext_eq_some_iff

/-- **Nothing is skipped.**  On non-empty input some rule of scanner.l is
selected; flex's default rule (48, ECHO: copy the byte to stdout and go on) is
never selected, in any start condition. -/
theorem C18_never_skipped : ∀ sc, sc < 5 → ∀ (bol : Bool) (inp : List Nat), inp ≠ [] →
    (∀ b ∈ inp, b < 256) → ∃ r n, specNext documented sc bol inp = some (r, n) ∧ r ≠ 48 := by
  have hc := scanner_checked
  simp only [Bool.and_eq_true] at hc
  intro sc hsc bol inp hne hb
  refine never_last (N := 48) ?_ (fun c hc' => ?_) inp hne hb
  · intro rule hget
    have : rule = ⟨.cls cAny, [INITIAL, SINGLE_LINE_COMMENT, MULTI_LINE_COMMENT, STRING, INCLUDE],
        false⟩ := by
      simp [documented] at hget; exact hget.symm
    exact ⟨cAny, by rw [this]⟩
  · obtain ⟨c', hm, hsig⟩ := covers_mkReps Generated.scanner documented c hc'
    obtain ⟨r, k, hr, hnext⟩ := belowN_spec (coverOn_lt hc.2 sc hsc bol c' hm)
    rw [← next_congr (sig_spec hsig).1, C18_equiv sc hsc bol [c] (by simpa using hc')] at hnext
    exact ⟨r, hr, ruleMatches_of_specNext hnext⟩

/-- The same, for the compiled scanner. -/
theorem C18_flex_never_skipped (sc : Nat) (hsc : sc < 5) (bol : Bool) (inp : List Nat)
    (hne : inp ≠ []) (hb : ∀ b ∈ inp, b < 256) :
    ∃ r n, Flex.next Generated.scanner sc bol inp = some (r, n) ∧ r ≠ 48 := by
  rw [C18_equiv sc hsc bol inp hb]; exact C18_never_skipped sc hsc bol inp hne hb

/-- rule 47 (the catch-all `.`) returns TOK_GARBAGE; rule 48 is flex's ECHO -/
example : Generated.scanActions[47]? = some (.tok Generated.tokens.garbage) := by decide
example : Generated.scanActions[48]? = some .echo := by decide

/-- **Line counting.**  Every rule of scanner.l whose language contains a word
with a newline is flagged in `yy_rule_can_match_eol`, the table that makes the
generated scanner count the newlines of a lexeme (`%option yylineno`). -/
theorem C18_lineno (r : Nat) (h1 : 1 ≤ r) (h47 : r ≤ 47) (rule : SpecRule)
    (hrule : documented[r - 1]? = some rule) (w : List Nat) (hw : rule.rx.Matches w)
    (hnl : 10 ∈ w) : Generated.scanner.canMatchEol.getN r = 1 := by
  have hflags : allRules (fun i r => !mentionsNl r.rx ||
      Nat.beq (Generated.scanner.canMatchEol.getN i) 1) 1 (documented.take 47) = true := by
    decide +kernel
  have h := allRules_spec hflags r rule h1 (by rw [List.getElem?_take_of_lt (by omega)]; exact hrule)
  rw [mentionsNl_of_matches hw hnl, Bool.not_true, Bool.false_or] at h
  exact Nat.eq_of_beq_eq_true h

/-! ### non-vacuity: concrete lexemes -/
-- "true" is a boolean (rule 34), not a name
example : Flex.next Generated.scanner 0 false [116, 114, 117, 101] = some (34, 4) := by
  decide +kernel
-- "truex" is a name (rule 36), longest match
example : Flex.next Generated.scanner 0 false [116, 114, 117, 101, 120] = some (36, 5) := by
  decide +kernel
-- "1.5" is a float (rule 37), "15" an integer (rule 38), "15L" a 64-bit integer (rule 39)
example : Flex.next Generated.scanner 0 false [49, 46, 53] = some (37, 3) := by decide +kernel
example : Flex.next Generated.scanner 0 false [49, 53] = some (38, 2) := by decide +kernel
example : Flex.next Generated.scanner 0 false [49, 53, 76] = some (39, 3) := by decide +kernel
-- "0x1F" is a hex integer (rule 40), "0x1FL" a 64-bit hex integer (rule 41)
example : Flex.next Generated.scanner 0 false [48, 120, 49, 70] = some (40, 4) := by decide +kernel
example : Flex.next Generated.scanner 0 false [48, 120, 49, 70, 76] = some (41, 5) := by
  decide +kernel
-- BEL is white space in INITIAL (rule 28)
example : Flex.next Generated.scanner 0 false [7] = some (28, 1) := by decide +kernel
-- `\v` in a string (rule 15), `\x41` (rule 19), `\q` is a lone backslash (rule 20)
example : Flex.next Generated.scanner 3 false [92, 118] = some (15, 2) := by decide +kernel
example : Flex.next Generated.scanner 3 false [92, 120, 52, 49] = some (19, 4) := by decide +kernel
example : Flex.next Generated.scanner 3 false [92, 113] = some (20, 1) := by decide +kernel
-- a lone backslash in an include path (rule 26)
example : Flex.next Generated.scanner 4 false [92, 97] = some (26, 1) := by decide +kernel
-- `@include "` only at the beginning of a line (rule 22); elsewhere `@` is garbage (rule 47)
example : Flex.next Generated.scanner 0 true [64, 105, 110, 99, 108, 117, 100, 101, 32, 34, 97]
    = some (22, 10) := by decide +kernel
example : Flex.next Generated.scanner 0 false [64, 105, 110, 99, 108, 117, 100, 101, 32, 34, 97]
    = some (47, 1) := by decide +kernel
-- a NUL byte and a byte ≥ 128 in INITIAL are garbage (rule 47), not skipped
example : Flex.next Generated.scanner 0 false [0] = some (47, 1) := by decide +kernel
example : Flex.next Generated.scanner 0 false [200, 97] = some (47, 1) := by decide +kernel
-- comments: `//` and `#` (rule 1), `/*` (rule 4), `*/` inside (rule 5)
example : Flex.next Generated.scanner 0 false [47, 47, 97] = some (1, 2) := by decide +kernel
example : Flex.next Generated.scanner 0 false [47, 42, 97] = some (4, 2) := by decide +kernel
example : Flex.next Generated.scanner 2 false [42, 47, 97] = some (5, 2) := by decide +kernel
-- the spec side agrees on a sample, and `Selects` is inhabited
example : specNext documented 0 false [116, 114, 117, 101] = some (34, 4) := by decide +kernel
example : Selects documented 0 false [116, 114, 117, 101] 34 4 :=
  (C18_longest_first _ _ _ _ _).mp (by decide +kernel)

/-! ### rule numbers and actions line up (`Generated.scanActions` is indexed by
flex rule number, recognised from the `case N:` bodies of lib/scanner.c) -/
example : Generated.scanActions[1]? = some (.begin Generated.SC_SINGLE_LINE_COMMENT) := by decide
example : Generated.scanActions[4]? = some (.begin Generated.SC_MULTI_LINE_COMMENT) := by decide
example : Generated.scanActions[8]? = some (.begin Generated.SC_STRING) := by decide
example : Generated.scanActions[15]? = some (.appendChar 11) := by decide
example : Generated.scanActions[19]? = some .appendHexChar := by decide
example : Generated.scanActions[22]? = some (.begin Generated.SC_INCLUDE) := by decide
example : Generated.scanActions[34]? = some (.tokBool Generated.tokens.boolean 1) := by decide
example : Generated.scanActions[35]? = some (.tokBool Generated.tokens.boolean 0) := by decide
example : Generated.scanActions[36]? = some (.tokName Generated.tokens.name) := by decide
example : Generated.scanActions[37]? =
    some (.tokFloat Generated.tokens.float Generated.tokens.error) := by decide
example : Generated.scanActions[41]? =
    some (.tokHex64 Generated.tokens.hex64 Generated.tokens.error) := by decide
example : Generated.scanActions.length = documented.length + 1 := by decide

/-! ### the two places where the manual's terminal table differs from scanner.l

* `<hex64>` with an optional `L` (`0[Xx][0-9A-Fa-f]+(L(L)?)?`) changes nothing:
  on a lexeme without `L` the earlier rule 40 (`<hex>`) wins the tie
  (`Bisim.findMismatch` reports no difference for that variant; not part of
  the kernel-checked statement).
* `<float>` as printed (sign mandatory in the second alternative) is not what
  the scanner does: `1e5` is one float for the scanner, but an integer `1`
  followed by a name under the printed pattern.  `documented` follows scanner.l. -/

/-- the manual's `<float>` as printed -/
def rxFloatTexi : Rx :=
  .alt
    (.cat (.opt (.cls cSign)) (.cat (.opt (.star (.cls cDigit)))
      (.cat (.cls cPeriod) (.cat (.star (.cls cDigit)) (.opt rxExponent)))))
    (.cat (.cls cSign) (.cat (.plus (.cls cDigit))
      (.cat (.opt (.cat (.cls cPeriod) (.star (.cls cDigit)))) rxExponent)))

/-- replace the pattern of rule `i` (counting from 1) -/
def setRule : Nat → Rx → List SpecRule → List SpecRule
  | _, _, [] => []
  | 0, _, rs => rs
  | 1, r, x :: rs => { x with rx := r } :: rs
  | i + 1, r, x :: rs => x :: setRule i r rs

example : Flex.next Generated.scanner 0 false [49, 101, 53] = some (37, 3) := by decide +kernel
example : specNext documented 0 false [49, 101, 53] = some (37, 3) := by decide +kernel
example : specNext (setRule 37 rxFloatTexi documented) 0 false [49, 101, 53] = some (38, 1) := by
  decide +kernel

/-- Every scanner rule action of the compiled scanner has its catalogued text (the translator
re-reads the `case N:` bodies of lib/scanner.c on every run; an edited action becomes
`.unknown`), and so has the shared `<<EOF>>` action. -/
theorem C18_actions_known :
    (∀ a ∈ Generated.scanActions.drop 1, a ≠ ScanAct.unknown) ∧ Generated.scanner.eofActionKnown = true ∧
    Generated.scanActions.length = Generated.scanner.numRules + 1 := by decide

end Libconfig.C18
