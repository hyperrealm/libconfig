import LibconfigModel.Proofs.C20BufferRun
import LibconfigModel.Proofs.C20BufferFlex
import LibconfigModel.Proofs.C20BufferSeeded
import LibconfigModel.Proofs.C20BufferReplay
/-
  C20B — the buffer refill arithmetic of the generated scanner (`yy_get_next_buffer` and
  its callers in lib/scanner.c) is index-safe, loses and duplicates no byte, and makes
  progress.  The model is `FlexBuffer.lean`; an execution is any list of `Event`s (the
  matcher consuming a token of any admissible length, or running into the end-of-buffer
  sentinel with the stream offering any number of bytes to the read), from
  `create P stream`.  All theorems are parametric in `YY_BUF_SIZE = P.B > 0` and
  `YY_READ_BUF_SIZE = P.R > 0`; `scannerParams_ok` instantiates them with the constants
  translated from scanner.c (16384 and 8192).

  Findings: none of B1–B3 is violated in a reachable state.  Three observations, proved
  below: (1) one byte of `yy_buf_size` is never used (`yy_n_chars < yy_buf_size`, `C20B_inv`),
  so a token of `YY_BUF_SIZE - 1` bytes already doubles the buffer (`replay_read3`); (2) the
  growth loop runs at most once per refill: the new size is the old one or exactly twice it
  (`C20B_progress`, field `grow`; `C20BP.growLoop_eq`); (3) the last `yyrealloc` of
  `yy_get_next_buffer` is dead code for a file-backed buffer (`C20B_extend_dead`) —
  fortunately, because taken with `yy_n_chars < 4` it would allocate fewer bytes than the two
  sentinel stores behind it need.
  The seeded change `while ( num_to_read < 0 )` is refuted by `C20B_seeded_breaks` (constants
  of scanner.c) and `C20B_seeded_breaks_all` (all constants).

  Contents: B1 `C20B_inv`, `C20B_in_bounds` (+ `_input_room`, `_copy_room`, `_store_room`,
  `C20B_never_fatal`, `C20B_extend_dead`, `C20B_move_loop`); B2 `C20B_content`,
  `C20B_refill_invariant`, `C20B_token`, `C20B_window_prefix`; B3 `C20B_progress`,
  `C20B_eof_complete`, `C20B_size_bound`, `C20B_no_overflow(_int32)`, `C20B_no_livelock`;
  B4 `C20B_flex_step`, `C20B_flex`, `C20B_flex_many`.
-/
namespace Libconfig.C20B

open Libconfig Libconfig.FlexBuffer Libconfig.C20BP

/-- the constants of scanner.c satisfy the assumptions -/
theorem scannerParams_ok : scannerParams.OK := ⟨by decide, by decide, rfl⟩

example : scannerParams.B = 16384 ∧ scannerParams.R = 8192 := by decide

/-! ### a step-by-step replay with small constants

`YY_BUF_SIZE = 8`, `YY_READ_BUF_SIZE = 4`, fresh memory holds 9, the stream is
"abcdefghijklmnopqrst" and offers 4 bytes per read.  `view` shows `yy_ch_buf`, `yy_buf_size`,
`yy_n_chars`, `yytext_ptr`, `yy_c_buf_p` (as offsets) and what the stream still holds. -/

def P8 : Params := { B := 8, R := 4, junk := 9 }

theorem P8_ok : P8.OK := ⟨by decide, by decide, rfl⟩

def abc : Bytes := [97, 98, 99, 100, 101, 102, 103, 104, 105, 106, 107, 108, 109, 110, 111, 112, 113,
  114, 115, 116]

def view (s : State) : Bytes × Nat × Nat × Nat × Nat × Bytes :=
  (s.ch, s.bufSize, s.nChars, s.textPtr, s.cBufP, s.rest)

/-- `yy_create_buffer`: 10 bytes, the two sentinels -/
example : view (create P8 abc) = ([0, 0, 9, 9, 9, 9, 9, 9, 9, 9], 8, 0, 0, 0, abc) := by decide +kernel

/-- first refill: `num_to_read = 8 - 0 - 1 = 7`, clamped to 4 -/
example : view (run P8 [.eob 4] (create P8 abc)) =
    ([97, 98, 99, 100, 0, 0, 9, 9, 9, 9], 8, 4, 0, 0, abc.drop 4) := by decide +kernel

/-- second refill, still inside the first token: `number_to_move = 4`, `num_to_read = 3` -/
example : view (run P8 [.eob 4, .eob 4] (create P8 abc)) =
    ([97, 98, 99, 100, 101, 102, 103, 0, 0, 9], 8, 7, 0, 4, abc.drop 7) := by decide +kernel

/-- third refill: the token in progress (7 = `YY_BUF_SIZE - 1` bytes) fills the buffer,
`num_to_read = 0`: the buffer is doubled, 18 bytes are allocated, 4 more bytes are read -/
example : view (run P8 [.eob 4, .eob 4, .eob 4] (create P8 abc)) =
    ([97, 98, 99, 100, 101, 102, 103, 104, 105, 106, 107, 0, 0, 9, 9, 9, 9, 9], 16, 11, 0, 7,
      abc.drop 11) := by decide +kernel

/-- … and the accesses that refill logged: the matcher's loads up to the second sentinel, the
hold character, the move of 7 bytes, the `yyrealloc`, `YY_INPUT( &yy_ch_buf[7], …, 4 )`, the
two sentinels -/
example : (run P8 [.eob 4, .eob 4, .eob 4] (create P8 abc)).log.drop 19 =
    [.scan 10 0 9, .load 10 8, .store 10 8, .store 10 8, .copy 10 0 0 7, .realloc 10 18,
     .input 18 7 4, .store 18 11, .store 18 12] := by decide +kernel

/-- the matcher takes a token of 9 bytes: nothing moves, `yytext_ptr` advances -/
example : view (run P8 [.eob 4, .eob 4, .eob 4, .tok 9] (create P8 abc)) =
    ([97, 98, 99, 100, 101, 102, 103, 104, 105, 106, 107, 0, 0, 9, 9, 9, 9, 9], 16, 11, 9, 9,
      abc.drop 11) ∧
    (run P8 [.eob 4, .eob 4, .eob 4, .tok 9] (create P8 abc)).tokens = [abc.take 9] := by decide +kernel

/-- next refill: the 2 unscanned bytes "jk" move to the front, 4 bytes follow them -/
example : view (run P8 [.eob 4, .eob 4, .eob 4, .tok 9, .eob 100] (create P8 abc)) =
    ([106, 107, 108, 109, 110, 111, 0, 0, 105, 106, 107, 0, 0, 9, 9, 9, 9, 9], 16, 6, 0, 2,
      abc.drop 15) := by decide +kernel

/-- two more refills exhaust the stream; the next one reads nothing: `EOB_ACT_LAST_MATCH`,
`YY_BUFFER_EOF_PENDING`, `yy_c_buf_p` at the sentinel -/
example :
    view (run P8 [.eob 4, .eob 4, .eob 4, .tok 9, .eob 100, .eob 100, .eob 100] (create P8 abc)) =
      ([106, 107, 108, 109, 110, 111, 112, 113, 114, 115, 116, 0, 0, 9, 9, 9, 9, 9], 16, 11, 0, 10, []) ∧
    (run P8 [.eob 4, .eob 4, .eob 4, .tok 9, .eob 100, .eob 100, .eob 100] (create P8 abc)).status = .normal ∧
    (eobStep P8 7 (run P8 [.eob 4, .eob 4, .eob 4, .tok 9, .eob 100, .eob 100, .eob 100]
      (create P8 abc))).2 = .lastMatch ∧
    (eobStep P8 7 (run P8 [.eob 4, .eob 4, .eob 4, .tok 9, .eob 100, .eob 100, .eob 100]
      (create P8 abc))).1.status = .eofPending ∧
    (eobStep P8 7 (run P8 [.eob 4, .eob 4, .eob 4, .tok 9, .eob 100, .eob 100, .eob 100]
      (create P8 abc))).1.cBufP = 11 := by decide +kernel

/-- two tokens consume the rest; the refill after them finds nothing to move and does not
read (`YY_BUFFER_EOF_PENDING`): `EOB_ACT_END_OF_FILE`, `yyrestart` flushes the buffer; the
actions have seen the whole stream -/
example :
    (run P8 [.eob 4, .eob 4, .eob 4, .tok 9, .eob 100, .eob 100, .eob 100, .eob 7, .tok 5, .tok 6]
      (create P8 abc)).tokens = [abc.take 9, (abc.drop 9).take 5, abc.drop 14] ∧
    (eobStep P8 7 (run P8 [.eob 4, .eob 4, .eob 4, .tok 9, .eob 100, .eob 100, .eob 100, .eob 7, .tok 5,
      .tok 6] (create P8 abc))).2 = .endOfFile ∧
    (eobStep P8 7 (run P8 [.eob 4, .eob 4, .eob 4, .tok 9, .eob 100, .eob 100, .eob 100, .eob 7, .tok 5,
      .tok 6] (create P8 abc))).1.status = .new ∧
    view (eobStep P8 7 (run P8 [.eob 4, .eob 4, .eob 4, .tok 9, .eob 100, .eob 100, .eob 100, .eob 7,
      .tok 5, .tok 6] (create P8 abc))).1 =
      ([0, 0, 108, 109, 110, 111, 112, 113, 114, 115, 116, 0, 0, 9, 9, 9, 9, 9], 16, 0, 0, 0, []) := by
  decide +kernel

/-! ### the same scenario at the constants of scanner.c

8192-byte reads, a token of 16383 bytes, growth to 32768 (computed on the integer fields
alone in `Proofs/C20BufferReplay.lean`; `longTok` is 16382 × `a`, `b`, `c`, `d`, 20000 × `e`). -/

example : sizes (run scannerParams [.eob 8192] (create scannerParams longTok)) =
    (16384, 8192, 0, 0, 28193) := replay_read1
example : sizes (run scannerParams [.eob 8192, .eob 8192] (create scannerParams longTok)) =
    (16384, 16383, 0, 8192, 20002) := replay_read2
example : sizes (run scannerParams [.eob 8192, .eob 8192, .eob 8192] (create scannerParams longTok)) =
    (32768, 24575, 0, 16383, 11810) := replay_read3
example : window (run scannerParams [.eob 8192, .eob 8192, .eob 8192] (create scannerParams longTok)) =
    List.replicate 16382 97 ++ [98, 99, 100] ++ List.replicate 8190 101 := replay_window3
example :
    sizes (run scannerParams [.eob 8192, .eob 8192, .eob 8192, .tok 16383, .eob 8192]
      (create scannerParams longTok)) = (32768, 16384, 0, 8192, 3618) ∧
    (window (run scannerParams [.eob 8192, .eob 8192, .eob 8192, .tok 16383, .eob 8192]
      (create scannerParams longTok))).take 3 = [99, 100, 101] ∧
    beqBytes (run scannerParams [.eob 8192, .eob 8192, .eob 8192, .tok 16383, .eob 8192]
      (create scannerParams longTok)).tokens.flatten (List.replicate 16382 97 ++ [98]) = true :=
  replay_token

/-! ## B1 — every access is in bounds -/

/-- What holds after every execution (`Inv`): the allocation is `yy_buf_size + 2` bytes,
`yy_n_chars < yy_buf_size`, `yytext_ptr ≤ yy_c_buf_p ≤ yy_n_chars`, both end-of-buffer
sentinels are in place at `[yy_n_chars]` and `[yy_n_chars + 1]` (so the matcher, which
cannot get past two NULs, loads nothing beyond `yy_n_chars + 1 < yy_buf_size + 2`), the
buffer size is `YY_BUF_SIZE · 2^j`, and every access so far was in bounds. -/
theorem C20B_inv (P : Params) (hP : P.OK) (stream : Bytes) (es : List Event) :
    Inv P (run P es (create P stream)) :=
  (reach P hP stream es).inv

/-- B1.  Every load and every store of every execution — the move loop (source and
destination), the destination `[number_to_move, number_to_move + num_to_read)` handed to
`YY_INPUT`, the two sentinel stores, the hold-character load and stores of
`YY_DO_BEFORE_ACTION`, the stores of `yy_flush_buffer`, the loads of the matching loop —
lies inside the allocation that is current at that moment, and `YY_INPUT` is never asked
for fewer than one byte. -/
theorem C20B_in_bounds (P : Params) (hP : P.OK) (stream : Bytes) (es : List Event) :
    ∀ a ∈ (run P es (create P stream)).log, a.ok :=
  (C20B_inv P hP stream es).safe

/-- … spelled out for the read: `1 ≤ num_to_read` and the destination fits -/
theorem C20B_input_room (P : Params) (hP : P.OK) (stream : Bytes) (es : List Event)
    (alloc dst : Nat) (max : Int)
    (h : Access.input alloc dst max ∈ (run P es (create P stream)).log) :
    1 ≤ max ∧ (dst : Int) + max ≤ alloc :=
  C20B_in_bounds P hP stream es _ h

/-- … for the move loop -/
theorem C20B_copy_room (P : Params) (hP : P.OK) (stream : Bytes) (es : List Event)
    (alloc src dst n : Nat) (h : Access.copy alloc src dst n ∈ (run P es (create P stream)).log) :
    src + n ≤ alloc ∧ dst + n ≤ alloc :=
  C20B_in_bounds P hP stream es _ h

/-- … and for single stores (sentinels, hold character, `yy_flush_buffer`) -/
theorem C20B_store_room (P : Params) (hP : P.OK) (stream : Bytes) (es : List Event)
    (alloc idx : Nat) (h : Access.store alloc idx ∈ (run P es (create P stream)).log) :
    idx < alloc :=
  C20B_in_bounds P hP stream es _ h

/-- non-vacuity: the log of the small replay has 40 entries, among them the reads with
`num_to_read` = 4, 3, 4, 4 — all in bounds (here by evaluation, in general by the theorem) -/
example :
    (run P8 [.eob 4, .eob 4, .eob 4, .tok 9, .eob 100] (create P8 abc)).log.length = 40 ∧
    (run P8 [.eob 4, .eob 4, .eob 4, .tok 9, .eob 100] (create P8 abc)).log.filter
      (fun a => match a with | .input .. => true | _ => false) =
      [.input 10 0 4, .input 10 4 3, .input 18 7 4, .input 18 2 4] ∧
    ∀ a ∈ (run P8 [.eob 4, .eob 4, .eob 4, .tok 9, .eob 100] (create P8 abc)).log, a.ok := by decide +kernel

/-- B1 fails for the seeded change `while ( num_to_read < 0 )`: with the constants of
scanner.c, after two reads of 8192 bytes the token in progress has `YY_BUF_SIZE - 1` = 16383
bytes and fills the buffer (`replay_read2`); the third refill computes `num_to_read = 0`,
does not grow, and calls `YY_INPUT` for 0 bytes.  (`fread` then returns 0, which the scanner
takes for end of input: the 16383 bytes become a token of their own and the remaining 20002
bytes of the stream are never read — `replay_seeded`.) -/
theorem C20B_seeded_breaks :
    ¬ ∀ a ∈ (run seededParams [.eob 8192, .eob 8192, .eob 8192] (create seededParams longTok)).log,
      a.ok := by
  have h : run seededParams [.eob 8192, .eob 8192, .eob 8192] (create seededParams longTok) =
      (eobStep seededParams 8192
        (run seededParams [.eob 8192, .eob 8192] (create seededParams longTok))).1 :=
    run_snoc seededParams [.eob 8192, .eob 8192] 8192 _
  rw [h]
  exact any_zeroRead_not_safe _ replay_seeded.1

/-- The same for all constants: whatever `YY_BUF_SIZE > 0` and `YY_READ_BUF_SIZE > 0` are, the
scanner with the seeded test reaches a `YY_INPUT` for 0 bytes — on a stream of `YY_BUF_SIZE`
bytes in which the matcher finds no token end, after enough refills (each offered one byte
or more; `n + 1` of them).  The state before the last refill is one in which scanner.c would
double the buffer: `yytext_ptr` at the start, `yy_n_chars + 1 = yy_buf_size`
(`seeded_zero_read`). -/
theorem C20B_seeded_breaks_all (P : Params) (hB : 0 < P.B) (hR : 0 < P.R)
    (hT : P.test = growTestSeeded) :
    ∃ n, ¬ ∀ a ∈ (run P (List.replicate (n + 1) (.eob 1)) (create P (List.replicate P.B 97))).log,
      a.ok :=
  seeded_breaks P hB hR hT

/-- … and the consequence: end of input is reported to the matcher although the stream was
willing to deliver 8192 of its remaining 20002 bytes (compare `C20B_eof_complete`) -/
example :
    (eobStep seededParams 8192
      (run seededParams [.eob 8192, .eob 8192] (create seededParams longTok))).2 = .lastMatch ∧
    sizes (eobStep seededParams 8192
      (run seededParams [.eob 8192, .eob 8192] (create seededParams longTok))).1 =
      (16384, 16383, 0, 16383, 20002) := replay_seeded.2

/-- the same with small constants: the offending access is `YY_INPUT( &yy_ch_buf[7], …, 0 )` -/
example :
    (eobStep { P8 with test := growTestSeeded } 4
      (run { P8 with test := growTestSeeded } [.eob 4, .eob 4]
        (create { P8 with test := growTestSeeded } abc))).1.log.drop 23 =
      [.copy 10 0 0 7, .input 10 7 0, .store 10 7, .store 10 8] ∧
    ¬ (Access.input 10 7 0).ok ∧
    (eobStep { P8 with test := growTestSeeded } 4
      (run { P8 with test := growTestSeeded } [.eob 4, .eob 4]
        (create { P8 with test := growTestSeeded } abc))).2 = .lastMatch := by decide +kernel

/-- "fatal flex scanner internal error--end of buffer missed" is never raised -/
theorem C20B_never_fatal (P : Params) (hP : P.OK) (stream : Bytes) (es : List Event) (k : Nat) :
    (eobStep P k (run P es (create P stream))).2 ≠ .fatal := by
  obtain ⟨data, H⟩ := eobStep_progress P hP k _ (C20B_inv P hP stream es)
  rcases H.result with h | h | h <;> rw [h.1] <;> decide

/-- The last `yyrealloc` of `yy_get_next_buffer` (`if ( yy_n_chars + number_to_move >
yy_buf_size )`, which allocates `new_size` bytes but then needs `yy_n_chars +
number_to_move + 2`) is dead code for a file-backed buffer: from every reachable state the
function is equal to itself with that stage removed. -/
theorem C20B_extend_dead (P : Params) (hP : P.OK) (stream : Bytes) (es : List Event) (k : Nat) :
    let e := eobEnter (run P es (create P stream))
    getNextBuffer P k e =
      (sentinelStage (e.nChars - e.textPtr) (statusStage (e.nChars - e.textPtr)
          (readStage P k (e.nChars - e.textPtr) (moveStage (e.nChars - e.textPtr) e))),
        retVal (e.nChars - e.textPtr)
          (readStage P k (e.nChars - e.textPtr) (moveStage (e.nChars - e.textPtr) e))) := by
  intro e
  have E : shadow e = _ := shadow_eobEnter _
  rw [show e.nChars = _ from congrArg Shadow.nChars E, show e.textPtr = _ from congrArg Shadow.textPtr E]
  exact (getNextBuffer_enter P (test_le hP.test) k _ (C20B_inv P hP stream es).room).2

/-- Why it matters that this code is dead: taken with `yy_n_chars < 4` it allocates
`yy_n_chars + number_to_move + (yy_n_chars >> 1)` bytes, fewer than the
`yy_n_chars + number_to_move + 2` that the sentinel stores behind it need.  Here, from an
(unreachable) state with `yy_buf_size = 8`, `yy_n_chars = 1`, `number_to_move = 8`:
9 bytes are allocated and the sentinels go to `[9]` and `[10]`. -/
example :
    (sentinelStage 8 (extendStage P8 8
      { ch := List.replicate 10 7, bufSize := 8, nChars := 1, textPtr := 0, cBufP := 0, holdChar := 0,
        status := .normal, rest := [] })).log = [.realloc 10 9, .store 9 9, .store 9 10] := by decide +kernel

/-- non-vacuity of `C20B_move_loop`: an overlapping move of 4 bytes by 2 -/
example : copyLoop 4 0 2 [1, 2, 3, 4, 5, 6, 7] = [3, 4, 5, 6, 5, 6, 7] := by decide +kernel

/-- The byte loop `for ( i = 0; i < number_to_move; ++i ) *(dest++) = *(source++)` is a
correct overlapping move (the model's `moveFront`): `dest = yy_ch_buf ≤ source`. -/
theorem C20B_move_loop (ch : Bytes) (src n : Nat) (h : src + n ≤ ch.length) :
    copyLoop n 0 src ch = moveFront ch src n :=
  copyLoop_eq_moveFront ch src n h

/-! ## B2 — nothing lost, nothing duplicated -/

/-- B2.  After every execution, the texts handed to the rule actions, followed by the text
still to be scanned (`pending` = the window from `yytext_ptr` to the sentinel, then what the
stream has not delivered), are exactly the stream — across moves, growth and refills. -/
theorem C20B_content (P : Params) (hP : P.OK) (stream : Bytes) (es : List Event) :
    (run P es (create P stream)).tokens.flatten ++ pending (run P es (create P stream)) = stream :=
  (reach P hP stream es).content

/-- non-vacuity: in the middle of the small replay one token has been delivered, 6 bytes are in
the window (2 moved, 4 read) and 5 are still in the stream -/
example :
    (run P8 [.eob 4, .eob 4, .eob 4, .tok 9, .eob 100] (create P8 abc)).tokens.flatten = abc.take 9 ∧
    window (run P8 [.eob 4, .eob 4, .eob 4, .tok 9, .eob 100] (create P8 abc)) = (abc.drop 9).take 6 ∧
    (run P8 [.eob 4, .eob 4, .eob 4, .tok 9, .eob 100] (create P8 abc)).rest = abc.drop 15 := by decide +kernel

/-- The abstraction function is invariant under the end-of-buffer action (refill) … -/
theorem C20B_refill_invariant (P : Params) (hP : P.OK) (stream : Bytes) (es : List Event) (k : Nat) :
    pending (eobStep P k (run P es (create P stream))).1 = pending (run P es (create P stream)) ∧
    (eobStep P k (run P es (create P stream))).1.tokens = (run P es (create P stream)).tokens :=
  eobStep_pending P hP k _ (C20B_inv P hP stream es)

/-- … and decreases only by consumption: a token of `l` bytes is the first `l` bytes of
the text still to be scanned, and exactly these are removed. -/
theorem C20B_token (P : Params) (hP : P.OK) (stream : Bytes) (es : List Event) (l : Nat)
    (hv : (run P es (create P stream)).textPtr + l ≤ (run P es (create P stream)).nChars) :
    ∃ t, (tokStep l (run P es (create P stream))).tokens = (run P es (create P stream)).tokens ++ [t] ∧
      t = (pending (run P es (create P stream))).take l ∧ t.length = l ∧
      pending (tokStep l (run P es (create P stream))) = (pending (run P es (create P stream))).drop l := by
  obtain ⟨h1, h2, h3⟩ := tokStep_pending P l _ (C20B_inv P hP stream es) hv
  exact ⟨_, h1, rfl, h2, h3⟩

/-- what the matcher can look at — the bytes from `yytext_ptr` up to the sentinel — is a
prefix of the text still to be scanned -/
theorem C20B_window_prefix (P : Params) (hP : P.OK) (stream : Bytes) (es : List Event) :
    window (run P es (create P stream)) =
      (pending (run P es (create P stream))).take
        ((run P es (create P stream)).nChars - (run P es (create P stream)).textPtr) := by
  rw [← length_window P _ (C20B_inv P hP stream es)]
  unfold pending
  rw [List.take_left]

/-! ## B3 — progress -/

/-- B3.  One end-of-buffer action from any reachable state, with the stream offering `k`
bytes: the read delivers `data`, the next bytes of the stream, and appends them to the
window; the result is `EOB_ACT_CONTINUE_SCAN` with at least one new byte for the matcher,
or `EOB_ACT_LAST_MATCH` (nothing read, a token in progress; the buffer becomes
`YY_BUFFER_EOF_PENDING`), or `EOB_ACT_END_OF_FILE` (nothing read, nothing in progress).
A stream that has bytes and offers some always delivers some (this needs `num_to_read ≥
1`), so end of input is reported only for a reason.  The buffer grows only when the token
in progress fills it, and then it doubles. -/
theorem C20B_progress (P : Params) (hP : P.OK) (stream : Bytes) (es : List Event) (k : Nat) :
    ∃ data, Progress k (run P es (create P stream)) (eobStep P k (run P es (create P stream))).1
      (eobStep P k (run P es (create P stream))).2 data :=
  eobStep_progress P hP k _ (C20B_inv P hP stream es)

/-- No premature end of input: if the stream never fails (every read of the execution is
offered at least one byte), a refill that does not continue the scan happens only when
the stream is exhausted; `EOB_ACT_END_OF_FILE` then means that every byte of the stream has
been handed to the rule actions. -/
theorem C20B_eof_complete (P : Params) (hP : P.OK) (stream : Bytes) (es : List Event)
    (hw : Willing es) (k : Nat) (hk : 1 ≤ k) :
    ((eobStep P k (run P es (create P stream))).2 ≠ .continueScan →
      (run P es (create P stream)).rest = []) ∧
    ((eobStep P k (run P es (create P stream))).2 = .endOfFile →
      (run P es (create P stream)).tokens.flatten = stream) := by
  have hinv := C20B_inv P hP stream es
  have heof := run_eofOK P hP es hw _ (create_inv P hP.B stream) (create_eofOK P stream)
  obtain ⟨data, H⟩ := eobStep_progress P hP k _ hinv
  have h1 := H.exhausted heof hk
  refine ⟨h1, fun he => ?_⟩
  have hc := C20B_content P hP stream es
  rcases H.result with h | h | h
  · rw [he] at h; exact absurd h.1 (by decide)
  · rw [he] at h; exact absurd h.1 (by decide)
  · have hr := h1 (by rw [he]; decide)
    unfold pending at hc
    rw [h.2.2.1, hr] at hc
    simpa using hc

/-- The size of the buffer: `YY_BUF_SIZE · 2^j`, never more than `YY_BUF_SIZE` or twice
(the length of the stream + 1); hence at most `log2 ((length + 1) / YY_BUF_SIZE) + 1`
growth steps. -/
theorem C20B_size_bound (P : Params) (hP : P.OK) (stream : Bytes) (es : List Event) :
    ∃ j, (run P es (create P stream)).bufSize = P.B * 2 ^ j ∧
      (run P es (create P stream)).bufSize ≤ max P.B (2 * (stream.length + 1)) ∧
      j ≤ ((stream.length + 1) / P.B).log2 + 1 := by
  obtain ⟨j, hj⟩ := (C20B_inv P hP stream es).size
  have hb := (reach P hP stream es).size
  refine ⟨j, hj, hb, ?_⟩
  cases j with
  | zero => omega
  | succ i =>
    -- more than `YY_BUF_SIZE`, so the bound is the one by the length: `YY_BUF_SIZE · 2^i ≤ length + 1`
    have hB := hP.B
    rw [hj, Nat.pow_succ, ← Nat.mul_assoc] at hb
    have h2 : 1 ≤ 2 ^ i := Nat.one_le_two_pow
    have hBi : P.B ≤ P.B * 2 ^ i := Nat.le_mul_of_pos_right _ h2
    have h4 : 2 ^ i * P.B ≤ stream.length + 1 := by
      rw [Nat.mul_comm]
      rcases Nat.le_total P.B (2 * (stream.length + 1)) with hm | hm
      · rw [Nat.max_eq_right hm] at hb; omega
      · rw [Nat.max_eq_left hm] at hb; omega
    have h5 : 2 ^ i ≤ (stream.length + 1) / P.B := (Nat.le_div_iff_mul_le hB).mpr h4
    have := (Nat.le_log2 (by omega)).mpr h5
    omega

/-- The no-overflow assumption made explicit: if twice (the length of the stream + 1) and
`YY_BUF_SIZE` fit in an `int` (largest value `M`), then every `yy_buf_size` of every
execution fits, and whenever the buffer grows, the statement of scanner.c
(`new_size = yy_buf_size * 2; if ( new_size <= 0 ) … else yy_buf_size *= 2`, `growC`)
takes its doubling branch and computes the size of the model. -/
theorem C20B_no_overflow (P : Params) (hP : P.OK) (M : Nat) (stream : Bytes) (es : List Event)
    (hB : P.B ≤ M) (hM : 2 * (stream.length + 1) ≤ M) (k : Nat) :
    (run P es (create P stream)).bufSize ≤ M ∧
    ((eobStep P k (run P es (create P stream))).1.bufSize ≠ (run P es (create P stream)).bufSize →
      (eobStep P k (run P es (create P stream))).1.bufSize =
        growC M (run P es (create P stream)).bufSize) := by
  obtain ⟨_, _, hb, _⟩ := C20B_size_bound P hP stream es
  have hb' : (run P es (create P stream)).bufSize ≤ M :=
    Nat.le_trans hb (Nat.max_le.mpr ⟨hB, hM⟩)
  refine ⟨hb', fun hne => ?_⟩
  obtain ⟨_, _, hb2, _⟩ := C20B_size_bound P hP stream (es ++ [.eob k])
  rw [run_snoc] at hb2
  obtain ⟨data, H⟩ := eobStep_progress P hP k _ (C20B_inv P hP stream es)
  rcases H.grow with h | ⟨h, _⟩
  · exact absurd h hne
  · rw [h, growC_eq_double]
    rw [h] at hb2
    exact Nat.le_trans hb2 (Nat.max_le.mpr ⟨hB, hM⟩)

/-- instance: with `int` of 32 bits and a stream shorter than 2^30 - 1 bytes nothing overflows -/
theorem C20B_no_overflow_int32 (stream : Bytes) (es : List Event) (h : stream.length + 1 < 2 ^ 30)
    (k : Nat) :
    (run scannerParams es (create scannerParams stream)).bufSize ≤ 2 ^ 31 - 1 ∧
    ((eobStep scannerParams k (run scannerParams es (create scannerParams stream))).1.bufSize ≠
        (run scannerParams es (create scannerParams stream)).bufSize →
      (eobStep scannerParams k (run scannerParams es (create scannerParams stream))).1.bufSize =
        growC (2 ^ 31 - 1) (run scannerParams es (create scannerParams stream)).bufSize) :=
  C20B_no_overflow scannerParams scannerParams_ok (2 ^ 31 - 1) stream es (by decide) (by omega) k

/-- non-vacuity of B3: in the small replay the three kinds of result occur, the buffer grows
exactly once (8 → 16, when the 7-byte token fills it), 20 bytes of stream allow at most
`log2 (21 / 8) + 1 = 2` growth steps -/
example :
    (eobStep P8 4 (run P8 [.eob 4, .eob 4] (create P8 abc))).2 = .continueScan ∧
    (run P8 [.eob 4, .eob 4] (create P8 abc)).bufSize = 8 ∧
    (window (run P8 [.eob 4, .eob 4] (create P8 abc))).length + 1 = 8 ∧
    (eobStep P8 4 (run P8 [.eob 4, .eob 4] (create P8 abc))).1.bufSize = 16 ∧
    ((abc.length + 1) / P8.B).log2 + 1 = 2 := by decide +kernel

/-! ## B4 — the matcher of `Flex.lean` on the buffered view -/

/-- B4, one call.  From any state satisfying the invariants (`Inv`, and
`YY_BUFFER_EOF_PENDING` only at the end of the stream), with a stream that never fails and
is asked often enough (`oracle` has more entries than the stream has bytes left), the
matching loop run on the buffer — scanning the window, refilling whenever it reaches the
sentinel — reports end of file exactly when no text is left, and otherwise the rule and
length that `Flex.next` computes on the idealised text `pending s`; the action is handed
that prefix, which is removed from the idealised text; the invariants hold again, so the
next call can follow. -/
theorem C20B_flex_step (T : FlexTables) (sc : Nat) (bol : Bool) (P : Params) (hP : P.OK)
    (oracle : List Nat) (s : State) (h : Inv P s) (he : EofOK s) (ho : ∀ k ∈ oracle, 1 ≤ k)
    (hl : s.rest.length + 1 ≤ oracle.length) :
    LexSpec T sc bol P s (lexBuf T sc bol P oracle s) :=
  lexBuf_spec T sc bol P hP oracle s h he ho hl

/-- B4 for reachable states: after any execution in which the stream never failed. -/
theorem C20B_flex (T : FlexTables) (sc : Nat) (bol : Bool) (P : Params) (hP : P.OK)
    (stream : Bytes) (es : List Event) (hw : Willing es)
    (oracle : List Nat) (ho : ∀ k ∈ oracle, 1 ≤ k) (hl : stream.length + 1 ≤ oracle.length) :
    LexSpec T sc bol P (run P es (create P stream))
      (lexBuf T sc bol P oracle (run P es (create P stream))) := by
  have hinv := C20B_inv P hP stream es
  have heof := run_eofOK P hP es hw _ (create_inv P hP.B stream) (create_eofOK P stream)
  refine lexBuf_spec T sc bol P hP oracle _ hinv heof ho ?_
  have hc := C20B_content P hP stream es
  have hc' := congrArg List.length hc
  simp only [pending, List.length_append] at hc'
  omega

/-- non-vacuity: "enabled = true;" through an 8-byte buffer with 4-byte reads.  The name
`enabled` (rule 36, 7 bytes) is found after three refills, the second of which doubles the
buffer; the result is `Flex.next` on the whole text. -/
example :
    (lexBuf Generated.scanner 0 true P8 (List.replicate 16 4)
      (create P8 [101, 110, 97, 98, 108, 101, 100, 32, 61, 32, 116, 114, 117, 101, 59])).2 =
      .rule (some (36, 7)) ∧
    Flex.next Generated.scanner 0 true
      [101, 110, 97, 98, 108, 101, 100, 32, 61, 32, 116, 114, 117, 101, 59] = some (36, 7) ∧
    view (lexBuf Generated.scanner 0 true P8 (List.replicate 16 4)
      (create P8 [101, 110, 97, 98, 108, 101, 100, 32, 61, 32, 116, 114, 117, 101, 59])).1 =
      ([101, 110, 97, 98, 108, 101, 100, 32, 61, 32, 116, 0, 0, 9, 9, 9, 9, 9], 16, 11, 7, 7,
        [114, 117, 101, 59]) := by decide +kernel

/-- … and a name of 20 bytes, longer than the initial buffer, which grows twice (8 → 32) -/
example :
    (lexBuf Generated.scanner 0 true P8 (List.replicate 30 4)
      (create P8 (List.replicate 20 120 ++ [59]))).2 = .rule (some (36, 20)) ∧
    (lexBuf Generated.scanner 0 true P8 (List.replicate 30 4)
      (create P8 (List.replicate 20 120 ++ [59]))).1.bufSize = 32 ∧
    (lexBuf Generated.scanner 0 true P8 (List.replicate 30 4)
      (create P8 (List.replicate 20 120 ++ [59]))).1.tokens = [List.replicate 20 120] := by
  decide +kernel

/-- No livelock in the matching loop: per call it performs at most (bytes left in the
stream + 1) refills — a list of that many read sizes is never used up. -/
theorem C20B_no_livelock (T : FlexTables) (sc : Nat) (bol : Bool) (P : Params) (hP : P.OK)
    (oracle : List Nat) (s : State) (h : Inv P s) (he : EofOK s) (ho : ∀ k ∈ oracle, 1 ≤ k)
    (hl : s.rest.length + 1 ≤ oracle.length) : (lexBuf T sc bol P oracle s).2 ≠ .starved :=
  (lexBuf_spec T sc bol P hP oracle s h he ho hl).fed

/-- B4, any number of calls (each with any start condition and beginning-of-line flag, which
in `yylex` depend on the previous actions): the results and the text left over are those of
the same calls of `Flex.next` on the idealised text — the loop of `Scanner.yylex`. -/
theorem C20B_flex_many (T : FlexTables) (P : Params) (hP : P.OK) (stream : Bytes)
    (calls : List (Nat × Bool × List Nat))
    (hc : ∀ c ∈ calls, (∀ k ∈ c.2.2, 1 ≤ k) ∧ stream.length + 1 ≤ c.2.2.length) :
    (pending (lexMany T P calls (create P stream)).1, (lexMany T P calls (create P stream)).2) =
      nextMany T calls stream := by
  have h := lexMany_spec T P hP calls (create P stream) (create_inv P hP.B stream)
    (create_eofOK P stream) (fun c hc' => by
      have := hc c hc'
      exact ⟨this.1, by
        have : (create P stream).rest = stream := rfl
        rw [this]; omega⟩)
  have hp : pending (create P stream) = stream := (create_reach P hP.B stream).content
  rw [hp] at h
  exact h.1

/-- non-vacuity: the whole of "enabled = true;" through the 8-byte buffer: name, blank, `=`,
blank, boolean, `;`, end of file — and every action saw its text -/
example :
    (lexMany Generated.scanner P8
      ((0, true, List.replicate 16 4) :: List.replicate 7 (0, false, List.replicate 16 4))
      (create P8 [101, 110, 97, 98, 108, 101, 100, 32, 61, 32, 116, 114, 117, 101, 59])).2 =
      [.rule (some (36, 7)), .rule (some (29, 1)), .rule (some (30, 1)), .rule (some (29, 1)),
       .rule (some (34, 4)), .rule (some (46, 1)), .eof, .eof] ∧
    (lexMany Generated.scanner P8
      ((0, true, List.replicate 16 4) :: List.replicate 7 (0, false, List.replicate 16 4))
      (create P8 [101, 110, 97, 98, 108, 101, 100, 32, 61, 32, 116, 114, 117, 101, 59])).1.tokens =
      [[101, 110, 97, 98, 108, 101, 100], [32], [61], [32], [116, 114, 117, 101], [59]] := by
  decide +kernel

end Libconfig.C20B
