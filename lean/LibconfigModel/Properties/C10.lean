import LibconfigModel.Read
import LibconfigModel.Proofs.C10
import LibconfigModel.Writer
/-
  C10 — @include is equivalent to textual inlining, with provenance and a depth limit.
  Helper lemmas live in LibconfigModel/Proofs/C10.lean; the text-level definitions of the
  end-to-end statement (`directive?`, `splice`, `plainLine`, `IncludeTreeOK`) stand at the end.

  What is proved here are the laws of the *mechanism* (the `<INCLUDE>\"` and `<<EOF>>`
  actions of lib/scanner.l with lib/scanctx.c, as modelled in Scanner.lean), each as an
  exact one-step equation of `yylex` over an arbitrary file system, include function,
  scanner table and input: the depth limit, the three error exits and where they point,
  the order in which the files of a frame are consumed, LIFO frames, path resolution, the
  line counter per buffer, and the provenance recorded by the parser action.  The
  end-to-end statement "read with includes = read of the spliced text" is written
  down here as `C10_spliceStatement`.  It is FALSE as
  stated (`C10_spliceStatement_false` in Properties/C10Splice.lean: a last file without a
  final newline followed by more text on the directive's line glues two tokens together in
  the spliced text; a NUL inside a path).  The statement is kept for the record; the
  theorem that holds — under `IncludeTreeOK'`, which adds exactly what "cut at line
  boundaries" and "paths are C strings" mean — is `C10_splice` / `C10_tokens` in
  Properties/C10Splice.lean.  The direct oracle of tools/props_c1011.py (`read_file top`
  against `read_string <spliced text>` on generated include trees) decides the same
  statement on the implementation.

  Documented values appear as literals (10 levels, the two error texts, the `/`
  separator); the bridge lemmas tie them to the constants re-extracted from the source.
-/
namespace Libconfig.C10

open Libconfig.C10P

/-! ### bridges: documented literals = values extracted from /repo -/

theorem bridge_max_depth : Generated.MAX_INCLUDE_DEPTH = 10 := by decide
theorem bridge_too_deep : Generated.ERR_INCLUDE_TOO_DEEP = bytesOfString "include file nesting too deep" := by
  decide +kernel
theorem bridge_bad_include : Generated.ERR_BAD_INCLUDE = bytesOfString "cannot open include file" := by
  decide +kernel
theorem bridge_separator : Generated.FILE_SEPARATOR = [47] := by decide

/-- The include machinery of the compiled scanner is the catalogued one: the translator
re-reads the `case N:` bodies of lib/scanner.c on every run; the `@include` rule (start of a
line only) switches to the INCLUDE start condition, the closing quote there runs the
directive action, and the `<<EOF>>` action shared by all start conditions (next file of the
frame, else pop, else end of input) has the catalogued text.  An edited action makes this
false. -/
theorem C10_actions :
    Generated.scanActions.getD 22 .unknown = .begin Generated.SC_INCLUDE ∧
    Generated.scanActions.getD 27 .unknown = .includeDirective Generated.tokens.error ∧
    Generated.scanner.eofActionKnown = true := by decide

/-! ### the depth limit -/

/-- below the limit the depth test of the directive action fails -/
theorem below_depth {n : Nat} (h : n < 10) : (n == Generated.MAX_INCLUDE_DEPTH) = false := by
  rw [bridge_max_depth]
  exact beq_false_of_ne (Nat.ne_of_lt h)

/-- **Depth limit, refusing side.**  An include directive met with 10 frames on the stack
fails with "include file nesting too deep", located at the file and line of the directive;
nothing is opened and the stack is unchanged. -/
theorem C10_depth_limit (T : FlexTables) (acts : List ScanAct) (w : World) (ic : IncludeCfg) (fuel : Nat)
    (s : ScanState) (rule len errTok : Nat) (h : AtDirective T acts s rule len errTok)
    (hd : s.stack.length = 10) :
    yylex T acts w ic (fuel + 1) s =
      (consumed T s rule len,
       .includeError errTok (bytesOfString "include file nesting too deep")
         s.currentFilename (consumed T s rule len).buf.lineno) := by
  rw [yylex, h.1, ← bridge_too_deep]
  have hdp : (s.stack.length == Generated.MAX_INCLUDE_DEPTH) = true := by
    rw [hd, bridge_max_depth]; rfl
  simp only [h.2, hdp, ↓reduceIte, consumed]
  rfl

/-- **Depth limit, accepting side.**  With fewer than 10 frames, when the include function
returns a non-empty list whose first file can be opened, a frame holding that list is
pushed (the parent buffer is remembered), the file names are recorded, and scanning
continues in a fresh buffer on the file's content, in the INITIAL start condition. -/
theorem C10_push (T : FlexTables) (acts : List ScanAct) (w : World) (ic : IncludeCfg) (fuel : Nat)
    (s : ScanState) (rule len errTok : Nat) (h : AtDirective T acts s rule len errTok)
    (hd : s.stack.length < 10) (p : Bytes) (ps : List Bytes) (content : Bytes)
    (hfn : includeFnEval ic.fn ic.dir (cstr s.str) = (some (p :: ps), none))
    (hopen : w.open? p = some content) :
    yylex T acts w ic (fuel + 1) s =
      yylex T acts w ic fuel
        { consumed T s rule len with
          sc := Generated.SC_INITIAL
          buf := { rest := content }
          filenames := s.filenames ++ (p :: ps)
          stack := { files := p :: ps, cur := 0, parent := (consumed T s rule len).buf } :: s.stack
          events := s.events ++ [.fopen p true, .newBuf] } := by
  rw [yylex, h.1]
  simp only [h.2, below_depth hd, hfn, nextIncludeFile, hopen, List.getElem?_cons_zero, Bool.false_eq_true,
    ↓reduceIte, List.append_nil, List.append_assoc, List.cons_append, List.nil_append, consumed]
  rfl

/-! ### the error exits -/

/-- **Missing target (first file of a directive).**  The error is "cannot open include
file"; the frame is popped again, so the error names the *including* file and the line of
the directive. -/
theorem C10_missing_first (T : FlexTables) (acts : List ScanAct) (w : World) (ic : IncludeCfg) (fuel : Nat)
    (s : ScanState) (rule len errTok : Nat) (h : AtDirective T acts s rule len errTok)
    (hd : s.stack.length < 10) (p : Bytes) (ps : List Bytes)
    (hfn : includeFnEval ic.fn ic.dir (cstr s.str) = (some (p :: ps), none))
    (hopen : w.open? p = none) :
    yylex T acts w ic (fuel + 1) s =
      ({ consumed T s rule len with
          filenames := s.filenames ++ (p :: ps)
          events := s.events ++ [.fopen p false] },
       .includeError errTok (bytesOfString "cannot open include file")
         s.currentFilename (consumed T s rule len).buf.lineno) := by
  rw [yylex, h.1]
  rw [← bridge_bad_include]
  simp only [h.2, below_depth hd, hfn, nextIncludeFile, hopen, List.getElem?_cons_zero, Bool.false_eq_true,
    ↓reduceIte, List.append_nil, consumed]
  rfl

/-- **Include-function error.**  The function's message becomes the error text, located at
the directive. -/
theorem C10_fn_error (T : FlexTables) (acts : List ScanAct) (w : World) (ic : IncludeCfg) (fuel : Nat)
    (s : ScanState) (rule len errTok : Nat) (h : AtDirective T acts s rule len errTok)
    (hd : s.stack.length < 10) (files : Option (List Bytes)) (e : Bytes)
    (hfn : includeFnEval ic.fn ic.dir (cstr s.str) = (files, some e)) :
    yylex T acts w ic (fuel + 1) s =
      (consumed T s rule len,
       .includeError errTok e s.currentFilename (consumed T s rule len).buf.lineno) := by
  rw [yylex, h.1]
  simp only [h.2, below_depth hd, hfn, Bool.false_eq_true, ↓reduceIte, consumed]
  rfl

/-- **NULL without error, or an empty list: the directive is skipped** — nothing is
pushed, opened or recorded; scanning continues behind the directive. -/
theorem C10_empty_list (T : FlexTables) (acts : List ScanAct) (w : World) (ic : IncludeCfg) (fuel : Nat)
    (s : ScanState) (rule len errTok : Nat) (h : AtDirective T acts s rule len errTok)
    (hd : s.stack.length < 10)
    (hfn : includeFnEval ic.fn ic.dir (cstr s.str) = (none, none) ∨
           includeFnEval ic.fn ic.dir (cstr s.str) = (some [], none)) :
    yylex T acts w ic (fuel + 1) s =
      yylex T acts w ic fuel { consumed T s rule len with sc := Generated.SC_INITIAL } := by
  rw [yylex, h.1]
  rcases hfn with hfn | hfn <;>
  · simp only [h.2, below_depth hd, hfn, Bool.false_eq_true, ↓reduceIte, consumed]
    rfl

/-! ### order of the files of a frame; frames are LIFO; one line counter per buffer -/

/-- `libconfig_scanctx_next_include_file`: the first call on a frame selects file 0, every
later call moves from file `cur` to file `cur + 1`; the content handed to the scanner is
that file's. -/
theorem C10_order (w : World) (s : ScanState) (first : Bool) (f : Frame) (fs : List Frame)
    (hst : s.stack = f :: fs) :
    (nextIncludeFile w s first).1.stack = { f with cur := if first then 0 else f.cur + 1 } :: fs ∧
    (nextIncludeFile w s first).2.1 =
      (f.files[if first then 0 else f.cur + 1]?).bind w.open? := by
  unfold nextIncludeFile
  rw [hst]
  simp only
  cases hf : f.files[if first then 0 else f.cur + 1]? with
  | none => exact ⟨rfl, rfl⟩
  | some p =>
    simp only [Option.bind_some]
    cases hw : w.open? p <;> exact ⟨rfl, rfl⟩

/-- **End of an included file, more files in the frame**: the next file of the list, in
list order, is scanned in a fresh buffer (line 1, beginning of line); the finished file is
closed and its buffer deleted. -/
theorem C10_next_file (T : FlexTables) (acts : List ScanAct) (w : World) (ic : IncludeCfg) (fuel : Nat)
    (s : ScanState) (f : Frame) (fs : List Frame) (p q content : Bytes)
    (heof : Flex.next T s.sc s.buf.bol s.buf.rest = none) (hst : s.stack = f :: fs)
    (hcur : f.files[f.cur]? = some p) (hnext : f.files[f.cur + 1]? = some q)
    (hopen : w.open? q = some content) :
    yylex T acts w ic (fuel + 1) s =
      yylex T acts w ic fuel
        { s with
          buf := { rest := content }
          stack := { f with cur := f.cur + 1 } :: fs
          events := s.events ++ [.fclose p, .fopen q true, .delBuf, .newBuf] } := by
  rw [yylex_eof_next heof hst hnext hopen]
  simp only [closeEv, hcur, List.append_assoc, List.cons_append, List.nil_append]

/-- **End of the last file of a frame: frames are LIFO and the parent's line counter is
restored** — the innermost frame is popped and scanning resumes in the parent buffer
exactly as it was left behind the directive (rest of the input, line number, BOL flag). -/
theorem C10_pop (T : FlexTables) (acts : List ScanAct) (w : World) (ic : IncludeCfg) (fuel : Nat)
    (s : ScanState) (f : Frame) (fs : List Frame) (p : Bytes)
    (heof : Flex.next T s.sc s.buf.bol s.buf.rest = none) (hst : s.stack = f :: fs)
    (hcur : f.files[f.cur]? = some p) (hnext : f.files[f.cur + 1]? = none) :
    yylex T acts w ic (fuel + 1) s =
      yylex T acts w ic fuel
        { s with buf := f.parent, stack := fs, events := s.events ++ [.fclose p, .delBuf] } := by
  rw [yylex_eof_pop heof hst hnext]
  simp only [closeEv, hcur, List.append_assoc, List.cons_append, List.nil_append]

/-- **Missing target (a later file of a multi-path directive) — the recorded deviation
`C10:missing-non-first-file-location`.**  The error text is the documented one, but the
frame stays, so the file reported is the unopenable file itself and the line is the line
counter of the buffer that has just ended (the previous file's line count), not the
position of the directive. -/
theorem C10_missing_later (T : FlexTables) (acts : List ScanAct) (w : World) (ic : IncludeCfg) (fuel : Nat)
    (s : ScanState) (f : Frame) (fs : List Frame) (p q : Bytes)
    (heof : Flex.next T s.sc s.buf.bol s.buf.rest = none) (hst : s.stack = f :: fs)
    (hcur : f.files[f.cur]? = some p) (hnext : f.files[f.cur + 1]? = some q)
    (hopen : w.open? q = none) :
    yylex T acts w ic (fuel + 1) s =
      ({ s with
          stack := { f with cur := f.cur + 1 } :: fs
          events := s.events ++ [.fclose p, .fopen q false] },
       .includeError Generated.tokens.error (bytesOfString "cannot open include file")
         (some q) s.buf.lineno) := by
  rw [yylex, heof, ← bridge_bad_include]
  simp only [hst, nextIncludeFile, hcur, hnext, hopen, Bool.false_eq_true, ↓reduceIte,
    List.append_assoc, List.cons_append, List.nil_append, ScanState.currentFilename]

/-- **One line counter per buffer**: the buffer a frame is pushed with starts at line 1 at
the beginning of a line, whatever the line of the directive … -/
theorem C10_lineno_per_buffer (content : Bytes) :
    ({ rest := content } : Buf).lineno = 1 ∧ ({ rest := content } : Buf).bol = true := ⟨rfl, rfl⟩

/-- … and the directive itself (matched text without a newline, as the closing quote is)
does not advance the line counter that is saved in the frame and restored by `C10_pop`. -/
theorem C10_directive_line (T : FlexTables) (s : ScanState) (rule len : Nat)
    (h : countNl (s.buf.rest.take len) = 0) :
    (consumed T s rule len).buf.lineno = s.buf.lineno ∧
    (consumed T s rule len).currentFilename = s.currentFilename :=
  ⟨consumed_lineno T s rule len h, rfl⟩

/-! ### path resolution of the default include function -/

/-- relative path and an include directory: `dir/path`; absolute path (leading `/`) or no
include directory: the path as written.  Always exactly one file. -/
theorem C10_paths (dir : Option Bytes) (path : Bytes) :
    includeFnEval 0 dir path =
      (some [match dir with
             | some d => if path.head? = some 47 then path else d ++ [47] ++ path
             | none => path], none) := by
  unfold includeFnEval
  simp only [beq_self_eq_true, ↓reduceIte, bridge_separator]
  cases dir with
  | none => rfl
  | some d =>
    by_cases hp : path.head? = some 47 <;> simp [hp]

theorem C10_paths_relative (d path : Bytes) (h : path.head? ≠ some 47) :
    includeFnEval 0 (some d) path = (some [d ++ [47] ++ path], none) := by
  rw [C10_paths]; simp [h]

theorem C10_paths_absolute (dir : Option Bytes) (path : Bytes) (h : path.head? = some 47) :
    includeFnEval 0 dir path = (some [path], none) := by
  rw [C10_paths]; cases dir <;> simp [h]

theorem C10_paths_no_dir (path : Bytes) : includeFnEval 0 none path = (some [path], none) := by
  rw [C10_paths]

/-! ### provenance -/

/-- **Provenance.**  The action run when a setting's name has been read creates the setting
and records on it the line and file it is given — and the parser loop (`yyparseLoop`,
`reduce`) gives it `s.buf.lineno` and `s.currentFilename`, the scanner's current buffer
line and the current file of the innermost frame (or the top file). -/
theorem C10_provenance_step (ctx ctx' : ParseCtx) (v : TokVal) (line : Nat) (file : Option Bytes)
    (h : runAction .settingName ctx v line file = .ok ctx') :
    ∃ sp n, ctx'.setting = some sp ∧ ctx'.cfg.root.get? sp = some n ∧ n.line = line ∧ n.file = file := by
  have he := runAction_effect ctx v line file .settingName
  rw [h] at he
  cases he with
  | @named pp pn pn' i log _ hpn hadd =>
    obtain ⟨k, hk⟩ := add_last hadd
    obtain ⟨hi, rfl⟩ := List.getElem?_eq_some_iff.mp hk
    refine ⟨pp ++ [i], C04R.cap line file pn'.kids[i], rfl, ?_, rfl, rfl⟩
    show (ctx.cfg.root.modify _ pp).get? (pp ++ [i]) = _
    rw [get?_append, C05P.get?_modify_self, hpn]
    simp [Node.editKid, modify_cons, modify_nil, get?_cons, get?_nil, hi]
  | piece hp => exact hp.elim nofun nofun
  | opened hty | retyped hty | elem hty | assigned hty => cases hty

/-- what the parser hands to the actions: the current file is the current entry of the
innermost frame, or the top file outside any include -/
theorem C10_current_file (s : ScanState) :
    s.currentFilename = (match s.stack with
      | f :: _ => f.files[f.cur]?
      | [] => s.topFile) := rfl

/-! ### the end-to-end statement, first formulation (the theorem is `C10_splice` in
Properties/C10Splice.lean) -/

mutual
/-- a tree without source positions -/
def stripPos : Node → Node
  | .mk name ty fmt ival fval sval kids hook _ _ => .mk name ty fmt ival fval sval (stripPosList kids) hook 0 none
def stripPosList : List Node → List Node
  | [] => []
  | k :: ks => stripPos k :: stripPosList ks
end

def skipBlanks (l : Bytes) : Bytes := l.dropWhile fun c => c == 32 || c == 9

/-- A directive line as the documented pattern `^[ \t]*@include[ \t]+"path"` sees it (paths
without backslash escapes): the path and the rest of the line behind the closing quote. -/
def directive? (line : Bytes) : Option (Bytes × Bytes) :=
  let l := skipBlanks line
  if (bytesOfString "@include").isPrefixOf l then
    let r := l.drop 8
    let r' := skipBlanks r
    if r'.length < r.length then
      match r' with
      | 34 :: q =>
        let path := q.takeWhile fun c => c != 34 && c != 92
        match q.drop path.length with
        | 34 :: rest => some (path, rest)
        | _ => none
      | _ => none
    else none
  else none

/-- Textual inlining: every directive line is replaced — from the start of the line to the
closing quote — by the contents of the files the include function names, in order, each
spliced in turn; `fuel` bounds the nesting. -/
def splice (w : World) (ic : IncludeCfg) : Nat → Bytes → Bytes
  | 0, text => text
  | fuel + 1, text =>
    [10].intercalate ((text.splitOn 10).map fun line =>
      match directive? line with
      | some (path, rest) =>
        match includeFnEval ic.fn ic.dir path with
        | (some files, none) => (files.flatMap fun p => splice w ic fuel ((w.open? p).getD [])) ++ rest
        | _ => rest
      | none => line)

/-- no line of the text is a directive any more -/
def noDirective (text : Bytes) : Bool := (text.splitOn 10).all fun line => (directive? line).isNone

def hasInfix (a b : Bytes) : Bool := (List.range (b.length + 1)).any fun i => a.isPrefixOf (b.drop i)

/-- Lines on which text-level recognition of directives and the scanner's agree: no string
and no block comment is open across a line end (no `"` outside directives, no `/*`). -/
def plainLine (line : Bytes) : Bool :=
  match directive? line with
  | some (_, rest) => !rest.contains 34 && !hasInfix (bytesOfString "/*") rest
  | none => !line.contains 34 && !hasInfix (bytesOfString "/*") line

/-- The include tree below `text` is well-formed down to `depth` levels: the include
function reports no error, every named file exists, every file consists of plain lines,
and every file of a multi-path directive except the last is empty or newline-terminated. -/
def IncludeTreeOK (w : World) (ic : IncludeCfg) : Nat → Bytes → Prop
  | 0, text => (text.splitOn 10).all plainLine = true ∧ noDirective text = true
  | depth + 1, text =>
    (text.splitOn 10).all plainLine = true ∧
    ∀ line ∈ text.splitOn 10, ∀ path rest, directive? line = some (path, rest) →
      ∃ files, includeFnEval ic.fn ic.dir path = (some files, none) ∧
        (∀ p ∈ files, ∃ content, w.open? p = some content ∧ IncludeTreeOK w ic depth content) ∧
        (∀ p ∈ files.dropLast, ∀ content, w.open? p = some content →
          content = [] ∨ content.getLast? = some 10)

/-- **@include = textual inlining** (first formulation — refuted, see the header and
Properties/C10Splice.lean; decided dynamically by the direct
oracle of `tools/props_c1011.py`, which compares `config_read_file(top)` with
`config_read_string(spliced text)` on generated include trees — cut at line boundaries,
fan-out 0–5, depth 0–12, more than 32 files, empty files, files without trailing newline,
files ending inside a group opened by the parent, with and without include directory,
default and custom include functions).

For an include tree of at most 10 levels (`IncludeTreeOK`), reading the top file and
reading the spliced text give the same outcome and the same configuration up to the
recorded source positions. -/
def C10_spliceStatement : Prop :=
  ∀ (w : World) (c : Config) (top content : Bytes) (fuel : Nat),
    w.open? top = some content →
    (∀ b ∈ splice w { fn := c.includeFn, dir := c.includeDir } 11 content, b ≠ 0) →
    IncludeTreeOK w { fn := c.includeFn, dir := c.includeDir } 10 content →
    let a := read w c (.file top) fuel
    let b := read w c (.string (splice w { fn := c.includeFn, dir := c.includeDir } 11 content)) fuel
    a.result ≠ .outOfFuel → b.result ≠ .outOfFuel →
    a.ok = b.ok ∧ stripPos a.cfg.root = stripPos b.cfg.root

/-! ### non-vacuity: the laws on a concrete three-file tree, evaluated by the kernel -/

private def wEx : World :=
  { files := [(bytesOfString "t", some (bytesOfString "a = 1;\n@include \"i\"\nc = 3;\n")),
              (bytesOfString "d/i", some (bytesOfString "b = 2;\n  @include \"/j\"\n")),
              (bytesOfString "/j", some (bytesOfString "g = { x = 1; };"))] }

private def cEx : Config := { Config.init with includeDir := some (bytesOfString "d") }

/-- the hypotheses of the one-step theorems are met by the translated tables: on a closing
quote in the INCLUDE start condition the next match is the directive action -/
example : ∃ rule errTok, AtDirective Generated.scanner Generated.scanActions
    { sc := Generated.SC_INCLUDE, buf := { rest := bytesOfString "\"\nx" }, str := bytesOfString "f" }
    rule 1 errTok := ⟨27, 277, by unfold AtDirective; decide +kernel⟩

/-- reading the tree = reading the spliced text (same written form), and the provenance of
each setting is the file and line it was written in -/
example :
    let a := read wEx cEx (.file (bytesOfString "t")) 10000
    let spl := splice wEx { fn := 0, dir := some (bytesOfString "d") } 11
      (bytesOfString "a = 1;\n@include \"i\"\nc = 3;\n")
    let b := read wEx cEx (.string spl) 10000
    spl = bytesOfString "a = 1;\nb = 2;\ng = { x = 1; };\n\nc = 3;\n" ∧
    a.ok = true ∧ b.ok = true ∧
    a.cfg.write Generated.FLOAT_BUF_SIZE = b.cfg.write Generated.FLOAT_BUF_SIZE ∧
    a.cfg.root.kids.map (fun k => (k.name, k.line, k.file)) =
      [(some (bytesOfString "a"), 1, some (bytesOfString "t")),
       (some (bytesOfString "b"), 1, some (bytesOfString "d/i")),
       (some (bytesOfString "g"), 1, some (bytesOfString "/j")),
       (some (bytesOfString "c"), 3, some (bytesOfString "t"))] := by
  decide +kernel

end Libconfig.C10
