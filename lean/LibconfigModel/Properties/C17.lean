import LibconfigModel.Cpp
import LibconfigModel.Properties.C06
import LibconfigModel.Properties.C09
import LibconfigModel.Properties.C16
import LibconfigModel.Proofs.C17
import LibconfigModel.Proofs.C04
import LibconfigModel.Properties.C07
/-
  C17 — the C++ API agrees with the C API and honours its exception contract.
-/
namespace Libconfig.C17

open Libconfig.Cpp Libconfig.C17P

/-! ### A. Conversion operators: the C getter, mapped through the documented exception table -/

theorem C17_cast_int (auto : Bool) (n : Node) :
    castVal .int auto n =
      match n.getInt auto with
      | some v => .ok (.int v)
      | none => if n.ty = T_INT64 then .error rangeErr else .error typeErr := by
  simp only [castVal, castInt]
  by_cases h3 : n.ty = T_INT64
  · rw [if_pos (beq_iff_eq.2 h3), if_pos h3, cGetInt64_int64 h3, out_of_int, Node.getInt, h3]
    cases fits32 n.ival <;> rfl
  · rw [if_neg (mt beq_iff_eq.1 h3), if_neg h3, assertType_getInt h3, cGetInt]
    cases n.getInt auto <;> rfl


/-- `operator long long` = `config_setting_lookup_int64`; failure is a SettingTypeException -/
theorem C17_cast_int64 (auto : Bool) (n : Node) :
    castVal .int64 auto n =
      match n.getInt64 auto with
      | some v => .ok (.int v)
      | none => .error typeErr := by
  simp only [castVal, castInt64]
  by_cases h2 : n.ty = T_INT
  · rw [if_pos (beq_iff_eq.2 h2), cGetInt_int h2, Node.getInt64, h2]; rfl
  · rw [if_neg (mt beq_iff_eq.1 h2), assertType_getInt64 h2, cGetInt64]
    cases n.getInt64 auto <;> rfl

/-- `operator unsigned int`: a 64-bit setting must hold a value in [0, UINT_MAX]; anything else
goes through `config_setting_lookup_int` and must not be negative -/
theorem C17_cast_uint (auto : Bool) (n : Node) :
    castVal .uint auto n =
      if n.ty = T_INT64 then
        (if 0 ≤ n.ival ∧ n.ival ≤ 4294967295 then .ok (.int n.ival) else .error rangeErr)
      else
        match n.getInt auto with
        | some v => if v < 0 then .error rangeErr else .ok (.int v)
        | none => .error typeErr := by
  simp only [castVal, castUInt]
  by_cases h3 : n.ty = T_INT64
  · have hr : (decide (n.ival < 0) || decide (n.ival > UINT_MAX)) =
        !decide (0 ≤ n.ival ∧ n.ival ≤ 4294967295) := by
      simp only [Bool.decide_and, Bool.not_and, ← decide_not, Int.not_le, gt_iff_lt, UINT_MAX]
    rw [if_pos (beq_iff_eq.2 h3), if_pos h3, cGetInt64_int64 h3, hr]
    by_cases hv : 0 ≤ n.ival ∧ n.ival ≤ 4294967295
    · rw [if_pos hv, decide_eq_true hv]; rfl
    · rw [if_neg hv, decide_eq_false hv]; rfl
  · rw [if_neg (mt beq_iff_eq.1 h3), if_neg h3, assertType_getInt h3, cGetInt]
    cases n.getInt auto <;> rfl

/-- `operator unsigned long long` = `config_setting_lookup_int64`, negative values are out of range -/
theorem C17_cast_uint64 (auto : Bool) (n : Node) :
    castVal .uint64 auto n =
      match n.getInt64 auto with
      | some v => if v < 0 then .error rangeErr else .ok (.int v)
      | none => .error typeErr := by
  simp only [castVal, castUInt64]
  by_cases h2 : n.ty = T_INT
  · rw [if_pos (beq_iff_eq.2 h2), cGetInt_int h2, Node.getInt64, h2]; rfl
  · rw [if_neg (mt beq_iff_eq.1 h2), assertType_getInt64 h2, cGetInt64]
    cases n.getInt64 auto <;> rfl

/-- on LP64 `long` is `long long` -/
theorem C17_cast_long (auto : Bool) (n : Node) :
    castVal .long auto n = castVal .int64 auto n ∧ castVal .ulong auto n = castVal .uint64 auto n :=
  ⟨rfl, rfl⟩

/-- `operator double` = `config_setting_lookup_float` -/
theorem C17_cast_double (auto : Bool) (n : Node) :
    castVal .double auto n =
      match n.getFloat auto with
      | some b => .ok (.dbl b)
      | none => .error typeErr := by
  simp only [castVal, castDouble, assertType_getFloat, cGetFloat]
  cases n.getFloat auto <;> rfl

/-- `operator float`: the same value rounded to binary32 -/
theorem C17_cast_float (auto : Bool) (n : Node) :
    castVal .float auto n =
      match n.getFloat auto with
      | some b => .ok (.dbl (F64.roundToF32 b))
      | none => .error typeErr := by
  simp only [castVal, castFloat, assertType_getFloat, cGetFloat]
  cases n.getFloat auto <;> rfl

/-- `operator bool` = `config_setting_lookup_bool` (no conversion from numbers, whatever the
auto-convert flag) -/
theorem C17_cast_bool (auto : Bool) (n : Node) :
    castVal .bool auto n =
      match typedGet .bool auto n with
      | some (.int v) => .ok (.bool (v != 0))
      | _ => .error typeErr := by
  simp only [castVal, castBool, assertType_eq (want := T_BOOL) rfl, typedGet, Node.getBool]
  cases n.ty == T_BOOL <;> rfl

/-- `operator const char *` = `config_setting_lookup_string` (NULL stays NULL);
`operator std::string` turns NULL into the empty string -/
theorem C17_cast_string (auto : Bool) (n : Node) :
    (castVal .cstr auto n =
      match typedGet .string auto n with
      | some (.str s) => .ok (.cstr s)
      | _ => .error typeErr) ∧
    (castVal .string auto n =
      match typedGet .string auto n with
      | some (.str s) => .ok (.text (s.getD []))
      | _ => .error typeErr) := by
  simp only [castVal, castCStr, castString, assertType_eq (want := T_STRING) rfl, typedGet, Node.getString]
  cases n.ty == T_STRING <;> exact ⟨rfl, rfl⟩

/-- a conversion throws nothing but SettingTypeException(setting) or SettingRangeException(setting) -/
theorem C17_cast_exceptions (k : CKind) (auto : Bool) (n : Node) (e : EKind × Where)
    (h : castVal k auto n = .error e) : e = typeErr ∨ e = rangeErr := by
  refine (?_ : ∀ e, _ = Except.error e → e = typeErr ∨ e = rangeErr) e h
  cases k <;>
    simp only [castVal, castBool, castInt, castUInt, castInt64, castUInt64, castDouble, castFloat, castCStr,
      castString] <;>
    repeat' apply ite_error
  all_goals intro e h; cases h <;> first | exact .inl rfl | exact .inr rfl

/-- non-vacuity: 2^31 in a 64-bit setting is out of range for `int`, in range for `unsigned`;
-1 is out of range for every unsigned type; a string does not convert -/
example : castVal .int false { ty := T_INT64, ival := 2147483648 } = .error rangeErr := by rfl
example : castVal .uint false { ty := T_INT64, ival := 2147483648 } = .ok (.int 2147483648) := by rfl
example : castVal .uint64 false { ty := T_INT, ival := -1 } = .error rangeErr := by rfl
example : castVal .double false { ty := T_STRING } = .error typeErr := by rfl
example : castVal .string false { ty := T_STRING } = .ok (.text []) := by rfl
/-- binary32 rounding: 16777217 is a tie and goes to even, 1e300 overflows to +inf, 0.1 gets the
nearest float, 1e-46 underflows to +0, the smallest denormal 2^-149 is kept -/
example : F64.roundToF32 0x4170000010000000 = 0x4170000000000000 := by decide +kernel
example : F64.roundToF32 0x7E37E43C8800759C = 0x7FF0000000000000 := by decide +kernel
example : F64.roundToF32 0x3FB999999999999A = 0x3FB99999A0000000 := by decide +kernel
example : F64.roundToF32 0x366244CE242C5561 = 0 := by decide +kernel
example : F64.roundToF32 0x36A0000000000000 = 0x36A0000000000000 := by decide +kernel


/-! ### B. How a `Setting` member function runs; the path carried by its exceptions -/

/-- Reaching the setting at `p` wraps every setting on the way; the member function then runs on
that setting (the same node, now carrying a wrapper), and an exception is built from the tree as
it is at that moment. -/
theorem C17_settingStep (s : State) (p : Path) (op : SOp) (n : Node) (h : s.cfg.root.get? p = some n) :
    settingStep s p op =
      ((settingBody (s.withRoot (wrapAlong s.cfg.root p)) p (wrapNode n) op).1,
       { res := toRes (wrapAlong s.cfg.root p) p
                  (settingBody (s.withRoot (wrapAlong s.cfg.root p)) p (wrapNode n) op).2.1,
         freed := (settingBody (s.withRoot (wrapAlong s.cfg.root p)) p (wrapNode n) op).2.2 }) := by
  unfold settingStep
  simp only [h]
  have hw : (s.withRoot (wrapAlong s.cfg.root p)).cfg.root.get? p = some (wrapNode n) :=
    C17P.get?_wrapAlong_self p s.cfg.root n h
  simp only [hw]
  rfl

/-- a path that addresses nothing is out of contract -/
theorem C17_settingStep_badOp (s : State) (p : Path) (op : SOp) (h : s.cfg.root.get? p = none) :
    settingStep s p op = (s, { res := .badOp }) := by
  unfold settingStep; simp only [h]

/-- Every exception thrown by a member function of the setting at `p` is one of the four
SettingException classes and carries `getPath()` of that setting plus the suffix of the
constructor used (nothing, `.[idx]`, `.name`) — or the literal text given to
`SettingNotFoundException(const char *)`. -/
theorem C17_exception_path (s : State) (p : Path) (op : SOp) (e : Exc)
    (h : (settingStep s p op).2.res = .exc e) :
    ∃ k w, e = mkExc k (excPath s.cfg.root p w) := by
  obtain ⟨_, k, w, -, -, he⟩ := settingStep_exc h
  exact ⟨k, w, he⟩

/-- the text of the four constructors -/
theorem C17_excPath (root : Node) (p : Path) :
    excPath root p .self = constructPath root p ∧
    (∀ i, excPath root p (.idx i) = constructPath root p ++ [46, 91] ++ intToDec i ++ [93]) ∧
    (∀ nm, excPath root p (.name (some nm)) = constructPath root p ++ [46] ++ nm) ∧
    excPath root p (.name none) = constructPath root p ++ [46] ∧
    (∀ q, excPath root p (.rawPath (some q)) = q) ∧
    excPath root p (.rawPath none) = [] := by
  refine ⟨rfl, ?_, ?_, ?_, ?_, ?_⟩ <;> intros <;> simp [excPath]

/-! ### C. `getPath()` -/

/-- `__constructPath` writes the documented path: names where settings have names, `[index]`
otherwise, joined by dots — the `cppGetPath` of property C06 -/
theorem C17_getPath_text (root : Node) (h : C06.NoEmptyNames root) (p : Path) (txt : Bytes)
    (ht : cppGetPath root p = some txt) : constructPath root p = txt :=
  C17P.constructPath_eq_cppGetPath root h p txt ht

/-- … and looking that text up from the root finds the setting again -/
theorem C17_getPath_resolves (root : Node) (hwf : root.WF) (p : Path) (m : Node) (hne : p ≠ [])
    (hv : root.get? p = some m) (hidx : ∀ i ∈ p, (i : Int) ≤ INT_MAX) :
    lookupFrom root (constructPath root p) = some p := by
  obtain ⟨txt, ht, hl⟩ := C06.C06_getPath root hwf p m hne hv hidx
  rw [C17_getPath_text root (C06.noEmptyNames_of_WF root hwf) p txt ht]
  exact hl

/-- `Setting::getPath()` through the API: never throws, wrappers do not change the text -/
theorem C17_getPath_step (s : State) (p : Path) (n : Node) (h : s.cfg.root.get? p = some n) :
    (settingStep s p .getPath).2.res = .ok (.text (constructPath s.cfg.root p)) := by
  rw [C17_settingStep s p .getPath n h]
  simp only [settingBody, toRes, State.withRoot]
  rw [C17P.constructPath_wrapAlong]

/-- the root's path is empty, a member of the root is its name, an element is `[i]` -/
example : constructPath C06.sample [1, 1, 0, 1] = [97, 98, 46, 91, 49, 93, 46, 120, 45, 121, 46, 91, 49, 93] := by decide
example : constructPath C06.sample [] = [] := by decide


/-! ### D. The exception table -/

/-- the documented exceptions of each member function of a setting `n`: class and constructor -/
def documented (n : Node) : SOp → List (EKind × Where)
  | .cast _ => [(.type, .self), (.range, .self)]
  | .assign _ => [(.type, .self), (.range, .self)]
  | .lookup path => [(.type, .self), (.notFound, .name (some path))]
  | .member name => [(.type, .self), (.notFound, .name name)]
  | .elem i => [(.type, .idx i), (.notFound, .idx i)]
  | .lookupValue _ _ => []
  | .exists_ _ => []
  | .add name _ => [(.type, .self), (.type, .name name), (.name, .name name)]
  | .addElem _ => [(.type, .self), (.type, .idx n.length)]
  | .remove name => [(.type, .self), (.notFound, .name name)]
  | .removeIdx idx => [(.type, .idx (wrap32 idx)), (.notFound, .idx (wrap32 idx))]
  | .info => []
  | .getPath => []
  | .getParent => [(.notFound, .rawPath none)]
  | .setFormat _ => []
  | .iterate => [(.type, .self)]

/-- a member function throws only what is documented for it -/
theorem C17_exception_table (s : State) (p : Path) (n : Node) (op : SOp) (k : EKind) (w : Where)
    (h : (settingBody s p n op).2.1 = .err k w) : (k, w) ∈ documented n op := by
  cases op with
  | cast ck =>
    simp only [settingBody] at h
    split at h
    · cases h
    · split at h
      · cases h
      · rename_i e he
        simp only [SRes.err.injEq] at h
        rcases C17_cast_exceptions ck _ n e he with rfl | rfl <;> simp [documented, typeErr, rangeErr, ← h.1, ← h.2]
  | assign v =>
    simp only [settingBody, assignOutcome] at h
    repeat' split at h
    all_goals (cases h <;> simp [documented])
  | lookup path =>
    simp only [settingBody] at h
    repeat' split at h
    all_goals (cases h <;> simp [documented])
  | member name =>
    simp only [settingBody] at h
    split at h
    · rename_i e he
      simp only [SRes.err.injEq] at h
      unfold memberOf at he
      repeat' split at he
      all_goals (cases he <;> (obtain ⟨rfl, rfl⟩ := h; simp [documented, typeErr]))
    · cases h
  | elem i =>
    simp only [settingBody] at h
    split at h
    · rename_i e he
      simp only [SRes.err.injEq] at h
      unfold elemOf at he
      repeat' split at he
      all_goals (cases he <;> (obtain ⟨rfl, rfl⟩ := h; simp [documented]))
    · cases h
  | lookupValue ck name =>
    simp only [settingBody] at h
    repeat' split at h
    all_goals cases h
  | exists_ name => simp only [settingBody] at h; cases h
  | add name ty =>
    simp only [settingBody] at h
    repeat' split at h
    all_goals (cases h <;> simp [documented])
  | addElem ty =>
    simp only [settingBody] at h
    split at h
    · simp only [SRes.err.injEq] at h; simp [documented, ← h.1, ← h.2]
    · split at h
      · rename_i s0 e hpre
        simp only [SRes.err.injEq] at h
        have : e = (.type, .idx n.length) := by
          split at hpre
          · split at hpre
            · rename_i hlen
              rw [elemOf_zero n (by simpa using hlen)] at hpre
              simp only at hpre
              repeat' split at hpre
              all_goals first | (cases hpre; done) | (cases hpre; rfl) | (simp only [Prod.mk.injEq, Option.some.injEq] at hpre; exact hpre.2.symm)
            · split at hpre
              · simp only [Prod.mk.injEq, Option.some.injEq] at hpre; exact hpre.2.symm
              · cases hpre
          · cases hpre
        subst this
        simp [documented, ← h.1, ← h.2]
      · repeat' split at h
        all_goals cases h
  | remove name =>
    simp only [settingBody] at h
    repeat' split at h
    all_goals (cases h <;> simp [documented])
  | removeIdx idx =>
    simp only [settingBody] at h
    repeat' split at h
    all_goals (cases h <;> simp [documented])
  | info => simp only [settingBody] at h; cases h
  | getPath => simp only [settingBody] at h; cases h
  | getParent =>
    simp only [settingBody] at h
    split at h
    · simp only [SRes.err.injEq] at h; simp [documented, ← h.1, ← h.2]
    · cases h
  | setFormat f => simp only [settingBody] at h; cases h
  | iterate =>
    simp only [settingBody] at h
    split at h
    · simp only [SRes.err.injEq] at h; simp [documented, ← h.1, ← h.2]
    · cases h


/-! ### E. Navigation: the C lookup, NULL mapped to SettingNotFoundException -/

/-- `Setting::lookup(path)` = `config_setting_lookup` -/
theorem C17_lookup (s : State) (p : Path) (n : Node) (path : Bytes) :
    (settingBody s p n (.lookup path)).2.1 =
      if n.ty = T_GROUP then
        match lookupFrom n path with
        | some q => .ok (.setting (p ++ q))
        | none => .err .notFound (.name (some path))
      else .err .type .self := by
  simp only [settingBody, assertGroup]
  by_cases h : n.ty = T_GROUP
  · simp only [h, beq_self_eq_true, Bool.not_true, if_true]
    cases lookupFrom n path <;> simp
  · simp [h]

/-- `Setting::operator[](name)` = `config_setting_get_member` -/
theorem C17_member (s : State) (p : Path) (n : Node) (name : Option Bytes) :
    (settingBody s p n (.member name)).2.1 =
      if n.ty = T_GROUP then
        match name.bind (getMember n) with
        | some m => .ok (.setting (p ++ [m.1]))
        | none => .err .notFound (.name name)
      else .err .type .self := by
  simp only [settingBody, memberOf, assertGroup]
  by_cases h : n.ty = T_GROUP
  · simp only [h, beq_self_eq_true, Bool.not_true, if_true]
    cases name with
    | none => simp
    | some nm =>
      simp only [Option.bind_some]
      cases getMember n nm with
      | none => simp
      | some m => obtain ⟨i, m⟩ := m; simp
  · simp [h, typeErr]

/-- `Setting::operator[](int)` = `config_setting_get_elem` with the index converted to unsigned -/
theorem C17_elem (s : State) (p : Path) (n : Node) (i : Int) :
    (settingBody s p n (.elem i)).2.1 =
      if n.isAggregate then
        match getElem n (toUnsigned i) with
        | some _ => .ok (.setting (p ++ [toUnsigned i]))
        | none => .err .notFound (.idx i)
      else .err .type (.idx i) := by
  simp only [settingBody, elemOf]
  cases h : n.isAggregate with
  | false => simp
  | true =>
    simp only [Bool.not_true, if_true]
    cases getElem n (toUnsigned i) <;> simp

/-- `Setting::exists(name)` ⇔ `config_setting_get_member` ≠ NULL; it never throws -/
theorem C17_exists (s : State) (p : Path) (n : Node) (name : Option Bytes) :
    settingBody s p n (.exists_ name) = (s, .ok (.bool (name.bind (getMember n)).isSome), []) := by
  simp only [settingBody, existsIn]
  cases name with
  | none => simp
  | some nm =>
    by_cases h : n.ty = T_GROUP
    · simp [h]
    · simp [h, getMember]

/-- `Config::lookup(path)` = `config_lookup`; `Config::exists(path)` ⇔ `config_lookup` ≠ NULL -/
theorem C17_config_lookup (s : State) (path : Bytes) :
    (cppStep s (.lookup path)).2.res =
      (match lookupFrom s.cfg.root path with
       | some q => .ok (.setting q)
       | none => .exc (.settingNotFound path)) ∧
    cppStep s (.exists_ path) = (asCpp s, { res := .ok (.bool (lookupFrom s.cfg.root path).isSome) }) := by
  constructor
  · simp only [cppStep, cppStepCore, asCpp]
    cases lookupFrom s.cfg.root path <;> rfl
  · rfl

/-- `getParent()` of the root throws SettingNotFoundException (with an empty path); every other
setting has its parent -/
theorem C17_getParent (s : State) (p : Path) (n : Node) (h : s.cfg.root.get? p = some n) :
    (settingStep s p .getParent).2.res =
      if p = [] then .exc (.settingNotFound []) else .ok (.setting p.dropLast) := by
  rw [C17_settingStep s p .getParent n h]
  simp only [settingBody]
  cases p with
  | nil => simp [toRes, mkExc, excPath]
  | cons i p => simp [toRes]

/-! ### F. Iteration -/

/-- `begin() … end()` visits the positions 0 … n-1 in order, each exactly once, and
dereferencing position `i` yields child `i`; a scalar has no iterators -/
theorem C17_iterate (s : State) (p : Path) (n : Node) :
    (settingBody s p n .iterate).2.1 =
      (if n.isAggregate then .ok (.order (List.range n.kids.length) n.kids.length) else .err .type .self) ∧
    (n.isAggregate = true → ∀ i, i < n.kids.length → elemOf n (i : Int) = .ok i ∧ getElem n i = n.kids[i]?) := by
  constructor
  · simp only [settingBody, C17P.cppIsAggregate_eq, Node.length]
    cases h : n.isAggregate with
    | false => simp [Node.isAggregate] at h ⊢; simp [h]
    | true => simp [Node.isAggregate] at h ⊢; simp [h]
  · intro ha i hi
    have hu : toUnsigned (i : Int) = i := by
      unfold toUnsigned; simp; omega
    have hg : getElem n i = n.kids[i]? := by simp [getElem, ha]
    refine ⟨?_, hg⟩
    simp only [elemOf, ha, hu, hg]
    simp [List.getElem?_eq_getElem hi]

example : (settingBody {} [] { ty := T_LIST, kids := [{ ty := T_INT }, { ty := T_STRING }, { ty := T_INT }] } .iterate).2.1 =
    .ok (.order [0, 1, 2] 3) := by decide


/-! ### G. `lookupValue` and `exists`: never an exception; the output is assigned exactly when the
lookup and the conversion both succeed -/

/-- a member function with an empty exception table never throws -/
theorem C17_never_throws (s : State) (p : Path) (op : SOp) (hd : ∀ n, documented n op = []) (e : Exc) :
    (settingStep s p op).2.res ≠ .exc e := by
  intro he
  obtain ⟨n, k, w, -, hr, -⟩ := settingStep_exc he
  have := C17_exception_table _ p (wrapNode n) op k w hr
  rw [hd] at this
  cases this

/-- `Setting::lookupValue`, `Setting::exists` (and the plain accessors) never throw -/
theorem C17_setting_lookupValue_never_throws (s : State) (p : Path) (e : Exc) :
    (∀ k name, (settingStep s p (.lookupValue k name)).2.res ≠ .exc e) ∧
    (∀ name, (settingStep s p (.exists_ name)).2.res ≠ .exc e) ∧
    (settingStep s p .info).2.res ≠ .exc e ∧ (settingStep s p .getPath).2.res ≠ .exc e :=
  ⟨fun _ _ => C17_never_throws s p _ (fun _ => rfl) e, fun _ => C17_never_throws s p _ (fun _ => rfl) e,
   C17_never_throws s p _ (fun _ => rfl) e, C17_never_throws s p _ (fun _ => rfl) e⟩

theorem cfgLookupValue_res (s : State) (k : CKind) (path : Bytes) :
    (cfgLookupValue s k path).2 =
      match (lookupFrom s.cfg.root path).bind s.cfg.root.get? with
      | none => .found none
      | some m =>
        if castUnspec k (s.cfg.opt OPT_AUTOCONVERT) m then .ok .unspec
        else .found (castVal k (s.cfg.opt OPT_AUTOCONVERT) m).toOption := by
  simp only [cfgLookupValue]
  cases hl : lookupFrom s.cfg.root path with
  | none => simp
  | some q =>
    cases hg : s.cfg.root.get? q with
    | none => simp [hg]
    | some m =>
      simp only [Option.bind_some, hg]
      by_cases hu : castUnspec k (s.cfg.opt OPT_AUTOCONVERT) m = true
      · simp [hu]
      · simp only [hu]
        cases castVal k (s.cfg.opt OPT_AUTOCONVERT) m <;> simp [Except.toOption]

/-- `Config::lookupValue(path, T &)`: false with the output untouched exactly when the path does
not resolve or the conversion of the setting found would throw; otherwise true and the value of
the conversion operator -/
theorem C17_config_lookupValue (s : State) (k : CKind) (path : Bytes) :
    (cppStep s (.lookupValue k path)).2.res =
      match (lookupFrom s.cfg.root path).bind s.cfg.root.get? with
      | none => .found none
      | some m =>
        if castUnspec k (s.cfg.opt OPT_AUTOCONVERT) m then .ok .unspec
        else .found (castVal k (s.cfg.opt OPT_AUTOCONVERT) m).toOption := by
  show (cfgLookupValue (asCpp s) k path).2 = _
  rw [cfgLookupValue_res]
  rfl

/-- `Config::lookupValue` and `Config::exists` never throw -/
theorem C17_config_lookupValue_never_throws (s : State) (k : CKind) (path : Bytes) (e : Exc) :
    (cppStep s (.lookupValue k path)).2.res ≠ .exc e ∧ (cppStep s (.exists_ path)).2.res ≠ .exc e := by
  constructor
  · rw [C17_config_lookupValue]
    repeat' split
    all_goals (intro h; cases h)
  · rw [(C17_config_lookup s path).2]; intro h; cases h

/-- the overloads that have a C counterpart (`config_lookup_int`, `_int64`, `_float`, `_bool`,
`_string`) -/
def counterpart : CKind → Option Kind
  | .int => some .int
  | .int64 => some .int64
  | .long => some .int64
  | .double => some .float
  | .bool => some .bool
  | .cstr => some .string
  | _ => none

/-- the C value as the C++ overload delivers it -/
def ofVal : CKind → Val → CppVal
  | .bool, .int v => .bool (v != 0)
  | _, .int v => .int v
  | _, .float b => .dbl b
  | _, .str s => .cstr s
  | _, .unspec => .unspec

/-- result of a C typed lookup (`none` = CONFIG_FALSE, output untouched) as a `lookupValue` result -/
def lvOfC (k : CKind) : Option Val → SRes
  | none => .found none
  | some .unspec => .ok .unspec
  | some v => .found (some (ofVal k v))

def lvOfCast (k : CKind) (auto : Bool) (m : Node) : SRes :=
  if castUnspec k auto m then .ok .unspec else .found (castVal k auto m).toOption

/-- conversion operator after a successful lookup = the C typed getter -/
theorem cast_agrees (k : CKind) (ck : Kind) (h : counterpart k = some ck) (auto : Bool) (m : Node) :
    lvOfCast k auto m = lvOfC k (typedGet ck auto m) := by
  unfold lvOfCast
  cases k <;> cases h
  · -- bool
    rw [C17_cast_bool]
    unfold typedGet
    cases m.ty == T_BOOL <;> rfl
  · -- int
    rw [C17_cast_int]
    unfold typedGet
    by_cases hu : floatUnspec32 auto m = true
    · rw [if_pos (show castUnspec .int auto m = true from hu), if_pos hu]; rfl
    · rw [if_neg (show ¬ castUnspec .int auto m = true from hu), if_neg hu]
      cases m.getInt auto
      · by_cases h64 : m.ty = T_INT64
        · rw [if_pos h64]; rfl
        · rw [if_neg h64]; rfl
      · rfl
  · -- long
    show (if castUnspec .int64 auto m then SRes.ok .unspec else .found (castVal .int64 auto m).toOption) = _
    rw [C17_cast_int64]
    unfold typedGet
    by_cases hu : floatUnspec64 auto m = true
    · rw [if_pos (show castUnspec .int64 auto m = true from hu), if_pos hu]; rfl
    · rw [if_neg (show ¬ castUnspec .int64 auto m = true from hu), if_neg hu]
      cases m.getInt64 auto <;> rfl
  · -- int64
    rw [C17_cast_int64]
    unfold typedGet
    by_cases hu : floatUnspec64 auto m = true
    · rw [if_pos (show castUnspec .int64 auto m = true from hu), if_pos hu]; rfl
    · rw [if_neg (show ¬ castUnspec .int64 auto m = true from hu), if_neg hu]
      cases m.getInt64 auto <;> rfl
  · -- double
    rw [C17_cast_double]
    simp only [castUnspec, typedGet]
    cases m.getFloat auto <;> rfl
  · -- cstr
    rw [(C17_cast_string auto m).1]
    unfold typedGet
    cases m.ty == T_STRING <;> rfl

/-- `Config::lookupValue(path, int &)` = `config_lookup_int(config, path, &v)`, and likewise for
`long long`, `double`, `bool` and `const char *` -/
theorem C17_config_lookupValue_agrees (s : State) (k : CKind) (ck : Kind) (h : counterpart k = some ck)
    (path : Bytes) :
    (cppStep s (.lookupValue k path)).2.res = toRes s.cfg.root [] (lvOfC k (clookupVal ck s.cfg path)) := by
  rw [C17_config_lookupValue]
  unfold clookupVal
  cases hl : lookupFrom s.cfg.root path with
  | none => rfl
  | some q =>
    simp only [Option.bind_some]
    cases hg : s.cfg.root.get? q with
    | none => rfl
    | some m =>
      simp only
      rw [← cast_agrees k ck h]
      unfold lvOfCast
      split <;> rfl

/-- `Setting::lookupValue(name, T &)`: the member, then the conversion -/
theorem C17_setting_lookupValue (s : State) (p : Path) (n : Node) (k : CKind) (name : Option Bytes) :
    (settingBody s p n (.lookupValue k name)).2.1 =
      match name.bind (getMember n) with
      | none => .found none
      | some m => lvOfCast k (s.cfg.opt OPT_AUTOCONVERT) m.2 := by
  cases name with
  | none => by_cases hg : n.ty = T_GROUP <;> simp [settingBody, memberOf, assertGroup, hg]
  | some nm =>
    simp only [Option.bind_some]
    cases hm : getMember n nm with
    | none => by_cases hg : n.ty = T_GROUP <;> simp [settingBody, memberOf, assertGroup, hg, hm]
    | some im =>
      obtain ⟨i, m⟩ := im
      obtain ⟨hg, hk, _⟩ := C04.getMember_sound n nm i m hm
      simp only [settingBody, memberOf, assertGroup, hg, hm, hk, beq_self_eq_true, Bool.not_true,
        Bool.false_eq_true, if_false, lvOfCast]
      by_cases hu : castUnspec k (s.cfg.opt OPT_AUTOCONVERT) m = true
      · simp [hu]
      · simp only [hu]
        cases castVal k (s.cfg.opt OPT_AUTOCONVERT) m <;> simp [Except.toOption]

/-- `Setting::lookupValue(name, int &)` = `config_setting_lookup_int(setting, name, &v)`, etc. -/
theorem C17_setting_lookupValue_agrees (s : State) (p : Path) (n : Node) (k : CKind) (ck : Kind)
    (h : counterpart k = some ck) (name : Option Bytes) :
    (settingBody s p n (.lookupValue k name)).2.1 = lvOfC k (lookupVal ck (s.cfg.opt OPT_AUTOCONVERT) n name) := by
  rw [C17_setting_lookupValue]
  unfold lookupVal
  cases name with
  | none => rfl
  | some nm =>
    simp only [Option.bind_some]
    cases hm : getMember n nm with
    | none => rfl
    | some im => obtain ⟨i, m⟩ := im; exact cast_agrees k ck h _ m

/-- non-vacuity: a missing path, a mismatching type, a value out of range leave the output
untouched; a fitting value is delivered -/
def lvSample : State :=
  { cfg := { root := { ty := T_GROUP, kids := [{ name := some [97], ty := T_INT64, ival := 4294967296 },
                                                { name := some [98], ty := T_STRING, sval := none }] } } }
example : (cppStep lvSample (.lookupValue .uint [97])).2.res = .found none := by decide
example : (cppStep lvSample (.lookupValue .uint64 [97])).2.res = .found (some (.int 4294967296)) := by decide
example : (cppStep lvSample (.lookupValue .int [122])).2.res = .found none := by decide
example : (cppStep lvSample (.lookupValue .string [98])).2.res = .found (some (.text [])) := by decide
example : (cppStep lvSample (.lookupValue .cstr [98])).2.res = .found (some (.cstr none)) := by decide


/-! ### H. Reading and writing: an exception exactly when the C call returns false -/

/-- `Config::handleError`: (PARSE, file, line, text) ↦ ParseException(file, line, text);
FILE_IO (and anything else) ↦ FileIOException; no error, no exception -/
theorem C17_handleError (c : Config) :
    handleError c =
      if c.errType = ERR_NONE then none
      else if c.errType = ERR_PARSE then some (.parse c.errFile c.errLine c.errText)
      else some .fileIO := by
  unfold handleError; simp only [beq_iff_eq]

theorem cppStep_read (s : State) (src : Source) :
    cppStep s (.read src) =
      ((asCpp s).withCfg (read s.world (asCpp s).cfg src readFuel).cfg,
       { res := if (read s.world (asCpp s).cfg src readFuel).result = .accept then .ok .unit
                else throwIfError (read s.world (asCpp s).cfg src readFuel).cfg,
         freed := (read s.world (asCpp s).cfg src readFuel).dtorLog }) := by
  simp only [cppStep, cppStepCore, step, show (asCpp s).world = s.world from rfl]
  cases (read s.world (asCpp s).cfg src readFuel).result <;> rfl

/-- `readString` / `read` / `readFile`: the configuration and the wrappers deleted are those of
the C call; no exception iff it returned true; on failure a ParseException carrying the file,
line and text the C API reports — or, exactly when the file cannot be opened, a FileIOException -/
theorem C17_read (s : State) (src : Source) :
    (cppStep s (.read src)).1.cfg = (read s.world (asCpp s).cfg src readFuel).cfg ∧
    (cppStep s (.read src)).2.freed = (read s.world (asCpp s).cfg src readFuel).dtorLog ∧
    ((read s.world (asCpp s).cfg src readFuel).ok = true → (cppStep s (.read src)).2.res = .ok .unit) ∧
    ((read s.world (asCpp s).cfg src readFuel).ok = false →
      (cppStep s (.read src)).2.res =
          .exc (.parse (read s.world (asCpp s).cfg src readFuel).cfg.errFile
                       (read s.world (asCpp s).cfg src readFuel).cfg.errLine
                       (read s.world (asCpp s).cfg src readFuel).cfg.errText) ∨
      ((cppStep s (.read src)).2.res = .exc .fileIO ∧ ∃ path, src = .file path ∧ s.world.open? path = none)) := by
  rw [cppStep_read]
  refine ⟨rfl, rfl, ?_, ?_⟩
  · intro hok
    rw [C09P.read_ok, beq_iff_eq] at hok
    simp [hok]
  · intro hok
    have hne : (read s.world (asCpp s).cfg src readFuel).result ≠ .accept := by
      intro h; rw [C09P.read_ok, h] at hok; simp at hok
    simp only [hne, if_false]
    rcases C09.C09_read_failure s.world (asCpp s).cfg src readFuel hok with hp | ⟨hf, hi⟩
    · left
      simp [throwIfError, handleError, hp, ERR_PARSE, ERR_NONE]
    · right
      refine ⟨?_, hf⟩
      have ht : (read s.world (asCpp s).cfg src readFuel).cfg.errType = ERR_FILE_IO := by
        have := congrArg (·.1) hi; simpa [C09.errInfo] using this
      simp [throwIfError, handleError, ht, ERR_PARSE, ERR_NONE, ERR_FILE_IO]

theorem cppStep_writeFile (s : State) (path : Bytes) :
    (cppStep s (.writeFile path)).2.res =
      if (writeFile Generated.FLOAT_BUF_SIZE (asCpp s).cfg { openOk := s.world.canCreate path }).ret then .ok .unit
      else throwIfError (writeFile Generated.FLOAT_BUF_SIZE (asCpp s).cfg { openOk := s.world.canCreate path }).cfg := by
  simp only [cppStep, cppStepCore, step, show (asCpp s).world = s.world from rfl]
  cases (writeFile Generated.FLOAT_BUF_SIZE (asCpp s).cfg { openOk := s.world.canCreate path }).ret <;> rfl

/-- `writeFile`: FileIOException exactly when `config_write_file` returns false -/
theorem C17_writeFile (s : State) (path : Bytes) :
    (cppStep s (.writeFile path)).2.res =
      if (writeFile Generated.FLOAT_BUF_SIZE (asCpp s).cfg { openOk := s.world.canCreate path }).ret then .ok .unit
      else .exc .fileIO := by
  rw [cppStep_writeFile]
  cases hr : (writeFile Generated.FLOAT_BUF_SIZE (asCpp s).cfg { openOk := s.world.canCreate path }).ret with
  | true => rfl
  | false =>
    have h := C09.C09_write_result Generated.FLOAT_BUF_SIZE (asCpp s).cfg { openOk := s.world.canCreate path }
    rw [hr] at h
    have ht : (writeFile Generated.FLOAT_BUF_SIZE (asCpp s).cfg { openOk := s.world.canCreate path }).cfg.errType = ERR_FILE_IO := by
      have := congrArg (·.1) h; simpa [C09.errInfo] using this
    simp [throwIfError, handleError, ht, ERR_PARSE, ERR_NONE, ERR_FILE_IO]

/-- non-vacuity: a syntax error in the second line; a file that does not exist -/
example : (cppStep {} (.read (.file [120]))).2.res = .exc .fileIO := by decide


/-! ### I. Wrapper objects are freed together with their settings -/

/-- one wrapper per setting: `wrapSetting` on a wrapped setting returns the wrapper it finds -/
theorem C17_one_wrapper (n : Node) : wrapNode (wrapNode n) = wrapNode n ∧ (wrapNode n).hook ≠ 0 :=
  ⟨C17P.wrapNode_idem n, C17P.wrapNode_hook_ne n⟩

/-- `remove(name)`: the wrappers hanging on the tree before the call are exactly those deleted by
`ConfigDestructor` during the call plus those still hanging on the tree afterwards — nothing
leaks, nothing is deleted while its setting lives, nothing is deleted twice -/
theorem C17_wrappers_remove (s : State) (p : Path) (n : Node) (name : Option Bytes)
    (hd : s.cfg.destructor = true) :
    (C16.hooks s.cfg.root).Perm
      ((settingBody s p n (.remove name)).2.2 ++ C16.hooks (settingBody s p n (.remove name)).1.cfg.root) := by
  have hc := C16.C16_conservation s (.remove p name) hd rfl
  rw [settingBody_remove]
  split
  · simp
  · exact hc

/-- the same for `remove(idx)` -/
theorem C17_wrappers_removeIdx (s : State) (p : Path) (n : Node) (idx : Nat)
    (hd : s.cfg.destructor = true) :
    (C16.hooks s.cfg.root).Perm
      ((settingBody s p n (.removeIdx idx)).2.2 ++ C16.hooks (settingBody s p n (.removeIdx idx)).1.cfg.root) := by
  have hc := C16.C16_conservation s (.removeElem p idx) hd rfl
  rw [settingBody_removeIdx]
  split
  · simp
  · exact hc

/-- … and for a read, which destroys the old tree (and overridden duplicates) -/
theorem C17_wrappers_read (s : State) (src : Source) :
    (C16.hooks s.cfg.root).Perm
      ((cppStep s (.read src)).2.freed ++ C16.hooks (cppStep s (.read src)).1.cfg.root) := by
  have hc := C16.C16_conservation_read (asCpp s) src rfl
  rw [cppStep_read]
  exact hc

/-- `clear()` and the destruction of the `Config` delete every wrapper -/
theorem C17_wrappers_clear (s : State) :
    (cppStep s .clear).2.freed = C16.hooks s.cfg.root ∧ wrapperCount (cppStep s .clear).1.cfg.root = 0 ∧
    (cppStep s .init).2.freed = C16.hooks s.cfg.root ∧ wrapperCount (cppStep s .init).1.cfg.root = 0 := by
  refine ⟨rfl, ?_, rfl, ?_⟩ <;> rfl

/-- in numbers: wrappers before = wrappers deleted + wrappers after -/
theorem C17_wrapper_count (s : State) (p : Path) (n : Node) (name : Option Bytes) (idx : Nat)
    (hd : s.cfg.destructor = true) :
    wrapperCount s.cfg.root =
      (settingBody s p n (.remove name)).2.2.length + wrapperCount (settingBody s p n (.remove name)).1.cfg.root ∧
    wrapperCount s.cfg.root =
      (settingBody s p n (.removeIdx idx)).2.2.length + wrapperCount (settingBody s p n (.removeIdx idx)).1.cfg.root := by
  constructor
  · have := (C17_wrappers_remove s p n name hd).length_eq
    simpa [wrapperCount, C16.hooks] using this
  · have := (C17_wrappers_removeIdx s p n idx hd).length_eq
    simpa [wrapperCount, C16.hooks] using this

/-- non-vacuity: the list at /0 and its element are wrapped; removing the list through the API
deletes both wrappers (child first) -/
def wrapSample : State :=
  { cfg := { destructor := true, root := { ty := T_GROUP, hook := 1, kids := [
      { name := some [97], ty := T_LIST, hook := 1, kids := [{ ty := T_INT, hook := 1 }, { ty := T_INT }] } ] } } }
example : (cppStep wrapSample (.setting [] (.remove (some [97])))).2.freed = [1, 1] := by decide
example : wrapperCount (cppStep wrapSample (.setting [] (.remove (some [97])))).1.cfg.root = 1 := by decide


/-! ### J. `add(type)`: after the C++ pre-checks `config_setting_add` cannot return NULL -/

/-- `Setting::add(Type)` passes the result of `config_setting_add` to `wrapSetting` unchecked; the
pre-checks it makes on arrays (element type equal to the first element's, or a scalar type for an
empty array) guarantee the result is not NULL — given that the first element of an array is a
scalar, which well-formedness (C04) provides -/
theorem C17_addElem_never_null (dtor ov : Bool) (n : Node) (ty : Nat)
    (hty : n.ty = T_ARRAY ∨ n.ty = T_LIST)
    (hpre : n.ty = T_ARRAY → match n.kids with
        | [] => isScalarCppType ty = true
        | k0 :: _ => ty = cppType k0.ty ∧ isScalarTy (k0.ty : Int) = true) :
    (n.add dtor ov none (toTypeCode ty : Nat)).isSome = true := by
  rcases hty with ha | hl
  · have hp := hpre ha
    cases hkids : n.kids with
    | nil =>
      rw [hkids] at hp
      simp only [isScalarCppType, Bool.or_eq_true, beq_iff_eq] at hp
      apply add_array dtor ov n _ ha
      · rcases hp with (((h | h) | h) | h) | h <;> subst h <;> decide
      · intro k0 ks hk; rw [hkids] at hk; cases hk
    | cons k0 ks =>
      rw [hkids] at hp
      obtain ⟨ht, hs⟩ := hp
      have hs' := hs
      simp only [isScalarTy, Bool.and_eq_true, decide_eq_true_eq] at hs'
      have hrt : toTypeCode ty = k0.ty := by
        have : k0.ty = 2 ∨ k0.ty = 3 ∨ k0.ty = 4 ∨ k0.ty = 5 ∨ k0.ty = 6 := by omega
        subst ht
        rcases this with h | h | h | h | h <;> rw [h] <;> decide
      apply add_array dtor ov n _ ha
      · rw [hrt]; exact hs
      · intro k0' ks' hk; rw [hkids] at hk; cases hk; exact hrt.symm
  · exact add_list dtor ov n _ hl (toTypeCode_le ty)

/-- the array pre-check in a well-formed tree: the first element is a scalar -/
theorem C17_array_first_scalar (n : Node) (h : n.LocalWF) (ha : n.ty = T_ARRAY) (k0 : Node) (ks : List Node)
    (hk : n.kids = k0 :: ks) : isScalarTy (k0.ty : Int) = true :=
  h.arrayScalar ha k0 (by rw [hk]; exact List.mem_cons_self)

/-! ### K. Assignment -/

/-- `operator=`: the type assertion, then the C setter, whose result is ignored -/
theorem C17_assign (s : State) (p : Path) (n : Node) (v : AVal)
    (hu : v.unspec (s.cfg.opt OPT_AUTOCONVERT) n = false) :
    settingBody s p n (.assign v) =
      if assertType (s.cfg.opt OPT_AUTOCONVERT) n v.want then assignOutcome s p v
      else (s, .err .type .self, []) := by
  simp only [settingBody, hu]
  cases assertType (s.cfg.opt OPT_AUTOCONVERT) n v.want <;> simp

/-- with auto-conversion on, assigning a `long long` that does not fit to an `int` setting passes
the type assertion, `config_setting_set_int64` refuses, and the C++ operator signals the failure
with SettingRangeException, leaving the setting unchanged (the silent variant of this was a
defect of the pinned tree, repaired in /repo) -/
theorem C17_assign_out_of_range (s : State) (p : Path) (n : Node) (v : Int)
    (hn : s.cfg.root.get? p = some n) (hty : n.ty = T_INT) (hauto : s.cfg.opt OPT_AUTOCONVERT = true)
    (hv : fits32 v = false) :
    settingBody s p n (.assign (.int64 v)) = (s, .err .range .self, []) := by
  rw [C17_assign s p n _ rfl]
  have ha : assertType (s.cfg.opt OPT_AUTOCONVERT) n (AVal.int64 v).want = true := by
    simp [assertType, isNumberTy, AVal.want, hty, hauto, T_INT, T_INT64, T_FLOAT]
  rw [ha]
  have hnone : n.setInt64 (s.cfg.opt OPT_AUTOCONVERT) v = none := by
    simp [Node.setInt64, hty, hv, T_INT, T_INT64, T_NONE]
  have hres : (step s ((AVal.int64 v).cOp p)).2.res = .flag false := by
    simp only [AVal.cOp, step, setAt, hn, hnone]
  simp only [if_true, assignOutcome, hres]


/-! ### L. Structure: add / remove are the C calls, failure mapped to the documented exception -/

/-- `add(name, type)` = `config_setting_add`; NULL ↦ SettingNameException -/
theorem C17_add (s : State) (p : Path) (n : Node) (name : Option Bytes) (ty : Nat) :
    (settingBody s p n (.add name ty)).2.1 =
      if n.ty = T_GROUP then
        if toTypeCode ty = T_NONE then .err .type (.name name)
        else
          match (step s (.add p name (toTypeCode ty))).2.res with
          | .ptr (some q) => .ok (.setting q)
          | _ => .err .name (.name name)
      else .err .type .self := by
  rw [settingBody_add, assertGroup]
  by_cases hg : n.ty = T_GROUP
  · rw [if_pos hg, hg, if_neg (by decide)]
    by_cases ht : toTypeCode ty = T_NONE
    · rw [if_pos ht, if_pos (beq_iff_eq.2 ht)]
    · rw [if_neg ht, if_neg (mt beq_iff_eq.1 ht)]; rfl
  · rw [if_neg hg, beq_false_of_ne hg]; rfl

/-- `remove(name)` = `config_setting_remove`, `remove(idx)` = `config_setting_remove_elem`;
CONFIG_FALSE ↦ SettingNotFoundException; the state is the C call's -/
theorem C17_remove (s : State) (p : Path) (n : Node) (name : Option Bytes) (idx : Nat) :
    ((settingBody s p n (.remove name)).2.1 =
      if n.ty = T_GROUP then
        (match (step s (.remove p name)).2.res with
         | .flag true => .ok .unit
         | _ => .err .notFound (.name name))
      else .err .type .self) ∧
    ((settingBody s p n (.removeIdx idx)).2.1 =
      if n.isAggregate then
        (match (step s (.removeElem p idx)).2.res with
         | .flag true => .ok .unit
         | _ => .err .notFound (.idx (wrap32 idx)))
      else .err .type (.idx (wrap32 idx))) ∧
    (n.ty = T_GROUP → (settingBody s p n (.remove name)).1 = (step s (.remove p name)).1) ∧
    (n.isAggregate = true → (settingBody s p n (.removeIdx idx)).1 = (step s (.removeElem p idx)).1) := by
  rw [settingBody_remove, settingBody_removeIdx, assertGroup]
  refine ⟨?_, ?_, fun hg => ?_, fun ha => ?_⟩
  · by_cases hg : n.ty = T_GROUP
    · rw [if_pos hg, hg]; rfl
    · rw [if_neg hg, beq_false_of_ne hg]; rfl
  · cases n.isAggregate <;> rfl
  · rw [hg]; rfl
  · rw [ha]; rfl

/-! ### M. Plain accessors and configuration attributes report the C values -/

/-- the two type enumerations are translated faithfully in both directions -/
theorem C17_type_codes (ty : Nat) (h : ty ≤ 8) : toTypeCode (cppType ty) = ty := by
  revert ty; decide

/-- `getType`, `getLength`, `getName`, `getIndex`, `isRoot`, `isGroup` … `isNumber`, `getFormat`,
`getSourceLine`, `getSourceFile` are the C accessors -/
theorem C17_info (c : Config) (p : Path) (n : Node) :
    (infoOf c p n).type = cppType n.ty ∧ (infoOf c p n).length = n.length ∧ (infoOf c p n).name = n.name ∧
    (infoOf c p n).index = indexOfPath p ∧ (infoOf c p n).isRoot = p.isEmpty ∧
    (infoOf c p n).isGroup = (n.ty == T_GROUP) ∧ (infoOf c p n).isArray = (n.ty == T_ARRAY) ∧
    (infoOf c p n).isList = (n.ty == T_LIST) ∧ (infoOf c p n).isString = (n.ty == T_STRING) ∧
    (infoOf c p n).isAggregate = n.isAggregate ∧ (infoOf c p n).isScalar = isScalarTy (n.ty : Int) ∧
    (infoOf c p n).isNumber = isNumberTy n.ty ∧
    (infoOf c p n).format = (if effFormat c n = FMT_HEX then FMT_HEX else FMT_DEFAULT) ∧
    (infoOf c p n).line = n.line ∧ (infoOf c p n).file = n.file := by
  refine ⟨rfl, rfl, rfl, rfl, rfl, cppType_beq TypeGroup (by decide) (by decide) n.ty,
    cppType_beq TypeArray (by decide) (by decide) n.ty, cppType_beq TypeList (by decide) (by decide) n.ty,
    cppType_beq TypeString (by decide) (by decide) n.ty, ?_, cpp_isScalar n.ty, cpp_isNumber n.ty, ?_, rfl, rfl⟩
  · simp only [infoOf, C17P.cppIsAggregate_eq]; rfl
  · simp only [infoOf, beq_iff_eq]

/-- the configuration attributes: every setter is the C setter (on the `Config` object's state),
every getter reads the C field -/
theorem C17_config_attrs (s : State) :
    (∀ n, (cppStep s (.setOptions n)).1 = (step (asCpp s) (.setOptions n)).1) ∧
    (∀ o f, (cppStep s (.setOption o f)).1 = (step (asCpp s) (.setOption o f)).1) ∧
    (∀ f, (cppStep s (.setAutoConvert f)).1 = (step (asCpp s) (.setOption OPT_AUTOCONVERT f)).1) ∧
    (∀ w, (cppStep s (.setTabWidth w)).1 = (step (asCpp s) (.setTabWidth w)).1) ∧
    (∀ n, (cppStep s (.setFloatPrecision n)).1 = (step (asCpp s) (.setFloatPrecision n)).1) ∧
    (∀ d, (cppStep s (.setIncludeDir d)).1 = (step (asCpp s) (.setIncludeDir d)).1) ∧
    (∀ f, (cppStep s (.setDefaultFormat f)).1 =
          (step (asCpp s) (.setDefaultFormat (if f == FMT_HEX then FMT_HEX else FMT_DEFAULT))).1) ∧
    (cppStep s .getOptions).2.res = .ok (.int s.cfg.options) ∧
    (∀ o, (cppStep s (.getOption o)).2.res = .ok (.bool (s.cfg.opt o))) ∧
    (cppStep s .getAutoConvert).2.res = .ok (.bool (s.cfg.opt OPT_AUTOCONVERT)) ∧
    (cppStep s .getTabWidth).2.res = .ok (.int s.cfg.tabWidth) ∧
    (cppStep s .getFloatPrecision).2.res = .ok (.int s.cfg.floatPrecision) ∧
    (cppStep s .getDefaultFormat).2.res = .ok (.int s.cfg.defaultFormat) ∧
    (cppStep s .getIncludeDir).2.res = .ok (.cstr s.cfg.includeDir) ∧
    (cppStep s .write).2.res = .ok (.text ((asCpp s).cfg.write Generated.FLOAT_BUF_SIZE)) :=
  ⟨fun _ => rfl, fun _ _ => rfl, fun _ => rfl, fun _ => rfl, fun _ => rfl, fun _ => rfl, fun _ => rfl,
    rfl, fun _ => rfl, rfl, rfl, rfl, rfl, rfl, rfl⟩

end Libconfig.C17
