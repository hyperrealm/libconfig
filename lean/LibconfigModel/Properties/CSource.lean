import LibconfigModel.Proofs.CSource
/-
  The scalar accessors of lib/libconfig.c, translated from clang's typed AST on
  every run (`Generated/CSource.lean`), executed by the C-subset semantics of
  `CSrc.lean`, refine the hand-written model functions of `Api.lean` — for
  every setting, every stored bit pattern of the `value` union, every option
  word and every argument.  These are the conversion rules of property C07
  (and the format rules C05/C19 rely on) stated about the SOURCE rather than
  about a model tied to it by sampling: a change of one of these function
  bodies that changes behaviour makes the corresponding theorem fail to check.
-/
namespace Libconfig.CSrc
open Libconfig.Generated.CSource

-- some range hypotheses on arguments, true of every C caller, are not needed for the equations
set_option linter.unusedVariables false

/-! ### nothing was left untranslated -/

theorem CS_translated : (all.map (fun f => f.body.hasBad)) = all.map (fun _ => false) := by decide +kernel

theorem CS_inventory : all.map (·.name) =
    ["__config_setting_get_int", "__config_setting_get_int64", "__config_setting_get_float",
     "config_setting_set_int", "config_setting_set_int64", "config_setting_set_float",
     "config_setting_get_bool", "config_setting_set_bool",
     "config_setting_set_format", "config_setting_get_format",
     "config_setting_is_scalar", "config_setting_is_aggregate", "__config_type_is_scalar",
     "config_get_option", "config_set_option", "config_set_options", "config_get_options",
     "config_set_tab_width", "config_get_tab_width",
     "config_set_float_precision", "config_get_float_precision",
     "__config_list_checktype", "config_setting_length"] := rfl

/-! ### getters: `(ok, *value)`; a failing getter leaves `*value` alone -/

theorem CS_get_int (n : Node) (c : Config) (st : St) (h : Rep n c st) :
    exec src_config_setting_get_int.body st =
      match n.getInt (c.opt OPT_AUTOCONVERT) with
      | some v => .returned (some (.i 1)) { st with outs := upd st.outs 1 (.i v) }
      | none => retI 0 st := by
  rw [src_config_setting_get_int, Node.getInt]
  by_cases h2 : n.ty = T_INT
  · rw [h.switch h2 rfl, h2, ← h.int32 (.inl h2)]; rfl
  by_cases h3 : n.ty = T_INT64
  · rw [h.switch h3 rfl, h3, ← h.int64 h3, exec_ite_seq (eval_fits32 rfl)]
    cases hf : fits32 (sint64 st.raw)
    · rfl
    · rw [if_pos rfl, exec_seq_assoc, exec_assign_seq (eval_cast_i32 (v := sint64 st.raw) rfl hf) rfl]
      rfl
  by_cases h4 : n.ty = T_FLOAT
  · rw [h.switch h4 rfl, h4, ← h.float h4, exec_ite_seq h.eval_auto]
    cases c.opt OPT_AUTOCONVERT <;> rfl
  · have hk : n.ty ∉ [T_INT, T_INT64, T_FLOAT] := by simp [h2, h3, h4]
    rw [h.switch_default rfl hk rfl, beq_false_of_ne h2, beq_false_of_ne h3, beq_false_of_ne h4]
    rfl

theorem CS_get_int64 (n : Node) (c : Config) (st : St) (h : Rep n c st) :
    exec src_config_setting_get_int64.body st =
      match n.getInt64 (c.opt OPT_AUTOCONVERT) with
      | some v => .returned (some (.i 1)) { st with outs := upd st.outs 1 (.i v) }
      | none => retI 0 st := by
  rw [src_config_setting_get_int64, Node.getInt64]
  by_cases h3 : n.ty = T_INT64
  · rw [h.switch h3 rfl, h3, ← h.int64 h3]; rfl
  by_cases h2 : n.ty = T_INT
  · rw [h.switch h2 rfl, h2, ← h.int32 (.inl h2),
      exec_assign_seq (eval_cast_i64 rfl (fits64_of_fits32 (fits32_sint32 st.raw))) rfl]
    rfl
  by_cases h4 : n.ty = T_FLOAT
  · rw [h.switch h4 rfl, h4, ← h.float h4, exec_ite_seq h.eval_auto]
    cases c.opt OPT_AUTOCONVERT <;> rfl
  · have hk : n.ty ∉ [T_INT64, T_INT, T_FLOAT] := by simp [h2, h3, h4]
    rw [h.switch_default rfl hk rfl, beq_false_of_ne h2, beq_false_of_ne h3, beq_false_of_ne h4]
    rfl

theorem CS_get_float (n : Node) (c : Config) (st : St) (h : Rep n c st) :
    exec src_config_setting_get_float.body st =
      match n.getFloat (c.opt OPT_AUTOCONVERT) with
      | some b => .returned (some (.i 1)) { st with outs := upd st.outs 1 (.f b) }
      | none => retI 0 st := by
  rw [src_config_setting_get_float, Node.getFloat]
  by_cases h4 : n.ty = T_FLOAT
  · rw [h.switch h4 rfl, h4, ← h.float h4]; rfl
  by_cases h2 : n.ty = T_INT
  · rw [h.switch h2 rfl, h2, ← h.int32 (.inl h2), exec_ite_seq h.eval_auto]
    cases c.opt OPT_AUTOCONVERT <;> rfl
  by_cases h3 : n.ty = T_INT64
  · rw [h.switch h3 rfl, h3, ← h.int64 h3, exec_ite_seq h.eval_auto]
    cases c.opt OPT_AUTOCONVERT <;> rfl
  · have hk : n.ty ∉ [T_FLOAT, T_INT, T_INT64] := by simp [h2, h3, h4]
    rw [h.switch_default rfl hk rfl, beq_false_of_ne h2, beq_false_of_ne h3, beq_false_of_ne h4]
    rfl

theorem CS_get_bool (n : Node) (c : Config) (st : St) (h : Rep n c st) :
    exec src_config_setting_get_bool.body st = retI n.getBool st := by
  rw [src_config_setting_get_bool, Node.getBool]
  refine exec_ret ((eval_cond (eval_eq_nat 6 (h.eval_type rfl))).trans ?_)
  by_cases h6 : n.ty = T_BOOL
  · rw [h6, ← h.int32 (.inr h6)]; rfl
  · rw [beq_false_of_ne h6]; rfl

theorem CS_get_format (n : Node) (c : Config) (st : St) (h : Rep n c st)
    (hf : n.fmt < 65536 ∧ c.defaultFormat < 65536) :
    exec src_config_setting_get_format.body st = retI (effFormat c n) st := by
  have hn : eval st (.cast .integral .i32 (.load (.sf .format) .u16)) = .i (n.fmt : Int) :=
    eval_promote rfl h.fmt hf.1
  have hc : eval st (.cast .integral .i32 (.load (.cf .defaultFormat) .u16)) = .i (c.defaultFormat : Int) :=
    eval_promote rfl h.dfmt hf.2
  rw [src_config_setting_get_format, effFormat]
  refine exec_ret ((eval_cast (eval_cond (eval_ne_nat 0 hn))).trans ?_)
  rw [hn, hc]
  cases n.fmt != 0
  · exact congrArg Val.i (Int.emod_eq_of_lt (Int.natCast_nonneg _) (Int.ofNat_lt.2 hf.2))
  · exact congrArg Val.i (Int.emod_eq_of_lt (Int.natCast_nonneg _) (Int.ofNat_lt.2 hf.1))

/-! ### setters: success stores exactly the model's new setting and nothing else; failure changes nothing -/

theorem CS_set_int (n : Node) (c : Config) (st : St) (h : Rep n c st) (v : Int)
    (hv : fits32 v = true) (harg : st.vars 1 = .i v) :
    match n.setInt (c.opt OPT_AUTOCONVERT) v with
    | some n' => ∃ st', exec src_config_setting_set_int.body st = retI 1 st' ∧ Rep n' c st' ∧ Frame st st'
    | none => exec src_config_setting_set_int.body st = retI 0 st := by
  have hv64 := fits64_of_fits32 hv
  rw [src_config_setting_set_int, Node.setInt]
  by_cases h0 : n.ty = T_NONE
  · rw [h.switch h0 rfl, exec_assign_seq (v := .i 2) rfl rfl, exec_case_seq,
      exec_assign_seq (eval_var (st := { st with sty := u16 2 }) harg) rfl, h0]
    exact ⟨_, rfl, h.set_ival rfl (.inl rfl) (sint32_store _ _ hv), .sf⟩
  by_cases h2 : n.ty = T_INT
  · rw [h.switch h2 rfl, exec_assign_seq (eval_var harg) rfl, h2]
    exact ⟨_, rfl, h.set_ival (h.ty.trans h2) (.inl rfl) (sint32_store _ _ hv), .sf⟩
  by_cases h3 : n.ty = T_INT64
  · rw [h.switch h3 rfl, exec_assign_seq (eval_cast_i64 (eval_var harg) hv64) rfl, h3]
    exact ⟨_, rfl, h.set_llval (h.ty.trans h3) (sint64_u64 _ hv64), .sf⟩
  by_cases h4 : n.ty = T_FLOAT
  · rw [h.switch h4 rfl, exec_ite_seq h.eval_auto, exec_seq_assoc,
      exec_assign_seq (v := .f _) (eval_cast (eval_var harg)) rfl, h4]
    cases c.opt OPT_AUTOCONVERT
    · rfl
    · exact ⟨_, rfl, h.set_fval (h.ty.trans h4), .sf⟩
  · have hk : n.ty ∉ [T_NONE, T_INT, T_INT64, T_FLOAT] := by simp [h0, h2, h3, h4]
    rw [h.switch_default rfl hk rfl, beq_false_of_ne h0, beq_false_of_ne h2,
      beq_false_of_ne h3, beq_false_of_ne h4]
    rfl

theorem CS_set_int64 (n : Node) (c : Config) (st : St) (h : Rep n c st) (v : Int)
    (hv : fits64 v = true) (harg : st.vars 1 = .i v) :
    match n.setInt64 (c.opt OPT_AUTOCONVERT) v with
    | some n' => ∃ st', exec src_config_setting_set_int64.body st = retI 1 st' ∧ Rep n' c st' ∧ Frame st st'
    | none => exec src_config_setting_set_int64.body st = retI 0 st := by
  rw [src_config_setting_set_int64, Node.setInt64]
  by_cases h0 : n.ty = T_NONE
  · rw [h.switch h0 rfl, exec_assign_seq (v := .i 3) rfl rfl, exec_case_seq,
      exec_assign_seq (eval_var (st := { st with sty := u16 3 }) harg) rfl, h0]
    exact ⟨_, rfl, h.set_llval rfl (sint64_u64 _ hv), .sf⟩
  by_cases h3 : n.ty = T_INT64
  · rw [h.switch h3 rfl, exec_assign_seq (eval_var harg) rfl, h3]
    exact ⟨_, rfl, h.set_llval (h.ty.trans h3) (sint64_u64 _ hv), .sf⟩
  by_cases h2 : n.ty = T_INT
  · rw [h.switch h2 rfl, exec_ite_seq (eval_fits32 (eval_var harg)), h2]
    cases hf : fits32 v
    · rfl
    · rw [if_pos rfl, exec_seq_assoc, exec_assign_seq (eval_cast_i32 (eval_var harg) hf) rfl]
      exact ⟨_, rfl, h.set_ival (h.ty.trans h2) (.inl rfl) (sint32_store _ _ hf), .sf⟩
  by_cases h4 : n.ty = T_FLOAT
  · rw [h.switch h4 rfl, exec_ite_seq h.eval_auto, exec_seq_assoc,
      exec_assign_seq (v := .f _) (eval_cast (eval_var harg)) rfl, h4]
    cases c.opt OPT_AUTOCONVERT
    · rfl
    · exact ⟨_, rfl, h.set_fval (h.ty.trans h4), .sf⟩
  · have hk : n.ty ∉ [T_NONE, T_INT64, T_INT, T_FLOAT] := by simp [h0, h2, h3, h4]
    rw [h.switch_default rfl hk rfl, beq_false_of_ne h0, beq_false_of_ne h3,
      beq_false_of_ne h2, beq_false_of_ne h4]
    rfl

theorem CS_set_float (n : Node) (c : Config) (st : St) (h : Rep n c st) (b : Nat)
    (harg : st.vars 1 = .f b) :
    match n.setFloat (c.opt OPT_AUTOCONVERT) b with
    | some n' => ∃ st', exec src_config_setting_set_float.body st = retI 1 st' ∧ Rep n' c st' ∧ Frame st st'
    | none => exec src_config_setting_set_float.body st = retI 0 st := by
  rw [src_config_setting_set_float, Node.setFloat]
  by_cases h0 : n.ty = T_NONE
  · rw [h.switch h0 rfl, exec_assign_seq (v := .i 4) rfl rfl, exec_case_seq,
      exec_assign_seq (eval_var (st := { st with sty := u16 4 }) harg) rfl, h0]
    exact ⟨_, rfl, h.set_fval rfl, .sf⟩
  by_cases h4 : n.ty = T_FLOAT
  · rw [h.switch h4 rfl, exec_assign_seq (eval_var harg) rfl, h4]
    exact ⟨_, rfl, h.set_fval (h.ty.trans h4), .sf⟩
  by_cases h2 : n.ty = T_INT
  · rw [h.switch h2 rfl, exec_ite_seq h.eval_auto, exec_seq_assoc,
      exec_assign_seq (v := .i _) (eval_cast (eval_var harg)) rfl, h2]
    cases c.opt OPT_AUTOCONVERT
    · rfl
    · exact ⟨_, rfl, h.set_ival (h.ty.trans h2) (.inl rfl) (sint32_store _ _ (cast32_fits b)), .sf⟩
  by_cases h3 : n.ty = T_INT64
  · rw [h.switch h3 rfl, exec_ite_seq h.eval_auto, exec_seq_assoc,
      exec_assign_seq (v := .i _) (eval_cast (eval_var harg)) rfl, h3]
    cases c.opt OPT_AUTOCONVERT
    · rfl
    · exact ⟨_, rfl, h.set_llval (h.ty.trans h3) (sint64_u64 _ (cast64_fits b)), .sf⟩
  · have hk : n.ty ∉ [T_NONE, T_FLOAT, T_INT, T_INT64] := by simp [h0, h2, h3, h4]
    rw [h.switch_default rfl hk rfl, beq_false_of_ne h0, beq_false_of_ne h4,
      beq_false_of_ne h2, beq_false_of_ne h3]
    rfl

theorem CS_set_bool (n : Node) (c : Config) (st : St) (h : Rep n c st) (v : Int)
    (hv : fits32 v = true) (harg : st.vars 1 = .i v) :
    match n.setBool v with
    | some n' => ∃ st', exec src_config_setting_set_bool.body st = retI 1 st' ∧ Rep n' c st' ∧ Frame st st'
    | none => exec src_config_setting_set_bool.body st = retI 0 st := by
  rw [src_config_setting_set_bool, Node.setBool, exec_ite_seq (eval_eq_nat 0 (h.eval_type rfl))]
  by_cases h0 : n.ty = T_NONE
  · rw [exec_assign_seq (v := .i 6) rfl rfl,
      exec_assign_seq (eval_var (st := { st with sty := u16 6 }) harg) rfl, h0]
    exact ⟨_, rfl, h.set_ival rfl (.inr rfl) (sint32_store _ _ hv), .sf⟩
  rw [exec_ite_seq (eval_ne_nat 6 (h.eval_type rfl)), exec_skip_seq,
    exec_assign_seq (eval_var harg) rfl]
  by_cases h6 : n.ty = T_BOOL
  · rw [h6]
    exact ⟨_, rfl, h.set_ival (h.ty.trans h6) (.inr rfl) (sint32_store _ _ hv), .sf⟩
  · rw [beq_false_of_ne h0, beq_false_of_ne h6, bne_iff_ne.2 h6]; rfl

theorem CS_set_format (n : Node) (c : Config) (st : St) (h : Rep n c st) (f : Nat)
    (hf : f < 65536) (harg : st.vars 1 = .i f) :
    match n.setFormat f with
    | some n' => ∃ st', exec src_config_setting_set_format.body st = retI 1 st' ∧ Rep n' c st' ∧ Frame st st'
    | none => exec src_config_setting_set_format.body st = retI 0 st := by
  have hty := h.eval_type rfl
  have hfx : eval st (.cast .integral .i32 (.load (.var 1) .u16)) = .i (f : Int) := eval_promote harg rfl hf
  rw [src_config_setting_set_format, Node.setFormat,
    exec_ite_seq (eval_lor (eval_land (eval_ne_nat 2 hty) (eval_ne_nat 3 hty))
      (eval_land (eval_ne_nat 0 hfx) (eval_ne_nat 1 hfx))),
    exec_skip_seq, exec_assign_seq (eval_var harg) rfl]
  cases (n.ty != T_INT && n.ty != T_INT64) || (f != FMT_DEFAULT && f != FMT_HEX)
  · exact ⟨_, rfl, h.set_format (u16_small f hf), .sf⟩
  · rfl

/-! ### classification -/

theorem CS_type_is_scalar (st : St) (t : Int) (harg : st.vars 0 = .i t) :
    exec src_config_type_is_scalar.body st = retI (if isScalarTy t then 1 else 0) st :=
  exec_ret (eval_land (eval_bin (eval_var harg) rfl) (eval_bin (eval_var harg) rfl))

theorem CS_is_scalar (n : Node) (c : Config) (st : St) (h : Rep n c st) :
    exec src_config_setting_is_scalar.body st = retI (if isScalarTy n.ty then 1 else 0) st :=
  exec_ret (by rw [eval, h.eval_type rfl]; rfl)

theorem CS_is_aggregate (n : Node) (c : Config) (st : St) (h : Rep n c st) :
    exec src_config_setting_is_aggregate.body st = retI (if isAggregateTy n.ty then 1 else 0) st :=
  have hty := h.eval_type rfl
  exec_ret (eval_lor (eval_lor (eval_eq_nat 7 hty) (eval_eq_nat 8 hty)) (eval_eq_nat 1 hty))

/-! ### the child list: the guard of array homogeneity, and the length

Both functions dereference `setting->value.list` and `elements[0]`; the semantics answers `stuck`
for a NULL pointer or an index beyond `length`, so these equations also say that the guards in
front of those accesses are sufficient — for every setting, with a NULL list or not. -/

/-- `__config_list_checktype(setting, type)` is `checkType`: true for an empty (or NULL) list and
for a list; otherwise exactly when the FIRST child has that type. `config_setting_add`, the
`set_*_elem` appends and the grammar's array action all go through this one test (C04). -/
theorem CS_list_checktype (n : Node) (st : St) (h : RepKids n st) (t : Nat) (ht : t < 2147483648)
    (harg : st.vars 1 = .i t) :
    exec src_config_list_checktype.body st = retI (if checkType n t then 1 else 0) st := by
  rw [src_config_list_checktype, checkType, exec_ite_seq (eval_lnot (p := st.kids.isSome) rfl)]
  cases hkids : n.kids with
  | nil =>
    rcases h.kids with hk | ⟨hk, -⟩
    · rw [exec_skip_seq, exec_ite_seq (eval_bin (eval_listLen hk) rfl), hk, hkids]; rfl
    · rw [hk]; rfl
  | cons k ks =>
    have hk : st.kids = some (k.ty :: ks.map (·.ty)) := by
      rcases h.kids with hk | ⟨-, he⟩
      · rw [hk, hkids]; rfl
      · rw [hkids] at he; cases he
    have hty : eval st (.cast .integral .i32 (.load (.sf .type) .u16)) = .i (n.ty : Int) :=
      eval_promote rfl h.ty h.tyRange
    have hel : eval st (.cast .integral .i32 (.load (.elemType 0) .u16)) = .i (k.ty : Int) :=
      (eval_cast (eval_elemType hk)).trans
        (congrArg Val.i (wrap32_small _ (h.kidTy k (hkids ▸ List.mem_cons_self))))
    rw [exec_skip_seq, exec_ite_seq (eval_bin (eval_listLen hk) rfl), exec_skip_seq,
      exec_ite_seq (eval_eq_nat 8 hty), exec_skip_seq,
      exec_ret (eval_cond_01 ((eval_bin (op := .eq) (t := .i32) hel (eval_var harg)).trans (congrArg b2i (natCast_beq k.ty t)))), hk]
    cases n.ty == T_LIST <;> rfl

theorem CS_length (n : Node) (st : St) (h : RepKids n st) :
    exec src_config_setting_length.body st = retI n.length st := by
  rw [src_config_setting_length, Node.length, Node.isAggregate, exec_ite_seq (eval_lnot rfl),
    exec_skip_seq, exec_ite_seq (eval_lnot (p := st.kids.isSome) rfl), exec_skip_seq, h.ty]
  cases isAggregateTy n.ty
  · rfl
  rcases h.kids with hk | ⟨hk, he⟩
  · have hl : fits32 (n.kids.map (·.ty)).length = true := by
      rw [List.length_map]; exact (fits32_iff _).2 ⟨by omega, by have := h.len; omega⟩
    rw [exec_ret (eval_cast_i32 (eval_listLen hk) hl), hk, List.length_map]; rfl
  · rw [hk, he]; rfl

/-! ### configuration attributes -/

/-- the body of `config_get_option` computes what the primitive `.call .getOption`
of the semantics assumes (and what `Config.opt` says) -/
theorem CS_get_option (st : St) (k : Int) (hk : fits32 k = true) (ho : st.opts < 4294967296)
    (harg : st.vars 1 = .i k) :
    exec src_config_get_option.body st = retI (if optGet st.opts (u32 k) then 1 else 0) st := by
  refine exec_ret ((eval_bin (eval_bin rfl (eval_var harg)) (eval_var harg)).trans ?_)
  show b2i (sint32 (u32 (sint32 st.opts) &&& u32 k) == k) = b2i (optGet st.opts (u32 k))
  rw [u32_sint32 _ ho, optGet]
  refine congrArg b2i (Bool.eq_iff_iff.2 ?_)
  rw [beq_iff_eq, beq_iff_eq]
  exact sint32_eq_iff (Nat.lt_of_le_of_lt Nat.and_le_right (u32_lt k)) hk

theorem CS_set_option (c : Config) (st : St) (ho : st.opts = c.options) (hr : c.options < 4294967296)
    (k fl : Int) (hk : fits32 k = true) (harg : st.vars 1 = .i k) (hfl : st.vars 2 = .i fl) :
    exec src_config_set_option.body st =
      .normal { st with opts := (c.setOption (u32 k) (fl != 0)).options } := by
  have hr' : st.opts < 4294967296 := ho ▸ hr
  have hku := u32_lt k
  rw [src_config_set_option, exec_ite (eval_var hfl), Config.setOption, ← ho]
  cases fl != 0
  · rw [if_neg nofun, exec_assign (v := .i _) (eval_bin rfl (eval_un (eval_var harg))) rfl]
    show Res.normal
      { st with opts := u32 (sint32 (u32 (sint32 st.opts) &&& u32 (sint32 (4294967295 ^^^ u32 k)))) } = _
    rw [xor_mask32 _ hku, u32_sint32 _ hr', u32_sint32 (_ - _) (by omega),
      u32_sint32 _ (Nat.lt_of_le_of_lt Nat.and_le_left hr'), Nat.mod_eq_of_lt hku]
    rfl
  · rw [if_pos rfl, exec_assign (v := .i _) (eval_bin rfl (eval_var harg)) rfl]
    show Res.normal { st with opts := u32 (sint32 (u32 (sint32 st.opts) ||| u32 k)) } = _
    rw [u32_sint32 _ hr', u32_sint32 _ (Nat.or_lt_two_pow (n := 32) hr' hku)]
    rfl

theorem CS_set_options (st : St) (k : Int) (hk : fits32 k = true) (harg : st.vars 1 = .i k) :
    exec src_config_set_options.body st = .normal { st with opts := u32 k } :=
  exec_assign (eval_var harg) rfl

theorem CS_get_options (st : St) (ho : st.opts < 4294967296) :
    exec src_config_get_options.body st = retI (sint32 st.opts) st := exec_ret rfl

theorem CS_set_tab_width (c : Config) (st : St) (w : Nat) (hw : w < 65536) (harg : st.vars 1 = .i w) :
    exec src_config_set_tab_width.body st = .normal { st with tabw := (c.setTabWidth w).tabWidth } := by
  have hx : eval st (.cast .integral .i32 (.load (.var 1) .u16)) = .i (w : Int) := eval_promote harg rfl hw
  have he : eval st (.cond (.bin .le .i32 (.cast .integral .i32 (.load (.var 1) .u16)) (.lit 15))
      (.cast .integral .i32 (.load (.var 1) .u16)) (.lit 15)) = .i ((if w ≤ 15 then w else 15 : Nat) : Int) := by
    rw [eval_cond (eval_bin hx rfl), hx]
    by_cases h15 : w ≤ 15
    · rw [if_pos (decide_eq_true (show (w : Int) ≤ 15 from Int.ofNat_le.2 h15)), if_pos h15]
    · rw [if_neg (by rw [decide_eq_true_eq]; exact fun h => h15 (Int.ofNat_le.1 h)), if_neg h15]; rfl
  rw [src_config_set_tab_width, Config.setTabWidth,
    exec_assign (eval_cast_u16 he (by split <;> omega)) rfl, u16_small _ (by split <;> omega)]

theorem CS_get_tab_width (st : St) : exec src_config_get_tab_width.body st = retI st.tabw st :=
  exec_ret rfl

theorem CS_set_float_precision (st : St) (d : Nat) (hd : d < 65536) (harg : st.vars 1 = .i d) :
    exec src_config_set_float_precision.body st = .normal { st with prec := d } := by
  rw [src_config_set_float_precision, exec_assign (eval_var harg) rfl, u16_small d hd]

theorem CS_get_float_precision (st : St) : exec src_config_get_float_precision.body st = retI st.prec st :=
  exec_ret rfl

/-! ### the hypotheses are satisfiable, the statements are not vacuous -/

/-- what a run returned and what `*value` holds afterwards -/
def outcome : Res → Option (Int × Val)
  | .returned (some (.i k)) st => some (k, st.outs 1)
  | _ => none

/-- an INT64 setting holding 2^40, auto-conversion off: the translated
`__config_setting_get_int` refuses and leaves `*value` (7) alone, the translated
`__config_setting_get_int64` delivers 2^40 -/
example : outcome (exec src_config_setting_get_int.body
    { sty := 3, raw := 1099511627776, opts := 22, outs := fun _ => .i 7 }) = some (0, .i 7) := by decide
example : outcome (exec src_config_setting_get_int64.body
    { sty := 3, raw := 1099511627776, opts := 22, outs := fun _ => .i 7 }) = some (1, .i 1099511627776) := by decide
example : Rep { ty := T_INT64, ival := 1099511627776 } { options := 22 }
    { sty := 3, raw := 1099511627776, opts := 22, outs := fun _ => .i 7 } := by
  constructor <;> decide

/-- an array holding two ints: an int64 (type 3) is refused, an int (2) accepted; a NULL list accepts anything -/
example : outcome (exec src_config_list_checktype.body
    { sty := 7, kids := some [2, 2], vars := fun _ => .i 3, outs := fun _ => .i 7 }) = some (0, .i 7) := by decide
example : outcome (exec src_config_list_checktype.body
    { sty := 7, kids := some [2, 2], vars := fun _ => .i 2, outs := fun _ => .i 7 }) = some (1, .i 7) := by decide
example : outcome (exec src_config_list_checktype.body
    { sty := 7, kids := none, vars := fun _ => .i 3, outs := fun _ => .i 7 }) = some (1, .i 7) := by decide
example : RepKids { ty := T_ARRAY, kids := [{ ty := T_INT }, { ty := T_INT }] } { sty := 7, kids := some [2, 2] } := by
  constructor <;> simp [T_ARRAY, T_INT]

end Libconfig.CSrc
