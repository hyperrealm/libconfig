import LibconfigModel.Threads
import LibconfigModel.Generated.Inventory
/-
  C14 — independent configurations can be used from different threads concurrently.
  (i) inventories re-extracted from /repo on every run: the only static object the library
  ever writes is the fatal-error function pointer; no imported libc function is on the
  POSIX list of functions that need not be thread-safe;
  (ii) in the footprint model every interleaving gives each thread exactly the results of
  running alone.
-/
namespace Libconfig.C14
open Generated

/-- Every object with static storage duration outside read-only sections is never written
and never has its address taken — except the fatal-error function pointer, which only
`config_set_fatal_error_func` writes (out of scope of the property). -/
theorem C14_statics : ∀ o ∈ staticObjects,
    (o.written = false ∧ o.addressTaken = false) ∨ o.name = "__libconfig_fatal_error_func" := by decide

/-- functions POSIX does not require to be thread-safe (plus `setlocale`, which changes the
process-wide locale) -/
def mtUnsafe : List String :=
  ["setlocale", "localeconv", "strtok", "rand", "srand", "getenv", "putenv", "setenv", "unsetenv", "strerror",
   "asctime", "ctime", "gmtime", "localtime", "tmpnam", "ttyname", "readdir", "getpwnam", "getpwuid", "getgrnam",
   "getgrgid", "gethostbyname", "basename", "dirname", "getopt", "drand48", "lrand48", "mrand48", "ecvt", "fcvt",
   "gcvt", "crypt", "ptsname", "nl_langinfo", "wcstombs", "wctomb", "mblen", "mbtowc", "strsignal", "catgets",
   "getc_unlocked", "putc_unlocked", "getchar_unlocked", "putchar_unlocked", "system", "l64a", "getlogin"]

/-- The fatal-error function pointer — the one static object that is written — is written by
exactly one function, the setter: no other library code (in particular not the path that
*calls* the handler on an allocation failure) ever changes which handler is installed, so
a failure handled on one thread cannot change what a later failure does on any thread. -/
theorem C14_writers :
    staticWriters = [("util.c", "__libconfig_fatal_error_func", "libconfig_set_fatal_error_func")] := rfl

/-- …and the setter is reached from the public `config_set_fatal_error_func` and — the known
finding `C14:cpp-constructor-writes-global-handler` — from every C++ `Config` constructor; from
nowhere else. -/
theorem C14_setter_calls : ∀ c ∈ handlerSetterCalls,
    c = ("libconfig.c", "config_set_fatal_error_func", "libconfig_set_fatal_error_func") ∨
    c = ("libconfigcpp.c++", "Config::Config", "config_set_fatal_error_func") := by decide

theorem C14_imports : ∀ f ∈ imports, f ∉ mtUnsafe := by
  -- names of different sizes are told apart by the sizes, which is cheaper for the kernel than
  -- comparing the bytes
  have h : (imports.all fun f => mtUnsafe.all fun u =>
      !(Nat.beq f.utf8ByteSize u.utf8ByteSize) || !decide (f = u)) = true := by decide +kernel
  intro f hf hu
  have := List.all_eq_true.mp (List.all_eq_true.mp h f hf) f hu
  rw [Nat.beq_refl, decide_eq_true rfl] at this
  cases this

theorem C14_inventory_complete : inventoryErrors = [] := by decide

/-- number of steps thread `t` has been given by the schedule -/
def turns (sched : List Nat) (t : Nat) : Nat := sched.count t

theorem stepThread_other (T : Threads) (t u : Nat) (h : u ≠ t) :
    (T.stepThread t).state u = T.state u ∧ (T.stepThread t).prog u = T.prog u ∧ (T.stepThread t).outs u = T.outs u := by
  unfold Threads.stepThread
  cases T.prog t <;> simp [h]

/-- Serialisability per thread: after ANY schedule, every thread has exactly the state and
the outputs it would have after running the same number of its own operations alone. -/
theorem C14_serial (T : Threads) (sched : List Nat) (t : Nat) :
    ((T.runSchedule sched).state t, (T.runSchedule sched).outs t) =
      runAlone (T.state t) (T.outs t) (T.prog t) (turns sched t) ∧
    (T.runSchedule sched).prog t = (T.prog t).drop (turns sched t) := by
  induction sched generalizing T with
  | nil => simp [Threads.runSchedule, turns, runAlone]
  | cons u us ih =>
    simp only [Threads.runSchedule, List.foldl_cons] at ih ⊢
    have := ih (T.stepThread u)
    by_cases hu : u = t
    · subst hu
      simp only [turns, List.count_cons_self] at this ⊢
      rw [this.1, this.2]
      unfold Threads.stepThread
      cases hp : T.prog u with
      | nil => cases us.count u <;> simp [runAlone, hp]
      | cons op rest => simp [runAlone]
    · have ho := stepThread_other T u t (fun h => hu h.symm)
      have hc : turns (u :: us) t = turns us t := by simp [turns, hu]
      rw [hc, this.1, this.2, ho.1, ho.2.1, ho.2.2]
      exact ⟨rfl, rfl⟩

/-- In particular a thread's final results do not depend on what the other threads do:
two runs in which thread `t` has the same program and the same number of turns agree on `t`. -/
theorem C14_independent (progs₁ progs₂ : Nat → List Op) (s₁ s₂ : List Nat) (t : Nat)
    (hp : progs₁ t = progs₂ t) (ht : turns s₁ t = turns s₂ t) :
    ((Threads.init progs₁).runSchedule s₁).state t = ((Threads.init progs₂).runSchedule s₂).state t ∧
    ((Threads.init progs₁).runSchedule s₁).outs t = ((Threads.init progs₂).runSchedule s₂).outs t := by
  have a := (C14_serial (Threads.init progs₁) s₁ t).1
  have b := (C14_serial (Threads.init progs₂) s₂ t).1
  simp only [Threads.init] at a b
  rw [hp, ht] at a
  have := a.trans b.symm
  exact ⟨congrArg Prod.fst this, congrArg Prod.snd this⟩

/-- Non-vacuity: two threads, interleaved 0,1,1,0: thread 1's add succeeds exactly as alone -/
example : ((((Threads.init (fun t => if t = 0 then [.add [] (some [97]) 2, .setInt [0] 5] else [.add [] (some [98]) 5, .length []])).runSchedule [0, 1, 1, 0]).outs 1).map
      (fun o => match o.res with | .nat n => n | .ptr (some p) => (p.length : Int) | _ => -1)) = [1, 1] := by decide

end Libconfig.C14
