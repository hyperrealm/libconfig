import LibconfigModel.Read
import LibconfigModel.Proofs.ScannerStep
/-
  C20 — string, stream and file inputs of the same bytes give the same result.
  (1) The matcher is independent of how the input is cut into buffer refills.
  (2) The string and stream entry points are the same function of the bytes.
-/
namespace Libconfig.C20
open Flex

/-- state of the matching loop when the buffer runs out in the middle of a token:
either the match is already decided, or the automaton is suspended -/
inductive Partial where
  | done (r : Option (Nat × Nat))
  | more (s pos : Nat) (last : Option (Nat × Nat))
deriving Repr, DecidableEq

/-- the matching loop without end-of-input handling -/
def scanPartial (T : FlexTables) : Nat → Bytes → Nat → Option (Nat × Nat) → Partial
  | s, [], pos, last => .more s pos last
  | s, c :: cs, pos, last =>
    let last' := if T.accept.getN s != 0 then some (T.accept.getN s, pos) else last
    let s' := step T s c
    if s' == T.jamState then .done last' else scanPartial T s' cs (pos + 1) last'

/-- real end of input: `yy_get_previous_state` + `yy_find_action` -/
def finish (T : FlexTables) : Partial → Option (Nat × Nat)
  | .done r => r
  | .more s pos last => if T.accept.getN s != 0 then some (T.accept.getN s, pos) else last

/-- a refill: the token so far is kept, the next chunk is appended and matching continues
from the state reached (flex recomputes that state from the token start, which gives the
same state because the automaton is deterministic) -/
def resume (T : FlexTables) : Partial → Bytes → Partial
  | .done r, _ => .done r
  | .more s pos last, chunk => scanPartial T s chunk pos last

theorem scan_eq_finish (T : FlexTables) (s : Nat) (inp : Bytes) (pos : Nat) (last : Option (Nat × Nat)) :
    scan T s inp pos last = finish T (scanPartial T s inp pos last) := by
  induction inp generalizing s pos last with
  | nil => simp [scan, scanPartial, finish]
  | cons c cs ih =>
    simp only [scan, scanPartial]
    split
    · simp [finish]
    · exact ih _ _ _

theorem scanPartial_append (T : FlexTables) (s : Nat) (a b : Bytes) (pos : Nat) (last : Option (Nat × Nat)) :
    scanPartial T s (a ++ b) pos last = resume T (scanPartial T s a pos last) b := by
  induction a generalizing s pos last with
  | nil => simp [scanPartial, resume]
  | cons c cs ih =>
    simp only [List.cons_append, scanPartial]
    split
    · simp [resume]
    · exact ih _ _ _

/-- Chunking independence: however the input of a token is delivered in pieces, the rule
matched and the match length are those of the concatenated input. -/
theorem C20_chunking (T : FlexTables) (sc : Nat) (bol : Bool) (chunks : List Bytes) :
    finish T (chunks.foldl (resume T) (.more (startState sc bol) 0 none)) = next T sc bol chunks.flatten := by
  unfold next
  rw [scan_eq_finish]
  congr 1
  have hdone : ∀ (cs : List Bytes) (r : Option (Nat × Nat)), cs.foldl (resume T) (.done r) = .done r := by
    intro cs r
    induction cs with
    | nil => rfl
    | cons d ds ih => simpa [resume] using ih
  have key : ∀ (cs : List Bytes) (s pos : Nat) (last : Option (Nat × Nat)),
      cs.foldl (resume T) (.more s pos last) = scanPartial T s cs.flatten pos last := by
    intro cs
    induction cs with
    | nil => intro s pos last; simp [scanPartial]
    | cons c cs ih =>
      intro s pos last
      simp only [List.foldl_cons, List.flatten_cons, scanPartial_append]
      have hres : resume T (Partial.more s pos last) c = scanPartial T s c pos last := rfl
      rw [hres]
      cases h : scanPartial T s c pos last with
      | done r => rw [hdone]; rfl
      | more s' pos' last' => rw [ih s' pos' last']; rfl
  exact key chunks _ _ _

/-- The string and stream entry points are the same function of the bytes (a NUL-free
text; a C string ends at its first NUL). -/
theorem C20_string_stream (w : World) (c : Config) (s : Bytes) (fuel : Nat) (h : ∀ b ∈ s, b ≠ 0) :
    read w c (.string s) fuel = read w c (.stream s) fuel := by
  simp only [read, cstr_of_ne_zero h]

/-- A file is read by the same function as a stream, applied to the file's content (the
only difference is the file name handed to the scan context). -/
theorem C20_file_is_stream_core (w : World) (c : Config) (p s : Bytes) (fuel : Nat) (h : w.open? p = some s) :
    (read w c (.file p) fuel).cfg = (readCore w c (some p) s fuel).cfg ∧
    (read w c (.stream s) fuel).cfg = (readCore w c none s fuel).cfg := by
  simp [read, h]

/-! Non-vacuity: "true" delivered as "tr" + "ue" is still the boolean rule 34, length 4 -/
example : finish Generated.scanner ([[116, 114], [117, 101]].foldl (resume Generated.scanner)
    (.more (startState 0 false) 0 none)) = some (34, 4) := by decide

end Libconfig.C20
