import LibconfigModel.Generated.Constants
import LibconfigModel.Step
import LibconfigModel.Proofs.C09
import LibconfigModel.Properties.C12
/-
  C09 — error information always describes the most recent read or write.
  What is used of `readCore` is proved in LibconfigModel/Proofs/C09.lean.

  The strongest form of "describes the most recent call" is history independence: the
  error record after a read or write is a function of the call, the file system and the
  configuration's attributes only — not of the settings or the error record left by
  earlier calls.
-/
namespace Libconfig.C09

open Libconfig.C09P

/-- the four error fields of `config_t` -/
def errInfo (c : Config) : Nat × Option Bytes × Option Bytes × Int :=
  (c.errType, c.errText, c.errFile, c.errLine)

/-- everything else a read or write can depend on -/
def attrs (c : Config) : Nat × Option Bytes × Nat × Nat × Nat × Nat × Bool × Nat :=
  (c.options, c.includeDir, c.tabWidth, c.floatPrecision, c.defaultFormat, c.hook, c.destructor, c.includeFn)

/-- A read's error record and success do not depend on the configuration's previous
contents or previous error record. -/
theorem C09_read_independent (w : World) (c₁ c₂ : Config) (h : attrs c₁ = attrs c₂)
    (src : Source) (fuel : Nat) :
    errInfo (read w c₁ src fuel).cfg = errInfo (read w c₂ src fuel).cfg ∧
    (read w c₁ src fuel).ok = (read w c₂ src fuel).ok := by
  rcases read_congr w src fuel (prep_congr h) with ⟨p, -, -, e₁, e₂⟩ | e
  · rw [e₁, e₂]; exact ⟨rfl, rfl⟩
  · rw [e]; exact ⟨rfl, rfl⟩

/-- … and when the input was actually parsed the whole resulting configuration is the same. -/
theorem C09_readCore_independent (w : World) (c₁ c₂ : Config) (h : attrs c₁ = attrs c₂)
    (filename : Option Bytes) (inp : Bytes) (fuel : Nat) :
    (readCore w c₁ filename inp fuel).cfg = (readCore w c₂ filename inp fuel).cfg :=
  (congrArg ReadOut.cfg (readCore_congr w filename inp fuel (prep_congr h)) :)

/-- The same for `config_write_file`. -/
theorem C09_write_independent (bufLen : Nat) (c₁ c₂ : Config) (h : attrs c₁ = attrs c₂) (io : IOFaults) :
    errInfo (writeFile bufLen c₁ io).cfg = errInfo (writeFile bufLen c₂ io).cfg ∧
    (writeFile bufLen c₁ io).ret = (writeFile bufLen c₂ io).ret := by
  have hr : (writeFile bufLen c₁ io).ret = (writeFile bufLen c₂ io).ret := by
    rw [C12.C12_iff, C12.C12_iff, C12.allOk, C12.allOk, Config.opt, Config.opt,
      show c₁.options = c₂.options from congrArg (·.1) h]
  refine ⟨?_, hr⟩
  rw [(writeFile_of_ret bufLen c₁ io).1, (writeFile_of_ret bufLen c₂ io).1, hr]
  cases (writeFile bufLen c₂ io).ret <;> rfl

/-- a successful read leaves the error type at "none" -/
theorem C09_read_success (w : World) (c : Config) (src : Source) (fuel : Nat)
    (h : (read w c src fuel).ok = true) : (read w c src fuel).cfg.errType = ERR_NONE := by
  have core : ∀ fn inp, (readCore w c fn inp fuel).ok = true →
      (readCore w c fn inp fuel).cfg.errType = ERR_NONE := by
    intro fn inp h
    rw [readCore_ok, beq_iff_eq] at h
    rw [readCore_cfg, finish_errType, if_pos h, parseOf_errType, start_errType]
  exact read_ind (Q := fun r => r.ok = true → r.cfg.errType = ERR_NONE) w c src fuel
    (fun _ _ _ => core _ _) (fun _ _ _ => nofun) h

/-- a failing read is reported as a parse error, or — exactly when the file cannot be
opened — as the I/O error record -/
theorem C09_read_failure (w : World) (c : Config) (src : Source) (fuel : Nat)
    (h : (read w c src fuel).ok = false) :
    (read w c src fuel).cfg.errType = ERR_PARSE ∨
    ((∃ path, src = .file path ∧ w.open? path = none) ∧
      errInfo (read w c src fuel).cfg = (ERR_FILE_IO, some Generated.IO_ERROR_TEXT, none, 0)) := by
  have core : ∀ fn inp, (readCore w c fn inp fuel).ok = false →
      (readCore w c fn inp fuel).cfg.errType = ERR_PARSE := by
    intro fn inp h
    rw [readCore_ok, beq_eq_false_iff_ne] at h
    rw [readCore_cfg, finish_errType, if_neg h]
  exact read_ind (Q := fun r => r.ok = false → r.cfg.errType = ERR_PARSE ∨
      ((∃ path, src = .file path ∧ w.open? path = none) ∧
        errInfo r.cfg = (ERR_FILE_IO, some Generated.IO_ERROR_TEXT, none, 0))) w c src fuel
    (fun _ _ _ h => .inl (core _ _ h)) (fun path hs hw _ => .inr ⟨⟨path, hs, hw⟩, rfl⟩) h

/-- a read that fails in the parser (syntax error, duplicate, mismatched element, include
error, stack exhaustion) always carries a message -/
theorem C09_parse_failure_text (w : World) (c : Config) (filename : Option Bytes) (inp : Bytes) (fuel : Nat)
    (h : (readCore w c filename inp fuel).result = .abort ∨ (readCore w c filename inp fuel).result = .exhausted) :
    (readCore w c filename inp fuel).cfg.errText.isSome = true := by
  rw [readCore_result] at h
  rw [readCore_cfg, finish_errText]
  exact parseOf_text _ _ _ _ _ h

/-- the reported file is the file being scanned when the read failed (NULL for strings and
streams outside any include) -/
theorem C09_string_no_include_file (w : World) (c : Config) (inp : Bytes) (fuel : Nat)
    (h : (readCore w c none inp fuel).ok = false)
    (hs : (readCore w c none inp fuel).cfg.filenames = []) :
    (readCore w c none inp fuel).cfg.errFile = none := by
  rw [readCore_ok, beq_eq_false_iff_ne] at h
  rw [readCore_cfg, finish_filenames] at hs
  rw [readCore_cfg, finish_errFile _ h]
  have hn := parseOf_noFile w (start c none) inp fuel
  rw [ScanState.currentFilename, hn.2 hs]
  exact hn.1

/-- `config_write_file`: success ⇒ "none", failure ⇒ the I/O error record -/
theorem C09_write_result (bufLen : Nat) (c : Config) (io : IOFaults) :
    errInfo (writeFile bufLen c io).cfg =
      if (writeFile bufLen c io).ret then (ERR_NONE, none, none, 0)
      else (ERR_FILE_IO, some Generated.IO_ERROR_TEXT, none, 0) := by
  rw [(writeFile_of_ret bufLen c io).1]
  cases (writeFile bufLen c io).ret <;> rfl

/-! Non-vacuity: two configurations with different contents and different stale error
records, same attributes -/
def stale : Config := { root := { ty := T_GROUP, kids := [{ name := some [97], ty := T_INT }] },
                        errType := ERR_PARSE, errText := some [120], errLine := 7 }
example : attrs stale = attrs Config.init := by rfl

/-- Bridge: error type codes and the I/O error text of this run's sources -/
theorem C09_constants :
    Generated.CONFIG_ERR_NONE = ERR_NONE ∧ Generated.CONFIG_ERR_FILE_IO = ERR_FILE_IO ∧ Generated.CONFIG_ERR_PARSE = ERR_PARSE ∧
    Generated.IO_ERROR_TEXT = [102, 105, 108, 101, 32, 73, 47, 79, 32, 101, 114, 114, 111, 114] := by decide

end Libconfig.C09
