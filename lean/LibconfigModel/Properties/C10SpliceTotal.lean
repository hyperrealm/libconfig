import LibconfigModel.Properties.C10Splice
import LibconfigModel.Properties.C03Term
import LibconfigModel.Proofs.C10SpliceTotal
/-
  C10 (end) — "@include is textual inlining", TOTAL form: no fuel hypothesis is left.

  Properties/C10Splice.lean proves the splice equivalence (`C10_splice`, `C10_splice_config`)
  assuming that the read with includes does not end `.outOfFuel`, and proves the scanner half of
  that assumption (`C10_tokens_exist`: with `mu` iterations per `yylex` call both scans reach end
  of input).  Properties/C03Term.lean proves the parser half for any world (`C03_parse_fuel`:
  `8·|toks| + 10` iterations of the LALR loop suffice for `|toks|` tokens).  Here the two are put
  together.  The link: every token returned strictly lowers `mu` (`call_sim`), so the scan
  returns FEWER THAN `mu` TOKENS (`C10_token_count`).  Hence the explicit bound

      spliceFuel w c top content  =  8 · mu + 10        (`mu` of the start state of the read)

  — `mu` is the bound of Proofs/C10SpliceSim.lean computed from the sizes of the files of the
  tree; it is computable (77 for the example tree below, so `spliceFuel` = 626).

  PROVED, for an include tree with `IncludeTreeOK' w ic 10 content` and the top file `top` with
  that content, for EVERY `fuel ≥ spliceFuel`:
  * `C10_read_with_includes_terminates` — the read of the top file does not end `.outOfFuel`;
  * `C10_spliced_read_terminates` — nor does the read of the spliced text;
  * `C10_splice_total` — neither read runs out of fuel and they agree on `ok`, on the
    `ParseResult` and on `stripPos root`;
  * `C10_splice_config_total` — … and on the whole configuration up to source positions
    (`erasePositions`) and on the destructor calls;
  * `C10_splice_total_exists` — the `∃ N, ∀ fuel ≥ N` form;
  * `C10_splice_total_toks` — the sharper bound `max mu (8·|toks| + 10)` for someone who knows
    the token sequence `toks` (from a scan with whatever fuel per call);
  * `C10_read_fuel_irrelevant`, `C10_spliced_read_fuel_irrelevant` — the fuel of the model is not
    observable above the bound: every `fuel ≥ spliceFuel` gives the same `ReadOut`, for the read
    with includes and for the read of the spliced text.  (Together with termination: each read
    has a definite outcome — which is what "terminates" means for the fuelled model.)
-/
set_option autoImplicit false

namespace Libconfig.C10

open Libconfig.C10S Libconfig.C10T Libconfig.C09P

/-- the fuel that suffices for a read of the top file `top` (content `content`) of an include
tree into the configuration `c`: `8·mu + 10`, `mu` the bound of the scanner iterations of
`C10_tokens_exist` for the start state of that read -/
def spliceFuel (w : World) (c : Config) (top content : Bytes) : Nat :=
  8 * mu w { fn := c.includeFn, dir := c.includeDir } (scanStart (some top) content) + 10

/-- **The scan with includes returns fewer than `mu` tokens.**  `C10_tokens_exist` with a bound
for the length of the token sequence: with any fuel `≥ mu` per `yylex` call, both scans reach
end of input with exactly `toks`, and `|toks| < mu`. -/
theorem C10_token_count (w : World) (ic : IncludeCfg) (top : Option Bytes) (content : Bytes)
    (h : IncludeTreeOK' w ic 10 content) :
    ∃ toks : List (Nat × TokVal), toks.length < mu w ic (scanStart top content) ∧
      ∀ fuel, mu w ic (scanStart top content) ≤ fuel →
        Lexes w ic fuel (scanStart top content) toks ∧
        Lexes w ic fuel (scanStart none (splice w ic 11 content)) toks :=
  tokens_exist_len w ic top content h

/-- **A read with includes terminates (model level).**  For an include tree of at most 10
levels (`IncludeTreeOK'`), the read of the top file with `fuel ≥ 8·mu + 10` does not end
`.outOfFuel`: neither a `yylex` call (≤ `mu` iterations each) nor the parser loop
(≤ `8·|toks| + 10` iterations, `|toks| < mu`) runs out. -/
theorem C10_read_with_includes_terminates (w : World) (c : Config) (top content : Bytes)
    (hopen : w.open? top = some content)
    (htree : IncludeTreeOK' w { fn := c.includeFn, dir := c.includeDir } 10 content)
    (fuel : Nat) (hf : spliceFuel w c top content ≤ fuel) :
    (read w c (.file top) fuel).result ≠ .outOfFuel := by
  rw [read_file_result w c top content fuel hopen]
  exact parseOf_top_terminates w c (some top) content htree fuel hf

/-- **@include = textual inlining, total.**  For an include tree of at most 10 levels
(`IncludeTreeOK'`) and every `fuel ≥ spliceFuel = 8·mu + 10`: reading the top file and reading
the spliced text both terminate (no `.outOfFuel`), with the same outcome (`ok`, `ParseResult`)
and the same configuration up to the recorded source positions.  No fuel hypothesis. -/
theorem C10_splice_total (w : World) (c : Config) (top content : Bytes)
    (hopen : w.open? top = some content)
    (htree : IncludeTreeOK' w { fn := c.includeFn, dir := c.includeDir } 10 content)
    (fuel : Nat) (hf : spliceFuel w c top content ≤ fuel) :
    let a := read w c (.file top) fuel
    let b := read w c (.string (splice w { fn := c.includeFn, dir := c.includeDir } 11 content)) fuel
    a.result ≠ .outOfFuel ∧ b.result ≠ .outOfFuel ∧
    a.ok = b.ok ∧ a.result = b.result ∧ stripPos a.cfg.root = stripPos b.cfg.root := by
  intro a b
  have h1 : a.result ≠ .outOfFuel :=
    C10_read_with_includes_terminates w c top content hopen htree fuel hf
  have h := C10_splice w c top content fuel hopen htree h1
  exact ⟨h1, fun hb => h1 (h.2.1.trans hb), h⟩

/-- the read of the spliced text terminates too -/
theorem C10_spliced_read_terminates (w : World) (c : Config) (top content : Bytes)
    (hopen : w.open? top = some content)
    (htree : IncludeTreeOK' w { fn := c.includeFn, dir := c.includeDir } 10 content)
    (fuel : Nat) (hf : spliceFuel w c top content ≤ fuel) :
    (read w c (.string (splice w { fn := c.includeFn, dir := c.includeDir } 11 content)) fuel).result
      ≠ .outOfFuel :=
  (C10_splice_total w c top content hopen htree fuel hf).2.1

/-- **… and everything else agrees too, total**: for every `fuel ≥ spliceFuel` the two reads
terminate and leave the same configuration up to source positions — the same settings, the same
error text and error type, the same attributes — and make the same destructor calls. -/
theorem C10_splice_config_total (w : World) (c : Config) (top content : Bytes)
    (hopen : w.open? top = some content)
    (htree : IncludeTreeOK' w { fn := c.includeFn, dir := c.includeDir } 10 content)
    (fuel : Nat) (hf : spliceFuel w c top content ≤ fuel) :
    let a := read w c (.file top) fuel
    let b := read w c (.string (splice w { fn := c.includeFn, dir := c.includeDir } 11 content)) fuel
    a.result ≠ .outOfFuel ∧ b.result ≠ .outOfFuel ∧
    erasePositions a.cfg = erasePositions b.cfg ∧ a.dtorLog = b.dtorLog := by
  intro a b
  have h := C10_splice_total w c top content hopen htree fuel hf
  exact ⟨h.1, h.2.1, C10_splice_config w c top content fuel hopen htree h.1⟩

/-- the `∃ N, ∀ fuel ≥ N` form of `C10_splice_total` and `C10_splice_config_total` -/
theorem C10_splice_total_exists (w : World) (c : Config) (top content : Bytes)
    (hopen : w.open? top = some content)
    (htree : IncludeTreeOK' w { fn := c.includeFn, dir := c.includeDir } 10 content) :
    ∃ N, ∀ fuel, N ≤ fuel →
      let a := read w c (.file top) fuel
      let b := read w c (.string (splice w { fn := c.includeFn, dir := c.includeDir } 11 content)) fuel
      a.result ≠ .outOfFuel ∧ b.result ≠ .outOfFuel ∧
      a.ok = b.ok ∧ a.result = b.result ∧ stripPos a.cfg.root = stripPos b.cfg.root ∧
      erasePositions a.cfg = erasePositions b.cfg ∧ a.dtorLog = b.dtorLog := by
  refine ⟨spliceFuel w c top content, fun fuel hf => ?_⟩
  have h := C10_splice_total w c top content hopen htree fuel hf
  have h' := C10_splice_config_total w c top content hopen htree fuel hf
  exact ⟨h.1, h.2.1, h.2.2.1, h.2.2.2.1, h.2.2.2.2, h'.2.2.1, h'.2.2.2⟩

/-- **The bound in terms of the token count.**  Whoever knows the token sequence `toks` of the
scan with includes (from a scan with whatever fuel `f₀` per call that reaches end of input) may
take `fuel ≥ mu` (for the scanner) and `fuel ≥ 8·|toks| + 10` (for the parser loop). -/
theorem C10_splice_total_toks (w : World) (c : Config) (top content : Bytes)
    (hopen : w.open? top = some content)
    (htree : IncludeTreeOK' w { fn := c.includeFn, dir := c.includeDir } 10 content)
    (f₀ : Nat) (toks : List (Nat × TokVal))
    (h0 : Lexes w { fn := c.includeFn, dir := c.includeDir } f₀ (scanStart (some top) content) toks)
    (fuel : Nat)
    (hmu : mu w { fn := c.includeFn, dir := c.includeDir } (scanStart (some top) content) ≤ fuel)
    (hf : 8 * toks.length + 10 ≤ fuel) :
    let a := read w c (.file top) fuel
    let b := read w c (.string (splice w { fn := c.includeFn, dir := c.includeDir } 11 content)) fuel
    a.result ≠ .outOfFuel ∧ b.result ≠ .outOfFuel ∧
    a.ok = b.ok ∧ a.result = b.result ∧ stripPos a.cfg.root = stripPos b.cfg.root ∧
    erasePositions a.cfg = erasePositions b.cfg ∧ a.dtorLog = b.dtorLog := by
  intro a b
  have h1 : a.result ≠ .outOfFuel := by
    show (read w c (.file top) fuel).result ≠ .outOfFuel
    rw [read_file_result w c top content fuel hopen]
    exact parseOf_top_terminates_toks w c (some top) content htree f₀ toks h0 fuel hmu hf
  have h := C10_splice w c top content fuel hopen htree h1
  have h' := C10_splice_config w c top content fuel hopen htree h1
  exact ⟨h1, fun hb => h1 (h.2.1.trans hb), h.1, h.2.1, h.2.2, h'.1, h'.2⟩

/-! ### the fuel of the model is not observable -/

/-- **The read with includes has a definite outcome**: every `fuel ≥ spliceFuel` gives the same
`ReadOut` — configuration, error record, outcome, destructor log, I/O events.  (The read with
`spliceFuel` has an outcome, `C10_read_with_includes_terminates`; a read that has one returns the
same with more fuel, `C09P.read_mono`.) -/
theorem C10_read_fuel_irrelevant (w : World) (c : Config) (top content : Bytes)
    (hopen : w.open? top = some content)
    (htree : IncludeTreeOK' w { fn := c.includeFn, dir := c.includeDir } 10 content)
    (fuel fuel' : Nat) (hf : spliceFuel w c top content ≤ fuel)
    (hf' : spliceFuel w c top content ≤ fuel') :
    read w c (.file top) fuel = read w c (.file top) fuel' := by
  have h := C10_read_with_includes_terminates w c top content hopen htree _ (Nat.le_refl _)
  exact (read_mono w c _ h hf).trans (read_mono w c _ h hf').symm

/-- … and so has the read of the spliced text (in a world WITH readable files:
`C03_read_fuel_irrelevant` does not apply) -/
theorem C10_spliced_read_fuel_irrelevant (w : World) (c : Config) (top content : Bytes)
    (htree : IncludeTreeOK' w { fn := c.includeFn, dir := c.includeDir } 10 content)
    (fuel fuel' : Nat) (hf : spliceFuel w c top content ≤ fuel)
    (hf' : spliceFuel w c top content ≤ fuel') :
    read w c (.string (splice w { fn := c.includeFn, dir := c.includeDir } 11 content)) fuel =
      read w c (.string (splice w { fn := c.includeFn, dir := c.includeDir } 11 content)) fuel' := by
  have h := read_spliced_terminates w c (some top) content htree _ (Nat.le_refl (spliceFuel w c top content))
  exact (read_mono w c _ h hf).trans (read_mono w c _ h hf').symm

/-- one `yylex` call of the run with includes (from a state related to a state of the spliced
run): with at least `mu` iterations it does not run out of fuel and `mu` does not grow —
`yylex_bound` of Proofs/C10SpliceSim.lean -/
theorem C10_yylex_mu_le (w : World) (ic : IncludeCfg) (s₁ s₂ : ScanState) (fuel : Nat)
    (hrel : Rel w ic s₁ s₂) (hf : mu w ic s₁ ≤ fuel) :
    (yylex Generated.scanner Generated.scanActions w ic fuel s₁).2 ≠ .outOfFuel ∧
    mu w ic (yylex Generated.scanner Generated.scanActions w ic fuel s₁).1 ≤ mu w ic s₁ :=
  have h := yylex_bound w ic s₁ s₂ fuel hrel hf
  ⟨h.1, h.2.1⟩

/-! ### non-vacuity: the total theorem on the example trees of Properties/C10Splice.lean -/

/-- `wTree_facts.2.2.1` with the include settings spelt as the theorems about a `Config` spell
them, for `rw` -/
theorem wTree_mu : mu wTree { fn := cTree.includeFn, dir := cTree.includeDir }
    (scanStart (some (bytesOfString "t")) topTree) = 77 := wTree_facts.2.2.1

theorem wTree_fuel : spliceFuel wTree cTree (bytesOfString "t") topTree = 626 := by
  rw [spliceFuel, wTree_mu]

/-- the bound for the three-level tree `wTree` (include directory, open comment before a nested
directive, last file without final newline, empty file): `mu` = 77, `spliceFuel` = 626 -/
example : spliceFuel wTree cTree (bytesOfString "t") topTree = 626 := wTree_fuel

/-- so with fuel 626 both reads are the reads `wTree_reads` speaks of -/
theorem wTree_read_626 : read wTree cTree (.file (bytesOfString "t")) 626 =
    read wTree cTree (.file (bytesOfString "t")) 1000 :=
  C10_read_fuel_irrelevant wTree cTree (bytesOfString "t") topTree wTree_facts.1 wTree_ok
    626 1000 (Nat.le_of_eq wTree_fuel) (by rw [wTree_fuel]; decide)

theorem wTree_spliced_626 : read wTree cTree (.string (splice wTree icTree 11 topTree)) 626 =
    read wTree cTree (.string (splice wTree icTree 11 topTree)) 1000 :=
  C10_spliced_read_fuel_irrelevant wTree cTree (bytesOfString "t") topTree wTree_ok
    626 1000 (Nat.le_of_eq wTree_fuel) (by rw [wTree_fuel]; decide)

/-- `C10_splice_total` applies to `wTree` with fuel 626 — every hypothesis is discharged by
evaluation, none mentions the outcome of a read — and its conclusion says something: the read
accepts, four settings, whose recorded positions differ between the two reads -/
example :
    let a := read wTree cTree (.file (bytesOfString "t")) 626
    let b := read wTree cTree (.string (splice wTree icTree 11 topTree)) 626
    (a.result ≠ .outOfFuel ∧ b.result ≠ .outOfFuel ∧
      a.ok = b.ok ∧ a.result = b.result ∧ stripPos a.cfg.root = stripPos b.cfg.root) ∧
    a.result = .accept ∧
    a.cfg.root.kids.map (fun k => (k.name, k.line, k.file)) =
      [(some (bytesOfString "a"), 1, some (bytesOfString "t")),
       (some (bytesOfString "b"), 1, some (bytesOfString "d/i")),
       (some (bytesOfString "g"), 1, some (bytesOfString "/j")),
       (some (bytesOfString "c"), 3, some (bytesOfString "t"))] ∧
    b.cfg.root.kids.map (fun k => (k.name, k.line, k.file)) =
      [(some (bytesOfString "a"), 1, none), (some (bytesOfString "b"), 2, none),
       (some (bytesOfString "g"), 3, none), (some (bytesOfString "c"), 6, none)] :=
  ⟨C10_splice_total wTree cTree (bytesOfString "t") topTree wTree_facts.1 wTree_ok 626
    (Nat.le_of_eq wTree_fuel), by
      show (read wTree cTree (.file (bytesOfString "t")) 626).result = _ ∧ _ = _ ∧
        (read wTree cTree (.string (splice wTree icTree 11 topTree)) 626).cfg.root.kids.map _ = _
      rw [wTree_read_626, wTree_spliced_626]
      exact ⟨wTree_reads.1, wTree_reads.2.1, wTree_reads.2.2.1⟩⟩

/-- the conclusion "does not end `.outOfFuel`" is not vacuous: the model does report
`.outOfFuel` on this tree when the fuel is too small (the parser loop needs more than 40
iterations for the 21 tokens; the bound `8·21 + 10` of `C10_splice_total_toks` is 178) -/
example :
    (read wTree cTree (.file (bytesOfString "t")) 40).result = .outOfFuel ∧
    (read wTree cTree (.file (bytesOfString "t")) 178).result = .accept := by
  rw [wTree, topTree]; repeat rw [bytesOfString_ofList]
  decide +kernel

/-- `C10_token_count` on `wTree`: 21 tokens, `mu` = 77 -/
example :
    (lexList wTree icTree 77 77 (scanStart (some (bytesOfString "t")) topTree)).map (·.length) = some 21 ∧
    mu wTree icTree (scanStart (some (bytesOfString "t")) topTree) = 77 :=
  ⟨by rw [wTree, topTree]; (repeat rw [bytesOfString_ofList]); decide +kernel, wTree_facts.2.2.1⟩

/-- `C10_splice_total_toks` on `wTree`: the token sequence from a scan with 50 iterations per
call, fuel `max 77 (8·21 + 10) = 178` -/
example :
    let a := read wTree cTree (.file (bytesOfString "t")) 178
    let b := read wTree cTree (.string (splice wTree icTree 11 topTree)) 178
    a.result ≠ .outOfFuel ∧ b.result ≠ .outOfFuel ∧
    a.ok = b.ok ∧ a.result = b.result ∧ stripPos a.cfg.root = stripPos b.cfg.root ∧
    erasePositions a.cfg = erasePositions b.cfg ∧ a.dtorLog = b.dtorLog := by
  obtain ⟨toks, h1, h2⟩ := wTree_facts.2.2.2
  have hlen : toks.length = 21 := by rw [← List.length_map (·.1), h2]; rfl
  exact C10_splice_total_toks wTree cTree (bytesOfString "t") topTree wTree_facts.1 wTree_ok 50
    toks (lexList_sound _ _ _ _ _ _ h1) 178 (by rw [wTree_mu]; decide) (by rw [hlen]; decide)

/-- `C10_read_fuel_irrelevant` on `wTree`: fuel 626 and fuel 100000 give the same read (the
second is not evaluated), and the events of the read show the four files (the top file and the three included ones) opened and closed -/
example :
    read wTree cTree (.file (bytesOfString "t")) 626 = read wTree cTree (.file (bytesOfString "t")) 100000 ∧
    (read wTree cTree (.file (bytesOfString "t")) 626).events.length = 14 :=
  ⟨C10_read_fuel_irrelevant wTree cTree (bytesOfString "t") topTree wTree_facts.1 wTree_ok
    626 100000 (Nat.le_of_eq wTree_fuel) (by rw [wTree_fuel]; decide), by
      rw [wTree_read_626]; exact wTree_reads.2.2.2⟩

/-- a FAILING read, total: the tree `wErr` (syntax error inside the included file).  Both reads
terminate with `.abort`, "syntax error", and the same two settings -/
example :
    let N := spliceFuel wErr Config.init (bytesOfString "t") topErr
    let a := read wErr Config.init (.file (bytesOfString "t")) N
    let b := read wErr Config.init (.string (splice wErr { fn := 0, dir := none } 11 topErr)) N
    (a.result ≠ .outOfFuel ∧ b.result ≠ .outOfFuel ∧
      erasePositions a.cfg = erasePositions b.cfg ∧ a.dtorLog = b.dtorLog) ∧
    a.result = .abort ∧ a.cfg.errText = some (bytesOfString "syntax error") ∧
    a.cfg.root.kids.map (·.name) = [some (bytesOfString "a"), some (bytesOfString "b")] :=
  -- the two evaluated hypotheses and what follows the first conjunct, in one kernel check
  have h : _ ∧ _ ∧ _ := by decide +kernel
  ⟨C10_splice_config_total wErr Config.init (bytesOfString "t") topErr h.1
    (checkTree'_sound _ _ 10 _ h.2.1) _ (Nat.le_refl _), h.2.2⟩

end Libconfig.C10
