import LibconfigModel.DenoteProv
import LibconfigModel.Properties.C09Line
import LibconfigModel.Properties.C10SpliceTotal
import LibconfigModel.Proofs.C10ProvName
import LibconfigModel.Proofs.C10ProvLex
import LibconfigModel.Proofs.Bytes
/-
  C10P — "every setting reports the file and the line where it was written": the provenance of the
  tree of a SUCCESSFUL read, as a theorem over the TRANSLATED tables.

  `Properties/C02Denote.lean` proves that `libconfig_yyparse` builds the tree the reference
  interpreter `denote` computes — up to `stripPos`, which erases the fields `line` and `file` of
  every setting (`config_setting_source_line`, `config_setting_source_file`).
  `Properties/C10.lean` has the one-step law (what one grammar action records), and
  `Properties/C09Line.lean` the position of the error report of a read that fails.  This file says
  which positions the tree of a read that SUCCEEDS carries:

      denote o toks = .ok t  →
        after `yyparse`:  the tree is EXACTLY  denoteAt o σ root toks   (and that is `t` positions
                          apart), where  σ i = (line counter, current file) of the scan state right
                          after the token with index i was returned;
        path by path:     the setting at `p` has  line = (stateAfter ptoks s₁ i).buf.lineno  and
                          file = (stateAfter ptoks s₁ i).currentFilename  for  i = provIndex o toks p

  where `denoteAt` / `denoteProv` / `provIndex` (DenoteProv.lean) are the reference interpreter
  telling, for every setting it builds, WHICH token's position that setting reports:

    * a NAMED setting (a member of a group, whatever its value): its NAME token — proved to be a
      NAME token carrying that very name (`C10P_named_is_name_token`).  A setting whose name and
      value stand on different lines reports the line of the name;
    * an element of a list that is an array, a list or a group: its opening bracket;
    * a scalar element of a list or array that is BOOLEAN … FLOAT: its own token;
    * a STRING element: the token that FOLLOWS its last literal.  This is the successful-case twin
      of the project's recorded finding `C02:string-element-mismatch-line`: adjacent string
      literals are concatenated, so `simple_value: string` is reduced — and `CAPTURE_PARSE_POS`
      run — only when the parser has looked at the next token, and the scanner's line counter (and,
      across the end of an included file, its current file) has moved on to that token.  It is part
      of the specification here (`elemKey`), proved in general, with a kernel-evaluated witness
      that it really is another line (`C10P_string_element_finding`);
    * the root is not made by the parser: line 0 and the name of the file read (`readCore`).

  Why the positions come out like this (the proof follows the parser): the mid-rule actions `$@1`
  (behind NAME), `$@2`, `$@3`, `$@4` (behind `[`, `(`, `{`) and the actions of BOOLEAN … FLOAT are
  run by default reduction in the state entered by shifting that token — states 1, 16, 17, 18,
  9 … 14 reduce WITHOUT fetching a lookahead (`DefaultOnly`): the scanner stands right after the
  token.
  State 22 (`string`) needs the lookahead (`nn_22`).  The value actions of a member only fill in
  type and value: the position captured by `$@1` stays.

  "The scanner's line counter right after a token was returned" is the line on which the token
  ENDS: white space, comments and newlines in front of a token are consumed by the call of `yylex`
  that returns it, those behind it by the next call.  For every token but a string literal with
  embedded newlines that is the line the token stands on.

  The scanner's side is an explicit hypothesis, as in C09Line: `LexesToPos E s₀ ptoks s₁`.
  Successful `@include`s happen inside `yylex`: a token's recorded state then has the included
  file on top of the include stack and ITS buffer's line counter (one per buffer,
  `C10_lineno_per_buffer`) — so a setting written in an included file reports that file's name
  and its line within that file.  For include trees satisfying `IncludeTreeOK'` the hypothesis is
  discharged (`C10P_include_tree`).

  Statements and examples only; the proof is in LibconfigModel/Proofs/C10Prov*.lean:
    C10ProvSpec   unfolding lemmas for the stamped interpreter; it and the interpreter of
                  DenotePos.lean are the projections of the joint reading (Proofs/DenoteJoint.lean),
                  so forgetting the stamps is Denote.lean's interpreter and what is consumed is
                  known; NATURALITY in the stamps (only the stamps of the text's tokens matter, the
                  provenance tree determines every stamped tree)
    C10ProvStep   a successful reduction WITH the scan state its action runs in
    C01ParseSem   the creating actions with the exact node built (`act_aggStartP`, `act_scalarP`)
    C10ProvSim, C10ProvSim2, C10ProvSim3   the simulation: the loop follows the joint reading as
                  far as it gets — it arrives with the tree kept exactly, or aborts where reported
    C10ProvMain   the whole parse; from positions to token indices; path by path
    C10ProvName   what the token a setting reports is: a named setting's is its NAME token, …
    C10ProvLex    a token is returned by the iteration of `yylex` that matched it, from the buffer
                  that is current in the state recorded with it

  FINDING: "a scalar element reports the position of a token of its own" is false
  (`C10P_string_element_finding`; `example5`: the position reported can even lie in another FILE
  than the element).
-/
namespace Libconfig.C10Provenance
open Libconfig Denote C02Denote
open C09L C09Line

/-! ### the specification

`denoteAt`, `denoteProv`, `provIndex`, `elemKey`, `Stamp` are defined in DenoteProv.lean. -/

/-- the position a grammar action records when it runs right after the token with index `i` of a
run: the line counter of the scanner's current buffer, and the file it is reading -/
def posStamp (ptoks : List ((Nat × TokVal) × ScanState)) (sEnd : ScanState) (i : Nat) : Stamp :=
  ((stateAfter ptoks sEnd i).buf.lineno, (stateAfter ptoks sEnd i).currentFilename)

/-- **`denoteAt` is `denote` with positions**: they agree on whether and why a text is rejected,
and on the tree, source positions apart — whatever the stamps. -/
theorem C10P_denoteAt_denote (o : Options) (σ : Nat → Stamp) (root : Stamp)
    (toks : List (Nat × TokVal)) :
    denote o toks =
      match denoteAt o σ root toks with
      | .ok T => .ok (stripPos T)
      | .error k => .error k := by
  rw [C10Prov.denoteAt_erase o σ root toks]
  cases denoteAt o σ root toks with
  | ok T => show Denote.Result.ok _ = Denote.Result.ok _; rw [← C01Parse.stripPos_pp]
  | error k => rfl

/-- in particular: a text that denotes a configuration has its positioned tree -/
theorem C10P_denoteAt_exists (o : Options) (σ : Nat → Stamp) (root : Stamp)
    (toks : List (Nat × TokVal)) (t : Node) (h : denote o toks = .ok t) :
    ∃ T, denoteAt o σ root toks = .ok T ∧ stripPos T = t := by
  obtain ⟨T, h1, h2⟩ := C10Prov.denoteAt_of_denote σ root h
  exact ⟨T, h1, by show C01Parse.stripPos T = t; rw [C01Parse.stripPos_pp]; exact h2⟩

/-- **Path by path**: in `denoteAt o σ root toks` the root carries `root`, and the setting at a
proper path `p` carries `σ i` for `i = provIndex o toks p` — the stamp of the token the provenance
tree names. -/
theorem C10P_denoteAt_path (o : Options) (σ : Nat → Stamp) (root : Stamp)
    (toks : List (Nat × TokVal)) (T : Node) (h : denoteAt o σ root toks = .ok T) :
    T.line = root.1 ∧ T.file = root.2 ∧
    ∀ (p : Path) (n : Node), p ≠ [] → T.get? p = some n →
      ∃ i, provIndex o toks p = some i ∧ n.line = (σ i).1 ∧ n.file = (σ i).2 :=
  C10Prov.denoteAt_path h

/-- `provIndex` is defined exactly on the proper paths of the tree the text denotes -/
theorem C10P_provIndex_paths (o : Options) (toks : List (Nat × TokVal)) (t : Node)
    (h : denote o toks = .ok t) (i : Nat) (p : Path) :
    (provIndex o toks (i :: p)).isSome = (t.get? (i :: p)).isSome :=
  C10Prov.provIndex_isSome h i p

/-! #### which token that is

Read off the provenance tree itself (`Proofs/C10ProvName.lean`): what the token with index
`provIndex o toks p` IS, for each kind of setting. -/

/-- the tree `denote` computes is the positioned tree without positions, path by path -/
theorem get?_stripPos (T : Node) (p : Path) : (stripPos T).get? p = (T.get? p).map stripPos := by
  show (C01Parse.stripPos T).get? p = (T.get? p).map C01Parse.stripPos
  have : (C01Parse.stripPos : Node → Node) = C01PP.stripPos := funext C01Parse.stripPos_pp
  rw [this, C10Prov.stripPos_restamp, C10Prov.get?_restamp]
  congr 1
  funext n
  rw [C10Prov.stripPos_restamp]

/-- **A named setting reports its NAME token**: if the setting at path `p` of the tree the text
denotes is called `nm`, the token with index `provIndex o toks p` is a NAME token, and the name it
carries is `nm`. -/
theorem C10P_named_is_name_token (o : Options) (toks : List (Nat × TokVal)) (t : Node)
    (h : denote o toks = .ok t) (p : Path) (m : Node) (nm : Bytes) (i : Nat)
    (hm : t.get? p = some m) (hname : m.name = some nm) (hi : provIndex o toks p = some i) :
    ∃ v, toks[i]? = some (Generated.tokens.name, v) ∧ v.sval = nm := by
  have hok := C10Prov.provIndex_ok h hm hi
  unfold C10Prov.NodeOK at hok
  simp only [hname] at hok
  rw [List.getElem?_map] at hok
  cases ht : toks[i]? with
  | none => rw [ht] at hok; cases hok
  | some tv =>
    obtain ⟨tk, v⟩ := tv
    rw [ht] at hok
    simp only [Option.map_some, Option.some.injEq] at hok
    obtain ⟨h1, h2⟩ := C02D.itemOf_name hok
    exact ⟨v, by rw [h1], h2⟩

/-- **An unnamed aggregate reports its opening bracket, a one-token scalar element its own
token**: if the setting at `p` has no name and is no string, the token with index
`provIndex o toks p` is the item it is made from (`C10Prov.ownItem`: `[`, `(`, `{` for an array,
list, group; the BOOLEAN / INTEGER / HEX / INTEGER64 / HEX64 / FLOAT literal with the element's
value). -/
theorem C10P_element_own_token (o : Options) (toks : List (Nat × TokVal)) (t : Node)
    (h : denote o toks = .ok t) (p : Path) (m : Node) (i : Nat)
    (hm : t.get? p = some m) (hname : m.name = none) (hty : m.ty ≠ T_STRING)
    (hi : provIndex o toks p = some i) (it : Denote.Item) (hown : C10Prov.ownItem m = some it) :
    (toks[i]?).map itemOf = some it := by
  have hok := C10Prov.provIndex_ok h hm hi
  unfold C10Prov.NodeOK at hok
  simp only [hname] at hok
  rw [if_neg hty, List.getElem?_map] at hok
  exact hok it hown

/-- **A string element reports the token BEHIND its last literal**: if the setting at `p` has no
name and is a string, the token with index `i = provIndex o toks p` is no string literal, and the
token in front of it is one. -/
theorem C10P_string_element_next_token (o : Options) (toks : List (Nat × TokVal)) (t : Node)
    (h : denote o toks = .ok t) (p : Path) (m : Node) (i : Nat)
    (hm : t.get? p = some m) (hname : m.name = none) (hty : m.ty = T_STRING)
    (hi : provIndex o toks p = some i) :
    1 ≤ i ∧ isStringAt toks (i - 1) = true ∧ isStringAt toks i = false := by
  have hok := C10Prov.provIndex_ok h hm hi
  unfold C10Prov.NodeOK at hok
  simp only [hname] at hok
  rw [if_pos hty] at hok
  obtain ⟨h1, ⟨s, h2⟩, h3⟩ := hok
  refine ⟨h1, (isStringAt_iff toks (i - 1)).mpr ⟨s, h2⟩, ?_⟩
  cases hs : isStringAt toks i with
  | false => rfl
  | true =>
    obtain ⟨s', hs'⟩ := (isStringAt_iff toks i).mp hs
    exact absurd hs' (h3 s')

/-! ### the theorem -/

/-- **The tree, positions included.**  Let `E` be a parser environment over the compiled parser
tables and actions (any scanner, world and include configuration).  Let its scanner, started in
`s₀`, deliver the tokens of `ptoks` — each recorded with the scan state right after it — and then
end of input in `s₁`, without include error (successful includes allowed).  Let `ctx₀` be a parse
context over a cleared configuration as `__config_read` sets it up, with no error message pending,
and `o` its options that matter.  If the reference interpreter reads the tokens as the tree `t`,
then whatever `yyparse` returns with enough fuel is: accept, with EXACTLY the tree
`denoteAt o (posStamp ptoks s₁) root toks` — which is `t` with every setting stamped with the line
counter and the current file of the scan state right after the token whose position it reports,
and the root left as it was. -/
theorem C10P_tree_env (E : ParserEnv) (hP : E.P = Generated.parser)
    (hA : E.acts = Generated.parseActions) (o : Options)
    (ptoks : List ((Nat × TokVal) × ScanState)) (h0 : NonZero (tokensOf ptoks))
    (hnames : NamesValid (tokensOf ptoks)) (hnest : nesting (tokensOf ptoks) ≤ maxNesting)
    (fuel : Nat) (s₀ s₁ s' : ScanState) (ctx₀ ctx' : ParseCtx) (r : ParseResult)
    (hlex : LexesToPos E s₀ ptoks s₁)
    (hroot : stripPos ctx₀.cfg.root = { ty := T_GROUP }) (hpar : ctx₀.parent = some [])
    (hstr : ctx₀.str = none) (hopt : ctx₀.cfg.opt OPT_ALLOW_OVERRIDES = o.allowOverrides)
    (herr : ctx₀.cfg.errText = none)
    (h : yyparse E fuel s₀ ctx₀ = (s', ctx', r)) (hr : r ≠ .outOfFuel) (t : Node)
    (hd : denote o (tokensOf ptoks) = .ok t) :
    r = .accept ∧ stripPos ctx'.cfg.root = t ∧
    denoteAt o (posStamp ptoks s₁) (ctx₀.cfg.root.line, ctx₀.cfg.root.file) (tokensOf ptoks) =
      .ok ctx'.cfg.root := by
  obtain ⟨T, hT, hst⟩ := C10P_denoteAt_exists o (posStamp ptoks s₁)
    (ctx₀.cfg.root.line, ctx₀.cfg.root.file) (tokensOf ptoks) t hd
  have := C10Prov.provenance_core (o := o) ⟨hP, hA⟩ ptoks (rawOK_of h0 hnames) (C02D.nest_of hnest) hlex
    (by rw [← C01Parse.stripPos_pp]; exact hroot) hpar hstr ⟨hopt, fun _ => herr⟩ h hr
    (T := T) hT
  rw [this.2]
  exact ⟨this.1, hst, hT⟩

/-- **C10P: every setting reports the position of the token `provIndex` names.**  Under the
hypotheses of `C10P_tree_env`: the parser accepts, the tree it leaves is `t` positions apart, the
root's position is untouched, and the setting at every proper path `p` of that tree has
`line` = the scanner's line counter and `file` = the file the scanner was reading right after the
token with index `provIndex o toks p` was returned: for a named setting its NAME token
(`C10P_named_is_name_token`), for an element see `elemKey`. -/
theorem C10P_provenance_env (E : ParserEnv) (hP : E.P = Generated.parser)
    (hA : E.acts = Generated.parseActions) (o : Options)
    (ptoks : List ((Nat × TokVal) × ScanState)) (h0 : NonZero (tokensOf ptoks))
    (hnames : NamesValid (tokensOf ptoks)) (hnest : nesting (tokensOf ptoks) ≤ maxNesting)
    (fuel : Nat) (s₀ s₁ s' : ScanState) (ctx₀ ctx' : ParseCtx) (r : ParseResult)
    (hlex : LexesToPos E s₀ ptoks s₁)
    (hroot : stripPos ctx₀.cfg.root = { ty := T_GROUP }) (hpar : ctx₀.parent = some [])
    (hstr : ctx₀.str = none) (hopt : ctx₀.cfg.opt OPT_ALLOW_OVERRIDES = o.allowOverrides)
    (herr : ctx₀.cfg.errText = none)
    (h : yyparse E fuel s₀ ctx₀ = (s', ctx', r)) (hr : r ≠ .outOfFuel) (t : Node)
    (hd : denote o (tokensOf ptoks) = .ok t) :
    r = .accept ∧ stripPos ctx'.cfg.root = t ∧
    ctx'.cfg.root.line = ctx₀.cfg.root.line ∧ ctx'.cfg.root.file = ctx₀.cfg.root.file ∧
    ∀ (p : Path) (n : Node), p ≠ [] → ctx'.cfg.root.get? p = some n →
      ∃ i, provIndex o (tokensOf ptoks) p = some i ∧
        n.line = (stateAfter ptoks s₁ i).buf.lineno ∧
        n.file = (stateAfter ptoks s₁ i).currentFilename := by
  obtain ⟨h1, h2, h3⟩ := C10P_tree_env E hP hA o ptoks h0 hnames hnest fuel s₀ s₁ s' ctx₀ ctx' r hlex
    hroot hpar hstr hopt herr h hr t hd
  obtain ⟨h4, h5, h6⟩ := C10P_denoteAt_path o _ _ _ _ h3
  exact ⟨h1, h2, h4, h5, h6⟩

/-- **C10P** for the compiled scanner and parser (`theEnv w c₀ lexFuel`, any world and reading
configuration): the tokens are never numbered 0. -/
theorem C10P_provenance (w : World) (c₀ : Config) (lexFuel : Nat) (o : Options)
    (ptoks : List ((Nat × TokVal) × ScanState)) (hnames : NamesValid (tokensOf ptoks))
    (hnest : nesting (tokensOf ptoks) ≤ maxNesting)
    (fuel : Nat) (s₀ s₁ s' : ScanState) (ctx₀ ctx' : ParseCtx) (r : ParseResult)
    (hlex : LexesToPos (theEnv w c₀ lexFuel) s₀ ptoks s₁)
    (hroot : stripPos ctx₀.cfg.root = { ty := T_GROUP }) (hpar : ctx₀.parent = some [])
    (hstr : ctx₀.str = none) (hopt : ctx₀.cfg.opt OPT_ALLOW_OVERRIDES = o.allowOverrides)
    (herr : ctx₀.cfg.errText = none)
    (h : yyparse (theEnv w c₀ lexFuel) fuel s₀ ctx₀ = (s', ctx', r)) (hr : r ≠ .outOfFuel)
    (t : Node) (hd : denote o (tokensOf ptoks) = .ok t) :
    r = .accept ∧ stripPos ctx'.cfg.root = t ∧
    ctx'.cfg.root.line = ctx₀.cfg.root.line ∧ ctx'.cfg.root.file = ctx₀.cfg.root.file ∧
    ∀ (p : Path) (n : Node), p ≠ [] → ctx'.cfg.root.get? p = some n →
      ∃ i, provIndex o (tokensOf ptoks) p = some i ∧
        n.line = (stateAfter ptoks s₁ i).buf.lineno ∧
        n.file = (stateAfter ptoks s₁ i).currentFilename :=
  C10P_provenance_env (theEnv w c₀ lexFuel) rfl rfl o ptoks
    (C02D_scanner_nonzero w c₀ lexFuel s₀ s₁ _ (LexesToPos.plain hlex).lexesTo) hnames hnest fuel
    s₀ s₁ s' ctx₀ ctx' r hlex hroot hpar hstr hopt herr h hr t hd

/-- … and the whole tree at once -/
theorem C10P_tree (w : World) (c₀ : Config) (lexFuel : Nat) (o : Options)
    (ptoks : List ((Nat × TokVal) × ScanState)) (hnames : NamesValid (tokensOf ptoks))
    (hnest : nesting (tokensOf ptoks) ≤ maxNesting)
    (fuel : Nat) (s₀ s₁ s' : ScanState) (ctx₀ ctx' : ParseCtx) (r : ParseResult)
    (hlex : LexesToPos (theEnv w c₀ lexFuel) s₀ ptoks s₁)
    (hroot : stripPos ctx₀.cfg.root = { ty := T_GROUP }) (hpar : ctx₀.parent = some [])
    (hstr : ctx₀.str = none) (hopt : ctx₀.cfg.opt OPT_ALLOW_OVERRIDES = o.allowOverrides)
    (herr : ctx₀.cfg.errText = none)
    (h : yyparse (theEnv w c₀ lexFuel) fuel s₀ ctx₀ = (s', ctx', r)) (hr : r ≠ .outOfFuel)
    (t : Node) (hd : denote o (tokensOf ptoks) = .ok t) :
    r = .accept ∧ stripPos ctx'.cfg.root = t ∧
    denoteAt o (posStamp ptoks s₁) (ctx₀.cfg.root.line, ctx₀.cfg.root.file) (tokensOf ptoks) =
      .ok ctx'.cfg.root :=
  C10P_tree_env (theEnv w c₀ lexFuel) rfl rfl o ptoks
    (C02D_scanner_nonzero w c₀ lexFuel s₀ s₁ _ (LexesToPos.plain hlex).lexesTo) hnames hnest fuel
    s₀ s₁ s' ctx₀ ctx' r hlex hroot hpar hstr hopt herr h hr t hd

/-- … and the parse does return: there is a bound `N` such that with any fuel ≥ `N` the parser
accepts, leaving exactly the positioned tree. -/
theorem C10P_tree_total (w : World) (c₀ : Config) (lexFuel : Nat) (o : Options)
    (ptoks : List ((Nat × TokVal) × ScanState)) (hnames : NamesValid (tokensOf ptoks))
    (hnest : nesting (tokensOf ptoks) ≤ maxNesting) (s₀ s₁ : ScanState) (ctx₀ : ParseCtx)
    (hlex : LexesToPos (theEnv w c₀ lexFuel) s₀ ptoks s₁)
    (hroot : stripPos ctx₀.cfg.root = { ty := T_GROUP }) (hpar : ctx₀.parent = some [])
    (hstr : ctx₀.str = none) (hopt : ctx₀.cfg.opt OPT_ALLOW_OVERRIDES = o.allowOverrides)
    (herr : ctx₀.cfg.errText = none) (t : Node) (hd : denote o (tokensOf ptoks) = .ok t) :
    ∃ N s' ctx', (∀ fuel, N ≤ fuel →
        yyparse (theEnv w c₀ lexFuel) fuel s₀ ctx₀ = (s', ctx', .accept)) ∧
      stripPos ctx'.cfg.root = t ∧
      denoteAt o (posStamp ptoks s₁) (ctx₀.cfg.root.line, ctx₀.cfg.root.file) (tokensOf ptoks) =
        .ok ctx'.cfg.root := by
  obtain ⟨T, hT, hst⟩ := C10P_denoteAt_exists o (posStamp ptoks s₁)
    (ctx₀.cfg.root.line, ctx₀.cfg.root.file) (tokensOf ptoks) t hd
  obtain ⟨N, s', ctx', h1, h2⟩ := C10Prov.provenance_total (o := o)
    (C01PP.compiled_theEnv w c₀ lexFuel) ptoks
    (rawOK_of (C02D_scanner_nonzero w c₀ lexFuel s₀ s₁ _ (LexesToPos.plain hlex).lexesTo) hnames)
    (C02D.nest_of hnest) hlex (by rw [← C01Parse.stripPos_pp]; exact hroot) hpar hstr ⟨hopt, fun _ => herr⟩
    (T := T) hT
  exact ⟨N, s', ctx', h1, by rw [h2]; exact hst, by rw [h2]; exact hT⟩

/-! ### `config_read_string` / `config_read` / `config_read_file` -/

/-- **What `__config_read` leaves** (the common core of the three read functions), with the lexing
as an explicit hypothesis: if the compiled scanner, started on the input, delivers the tokens of
`ptoks` (with their scan states) and then end of input, without include error, and the reference
interpreter reads them as the tree `t`, then the read — with enough fuel — succeeds, the tree is
`t` positions apart — exactly `denoteAt … (posStamp ptoks s₁) (0, filename)` —: the root has line 0
and the name of the file read (none for a string or a stream), and the setting at every proper path
has the line and the file of the scan state right after the token `provIndex` names: the
top-level file's name, or the name of the included file that token comes from. -/
theorem C10P_readCore (w : World) (c₀ : Config) (filename : Option Bytes) (inp : Bytes)
    (fuel : Nat) (ptoks : List ((Nat × TokVal) × ScanState)) (s₁ : ScanState)
    (hlex : LexesToPos (theEnv w c₀ fuel) (C01Parse.readScanStart filename inp) ptoks s₁)
    (hnames : NamesValid (tokensOf ptoks)) (hnest : nesting (tokensOf ptoks) ≤ maxNesting)
    (hfuel : (readCore w c₀ filename inp fuel).result ≠ .outOfFuel) (t : Node)
    (hd : denote { allowOverrides := c₀.opt OPT_ALLOW_OVERRIDES } (tokensOf ptoks) = .ok t) :
    (readCore w c₀ filename inp fuel).ok = true ∧
    stripPos (readCore w c₀ filename inp fuel).cfg.root = t ∧
    denoteAt { allowOverrides := c₀.opt OPT_ALLOW_OVERRIDES } (posStamp ptoks s₁) (0, filename)
      (tokensOf ptoks) = .ok (readCore w c₀ filename inp fuel).cfg.root ∧
    (readCore w c₀ filename inp fuel).cfg.root.line = 0 ∧
    (readCore w c₀ filename inp fuel).cfg.root.file = filename ∧
    ∀ (p : Path) (n : Node), p ≠ [] → (readCore w c₀ filename inp fuel).cfg.root.get? p = some n →
      ∃ i, provIndex { allowOverrides := c₀.opt OPT_ALLOW_OVERRIDES } (tokensOf ptoks) p = some i ∧
        n.line = (stateAfter ptoks s₁ i).buf.lineno ∧
        n.file = (stateAfter ptoks s₁ i).currentFilename := by
  obtain ⟨s', ctx', r, hp, hres, hok, hcfg⟩ := C09P.readCore_parse w c₀ filename inp fuel
  rw [hres] at hfuel
  obtain ⟨h1, h2, h3⟩ := C10P_tree w c₀ fuel { allowOverrides := c₀.opt OPT_ALLOW_OVERRIDES } ptoks
    hnames hnest fuel (C01Parse.readScanStart filename inp) s₁ s'
    { cfg := C09P.start c₀ filename } ctx' r hlex rfl rfl rfl rfl rfl hp hfuel t hd
  have h3' : denoteAt { allowOverrides := c₀.opt OPT_ALLOW_OVERRIDES } (posStamp ptoks s₁)
      (0, filename) (tokensOf ptoks) = .ok ctx'.cfg.root := h3
  obtain ⟨h4, h5, h6⟩ := C10P_denoteAt_path _ _ _ _ _ h3'
  subst h1
  rw [hok, hcfg, C09P.finish_root]
  exact ⟨rfl, h2, h3', h4, h5, h6⟩

/-- **`__config_read` on bytes**: `C10P_readCore` with the side condition on the names replaced by
"the input and the files of the world hold bytes". -/
theorem C10P_readCore_bytes (w : World) (hw : C03P.WorldOK w) (c₀ : Config)
    (filename : Option Bytes) (inp : Bytes) (hb : C03P.BytesOK inp)
    (fuel : Nat) (ptoks : List ((Nat × TokVal) × ScanState)) (s₁ : ScanState)
    (hlex : LexesToPos (theEnv w c₀ fuel) (C01Parse.readScanStart filename inp) ptoks s₁)
    (hnest : nesting (tokensOf ptoks) ≤ maxNesting)
    (hfuel : (readCore w c₀ filename inp fuel).result ≠ .outOfFuel) (t : Node)
    (hd : denote { allowOverrides := c₀.opt OPT_ALLOW_OVERRIDES } (tokensOf ptoks) = .ok t) :
    (readCore w c₀ filename inp fuel).ok = true ∧
    stripPos (readCore w c₀ filename inp fuel).cfg.root = t ∧
    denoteAt { allowOverrides := c₀.opt OPT_ALLOW_OVERRIDES } (posStamp ptoks s₁) (0, filename)
      (tokensOf ptoks) = .ok (readCore w c₀ filename inp fuel).cfg.root ∧
    (readCore w c₀ filename inp fuel).cfg.root.line = 0 ∧
    (readCore w c₀ filename inp fuel).cfg.root.file = filename ∧
    ∀ (p : Path) (n : Node), p ≠ [] → (readCore w c₀ filename inp fuel).cfg.root.get? p = some n →
      ∃ i, provIndex { allowOverrides := c₀.opt OPT_ALLOW_OVERRIDES } (tokensOf ptoks) p = some i ∧
        n.line = (stateAfter ptoks s₁ i).buf.lineno ∧
        n.file = (stateAfter ptoks s₁ i).currentFilename :=
  C10P_readCore w c₀ filename inp fuel ptoks s₁ hlex
    (C02D_scanner_names w hw c₀ fuel _ _ _ (scanOK_start filename inp hb)
      (LexesToPos.plain hlex).lexesTo) hnest hfuel t hd

/-- outside included files the file a setting reports is the top-level one: for `__config_read`
with the file name `filename` (none for strings and streams), if the token a setting reports was
not read from an included file (the include stack is empty right after it), the file is
`filename` -/
theorem C10P_file_top (w : World) (c₀ : Config) (filename : Option Bytes) (inp : Bytes)
    (fuel : Nat) (ptoks : List ((Nat × TokVal) × ScanState)) (s₁ : ScanState)
    (hlex : LexesToPos (theEnv w c₀ fuel) (C01Parse.readScanStart filename inp) ptoks s₁)
    (i : Nat) (htop : (stateAfter ptoks s₁ i).stack = []) :
    (stateAfter ptoks s₁ i).currentFilename = filename :=
  C09L_readCore_file_top w c₀ filename inp fuel ptoks s₁ hlex i htop

/-- `config_read_string` -/
theorem C10P_read_string (w : World) (c₀ : Config) (text : Bytes) (fuel : Nat)
    (ptoks : List ((Nat × TokVal) × ScanState)) (s₁ : ScanState)
    (hlex : LexesToPos (theEnv w c₀ fuel) (C01Parse.readScanStart none (cstr text)) ptoks s₁)
    (hnames : NamesValid (tokensOf ptoks)) (hnest : nesting (tokensOf ptoks) ≤ maxNesting)
    (hfuel : (read w c₀ (.string text) fuel).result ≠ .outOfFuel) (t : Node)
    (hd : denote { allowOverrides := c₀.opt OPT_ALLOW_OVERRIDES } (tokensOf ptoks) = .ok t) :
    (read w c₀ (.string text) fuel).ok = true ∧
    stripPos (read w c₀ (.string text) fuel).cfg.root = t ∧
    denoteAt { allowOverrides := c₀.opt OPT_ALLOW_OVERRIDES } (posStamp ptoks s₁) (0, none)
      (tokensOf ptoks) = .ok (read w c₀ (.string text) fuel).cfg.root ∧
    (read w c₀ (.string text) fuel).cfg.root.line = 0 ∧
    (read w c₀ (.string text) fuel).cfg.root.file = none ∧
    ∀ (p : Path) (n : Node), p ≠ [] → (read w c₀ (.string text) fuel).cfg.root.get? p = some n →
      ∃ i, provIndex { allowOverrides := c₀.opt OPT_ALLOW_OVERRIDES } (tokensOf ptoks) p = some i ∧
        n.line = (stateAfter ptoks s₁ i).buf.lineno ∧
        n.file = (stateAfter ptoks s₁ i).currentFilename :=
  C10P_readCore w c₀ none (cstr text) fuel ptoks s₁ hlex hnames hnest hfuel t hd

/-- … for a string (or a stream) a setting has NO file — unless the token it reports was read from
an included file -/
theorem C10P_read_string_no_file (w : World) (c₀ : Config) (text : Bytes) (fuel : Nat)
    (ptoks : List ((Nat × TokVal) × ScanState)) (s₁ : ScanState)
    (hlex : LexesToPos (theEnv w c₀ fuel) (C01Parse.readScanStart none (cstr text)) ptoks s₁)
    (hnames : NamesValid (tokensOf ptoks)) (hnest : nesting (tokensOf ptoks) ≤ maxNesting)
    (hfuel : (read w c₀ (.string text) fuel).result ≠ .outOfFuel) (t : Node)
    (hd : denote { allowOverrides := c₀.opt OPT_ALLOW_OVERRIDES } (tokensOf ptoks) = .ok t)
    (hnoinc : ∀ i, (stateAfter ptoks s₁ i).stack = [])
    (p : Path) (n : Node) (hn : (read w c₀ (.string text) fuel).cfg.root.get? p = some n) :
    n.file = none := by
  obtain ⟨_, _, _, _, h5, h6⟩ :=
    C10P_read_string w c₀ text fuel ptoks s₁ hlex hnames hnest hfuel t hd
  cases p with
  | nil =>
    rw [get?_nil] at hn
    injection hn with hn
    rw [← hn]
    exact h5
  | cons j q =>
    obtain ⟨i, _, _, hf⟩ := h6 (j :: q) n (fun h => by cases h) hn
    rw [hf]
    exact C10P_file_top w c₀ none (cstr text) fuel ptoks s₁ hlex i (hnoinc i)

/-- `config_read` from a stream -/
theorem C10P_read_stream (w : World) (c₀ : Config) (content : Bytes) (fuel : Nat)
    (ptoks : List ((Nat × TokVal) × ScanState)) (s₁ : ScanState)
    (hlex : LexesToPos (theEnv w c₀ fuel) (C01Parse.readScanStart none content) ptoks s₁)
    (hnames : NamesValid (tokensOf ptoks)) (hnest : nesting (tokensOf ptoks) ≤ maxNesting)
    (hfuel : (read w c₀ (.stream content) fuel).result ≠ .outOfFuel) (t : Node)
    (hd : denote { allowOverrides := c₀.opt OPT_ALLOW_OVERRIDES } (tokensOf ptoks) = .ok t) :
    (read w c₀ (.stream content) fuel).ok = true ∧
    stripPos (read w c₀ (.stream content) fuel).cfg.root = t ∧
    denoteAt { allowOverrides := c₀.opt OPT_ALLOW_OVERRIDES } (posStamp ptoks s₁) (0, none)
      (tokensOf ptoks) = .ok (read w c₀ (.stream content) fuel).cfg.root ∧
    (read w c₀ (.stream content) fuel).cfg.root.line = 0 ∧
    (read w c₀ (.stream content) fuel).cfg.root.file = none ∧
    ∀ (p : Path) (n : Node), p ≠ [] → (read w c₀ (.stream content) fuel).cfg.root.get? p = some n →
      ∃ i, provIndex { allowOverrides := c₀.opt OPT_ALLOW_OVERRIDES } (tokensOf ptoks) p = some i ∧
        n.line = (stateAfter ptoks s₁ i).buf.lineno ∧
        n.file = (stateAfter ptoks s₁ i).currentFilename :=
  C10P_readCore w c₀ none content fuel ptoks s₁ hlex hnames hnest hfuel t hd

/-- `config_read_file` of a readable file -/
theorem C10P_read_file (w : World) (c₀ : Config) (path content : Bytes) (fuel : Nat)
    (ptoks : List ((Nat × TokVal) × ScanState)) (s₁ : ScanState)
    (hfile : w.open? path = some content)
    (hlex : LexesToPos (theEnv w c₀ fuel) (C01Parse.readScanStart (some path) content) ptoks s₁)
    (hnames : NamesValid (tokensOf ptoks)) (hnest : nesting (tokensOf ptoks) ≤ maxNesting)
    (hfuel : (read w c₀ (.file path) fuel).result ≠ .outOfFuel) (t : Node)
    (hd : denote { allowOverrides := c₀.opt OPT_ALLOW_OVERRIDES } (tokensOf ptoks) = .ok t) :
    (read w c₀ (.file path) fuel).ok = true ∧
    stripPos (read w c₀ (.file path) fuel).cfg.root = t ∧
    denoteAt { allowOverrides := c₀.opt OPT_ALLOW_OVERRIDES } (posStamp ptoks s₁) (0, some path)
      (tokensOf ptoks) = .ok (read w c₀ (.file path) fuel).cfg.root ∧
    (read w c₀ (.file path) fuel).cfg.root.line = 0 ∧
    (read w c₀ (.file path) fuel).cfg.root.file = some path ∧
    ∀ (p : Path) (n : Node), p ≠ [] → (read w c₀ (.file path) fuel).cfg.root.get? p = some n →
      ∃ i, provIndex { allowOverrides := c₀.opt OPT_ALLOW_OVERRIDES } (tokensOf ptoks) p = some i ∧
        n.line = (stateAfter ptoks s₁ i).buf.lineno ∧
        n.file = (stateAfter ptoks s₁ i).currentFilename := by
  rw [C09P.read_file w c₀ path content fuel hfile] at hfuel ⊢
  exact C10P_readCore w c₀ (some path) content fuel ptoks s₁ hlex hnames hnest hfuel t hd

/-! ### every named setting reports the file and the line where its name was written -/

/-- **Named settings** (the statement the property is named after), for `__config_read`: under the
hypotheses of `C10P_readCore`, every setting of the tree that has a name `nm` — at whatever depth,
whatever its value — has the line and the file of the scan state right after a NAME token of the
text that carries that name: the scanner's line counter for the buffer that token was read from,
and the name of the file that buffer belongs to. -/
theorem C10P_readCore_named (w : World) (c₀ : Config) (filename : Option Bytes) (inp : Bytes)
    (fuel : Nat) (ptoks : List ((Nat × TokVal) × ScanState)) (s₁ : ScanState)
    (hlex : LexesToPos (theEnv w c₀ fuel) (C01Parse.readScanStart filename inp) ptoks s₁)
    (hnames : NamesValid (tokensOf ptoks)) (hnest : nesting (tokensOf ptoks) ≤ maxNesting)
    (hfuel : (readCore w c₀ filename inp fuel).result ≠ .outOfFuel) (t : Node)
    (hd : denote { allowOverrides := c₀.opt OPT_ALLOW_OVERRIDES } (tokensOf ptoks) = .ok t)
    (p : Path) (n : Node) (nm : Bytes)
    (hn : (readCore w c₀ filename inp fuel).cfg.root.get? p = some n) (hname : n.name = some nm) :
    ∃ i v, (tokensOf ptoks)[i]? = some (Generated.tokens.name, v) ∧ v.sval = nm ∧
      provIndex { allowOverrides := c₀.opt OPT_ALLOW_OVERRIDES } (tokensOf ptoks) p = some i ∧
      n.line = (stateAfter ptoks s₁ i).buf.lineno ∧
      n.file = (stateAfter ptoks s₁ i).currentFilename := by
  obtain ⟨_, h2, h3, _, _, h6⟩ :=
    C10P_readCore w c₀ filename inp fuel ptoks s₁ hlex hnames hnest hfuel t hd
  have hne : p ≠ [] := by
    intro hp
    subst hp
    rw [get?_nil] at hn
    injection hn with hn
    obtain ⟨members, _, hr⟩ := C10Prov.denoteAt_ok h3
    rw [← hn, hr] at hname
    cases hname
  obtain ⟨i, hi, hl, hf⟩ := h6 p n hne hn
  have hm : t.get? p = some (stripPos n) := by rw [← h2, get?_stripPos, hn]; rfl
  have hnm : (stripPos n).name = some nm := by
    show (C01Parse.stripPos n).name = some nm
    rw [C01Parse.stripPos_pp, C01PP.stripPos_eq]
    exact hname
  obtain ⟨v, hv1, hv2⟩ := C10P_named_is_name_token _ _ t hd p _ nm i hm hnm hi
  exact ⟨i, v, hv1, hv2, hi, hl, hf⟩

/-! ### include trees

For an include tree satisfying `IncludeTreeOK'` (Properties/C10Splice.lean) the hypothesis of the
theorems above — a scanner run without include error — need not be assumed: the scan of the top
file with the include machinery reaches end of input (`C10_tokens_exist`), and the read does not
run out of fuel (`C10_read_with_includes_terminates`).  So every named setting of the tree read
through the include machinery reports the position of its NAME token as the scanner stands right
after it: the name of the file whose buffer is current — the file that contains the token — and
that buffer's own line counter (`C10_lineno_per_buffer`: one per buffer, starting at 1; `C10_pop`:
the parent's counter is restored when the included file ends). -/

/-- **The scan state recorded with a token belongs to the buffer the token was matched in**: the
state right after the token with index `i` of a run is `sm` with the lexeme matched at the head of
its buffer consumed (`C10Prov.ConsumedFrom`), for the state `sm` in which the iteration of `yylex`
that returned the token started: the same include stack and top-level file — hence the same
current file —, that buffer behind the lexeme, its line counter advanced over the lexeme.  A
directive, or the end of an included file, is dealt with in an iteration that returns no token:
the file and the line a setting reports are those of the buffer — the file — its token was read
from.  (For any scanner tables.) -/
theorem C10P_token_in_current_buffer (E : ParserEnv) (s₀ s₁ : ScanState)
    (ptoks : List ((Nat × TokVal) × ScanState)) (h : LexesToPos E s₀ ptoks s₁) (i : Nat)
    (hi : i < ptoks.length) :
    ∃ sm, C10Prov.ConsumedFrom E.T sm (stateAfter ptoks s₁ i) ∧
      (stateAfter ptoks s₁ i).currentFilename = sm.currentFilename := by
  induction h generalizing i with
  | eof s s' hy => cases hi
  | tok s sa s' t v rest hy _ ih =>
    cases i with
    | zero =>
      obtain ⟨sm, hsm⟩ := C10Prov.yylex_tok_last hy
      exact ⟨sm, hsm, hsm.currentFilename⟩
    | succ j =>
      have := ih j (Nat.lt_of_succ_lt_succ hi)
      unfold stateAfter at this ⊢
      simp only [List.getElem?_cons_succ]
      exact this

/-- from the token-level relation of Properties/C10Splice.lean to a run with positions -/
theorem lexesToPos_of_lexes (w : World) (c : Config) (fuel : Nat) (s : ScanState)
    (toks : List (Nat × TokVal))
    (h : C10.Lexes w { fn := c.includeFn, dir := c.includeDir } fuel s toks) :
    ∃ ptoks s₁, tokensOf ptoks = toks ∧ LexesToPos (theEnv w c fuel) s ptoks s₁ := by
  induction h with
  | @eof s he =>
    exact ⟨[], (yylex Generated.scanner Generated.scanActions w
      { fn := c.includeFn, dir := c.includeDir } fuel s).1, rfl, .eof s _ (Prod.ext rfl he)⟩
  | @tok s s' t v rest ht _ ih =>
    obtain ⟨ptoks, s₁, h1, h2⟩ := ih
    exact ⟨((t, v), s') :: ptoks, s₁, by rw [← h1]; rfl, .tok s s' s₁ t v ptoks ht h2⟩

/-- **C10P for include trees.**  Let the world hold bytes, let `top` be a readable file whose
include tree is well-formed (`IncludeTreeOK'`: at most 10 levels, every named file exists, plain
lines, cut at line boundaries), and let `fuel ≥ spliceFuel`.  Then the scan of `top` with the
include machinery is a run with positions `ptoks` without include error; and if its tokens are
nested within the bound and denote the tree `t`, then `config_read_file` succeeds with `t`
positions apart, the root reports line 0 of `top`, every setting reports the position of the token
`provIndex` names — and every NAMED setting the line and the file of the scan state right after a
NAME token carrying its name: the file that contains that token, and the line within THAT file. -/
theorem C10P_include_tree (w : World) (hw : C03P.WorldOK w) (c₀ : Config) (top content : Bytes)
    (hopen : w.open? top = some content)
    (htree : C10.IncludeTreeOK' w { fn := c₀.includeFn, dir := c₀.includeDir } 10 content)
    (fuel : Nat) (hf : C10.spliceFuel w c₀ top content ≤ fuel) :
    ∃ ptoks s₁,
      LexesToPos (theEnv w c₀ fuel) (C01Parse.readScanStart (some top) content) ptoks s₁ ∧
      ∀ t, nesting (tokensOf ptoks) ≤ maxNesting →
        denote { allowOverrides := c₀.opt OPT_ALLOW_OVERRIDES } (tokensOf ptoks) = .ok t →
        (read w c₀ (.file top) fuel).ok = true ∧
        stripPos (read w c₀ (.file top) fuel).cfg.root = t ∧
        (read w c₀ (.file top) fuel).cfg.root.line = 0 ∧
        (read w c₀ (.file top) fuel).cfg.root.file = some top ∧
        ∀ (p : Path) (n : Node), p ≠ [] →
          (read w c₀ (.file top) fuel).cfg.root.get? p = some n →
          ∃ i, provIndex { allowOverrides := c₀.opt OPT_ALLOW_OVERRIDES } (tokensOf ptoks) p =
              some i ∧
            n.line = (stateAfter ptoks s₁ i).buf.lineno ∧
            n.file = (stateAfter ptoks s₁ i).currentFilename ∧
            ∀ nm, n.name = some nm →
              ∃ v, (tokensOf ptoks)[i]? = some (Generated.tokens.name, v) ∧ v.sval = nm := by
  obtain ⟨toks, _, hlexes⟩ := C10.C10_token_count w { fn := c₀.includeFn, dir := c₀.includeDir }
    (some top) content htree
  have hmu : C10S.mu w { fn := c₀.includeFn, dir := c₀.includeDir } (C10.scanStart (some top) content)
      ≤ fuel := by
    unfold C10.spliceFuel at hf
    omega
  obtain ⟨ptoks, s₁, hpt, hlex⟩ := lexesToPos_of_lexes w c₀ fuel _ toks (hlexes fuel hmu).1
  have hlex' : LexesToPos (theEnv w c₀ fuel) (C01Parse.readScanStart (some top) content) ptoks s₁ :=
    hlex
  refine ⟨ptoks, s₁, hlex', fun t hnest hd => ?_⟩
  have hfuel := C10.C10_read_with_includes_terminates w c₀ top content hopen htree fuel hf
  have hb : C03P.BytesOK content := by
    have h10 : C10.IncludeTreeOK' w { fn := c₀.includeFn, dir := c₀.includeDir } (9 + 1) content :=
      htree
    rw [C10.IncludeTreeOK'] at h10
    exact fun x hx => (h10.1 x hx).2
  have hnames : NamesValid (tokensOf ptoks) :=
    C02D_scanner_names w hw c₀ fuel _ _ _ (scanOK_start (some top) content hb)
      (LexesToPos.plain hlex').lexesTo
  rw [C09P.read_file w c₀ top content fuel hopen] at hfuel ⊢
  obtain ⟨h1, h2, _, h4, h5, h6⟩ :=
    C10P_readCore w c₀ (some top) content fuel ptoks s₁ hlex' hnames hnest hfuel t hd
  refine ⟨h1, h2, h4, h5, fun p n hne hn => ?_⟩
  obtain ⟨i, hi, hl, hfl⟩ := h6 p n hne hn
  refine ⟨i, hi, hl, hfl, fun nm hname => ?_⟩
  obtain ⟨i', v, hv1, hv2, hi', _, _⟩ := C10P_readCore_named w c₀ (some top) content fuel ptoks s₁
    hlex' hnames hnest hfuel t hd p n nm hn hname
  rw [hi] at hi'
  injection hi' with hi'
  subst hi'
  exact ⟨v, hv1, hv2⟩

/-! ### the theorems at work (evaluated by the kernel)

The hypotheses of the theorems are satisfiable and their conclusions say something: for the inputs
below the compiled scanner does deliver tokens without include error (`lexAllPos` of
Properties/C09Line.lean runs it, keeping the scan state after every token), the tokens satisfy the
side conditions and denote a configuration, so `C10P_readCore` applies and PREDICTS the whole tree,
positions included, from the interpreter's reading and the scanner's states alone
(`predictTree`: the parser is not run); the kernel, running `read` itself, finds the same. -/

/-- name, type, line and file of every setting of a tree, in document order -/
def posRows (n : Node) : List (Option Bytes × Nat × Nat × Option Bytes) :=
  (C01Parse.rows n).map fun r => (r.name, r.ty, r.line, r.file)

/-- the tree `C10P_readCore` predicts for `__config_read` on an input whose scanning the kernel can
carry out (computed from the scanner's states and the interpreter's reading) -/
def predictTree (w : World) (c₀ : Config) (filename : Option Bytes) (inp : Bytes) : Option Node :=
  match lexAllPos (theEnv w c₀ 1000) 200 (C01Parse.readScanStart filename inp) with
  | none => none
  | some (ptoks, sEnd) =>
    if checkToks (tokensOf ptoks) then
      match denoteAt { allowOverrides := c₀.opt OPT_ALLOW_OVERRIDES } (posStamp ptoks sEnd)
          (0, filename) (tokensOf ptoks) with
      | .ok T => some T
      | .error _ => none
    else none

/-- how `C10P_readCore` applies: what `predictTree` says is the tree `__config_read` leaves -/
theorem readCore_of_predictTree (w : World) (c₀ : Config) (filename : Option Bytes) (inp : Bytes)
    (T : Node) (h : predictTree w c₀ filename inp = some T)
    (hfuel : (readCore w c₀ filename inp 1000).result ≠ .outOfFuel) :
    (readCore w c₀ filename inp 1000).ok = true ∧ (readCore w c₀ filename inp 1000).cfg.root = T := by
  unfold predictTree at h
  split at h
  · cases h
  · rename_i ptoks sEnd hl
    split at h
    · rename_i hck
      obtain ⟨hn, hd⟩ := checkToks_spec hck
      split at h
      · rename_i T' hT
        injection h with h
        subst h
        have hden := C10P_denoteAt_denote { allowOverrides := c₀.opt OPT_ALLOW_OVERRIDES }
          (posStamp ptoks sEnd) (0, filename) (tokensOf ptoks)
        rw [hT] at hden
        obtain ⟨h1, _, h3, _⟩ := C10P_readCore w c₀ filename inp 1000 ptoks sEnd
          (lexAllPos_sound 200 _ _ _ hl) hn hd hfuel _ hden
        rw [hT] at h3
        injection h3 with h3
        exact ⟨h1, h3.symm⟩
      · cases h
    · cases h

/-- … in terms of the rows -/
theorem readCore_of_predict (w : World) (c₀ : Config) (filename : Option Bytes) (inp : Bytes)
    (rows : List (Option Bytes × Nat × Nat × Option Bytes))
    (h : (predictTree w c₀ filename inp).map posRows = some rows)
    (hfuel : (readCore w c₀ filename inp 1000).result ≠ .outOfFuel) :
    (readCore w c₀ filename inp 1000).ok = true ∧
    posRows (readCore w c₀ filename inp 1000).cfg.root = rows := by
  cases hp : predictTree w c₀ filename inp with
  | none => rw [hp] at h; cases h
  | some T =>
    rw [hp] at h
    simp only [Option.map_some, Option.some.injEq] at h
    obtain ⟨h1, h2⟩ := readCore_of_predictTree w c₀ filename inp T hp hfuel
    exact ⟨h1, by rw [h2]; exact h⟩

/-- … for `config_read_file` -/
theorem read_file_of_predict (w : World) (c₀ : Config) (path content : Bytes)
    (hfile : w.open? path = some content)
    (rows : List (Option Bytes × Nat × Nat × Option Bytes))
    (h : (predictTree w c₀ (some path) content).map posRows = some rows)
    (hfuel : (read w c₀ (.file path) 1000).result ≠ .outOfFuel) :
    (read w c₀ (.file path) 1000).ok = true ∧
    posRows (read w c₀ (.file path) 1000).cfg.root = rows := by
  rw [C09P.read_file w c₀ path content 1000 hfile] at hfuel ⊢
  exact readCore_of_predict w c₀ (some path) content rows h hfuel

/-- 1. a three-file include tree: the file `top.cfg`
```
t1 = 1;
@include "a.cfg"
t2 = 2;
```
includes `a.cfg`
```

a1 = 1;
@include "b.cfg"
a2 = { x = 1; };
```
which includes `b.cfg`
```


b1 = 7;
```
Every setting reports ITS OWN file and its line within that file: `a1` line 2 of `a.cfg`, `b1`
line 3 of `b.cfg`, `a2` and its member `x` line 4 of `a.cfg` (the counter of `a.cfg` goes on where
it stood when `b.cfg` was included), `t2` line 3 of `top.cfg`; the root line 0 of `top.cfg`. -/
def top1 : Bytes := bytesOfString "t1 = 1;\n@include \"a.cfg\"\nt2 = 2;\n"
def world1 : World :=
  { files := [(bytesOfString "top.cfg", some top1),
              (bytesOfString "a.cfg",
                some (bytesOfString "\na1 = 1;\n@include \"b.cfg\"\na2 = { x = 1; };\n")),
              (bytesOfString "b.cfg", some (bytesOfString "\n\nb1 = 7;\n"))] }

def rows1 : List (Option Bytes × Nat × Nat × Option Bytes) :=
  [(none, T_GROUP, 0, some (bytesOfString "top.cfg")),
   (some (bytesOfString "t1"), T_INT, 1, some (bytesOfString "top.cfg")),
   (some (bytesOfString "a1"), T_INT, 2, some (bytesOfString "a.cfg")),
   (some (bytesOfString "b1"), T_INT, 3, some (bytesOfString "b.cfg")),
   (some (bytesOfString "a2"), T_GROUP, 4, some (bytesOfString "a.cfg")),
   (some (bytesOfString "x"), T_INT, 4, some (bytesOfString "a.cfg")),
   (some (bytesOfString "t2"), T_INT, 3, some (bytesOfString "top.cfg"))]

/-- What `read` itself does on this tree — it ends, and leaves these rows — and the other two
hypotheses of `read_file_of_predict`.  One kernel check for all of it (so below, one for each
input): within one check the kernel evaluates a run once, however often it is mentioned. -/
theorem world1_facts :
    (read world1 Config.init (.file (bytesOfString "top.cfg")) 1000).result ≠ .outOfFuel ∧
    posRows (read world1 Config.init (.file (bytesOfString "top.cfg")) 1000).cfg.root = rows1 ∧
    world1.open? (bytesOfString "top.cfg") = some top1 ∧
    (predictTree world1 Config.init (some (bytesOfString "top.cfg")) top1).map posRows = some rows1 := by
  rw [world1, top1]; repeat rw [bytesOfString_ofList]
  decide +kernel

theorem example1 :
    (read world1 Config.init (.file (bytesOfString "top.cfg")) 1000).ok = true ∧
    posRows (read world1 Config.init (.file (bytesOfString "top.cfg")) 1000).cfg.root = rows1 :=
  read_file_of_predict world1 Config.init (bytesOfString "top.cfg") top1 world1_facts.2.2.1 rows1
    world1_facts.2.2.2 world1_facts.1

/-- … which the kernel confirms by running `read` -/
example : posRows (read world1 Config.init (.file (bytesOfString "top.cfg")) 1000).cfg.root = rows1 :=
  world1_facts.2.1

/-- the files of a world hold bytes, decidably -/
def checkWorld (w : World) : Bool :=
  w.files.all fun e => match e.2 with
    | some c => c.all fun x => Nat.blt x 256
    | none => true

theorem checkWorld_sound {w : World} (h : checkWorld w = true) : C03P.WorldOK w := by
  intro p c hpc x hx
  have := List.all_eq_true.mp h (p, some c) hpc
  simp only at this
  exact Nat.le_of_ble_eq_true (List.all_eq_true.mp this x hx)

/-- … and `C10P_include_tree` applies to this tree: it is well-formed, the world holds bytes, the
fuel is enough (`spliceFuel` = 530 here) — no hypothesis about the scanner is left -/
example : ∃ ptoks s₁,
    LexesToPos (theEnv world1 Config.init 1000)
      (C01Parse.readScanStart (some (bytesOfString "top.cfg")) top1) ptoks s₁ ∧
    ∀ t, nesting (tokensOf ptoks) ≤ maxNesting →
      denote { allowOverrides := Config.init.opt OPT_ALLOW_OVERRIDES } (tokensOf ptoks) = .ok t →
      (read world1 Config.init (.file (bytesOfString "top.cfg")) 1000).ok = true ∧
      stripPos (read world1 Config.init (.file (bytesOfString "top.cfg")) 1000).cfg.root = t ∧
      (read world1 Config.init (.file (bytesOfString "top.cfg")) 1000).cfg.root.line = 0 ∧
      (read world1 Config.init (.file (bytesOfString "top.cfg")) 1000).cfg.root.file =
        some (bytesOfString "top.cfg") ∧
      ∀ (p : Path) (n : Node), p ≠ [] →
        (read world1 Config.init (.file (bytesOfString "top.cfg")) 1000).cfg.root.get? p = some n →
        ∃ i, provIndex { allowOverrides := Config.init.opt OPT_ALLOW_OVERRIDES } (tokensOf ptoks) p =
            some i ∧
          n.line = (stateAfter ptoks s₁ i).buf.lineno ∧
          n.file = (stateAfter ptoks s₁ i).currentFilename ∧
          ∀ nm, n.name = some nm →
            ∃ v, (tokensOf ptoks)[i]? = some (Generated.tokens.name, v) ∧ v.sval = nm :=
  -- the other three hypotheses in one kernel check
  have h : _ ∧ _ ∧ _ := by
    rw [world1, top1]; repeat rw [bytesOfString_ofList]
    decide +kernel
  C10P_include_tree world1 (checkWorld_sound h.1) Config.init (bytesOfString "top.cfg") top1
    world1_facts.2.2.1 (C10.checkTree'_sound _ _ 10 _ h.2.1) 1000 h.2.2

/-- the provenance tree of that read: the index of the token each setting reports (in the field
`line`) — `t1` token 0, `a1` token 4, `b1` token 8, `a2` token 12, `x` token 15 (its NAME, behind
`a2 = {`), `t2` token 21 — each the NAME token of that setting -/
example :
    (lexAllPos (theEnv world1 Config.init 1000) 200
      (C01Parse.readScanStart (some (bytesOfString "top.cfg")) top1)).map (fun p =>
        match denoteProv {} (tokensOf p.1) with
        | .ok T => (C01Parse.rows T).map (fun r => (r.name, r.line))
        | .error _ => []) =
    some [(none, 0), (some (bytesOfString "t1"), 0), (some (bytesOfString "a1"), 4),
      (some (bytesOfString "b1"), 8), (some (bytesOfString "a2"), 12), (some (bytesOfString "x"), 15),
      (some (bytesOfString "t2"), 21)] := by
  rw [world1, top1]; repeat rw [bytesOfString_ofList]
  decide +kernel

/-- … as `C10P_named_is_name_token` says: the tokens with these indices are NAME tokens carrying
these names -/
example :
    (lexAllPos (theEnv world1 Config.init 1000) 200
      (C01Parse.readScanStart (some (bytesOfString "top.cfg")) top1)).map (fun p =>
        [0, 4, 8, 12, 15, 21].map fun i =>
          ((tokensOf p.1)[i]?).map fun tv => (tv.1 == Generated.tokens.name, tv.2.sval)) =
    some [some (true, bytesOfString "t1"), some (true, bytesOfString "a1"),
      some (true, bytesOfString "b1"), some (true, bytesOfString "a2"),
      some (true, bytesOfString "x"), some (true, bytesOfString "t2")] := by
  rw [world1, top1]; repeat rw [bytesOfString_ofList]
  decide +kernel

/-- 2. a setting whose name and value stand on different lines, list elements, a string element, a
group and an array nested in a list — read from a string:
```
a
  =
    3;
l = ( 1,
      "x" "y"

      , { g = true; }
      , [ 2,
          3 ] );
```
`a` reports line 1, the line of its NAME (its `=` is on line 2, its value on line 3); `l` line 4;
its elements: `1` line 4 (its own token); the string `"x" "y"` line 7 — NOT line 5 where it stands:
the line of the comma behind it, which the parser has had to look at to know that the string is
complete; the group line 7 (its `{`) and its member `g` line 7 (its NAME); the array line 8 (its
`[`), `2` line 8, `3` line 9.  No setting has a file: the text was read from a string. -/
def text2 : Bytes := bytesOfString
  "a\n  =\n    3;\nl = ( 1,\n      \"x\" \"y\"\n\n      , { g = true; }\n      , [ 2,\n          3 ] );\n"

def rows2 (file : Option Bytes) : List (Option Bytes × Nat × Nat × Option Bytes) :=
  [(none, T_GROUP, 0, file),
   (some (bytesOfString "a"), T_INT, 1, file),
   (some (bytesOfString "l"), T_LIST, 4, file),
   (none, T_INT, 4, file),
   (none, T_STRING, 7, file),
   (none, T_GROUP, 7, file),
   (some (bytesOfString "g"), T_BOOL, 7, file),
   (none, T_ARRAY, 8, file),
   (none, T_INT, 8, file),
   (none, T_INT, 9, file)]

theorem text2_facts :
    (read {} Config.init (.string text2) 1000).result ≠ .outOfFuel ∧
    posRows (read {} Config.init (.string text2) 1000).cfg.root = rows2 none ∧
    (predictTree {} Config.init none (cstr text2)).map posRows = some (rows2 none) := by
  rw [text2, bytesOfString_ofList]; decide +kernel

theorem example2 : (read {} Config.init (.string text2) 1000).ok = true ∧
    posRows (read {} Config.init (.string text2) 1000).cfg.root = rows2 none :=
  readCore_of_predict {} Config.init none (cstr text2) (rows2 none) text2_facts.2.2 text2_facts.1

example : posRows (read {} Config.init (.string text2) 1000).cfg.root = rows2 none :=
  text2_facts.2.1

/-- the provenance tree of text 2: `a` token 0, `l` token 4, the element `1` token 7 (itself), the
string element token 11 (the comma behind `"y"`, which is token 10), the group token 12 (`{`), `g`
token 13, the array token 19 (`[`), `2` token 20, `3` token 22 -/
example :
    (lexText text2).map (fun toks =>
      match denoteProv {} toks with
      | .ok T => (C01Parse.rows T).map (fun r => r.line)
      | .error _ => []) = some [0, 0, 4, 7, 11, 12, 13, 19, 20, 22] := by
  rw [text2, bytesOfString_ofList]; decide +kernel

/-- … `provIndex` path by path: the member `g` of the group that is element 2 of the list `l` -/
example : (lexText text2).map (fun toks => provIndex {} toks [1, 2, 0]) = some (some 13) := by
  rw [text2, bytesOfString_ofList]; decide +kernel

/-- 3. the same text read from a file `f.cfg`: the same lines, and every setting reports
`f.cfg` -/
def world3 : World := { files := [(bytesOfString "f.cfg", some text2)] }

theorem world3_facts :
    (read world3 Config.init (.file (bytesOfString "f.cfg")) 1000).result ≠ .outOfFuel ∧
    posRows (read world3 Config.init (.file (bytesOfString "f.cfg")) 1000).cfg.root =
      rows2 (some (bytesOfString "f.cfg")) ∧
    world3.open? (bytesOfString "f.cfg") = some text2 ∧
    (predictTree world3 Config.init (some (bytesOfString "f.cfg")) text2).map posRows =
      some (rows2 (some (bytesOfString "f.cfg"))) := by
  rw [world3, text2, bytesOfString_ofList, bytesOfString_ofList]; decide +kernel

theorem example3 : (read world3 Config.init (.file (bytesOfString "f.cfg")) 1000).ok = true ∧
    posRows (read world3 Config.init (.file (bytesOfString "f.cfg")) 1000).cfg.root =
      rows2 (some (bytesOfString "f.cfg")) :=
  read_file_of_predict world3 Config.init (bytesOfString "f.cfg") text2 world3_facts.2.2.1
    (rows2 (some (bytesOfString "f.cfg"))) world3_facts.2.2.2 world3_facts.1

example : posRows (read world3 Config.init (.file (bytesOfString "f.cfg")) 1000).cfg.root =
    rows2 (some (bytesOfString "f.cfg")) := world3_facts.2.1

/-- 4. with `ALLOW_OVERRIDES` the later setting of a name replaces the earlier one — and reports
its own NAME token:
```
a = 1;
b = 2;
a = 3;
``` -/
def text4 : Bytes := bytesOfString "a = 1;\nb = 2;\na = 3;\n"

theorem example4 :
    (read {} { Config.init with options := OPT_ALLOW_OVERRIDES } (.string text4) 1000).ok = true ∧
    posRows (read {} { Config.init with options := OPT_ALLOW_OVERRIDES } (.string text4)
      1000).cfg.root =
      [(none, T_GROUP, 0, none), (some (bytesOfString "b"), T_INT, 2, none),
       (some (bytesOfString "a"), T_INT, 3, none)] :=
  have h : _ ∧ _ := by decide +kernel
  readCore_of_predict {} { Config.init with options := OPT_ALLOW_OVERRIDES } none (cstr text4) _ h.1 h.2

/-! ### the finding, as a theorem

The statement one would write down from the documentation alone — "a scalar element reports the
position of a token of its own" — is false of `libconfig_yyparse` for STRING elements: text 5
refutes it.  (This is why `elemKey` is part of the specification.) -/

/-- "a string element reports the line on which one of the string literals of the text ends" -/
def OwnTokenStatement : Prop :=
  ∀ (w : World) (c₀ : Config) (lexFuel : Nat) (o : Options)
    (ptoks : List ((Nat × TokVal) × ScanState)),
    NamesValid (tokensOf ptoks) → nesting (tokensOf ptoks) ≤ maxNesting →
    ∀ (fuel : Nat) (s₀ s₁ s' : ScanState) (ctx₀ ctx' : ParseCtx) (r : ParseResult),
      LexesToPos (theEnv w c₀ lexFuel) s₀ ptoks s₁ →
      stripPos ctx₀.cfg.root = { ty := T_GROUP } → ctx₀.parent = some [] → ctx₀.str = none →
      ctx₀.cfg.opt OPT_ALLOW_OVERRIDES = o.allowOverrides → ctx₀.cfg.errText = none →
      yyparse (theEnv w c₀ lexFuel) fuel s₀ ctx₀ = (s', ctx', r) → r ≠ .outOfFuel →
      ∀ t, denote o (tokensOf ptoks) = .ok t →
      ∀ (p : Path) (n : Node), ctx'.cfg.root.get? p = some n → n.name = none → n.ty = T_STRING →
        ∃ j, isStringAt (tokensOf ptoks) j = true ∧ n.line = (stateAfter ptoks s₁ j).buf.lineno

/-- text 5:
```
a = ( "x"

      , 1 );
```
-/
def text5 : Bytes := bytesOfString "a = ( \"x\"\n\n      , 1 );\n"

/-- **The counterexample** (the successful-case twin of finding
`C02:string-element-mismatch-line`): for text 5 all hypotheses hold, the only string literal of the
text — `"x"`, token 3 — stands on line 1, and the string element `a[0]` reports line 3: the line of
the comma (token 4), as `C10P_provenance` says (`provIndex … [0, 0] = some 4`). -/
theorem C10P_string_element_finding : ¬ OwnTokenStatement := by
  intro H
  -- the scan and the parse of text 5, in one kernel check
  have hfacts : (lexAllPos (theEnv {} Config.init 1000) 200
        (C01Parse.readScanStart none (cstr text5))).isSome = true ∧
      (lexAllPos (theEnv {} Config.init 1000) 200
        (C01Parse.readScanStart none (cstr text5))).all (fun q =>
          checkToks (tokensOf q.1) &&
          (match denote {} (tokensOf q.1) with | .ok _ => true | .error _ => false) &&
          (List.range (tokensOf q.1).length).all (fun j =>
            !(isStringAt (tokensOf q.1) j) || ((stateAfter q.1 q.2 j).buf.lineno != 3))) = true ∧
      (yyparse (theEnv {} Config.init 1000) 1000
          (C01Parse.readScanStart none (cstr text5)) { cfg := {} }).2.2 ≠ .outOfFuel ∧
        ((yyparse (theEnv {} Config.init 1000) 1000
          (C01Parse.readScanStart none (cstr text5)) { cfg := {} }).2.1.cfg.root.get? [0, 0]).map
            (fun n => (n.name, n.ty, n.line)) = some (none, T_STRING, 3) := by
    decide +kernel
  obtain ⟨hsome, hall, hrun⟩ := hfacts
  cases hl : lexAllPos (theEnv {} Config.init 1000) 200
      (C01Parse.readScanStart none (cstr text5)) with
  | none =>
    rw [hl] at hsome
    cases hsome
  | some q =>
    obtain ⟨ptoks, sEnd⟩ := q
    rw [hl] at hall
    simp only [Option.all_some, Bool.and_eq_true] at hall
    obtain ⟨⟨hck, hden⟩, hnone⟩ := hall
    obtain ⟨hn, hd⟩ := checkToks_spec hck
    generalize hout : yyparse (theEnv {} Config.init 1000) 1000
      (C01Parse.readScanStart none (cstr text5)) { cfg := {} } = out at hrun
    obtain ⟨s', ctx', r⟩ := out
    obtain ⟨hr1, hr2⟩ := hrun
    cases hg : ctx'.cfg.root.get? [0, 0] with
    | none =>
      have hr2' : (ctx'.cfg.root.get? [0, 0]).map (fun n => (n.name, n.ty, n.line)) =
          some (none, T_STRING, 3) := hr2
      rw [hg] at hr2'
      cases hr2'
    | some n =>
      have hr2' : (ctx'.cfg.root.get? [0, 0]).map (fun n => (n.name, n.ty, n.line)) =
          some (none, T_STRING, 3) := hr2
      rw [hg] at hr2'
      simp only [Option.map_some, Option.some.injEq, Prod.mk.injEq] at hr2'
      obtain ⟨hname, hty, hline⟩ := hr2'
      cases hdn : denote {} (tokensOf ptoks) with
      | error k => rw [hdn] at hden; cases hden
      | ok t =>
        obtain ⟨j, hj1, hj2⟩ := H {} Config.init 1000 {} ptoks hn hd 1000 _ sEnd s' { cfg := {} }
          ctx' r (lexAllPos_sound 200 _ _ _ hl) rfl rfl rfl (by decide) rfl hout hr1 t hdn [0, 0] n
          hg hname hty
        have hjlt : j < (tokensOf ptoks).length := by
          unfold isStringAt at hj1
          cases hq : (tokensOf ptoks)[j]? with
          | none => rw [hq] at hj1; cases hj1
          | some tv => exact (List.getElem?_eq_some_iff.mp hq).1
        have := List.all_eq_true.mp hnone j (List.mem_range.mpr hjlt)
        rw [hj1, ← hj2, hline] at this
        exact absurd this (by decide)

/-- 5. … and it can be another FILE: the file `top.cfg`
```
l = (
@include "s.cfg"
, 2 );
```
includes `s.cfg`, which consists of an empty line and the string literal `"x"` (no final newline).
The string element `l[0]` is written on line 2 of `s.cfg`; it reports line 3 of `top.cfg` — the
position of the comma, token 4, that follows it: when the parser has seen that token the scanner has
left `s.cfg` and is back in `top.cfg`. -/
def top5 : Bytes := bytesOfString "l = (\n@include \"s.cfg\"\n, 2 );\n"
def world5 : World :=
  { files := [(bytesOfString "top.cfg", some top5),
              (bytesOfString "s.cfg", some (bytesOfString "\n\"x\""))] }

theorem example5 :
    (read world5 Config.init (.file (bytesOfString "top.cfg")) 1000).ok = true ∧
    posRows (read world5 Config.init (.file (bytesOfString "top.cfg")) 1000).cfg.root =
      [(none, T_GROUP, 0, some (bytesOfString "top.cfg")),
       (some (bytesOfString "l"), T_LIST, 1, some (bytesOfString "top.cfg")),
       (none, T_STRING, 3, some (bytesOfString "top.cfg")),
       (none, T_INT, 3, some (bytesOfString "top.cfg"))] :=
  have h : _ ∧ _ ∧ _ := by decide +kernel
  read_file_of_predict world5 Config.init (bytesOfString "top.cfg") top5 h.1 _ h.2.1 h.2.2

/-- … while the scanner, right after the string literal itself (token 3), stood on line 2 of
`s.cfg` -/
example :
    (lexAllPos (theEnv world5 Config.init 1000) 200
      (C01Parse.readScanStart (some (bytesOfString "top.cfg")) top5)).map (fun p =>
        (isStringAt (tokensOf p.1) 3, posStamp p.1 p.2 3, posStamp p.1 p.2 4)) =
    some (true, (2, some (bytesOfString "s.cfg")), (3, some (bytesOfString "top.cfg"))) := by
  decide +kernel

end Libconfig.C10Provenance
