import LibconfigModel.Proofs.C03
import LibconfigModel.Proofs.C03Tables
import LibconfigModel.Proofs.C03Lex
import LibconfigModel.Proofs.C03Parse
import LibconfigModel.ReadFault
import LibconfigModel.Properties.C04Read
/-
  C03 — reading arbitrary bytes is memory-safe, terminates and never kills the
  process.  PARTIAL: what follows is the part of the property that is logic.

  * no stray output: flex's default rule (ECHO, the only action that writes to the
    program's stdout) is never executed, for any bytes, through any include files;
  * no process exit: the outcome type of a read has no "exit" case (the one path to
    flex's `exit(2)`, `@include` of a directory, was repaired in scanctx.c and the
    model refuses directories in `World.open?`); every scanner and parser action is
    recognised; `crash` can only come out of a semantic action;
  * every access of the generated flex and bison tables that the skeleton loops make
    is in range and the flex default chain ends within its fuel — by kernel
    evaluation over the tables re-translated from scanner.c / grammar.c on every run;
  * bounded recursion: the parser stack never exceeds YYMAXDEPTH (10000) entries and
    reaching the limit ends the parse with "memory exhausted";
  * container arithmetic of strbuf.c, strvec.c, the child vectors and
    `libconfig_format_double`: every store is inside its allocation, for every
    sequence of operations, parametric in the chunk constants;
  * termination: every match consumes at least one byte; without readable include
    files `yylex` needs at most (bytes left + 1) iterations.

  Out-of-bounds / use-after-free / leaks in the C code itself (flex buffer pointer
  arithmetic, `memmove`, `realloc` results, `isalpha` on `char`) are NOT decided here;
  `tools/props_c03.py` observes them with ASan/UBSan/LSan on the real library —
  validation, not proof.
-/
namespace Libconfig.C03

open Libconfig Libconfig.C03P Libconfig.Containers

/-! ## 1. No stray output: ECHO is never executed -/

/-- among the translated scanner actions only rule 48 (flex's default rule) is ECHO … -/
theorem C03_echo_only_default : ∀ r, r < Generated.scanActions.length →
    Generated.scanActions.getD r .unknown = .echo → r = 48 := by decide +kernel

/-- … and `yylex` never reports it: for every fuel, every world whose readable files hold
bytes, every scan state whose buffers hold bytes (`ScanOK`: start condition one of the five of
scanner.l; current buffer and every parent buffer on the include stack are bytes).  The
invariant is preserved, so this holds for every later call as well. -/
theorem C03_no_echo (w : World) (hw : WorldOK w) (ic : IncludeCfg) (fuel : Nat) (s : ScanState)
    (hs : ScanOK s) :
    (∀ b, (yylex Generated.scanner Generated.scanActions w ic fuel s).2 ≠ .echo b) ∧
    ScanOK (yylex Generated.scanner Generated.scanActions w ic fuel s).1 :=
  ⟨yylex_no_echo w hw ic fuel s hs, yylex_scanOK w hw ic fuel s hs⟩

/-- A read — from a string, a stream or a file, with any include files — never ends in the
`echo` outcome. -/
theorem C03_read_no_echo (w : World) (hw : WorldOK w) (c : Config) (src : Source)
    (hs : SourceOK src) (fuel : Nat) (b : Nat) : (read w c src fuel).result ≠ .echo b :=
  read_no_echo w hw c src hs fuel b

/-! ## 2. No process exit; where `crash` can come from -/

/-- The outcomes of a read.  There is no "the process exited" case: the model of
`libconfig_scanctx_next_include_file` refuses a directory (it is not readable in
`World.open?`), as the repaired C code does, so flex's `YY_FATAL_ERROR` → `exit(2)` on a
failing `fread` is not reachable. -/
theorem C03_outcomes (w : World) (c : Config) (src : Source) (fuel : Nat) :
    (read w c src fuel).result = .accept ∨ (read w c src fuel).result = .abort ∨
    (read w c src fuel).result = .exhausted ∨ (read w c src fuel).result = .crash ∨
    (∃ b, (read w c src fuel).result = .echo b) ∨ (read w c src fuel).result = .outOfFuel := by
  cases (read w c src fuel).result
  · exact .inl rfl
  · exact .inr (.inl rfl)
  · exact .inr (.inr (.inl rfl))
  · exact .inr (.inr (.inr (.inl rfl)))
  · exact .inr (.inr (.inr (.inr (.inl ⟨_, rfl⟩))))
  · exact .inr (.inr (.inr (.inr (.inr rfl))))

/-! ### a failing `fread` is an ordinary failure

flex's default `YY_INPUT` calls `YY_FATAL_ERROR` → `exit(2)` with a message on stderr when a
read from the input stream fails (`config_read` on a stream opened on a directory,
`config_read_file` / `@include` of a file whose read fails).  The repaired scanner.l overrides
it; the translator checks on every run that scanner.c carries the override and that
`__config_read` turns the recorded failure into the I/O error (`inputErrorHandled`).  The
model of such a read is `ReadFault.lean`. -/

theorem C03_input_override : Generated.inputErrorHandled = true := by decide

/-- A read during which a stream fails — the caller's stream after delivering any bytes, the
top-level file or an included file — returns failure with the whole file-I/O error record
(the outcome is a return value like any other: no exit), and leaves the tree that the
parser built from what was delivered. -/
theorem C03_failing_read (r : ReadOut) :
    (failRead r).ok = false ∧ (failRead r).cfg.errType = ERR_FILE_IO ∧
    (failRead r).cfg.errText = some (bytesOfString "file I/O error") ∧
    (failRead r).cfg.errFile = none ∧ (failRead r).cfg.errLine = 0 ∧
    (failRead r).cfg.root = r.cfg.root ∧ (failRead r).result = r.result ∧
    (failRead r).events = r.events ∧ (failRead r).dtorLog = r.dtorLog :=
  ⟨rfl, rfl, by show some Generated.IO_ERROR_TEXT = _; decide +kernel, rfl, rfl, rfl, rfl, rfl, rfl⟩

/-- … and the configuration left behind is well-formed, hence usable by every operation
(`C04_read` carries over: the error record is not part of the invariant). -/
theorem C03_failing_stream_wf (w : World) (c : Config) (delivered : Bytes) (fuel : Nat) (h : c.WF) :
    (readFailingStream w c delivered fuel).cfg.WF := by
  have h' := Libconfig.C04.C04_read w c (.stream delivered) fuel h
  exact ⟨h'.1, h'.2, h'.3⟩

theorem C03_failing_file_wf (w : World) (c : Config) (src : Source) (path delivered : Bytes) (fuel : Nat)
    (h : c.WF) : (readWithFailingFile w c src path delivered fuel).cfg.WF := by
  have h' := Libconfig.C04.C04_read (w.truncate path delivered) c src fuel h
  exact ⟨h'.1, h'.2, h'.3⟩

/-- the read returns success exactly for `accept`; every other outcome is a plain failure
return -/
theorem C03_ok_iff_accept (w : World) (c : Config) (src : Source) (fuel : Nat) :
    (read w c src fuel).ok = true ↔ (read w c src fuel).result = .accept := by
  rw [C09P.read_ok]
  exact beq_iff_eq

/-- every action of the generated scanner (rules 1 … 48, and the shared `<<EOF>>` action) and
of the generated parser (rules 0 … 41, and the helper macros they use) was recognised by the
translator: no `.unknown` entry, which is what `runAction` turns into `crash` and `yylex` into
a refusal -/
theorem C03_actions_known :
    (∀ r, r < 49 → 1 ≤ r → Generated.scanActions.getD r .unknown ≠ .unknown) ∧
    Generated.scanActions.length = Generated.scanner.numRules + 1 ∧
    Generated.scanner.eofActionKnown = true ∧
    (∀ r, r < 42 → Generated.parseActions.getD r .unknown ≠ .unknown) ∧
    Generated.parseActions.length = Generated.parser.nrules + 1 ∧
    Generated.parseHelpersKnown = true := by decide +kernel

/-- `crash` (the model's marker for "the C code would dereference NULL here") can only be the
result of a semantic action: the skeleton has no crashing exit of its own along a run
(the stack is never empty, a lookahead is always present when it is used). -/
theorem C03_crash_only_from_actions (E : ParserEnv) (fuel : Nat) (s : ScanState) (ctx : ParseCtx)
    (h : (yyparse E fuel s ctx).2.2 = .crash) :
    ∃ rule c v line file c', runAction (E.acts.getD rule .unknown) c v line file = .crash c' := by
  obtain ⟨Y, hr, hfin⟩ := yyparseLoop_final E fuel (initial s ctx)
  have hres : yyparseLoop E fuel (initial s ctx).stack (initial s ctx).la (initial s ctx).s
      (initial s ctx).ctx = yyparse E fuel s ctx := rfl
  rw [hres] at hfin
  rcases hfin with hstep | hout
  · have hstep' : yystep E Y = .inl ((yyparse E fuel s ctx).1, (yyparse E fuel s ctx).2.1, .crash) := by
      rw [hstep, ← h]
    rcases yystep_crash E Y _ _ hstep' with hempty | ⟨rule, c, v, line, file, hc⟩
    · exact absurd hempty (reach_stack E s ctx Y hr).1
    · exact ⟨rule, c, v, line, file, _, hc⟩
  · rw [hout] at h; cases h

/-! ## 3. The generated tables: no out-of-range access, the default chain terminates -/

/-- documented shape of the scanner tables: 107 is the jam state (states are 1 … 107), there
are 55 equivalence classes (0 … 54), `yy_base`/`yy_def` have 118 entries (10 template states) -/
theorem C03_flex_shape :
    Generated.scanner.jamState = 107 ∧ Generated.scanner.metaT.len = 55 ∧
    Generated.scanner.base.len = 118 ∧ Generated.scanner.metaThreshold = 108 := by decide

/-- the sweep over the 107 states and 55 classes behind `C03_flex_bounds` and `C03_flex_step` -/
theorem flexTransOK_scanner : flexTransOK Generated.scanner 108 55 = true := by decide +kernel

/-- **flex.**  For every state 1 … 107 and every class 0 … 54, with the fuel `Flex.step`
supplies (number of `yy_base` entries + 1): every index `yy_base[s] + c` used along the
`yy_chk / yy_def / yy_meta` chase is inside `yy_chk` and `yy_nxt`, every state on the chain
indexes `yy_base` and `yy_def`, the class indexes `yy_meta` when it is translated, the state
delivered is one of 1 … 107, and the chase ends before the fuel does (`transSafe`, the
checked mirror of `Flex.trans`, is `false` in its fuel-exhausted case). -/
theorem C03_flex_bounds : ∀ s c, 1 ≤ s → s ≤ 107 → c < 55 →
    transSafe Generated.scanner (Generated.scanner.base.len + 1) s c = true := by
  intro s c h1 hs hc
  exact flexTransOK_spec flexTransOK_scanner s c h1 (by omega) hc

/-- `yy_ec` has 256 entries with classes below 55, the class of an embedded NUL is one of
them, `yy_meta` maps classes to classes, `yy_accept` has an entry for each of the states
0 … 107 and names a rule 1 … 48 or the end-of-buffer action 49 -/
theorem C03_flex_classes : flexClassesOK Generated.scanner 55 = true := by decide +kernel

/-- consequence for the matching loop: from a state of the automaton, on any byte, the step
made by `Flex.scan` delivers a state of the automaton (so the next `yy_accept`, `yy_base`,
`yy_def` accesses are in range too), and the result does not depend on the fuel: the `0`-fuel
branch of `Flex.trans` is never the one that returns -/
theorem C03_flex_step (s b : Nat) (h1 : 1 ≤ s) (hs : s ≤ 107) (hb : b < 256) :
    1 ≤ Flex.step Generated.scanner s b ∧ Flex.step Generated.scanner s b ≤ 107 ∧
    Flex.step Generated.scanner s b < Generated.scanner.accept.len ∧
    ∀ k, Flex.trans Generated.scanner (Generated.scanner.base.len + 1 + k) s
      (Flex.classOf Generated.scanner b) = Flex.step Generated.scanner s b :=
  step_safe (T := Generated.scanner) (nClasses := 55) flexTransOK_scanner C03_flex_classes s b h1 hs hb

/-- the start states (1 … 10) are states of the automaton -/
theorem C03_flex_start (sc : Nat) (hsc : sc < 5) (bol : Bool) :
    1 ≤ Flex.startState sc bol ∧ Flex.startState sc bol ≤ 107 := by
  unfold Flex.startState; cases bol <;> simp <;> omega

/-- documented shape of the parser tables -/
theorem C03_lalr_shape :
    Generated.parser.nstates = 47 ∧ Generated.parser.ntokens = 23 ∧ Generated.parser.nrules = 41 ∧
    Generated.parser.last = 35 ∧ Generated.parser.maxutok = 277 := by decide

/-- **bison.**  Over the translated tables, for every state below 47 and every token kind below
23: `yypact[state]`, `yydefact[state]` exist; `yypact[state] + kind`, when within 0 … YYLAST,
indexes `yycheck` and `yytable`; a positive matching entry is a shift to a state below 47, a
non-positive one a reduction by a rule 1 … 41; the default reduction is 0 or a rule ≤ 41.
For every rule 1 … 41 and every uncovered state below 47: `yyr1`, `yyr2`, `yypgoto`,
`yydefgoto` exist, `yypgoto[lhs] + state`, when within 0 … YYLAST, indexes `yycheck` and
`yytable`, and the state pushed is below 47.  `yytranslate` has an entry for each token number
0 … 277 and yields a kind below 23.  (`actionOK`, `defactOK`, `gotoOK`, `translateOK` in
Proofs/C03Tables.lean spell out the accesses of `yyparseLoop`.) -/
theorem C03_lalr_bounds : lalrBoundsOK Generated.parser = true := by decide +kernel

theorem C03_lalr_action (state tok : Nat) (hs : state < 47) (ht : tok < 23) :
    actionOK Generated.parser state tok = true ∧ defactOK Generated.parser state = true :=
  lalrBoundsOK_action C03_lalr_bounds state tok hs ht

theorem C03_lalr_goto (rule top : Nat) (h1 : 1 ≤ rule) (hr : rule ≤ 41) (ht : top < 47) :
    gotoOK Generated.parser rule top = true :=
  lalrBoundsOK_goto C03_lalr_bounds rule top h1 hr ht

/-- whatever number `yylex` returns, `YYTRANSLATE` yields a token kind below 23 -/
theorem C03_lalr_translate (t : Nat) : translateTok Generated.parser t < 23 :=
  translateTok_lt C03_lalr_bounds t

/-- **No state shifts the `error` token** (symbol kind 1): after a syntax error bison's
`yyerrlab1` pops states until one shifts `error`; none does, so the stack is emptied and
`yyparse` returns 1 — the model's immediate `abort`. -/
theorem C03_no_error_shift (state : Nat) (hs : state < 47) :
    Generated.parser.pact.get state = Generated.parser.pactNinf ∨
    Generated.parser.pact.get state + 1 < 0 ∨
    Generated.parser.pact.get state + 1 > Generated.parser.last ∨
    Generated.parser.check.get (Generated.parser.pact.get state + 1).toNat ≠ 1 :=
  noErrorShift_spec (P := Generated.parser) (by decide +kernel) state hs

/-- **The states on the stack stay in range along every run**: every parser state pushed by
a shift or a goto is below 47, so — by `C03_lalr_bounds` — every `yypact`, `yydefact`,
`yycheck`, `yytable`, `yypgoto`, `yydefgoto` access the loop makes with it is in range. -/
theorem C03_lalr_states (w : World) (c : Config) (fuel : Nat) (s : ScanState) (ctx : ParseCtx)
    (X : PState) (h : Reach (theEnv w c fuel) (initial s ctx) X) : ∀ e ∈ X.stack, e.1 < 47 :=
  (C03T.reach_path (E := theEnv w c fuel) (C02P.facts_of_static C02P.edges_ok) s ctx X h).states
    (C02P.facts_of_static C02P.edges_ok)

/-! ## 4. Bounded recursion: the parser stack -/

theorem C03_maxDepth : Generated.parser.maxDepth = 10000 := by decide

/-- the bytes of "memory exhausted", the text bison reports at the limit -/
def memoryExhausted : Bytes := [109, 101, 109, 111, 114, 121, 32, 101, 120, 104, 97, 117, 115, 116, 101, 100]

theorem C03_exhausted_text : Generated.ERR_EXHAUSTED = memoryExhausted := by decide

/-- **The stack bound.**  `yyparseLoop` is the iteration of the one-step function `yystep`
(`yyparseLoop_succ`); `Reach E (initial s ctx) X` are the argument tuples the loop started by
`yyparse` passes through.  Every one of them has a non-empty stack of at most 10000 entries … -/
theorem C03_stack_bounded (w : World) (c : Config) (fuel : Nat) (s : ScanState) (ctx : ParseCtx)
    (X : PState) (h : Reach (theEnv w c fuel) (initial s ctx) X) :
    X.stack ≠ [] ∧ X.stack.length ≤ 10000 := by
  have := reach_stack (theEnv w c fuel) s ctx X h
  have hd : (theEnv w c fuel).P.maxDepth = 10000 := C03_maxDepth
  rw [hd] at this
  exact ⟨this.1, by have := this.2; omega⟩

/-- … the loop is indeed that iteration … -/
theorem C03_loop_is_iteration (E : ParserEnv) (fuel : Nat) (X : PState) :
    yyparseLoop E (fuel + 1) X.stack X.la X.s X.ctx =
      match yystep E X with
      | .inl r => r
      | .inr Y => yyparseLoop E fuel Y.stack Y.la Y.s Y.ctx :=
  yyparseLoop_succ E fuel X

/-- … a step grows the stack by at most one entry and is only taken below the limit … -/
theorem C03_step_stack (w : World) (c : Config) (fuel : Nat) (X Y : PState)
    (h : yystep (theEnv w c fuel) X = .inr Y) :
    X.stack.length < 10000 ∧ Y.stack.length ≤ X.stack.length + 1 := by
  have := yystep_stack (theEnv w c fuel) X Y h
  have hd : (theEnv w c fuel).P.maxDepth = 10000 := C03_maxDepth
  rw [hd] at this
  exact ⟨this.1, this.2.1⟩

/-- … and reaching 10000 entries ends the parse at once with the outcome `exhausted`
(`yyparse` returns 2, the read fails) and the message "memory exhausted" (unless an earlier
message of the same read is already recorded: `libconfig_yyerror` keeps the first). -/
theorem C03_stack_limit (w : World) (c : Config) (fuel : Nat) (X : PState) (hne : X.stack ≠ [])
    (h : 10000 ≤ X.stack.length) :
    yystep (theEnv w c fuel) X =
      .inl (X.s, X.ctx.yyerror X.s.buf.lineno memoryExhausted, .exhausted) := by
  rw [← C03_exhausted_text]
  exact yystep_limit (theEnv w c fuel) X hne (by rw [show (theEnv w c fuel).P.maxDepth = 10000 from C03_maxDepth]; exact h)

theorem C03_exhausted_message (ctx : ParseCtx) (line : Nat) (h : ctx.cfg.errText = none) :
    (ctx.yyerror line memoryExhausted).cfg.errText =
      some memoryExhausted := by
  unfold ParseCtx.yyerror
  simp [h]

/-- conversely `exhausted` is reported only at the limit -/
theorem C03_exhausted_only_at_limit (w : World) (c : Config) (fuel : Nat) (X : PState)
    (s : ScanState) (ctx : ParseCtx) (h : yystep (theEnv w c fuel) X = .inl (s, ctx, .exhausted)) :
    10000 ≤ X.stack.length := by
  have := yystep_exhausted (theEnv w c fuel) X s ctx h
  rw [show (theEnv w c fuel).P.maxDepth = 10000 from C03_maxDepth] at this
  exact this

/-! ## 5. Container arithmetic -/

/-- the translated constants satisfy the hypotheses of the container theorems -/
theorem C03_constants :
    Generated.STRING_BLOCK_SIZE = 64 ∧ Generated.STRVEC_CHUNK_SIZE = 32 ∧
    Generated.LIST_CHUNK_SIZE = 16 ∧ 0 < Generated.STRING_BLOCK_SIZE ∧
    0 < Generated.STRVEC_CHUNK_SIZE ∧ 0 < Generated.LIST_CHUNK_SIZE ∧
    4 ≤ Generated.FLOAT_BUF_SIZE := by decide

/-- **strbuf.**  After any sequence of `append_string` / `append_char` / `release` calls on a
zeroed `strbuf_t`, with any block size `B > 0`: the capacity is a whole number of blocks and
the text with its terminating NUL lies inside it (or nothing is allocated and the length is 0);
and whatever the next operation is, all the bytes it stores (`len + 1` for `strcpy`, 2 for
`append_char`) lie inside the buffer it stores into (after its own `ensure_capacity`). -/
theorem C03_strbuf (B : Nat) (hB : 0 < B) (ops : List StrBufOp) (op : StrBufOp) :
    StrBuf.Inv B (StrBuf.run B ops) ∧
    (StrBuf.run B ops).length + op.stores ≤ ((StrBuf.run B ops).grown B op).capacity ∧
    ((StrBuf.run B ops).grown B op).length = (StrBuf.run B ops).length :=
  ⟨StrBuf.inv_run hB ops, StrBuf.stores_in_bounds hB _ op (StrBuf.inv_run hB ops), StrBuf.grown_length B _ op⟩

/-- `ensure_capacity(buf, len)` in isolation, for any state of the struct: room for `len`
characters and a NUL, never smaller than before, less than one block of slack when it grows -/
theorem C03_strbuf_ensure (B : Nat) (hB : 0 < B) (b : StrBuf) (len : Nat) :
    b.length + len + 1 ≤ (b.ensure B len).capacity ∧ b.capacity ≤ (b.ensure B len).capacity ∧
    ((b.ensure B len).capacity = b.capacity ∨ (b.ensure B len).capacity < b.length + len + 1 + B) :=
  ⟨StrBuf.ensure_room hB b len, StrBuf.ensure_mono hB b len, StrBuf.ensure_tight hB b len⟩

/-- the source computes the rounding with a mask, `(newlen + 63) & ~63`; for the block size
64 and sizes that do not wrap a 64-bit `size_t` this is the arithmetic rounding of the model -/
theorem C03_strbuf_mask (n : Nat) (h : n + 63 < 2 ^ 64) :
    roundUp Generated.STRING_BLOCK_SIZE n = (n + 63) &&& (2 ^ 64 - 64) :=
  roundUp_eq_mask n h

/-- **strvec.**  After any sequence of `append` / `release` calls on a zeroed `strvec_t`, with
any chunk `C > 0`: `length ≤ capacity`, `end` points at slot `length`, and `capacity + 1` slots
are allocated (or none and everything is 0); the store `*(vec->end) = s` of the next `append`
goes to a slot inside the allocation it stores into, and so does the `*(vec->end) = NULL` of
`release` when the vector is allocated. -/
theorem C03_strvec (C : Nat) (hC : 0 < C) (ops : List StrVecOp) :
    StrVec.Inv (StrVec.run C ops) ∧
    ((StrVec.run C ops).grown C).endIdx < ((StrVec.run C ops).grown C).slots ∧
    ((StrVec.run C ops).slots ≠ 0 → (StrVec.run C ops).endIdx < (StrVec.run C ops).slots) := by
  have hinv := StrVec.inv_run hC ops
  obtain ⟨h1, h2, h3, h4⟩ := StrVec.grown_spec hC _ hinv
  refine ⟨hinv, by omega, fun hne => ?_⟩
  have := hinv.le
  have := hinv.endAt
  rcases hinv.alloc with ⟨h0, _⟩ | h5
  · exact absurd h0 hne
  · omega

/-- **Child vectors.**  After EVERY sequence of `__config_list_add` and `__config_list_remove`
calls (removals at any valid index, in any order) on an empty list, with any chunk `C > 0`:
the allocation covers `length` rounded up to whole chunks — although `add` reallocates only
when `length % C == 0` and `remove` never shrinks — hence all `length` elements are inside
it, and the store `elements[length] = setting` of the next `add` is inside the allocation it
stores into. -/
theorem C03_childvec (C : Nat) (hC : 0 < C) (ops : List ChildOp) :
    ChildVec.Inv C (ChildVec.run C ops) ∧
    (ChildVec.run C ops).length ≤ (ChildVec.run C ops).alloc ∧
    (ChildVec.run C ops).length < ((ChildVec.run C ops).grown C).alloc :=
  ⟨ChildVec.inv_run hC ops, ChildVec.length_le_alloc hC _ (ChildVec.inv_run hC ops),
   ChildVec.add_in_bounds hC _ (ChildVec.inv_run hC ops)⟩

/-- **`libconfig_format_double`** (as modelled by `formatDouble`: `snprintf` into `buflen - 3`
bytes, then at most `.0` appended) stores at most `buflen` bytes including the NUL, for every
value, precision and notation. -/
theorem C03_format_double (bufLen : Nat) (h : 4 ≤ bufLen) (b p : Nat) (sci : Bool) :
    (formatDouble bufLen b p sci).length + 1 ≤ bufLen := by
  have := formatDouble_length bufLen b p sci
  omega

/-- … in particular with the buffer `__config_write_value` passes -/
theorem C03_format_double_fbuf (b p : Nat) (sci : Bool) :
    (formatDouble Generated.FLOAT_BUF_SIZE b p sci).length + 1 ≤ Generated.FLOAT_BUF_SIZE :=
  C03_format_double _ C03_constants.2.2.2.2.2.2 b p sci

/-! ## 6. Termination -/

/-- **Every match consumes input**: no start state of the compiled automaton is accepting, so
`Flex.next` never returns an empty match (any input, bytes or not).  Hence every iteration of
`yylex` that continues either consumes at least one byte of the current buffer, or is the
`<<EOF>>` action that pops a frame or advances it to its next file. -/
theorem C03_lex_progress (sc : Nat) (hsc : sc < 5) (bol : Bool) (inp : Bytes) (r n : Nat)
    (h : Flex.next Generated.scanner sc bol inp = some (r, n)) : 0 < n ∧ n ≤ inp.length :=
  next_pos sc hsc bol inp r n h

/-- **Fuel that suffices.**  In a world without readable files (every `@include` fails to
open — e.g. the empty world of `config_read_string` on self-contained text), `yylex` started
with an empty include stack and more fuel than there are bytes left never returns
`outOfFuel`; it leaves the include stack empty and the remaining input no longer than before,
so the same fuel suffices for every later call of the same read.  (`read` passes its `fuel`
argument to every `yylex` call; the parser loop's own fuel is a separate matter, not bounded
here.) -/
theorem C03_lex_fuel (w : World) (hw : NoFiles w) (ic : IncludeCfg) (fuel : Nat) (s : ScanState)
    (hs : ScanOK s) (hstack : s.stack = []) (hfuel : s.buf.rest.length < fuel) :
    (yylex Generated.scanner Generated.scanActions w ic fuel s).2 ≠ .outOfFuel ∧
    (yylex Generated.scanner Generated.scanActions w ic fuel s).1.stack = [] ∧
    (yylex Generated.scanner Generated.scanActions w ic fuel s).1.buf.rest.length ≤ s.buf.rest.length :=
  have h := C03T.yylex_strict w hw ic fuel s hs hstack hfuel
  ⟨h.fuel, h.stack, h.le⟩

/-- the parser reports `outOfFuel` / `echo` in a step only when that very `yylex` call did -/
theorem C03_step_lex (E : ParserEnv) (X : PState) (s : ScanState) (ctx : ParseCtx)
    (h : yystep E X = .inl (s, ctx, .outOfFuel)) :
    X.la = none ∧ yylex E.T E.sacts E.w E.ic E.lexFuel X.s = (s, .outOfFuel) :=
  (yystep_lex E X s ctx .outOfFuel h).1 rfl

/-! ## non-vacuity -/

/-- the hypotheses are satisfiable: the empty world, a text with an `@include`, … -/
example : WorldOK {} := fun _ _ h => by cases h
example : NoFiles {} := fun _ => rfl
/-- `a=1;` newline `@include "x"` newline -/
example : SourceOK (.string [97, 61, 49, 59, 10, 64, 105, 110, 99, 108, 117, 100, 101, 32, 34, 120, 34, 10]) := by
  intro x hx; revert x; decide
/-- `a=(1,2);` -/
example : ScanOK { buf := { rest := [97, 61, 40, 49, 44, 50, 41, 59] } } :=
  ⟨by decide, by intro x hx; revert x; decide, by intro f hf; cases hf⟩
/-- a concrete store sequence: 70 characters then one more: 128 bytes, two blocks -/
example : StrBuf.run 64 [.appendString 70, .appendChar] = { length := 71, capacity := 128 } := by decide
/-- 17 adds, 17 removes, 1 add: the last add reallocates down to one chunk and stores at 0 -/
example : ChildVec.run 16 (List.replicate 17 .add ++ List.replicate 17 (.remove 0) ++ [.add]) =
    { length := 1, alloc := 16 } := by decide
/-- the checked chase really runs: state 1 on the class of `a` -/
example : transSafe Generated.scanner 119 1 (Flex.classOf Generated.scanner 97) = true := by decide +kernel
end Libconfig.C03
