import LibconfigModel.Read
import LibconfigModel.Grammar
import LibconfigModel.Proofs.C02
import LibconfigModel.Proofs.C02CompleteStatic
/-
  C02 — parsing accepts exactly the documented grammar (soundness direction, proved for the
  compiled tables): whenever `libconfig_yyparse` accepts, the token kinds it consumed form a
  sentence of the documented grammar.  Statements only; the relation `LexesTo` they speak of,
  helper definitions and lemmas live in LibconfigModel/Proofs/C02.lean.
-/
namespace Libconfig.C02
open Grammar

/-- The hand-written grammar agrees with the compiled tables on every rule's left-hand side
and length (the right-hand sides are validated by the automaton check inside the proof).  Read off
`C02C.cert_ok`, whose check contains `C02P.rulesMatch`. -/
theorem C02_rules_match :
    ∀ r, 1 ≤ r → r ≤ Generated.parser.nrules →
      (Generated.parser.r1.get r).toNat = (rules.getD r (0, [])).1 ∧
      (Generated.parser.r2.get r).toNat = (rules.getD r (0, [])).2.length :=
  fun r h1 h2 => ⟨C02C.cfacts.r1 r h1 (Nat.lt_succ_of_le h2), C02C.cfacts.r2 r h1 (Nat.lt_succ_of_le h2)⟩

/-- Soundness of the compiled parser: if `yyparse` (over the translated tables, with the real
scanner model and the real semantic actions) accepts, then the input lexes to a token sequence
whose kinds (`YYTRANSLATE`) are derivable from the documented grammar. -/
theorem C02_sound (w : World) (c : Config) (fuel : Nat) (s₀ s' : ScanState) (ctx₀ ctx' : ParseCtx)
    (h : yyparse (theEnv w c fuel) fuel s₀ ctx₀ = (s', ctx', .accept)) :
    ∃ toks, LexesTo (theEnv w c fuel) s₀ toks s' ∧
      Derivable (toks.map fun tv => translateTok Generated.parser tv.1) := by
  have hok : C02P.staticOK (theEnv w c fuel).P C02P.edges = true := C02P.edges_ok
  obtain ⟨toks, hlex, hder⟩ :=
    C02P.yyparse_sound hok (C02P.tokNZ_theEnv w c fuel) fuel s₀ s' ctx₀ ctx' h
  exact ⟨toks, hlex, hder⟩

/-- Every grammar action of the compiled parser has its catalogued text (the translator
re-reads lib/grammar.c on every run; an edited action becomes `.unknown`), and so do the
helper macros and functions the actions rely on (`IN_ARRAY`, `IN_LIST`, `CAPTURE_PARSE_POS`,
`capture_parse_pos`, `libconfig_yyerror`). -/
theorem C02_actions_known :
    (∀ a ∈ Generated.parseActions, a ≠ ParseAct.unknown) ∧ Generated.parseHelpersKnown = true ∧
    Generated.parseActions.length = Generated.parser.nrules + 1 := by decide

/-- the documented error texts -/
theorem C02_error_texts :
    Generated.ERR_SYNTAX = [115, 121, 110, 116, 97, 120, 32, 101, 114, 114, 111, 114] ∧
    Generated.ERR_DUPLICATE_SETTING = [100, 117, 112, 108, 105, 99, 97, 116, 101, 32, 115, 101, 116, 116, 105, 110, 103, 32, 110, 97, 109, 101] ∧
    Generated.ERR_ARRAY_ELEM_TYPE = [109, 105, 115, 109, 97, 116, 99, 104, 101, 100, 32, 101, 108, 101, 109, 101, 110, 116, 32, 116, 121, 112, 101, 32, 105, 110, 32, 97, 114, 114, 97, 121] := by decide

end Libconfig.C02
