import LibconfigModel.Properties.C03
import LibconfigModel.Properties.C02
import LibconfigModel.Proofs.C03TermFuel
import LibconfigModel.Proofs.C03TermLex
import LibconfigModel.Proofs.C03TermRun
/-
  C03 (continued) — termination and stack discipline of the LALR parser loop over the
  translated tables.  Statements; helper lemmas live in Proofs/C03Term*.lean.

  `Parser.lean` totalises two things that the C skeleton does not have: a reduction pops
  `yyr2[r]` entries with `List.drop` and reads the uncovered state with `headD` (an underflow
  would go unnoticed), and the loop stops with `.outOfFuel` when its fuel runs out.  Here:

  G1  along every run from `yyparse`'s initial configuration, whenever the tables call for a
      reduction by rule `r` the stack holds MORE than `yyr2[r]` entries (`C03_no_underflow`):
      `drop` never truncates, `headD`'s default is never used, the goto lookup is made on a
      real state.  The invariant behind it: the state stack is a path of edges of the
      kernel-checked certificate `C02P.edges` from state 0 (`C03_stack_is_path`).
  G2  a kernel-checked ranking certificate `C03T.ranks` (one number ≤ 7 per state): every
      iteration that continues either consumes the lookahead token or strictly lowers the rank
      of the top state (`C03_step_dichotomy`); hence at most 7 consecutive iterations consume
      no token (`C03_reductions_bounded`), and 7 is attained (example below).
  G3  if the scanner delivers `n` tokens and then the end of input, `8·n + 10` units of fuel
      suffice: `yyparse` does not end with `.outOfFuel` (`C03_parse_fuel`) and its outcome is
      the same for every larger fuel (`C03_parse_fuel_stable`).  With the scanner bound
      (`C03_scanner_finite`, from the argument of `C03_lex_fuel`): a read of `len` bytes
      without readable include files, with fuel ≥ `8·len + 10`, terminates at model level
      (`C03_read_terminates`), and returns the same `ReadOut` for every such fuel
      (`C03_read_fuel_irrelevant`): the fuel of the model is not observable.
-/
namespace Libconfig.C03

open Libconfig Libconfig.C03P Libconfig.C03T

/-! ## 0. The certificates -/

/-- the edge certificate of C02 (97 automaton edges, closed under every shift and every goto
of the translated tables; every reduction finds its right-hand side on every path) -/
theorem C03_edge_certificate : C02P.staticOK Generated.parser C02P.edges = true := C02P.edges_ok

/-- the ranking certificate: for every state but the final one, for its default reduction and
every explicit reduce entry of `yytable` (whatever the lookahead), for EVERY state that the pop
of `yyr2[r]` entries can uncover along certificate edges, the goto target has a strictly smaller
rank than the state reduced in; all ranks are ≤ 7 -/
theorem C03_rank_certificate : rankOK Generated.parser C02P.edges ranks 7 = true := ranks_ok

/-- shape of the ranking: one number per state, the initial state has rank 1, the states
entered by shifting a `STRING` token (15 and 31) have the largest rank -/
theorem C03_rank_shape :
    ranks.length = 47 ∧ (∀ s, s < 47 → rkOf ranks s ≤ 7) ∧ rkOf ranks 0 = 1 ∧
    rkOf ranks 15 = 7 ∧ rkOf ranks 31 = 7 := by decide +kernel

/-! ## 1. What one iteration does -/

/-- Every iteration of the loop that continues is made on a non-empty stack below the limit,
with a top state other than the final one, and is a shift (`Shifts`: the lookahead token —
fetched from the scanner if there was none — is consumed, its target state pushed, the
lookahead cleared) or a reduction (`Reduces`: the tables call for `rule` in the top state —
default reduction or explicit entry —, `yyr2[rule]` entries are dropped, the goto of the
uncovered state is pushed, the lookahead is kept or was fetched in this iteration). -/
theorem C03_step_cases (E : ParserEnv) (X Y : PState) (h : yystep E X = .inr Y) :
    X.stack ≠ [] ∧ X.stack.length < E.P.maxDepth ∧ topState X.stack ≠ E.P.final ∧
    (Shifts E X Y ∨ ∃ rule, Reduces E X Y rule) :=
  yystep_inr E X Y h

/-! ## 2. G1 — no stack underflow -/

/-- **The state stack is a path of the automaton**: bottom entry state 0, every entry above it
entered from the one below along an edge of the kernel-checked certificate. -/
theorem C03_stack_is_path (w : World) (c : Config) (fuel : Nat) (s : ScanState) (ctx : ParseCtx)
    (X : PState) (h : Reach (theEnv w c fuel) (initial s ctx) X) : StackPath C02P.edges X.stack :=
  reach_path (E := theEnv w c fuel) (C02P.facts_of_static C02P.edges_ok) s ctx X h

/-- **No underflow.**  Along every run from the initial configuration of `yyparse`, in every
configuration `X` the loop reaches: if the tables call for a reduction by `rule` in the top
state (which is how `yystep` comes to reduce: `ReduceBy`, see `C03_step_cases`), then the stack
has MORE than `yyr2[rule]` entries.  The pop uncovers a real entry `(p, v)`, `p` is a state of
the automaton, and the goto on the left-hand side of `rule` out of `p` is an edge of the
certificate into a state of the automaton other than the final one.  (The hypothesis on the
final state costs nothing: with the final state on top the loop accepts before it looks at the
tables, so every iteration that acts has another state on top — `C03_step_cases`.) -/
theorem C03_no_underflow (w : World) (c : Config) (fuel : Nat) (s : ScanState) (ctx : ParseCtx)
    (X : PState) (h : Reach (theEnv w c fuel) (initial s ctx) X)
    (hne : topState X.stack ≠ Generated.parser.final) (rule : Nat)
    (hr : ReduceBy Generated.parser (topState X.stack) rule) :
    (Generated.parser.r2.get rule).toNat < X.stack.length ∧
    ∃ p v rest, X.stack.drop (Generated.parser.r2.get rule).toNat = (p, v) :: rest ∧ p < 47 ∧
      (p, gotoTarget Generated.parser rule p) ∈ C02P.edges ∧
      gotoTarget Generated.parser rule p < 47 ∧
      gotoTarget Generated.parser rule p ≠ Generated.parser.final := by
  have F : C02P.Facts Generated.parser C02P.edges := C02P.facts_of_static C02P.edges_ok
  have hp := C03_stack_is_path w c fuel s ctx X h
  obtain ⟨hlt, p, v, rest, hd, _, hedge, hnf⟩ := no_underflow F hp hne hr
  have he := F.ed_ok _ _ hedge
  exact ⟨hlt, p, v, rest, hd, he.2.1, hedge, he.2.2, hnf⟩

/-- The same for the iteration itself: a reducing iteration `X → Y` along a run pops
`yyr2[rule]` entries that are there and pushes one — the new stack is exactly the old one with
its top `yyr2[rule]` entries replaced by the goto of the uncovered state. -/
theorem C03_no_underflow_step (w : World) (c : Config) (fuel : Nat) (s : ScanState) (ctx : ParseCtx)
    (X Y : PState) (h : Reach (theEnv w c fuel) (initial s ctx) X) (rule : Nat)
    (hs : yystep (theEnv w c fuel) X = .inr Y) (hr : Reduces (theEnv w c fuel) X Y rule) :
    (Generated.parser.r2.get rule).toNat < X.stack.length ∧
    Y.stack.length + (Generated.parser.r2.get rule).toNat = X.stack.length + 1 ∧
    ∃ p v rest yyval, X.stack.drop (Generated.parser.r2.get rule).toNat = (p, v) :: rest ∧
      Y.stack = (gotoTarget Generated.parser rule p, yyval) :: (p, v) :: rest := by
  obtain ⟨_, _, hnf, _⟩ := yystep_inr _ X Y hs
  obtain ⟨hrule, ⟨yyval, hst⟩, _⟩ := hr
  obtain ⟨hlt, p, v, rest, hd, _⟩ := C03_no_underflow w c fuel s ctx X h hnf rule hrule
  have hst' : Y.stack = (gotoTarget Generated.parser rule p, yyval) :: (p, v) :: rest := by
    rw [hst]
    show (gotoTarget Generated.parser rule
      (topState (X.stack.drop (Generated.parser.r2.get rule).toNat)), yyval) ::
      X.stack.drop (Generated.parser.r2.get rule).toNat = _
    rw [hd]
    rfl
  refine ⟨hlt, ?_, p, v, rest, yyval, hd, hst'⟩
  have hl := congrArg List.length hd
  rw [List.length_drop] at hl
  rw [hst']
  simp only [List.length_cons] at hl ⊢
  omega

/-! ## 3. G2 — consecutive iterations that consume no token -/

/-- **Dichotomy.**  Along a run, every iteration that continues either consumes the lookahead
token or strictly lowers the rank of the state on top of the stack. -/
theorem C03_step_dichotomy (w : World) (c : Config) (fuel : Nat) (s : ScanState) (ctx : ParseCtx)
    (X Y : PState) (h : Reach (theEnv w c fuel) (initial s ctx) X)
    (hs : yystep (theEnv w c fuel) X = .inr Y) :
    Shifts (theEnv w c fuel) X Y ∨ rkOf ranks (topState Y.stack) < rkOf ranks (topState X.stack) :=
  step_dichotomy (E := theEnv w c fuel) (C02P.facts_of_static C02P.edges_ok) (rankFacts_of ranks_ok)
    (C03_stack_is_path w c fuel s ctx X h) hs

/-- **At most 7 consecutive iterations consume no token.**  `Quiet E X k Y`: `k` consecutive
iterations lead from `X` to `Y`, none of which is a shift.  From a configuration the loop
reaches, such a run lowers the rank of the top state by at least `k`; ranks are at most 7. -/
theorem C03_reductions_bounded (w : World) (c : Config) (fuel : Nat) (s : ScanState) (ctx : ParseCtx)
    (X Y : PState) (k : Nat) (h : Reach (theEnv w c fuel) (initial s ctx) X)
    (hq : Quiet (theEnv w c fuel) X k Y) :
    k + rkOf ranks (topState Y.stack) ≤ rkOf ranks (topState X.stack) ∧ k ≤ 7 :=
  ⟨quiet_rank (E := theEnv w c fuel) (C02P.facts_of_static C02P.edges_ok) (rankFacts_of ranks_ok)
      (C03_stack_is_path w c fuel s ctx X h) hq,
   quiet_bound (E := theEnv w c fuel) (C02P.facts_of_static C02P.edges_ok) (rankFacts_of ranks_ok)
      (C03_stack_is_path w c fuel s ctx X h) hq⟩

/-! ## 4. G3 — fuel that suffices -/

/-- the fuel that suffices for `n` tokens: `(7 + 1)·(n + 1)` for the `n` tokens and the end
marker (each shift preceded by at most 7 reductions), `+ 1` for the rank of the initial state
(one reduction less before the first shift), `+ 1` for the accepting iteration -/
def parseFuel (n : Nat) : Nat := 8 * n + 10

/-- **Fuel that suffices for the parser loop.**  If the scanner (with whatever fuel `lexFuel`
it is given per call) delivers from `s₀` the tokens `toks` and then the end of input, then for
every `fuel ≥ 8·|toks| + 10` the parse does not end with `.outOfFuel`: it accepts, aborts
(syntax error or a semantic action), or reports memory exhaustion at the stack limit.  (No
hypothesis on the tokens: any sequence, derivable or not.) -/
theorem C03_parse_fuel (w : World) (c : Config) (lexFuel : Nat) (s₀ s' : ScanState) (ctx₀ : ParseCtx)
    (toks : List (Nat × TokVal)) (hl : C02.LexesTo (theEnv w c lexFuel) s₀ toks s')
    (fuel : Nat) (hf : parseFuel toks.length ≤ fuel) :
    (yyparse (theEnv w c lexFuel) fuel s₀ ctx₀).2.2 ≠ .outOfFuel := by
  refine yyparse_fuel (E := theEnv w c lexFuel) C02P.edges_ok ranks_ok fuel s₀ s' ctx₀ toks
    hl ?_
  show (7 + 1) * (toks.length + 1) + 1 + 1 ≤ fuel
  unfold parseFuel at hf
  omega

/-- … and the loop's fuel is not observable beyond that: every `fuel ≥ 8·|toks| + 10` gives
the same scanner state, parse context and outcome. -/
theorem C03_parse_fuel_stable (w : World) (c : Config) (lexFuel : Nat) (s₀ s' : ScanState)
    (ctx₀ : ParseCtx) (toks : List (Nat × TokVal))
    (hl : C02.LexesTo (theEnv w c lexFuel) s₀ toks s')
    (fuel fuel' : Nat) (hf : parseFuel toks.length ≤ fuel) (hf' : parseFuel toks.length ≤ fuel') :
    yyparse (theEnv w c lexFuel) fuel s₀ ctx₀ = yyparse (theEnv w c lexFuel) fuel' s₀ ctx₀ := by
  have h := C03_parse_fuel w c lexFuel s₀ s' ctx₀ toks hl _ (Nat.le_refl _)
  exact (yyparseLoop_mono _ (Nat.le_refl _) _ (initial s₀ ctx₀) h fuel hf).trans
    (yyparseLoop_mono _ (Nat.le_refl _) _ (initial s₀ ctx₀) h fuel' hf').symm

/-- **The scanner delivers finitely many tokens.**  Under the hypotheses of `C03_lex_fuel` (no
readable file, bytes in the buffer, empty include stack, more fuel per call than bytes left):
every `yylex` call returns the end of input or consumes at least one byte, so the scanner
delivers at most one token per byte and then the end of input.  This is the hypothesis of
`C03_parse_fuel`. -/
theorem C03_scanner_finite (w : World) (hw : NoFiles w) (c : Config) (fuel : Nat) (s : ScanState)
    (hs : ScanOK s) (hstack : s.stack = []) (hfuel : s.buf.rest.length < fuel) :
    ∃ toks s', C02.LexesTo (theEnv w c fuel) s toks s' ∧ toks.length ≤ s.buf.rest.length := by
  obtain ⟨toks, s', hl, hlen⟩ := lexes_exists (theEnv w c fuel)
    (fun s hs hst hf => yylex_strict w hw _ fuel s hs hst hf) s.buf.rest.length s hs hstack
    (Nat.le_refl _) hfuel
  exact ⟨toks, s', hl, hlen⟩

/-- one `yylex` call under these hypotheses: never `.outOfFuel`, never `.echo`, the invariant
is kept, and unless it reports the end of input it has consumed at least one byte -/
theorem C03_lex_progress_strict (w : World) (hw : NoFiles w) (ic : IncludeCfg) (fuel : Nat)
    (s : ScanState) (hs : ScanOK s) (hstack : s.stack = []) (hfuel : s.buf.rest.length < fuel) :
    LexStep s (yylex Generated.scanner Generated.scanActions w ic fuel s) :=
  yylex_strict w hw ic fuel s hs hstack hfuel

/-- `__config_read` on `inp` without readable include files terminates at model level: with
`fuel ≥ 8·|inp| + 10` (the model hands the same `fuel` to every `yylex` call and to the parser
loop) the outcome is not `.outOfFuel`. -/
theorem C03_readCore_terminates (w : World) (hw : NoFiles w) (c : Config) (filename : Option Bytes)
    (inp : Bytes) (hi : BytesOK inp) (fuel : Nat) (hf : parseFuel inp.length ≤ fuel) :
    (readCore w c filename inp fuel).result ≠ .outOfFuel := by
  rw [C09P.readCore_result]
  unfold C09P.parseOf
  unfold parseFuel at hf
  have hs : ScanOK (C09P.scan0 filename inp) := ⟨Nat.zero_lt_succ 4, hi, fun f hf => by cases hf⟩
  obtain ⟨toks, s', hl, hlen⟩ := C03_scanner_finite w hw (C09P.start c filename) fuel
    (C09P.scan0 filename inp) hs rfl (by show inp.length < fuel; omega)
  have hlen : toks.length ≤ inp.length := hlen
  exact C03_parse_fuel w _ fuel _ s' _ toks hl fuel (by unfold parseFuel; omega)

/-- `config_read_string` stops at the first NUL: the fuel for the string covers what is read -/
theorem parseFuel_cstr {b : Bytes} {fuel : Nat} (h : parseFuel b.length ≤ fuel) :
    parseFuel (cstr b).length ≤ fuel := by
  have : (cstr b).length ≤ b.length := (List.takeWhile_sublist _).length_le
  unfold parseFuel at h ⊢
  omega

/-- the number of bytes a source hands to the scanner is at most this -/
def srcLen : Source → Nat
  | .string s => s.length
  | .stream s => s.length
  | .file _ => 0

/-- **A read terminates (model level).**  In a world without readable files — every `@include`
fails to open, as for `config_read_string` / `config_read` on self-contained text — a read of a
string or stream of `len` bytes with `fuel ≥ 8·len + 10` never ends with `.outOfFuel`:
neither a `yylex` call (`C03_lex_fuel`) nor the parser loop (`C03_parse_fuel`) runs out.
(`config_read_file` in such a world fails to open its file: the outcome is the I/O error.) -/
theorem C03_read_terminates (w : World) (hw : NoFiles w) (c : Config) (src : Source)
    (hs : SourceOK src) (fuel : Nat) (hf : parseFuel (srcLen src) ≤ fuel) :
    (read w c src fuel).result ≠ .outOfFuel := by
  cases src with
  | string b =>
    exact C03_readCore_terminates w hw c none (cstr b) (cstr_bytes hs) fuel (parseFuel_cstr hf)
  | stream b => exact C03_readCore_terminates w hw c none b hs fuel hf
  | file path => rw [C09P.read_noOpen w c path fuel (hw path)]; nofun

/-! ## 5. The model's fuel is not observable -/

/-- under the hypotheses of `C03_lex_fuel`, one `yylex` call returns the same for every fuel
above the number of bytes left -/
theorem C03_lex_fuel_irrelevant (w : World) (hw : NoFiles w) (ic : IncludeCfg) (fuel fuel' : Nat)
    (s : ScanState) (hs : ScanOK s) (hstack : s.stack = []) (hfuel : s.buf.rest.length < fuel)
    (hfuel' : s.buf.rest.length < fuel') :
    yylex Generated.scanner Generated.scanActions w ic fuel' s =
      yylex Generated.scanner Generated.scanActions w ic fuel s := by
  -- with `|rest| + 1` iterations the call has returned
  have h := (yylex_strict w hw ic _ s hs hstack (Nat.lt_succ_self _)).fuel
  exact (yylex_mono_le h hfuel').trans (yylex_mono_le h hfuel).symm

/-- `__config_read` on `inp` without readable include files: every `fuel ≥ 8·|inp| + 10` gives
the same `ReadOut` — configuration, error record, outcome, destructor log, I/O events. -/
theorem C03_readCore_fuel_irrelevant (w : World) (hw : NoFiles w) (c : Config)
    (filename : Option Bytes) (inp : Bytes) (hi : BytesOK inp) (fuel fuel' : Nat)
    (hf : parseFuel inp.length ≤ fuel) (hf' : parseFuel inp.length ≤ fuel') :
    readCore w c filename inp fuel = readCore w c filename inp fuel' := by
  have h := C03_readCore_terminates w hw c filename inp hi _ (Nat.le_refl _)
  exact (C09P.readCore_mono w c filename inp h hf).trans (C09P.readCore_mono w c filename inp h hf').symm

/-- **The fuel of the model is not observable**: in a world without readable files, a read of
`len` bytes returns the same thing for every `fuel ≥ 8·len + 10`.  Together with
`C03_read_terminates` (that thing is not `.outOfFuel`): the read has a definite outcome, which is
what "terminates" means for the fuelled model. -/
theorem C03_read_fuel_irrelevant (w : World) (hw : NoFiles w) (c : Config) (src : Source)
    (hs : SourceOK src) (fuel fuel' : Nat) (hf : parseFuel (srcLen src) ≤ fuel)
    (hf' : parseFuel (srcLen src) ≤ fuel') : read w c src fuel = read w c src fuel' := by
  have h := C03_read_terminates w hw c src hs _ (Nat.le_refl _)
  exact (C09P.read_mono w c src h hf).trans (C09P.read_mono w c src h hf').symm

/-! ## non-vacuity -/

/-- the text `a="x""y"` (8 bytes; tokens NAME EQUALS STRING STRING) -/
private def exText : Bytes := bytesOfString "a=\"x\"\"y\""
private def exEnv : ParserEnv := theEnv {} Config.init 100
private def exScan : ScanState := { buf := { rest := exText } }
private def exCtx : ParseCtx := { cfg := Config.init }

/-- the run of the loop on `a="x""y"`: the state stacks (top first) of the 15 iterations and
whether there is a lookahead.  After the second `STRING` is shifted (state 31 on top), seven
reductions follow before the end marker is shifted: `string`, `simple_value`, `value`, the empty
`setting_terminator` (the stack GROWS), `setting`, `setting_list`, `configuration`. -/
example : trace exEnv 30 (initial exScan exCtx) =
    [([0], false), ([1, 0], false), ([5, 1, 0], false), ([8, 5, 1, 0], false),
     ([15, 8, 5, 1, 0], false), ([22, 8, 5, 1, 0], false), ([31, 22, 8, 5, 1, 0], false),
     ([22, 8, 5, 1, 0], false), ([23, 8, 5, 1, 0], true), ([21, 8, 5, 1, 0], true),
     ([30, 21, 8, 5, 1, 0], true), ([4, 0], true), ([3, 0], true), ([2, 0], true),
     ([6, 2, 0], false)] := by decide +kernel

/-- `C03_reductions_bounded` is tight and its hypotheses are satisfiable: the configuration
reached after 6 iterations on that text starts a run of 7 iterations that consume no token. -/
example : ∃ X Y, Reach exEnv (initial exScan exCtx) X ∧ Quiet exEnv X 7 Y :=
  exists_quiet_of_run exEnv 6 7 _ (by decide +kernel)

/-- `C03_no_underflow`: in the configuration reached after 10 iterations (stack
`30 21 8 5 1 0`, six entries) the tables call for rule 12
(`setting: NAME $@1 EQUALS value setting_terminator`, five symbols): 5 < 6. -/
example : ∃ X, Reach exEnv (initial exScan exCtx) X ∧ X.stack.length = 6 ∧
    topState X.stack ≠ Generated.parser.final ∧ ReduceBy Generated.parser (topState X.stack) 12 ∧
    (Generated.parser.r2.get 12).toNat = 5 := by
  have h : ((stepsRun exEnv 10 (initial exScan exCtx)).map fun X =>
      (X.stack.map (·.1), (Generated.parser.defact.get 30).toNat, (Generated.parser.r2.get 12).toNat)) =
      some ([30, 21, 8, 5, 1, 0], 12, 5) := by decide +kernel
  cases hX : stepsRun exEnv 10 (initial exScan exCtx) with
  | none => rw [hX] at h; cases h
  | some X =>
    rw [hX] at h
    simp only [Option.map_some, Option.some.injEq, Prod.mk.injEq] at h
    obtain ⟨h1, h2, h3⟩ := h
    have hlen : X.stack.length = 6 := by
      have := congrArg List.length h1
      simpa using this
    have htop : topState X.stack = 30 := by
      rcases hs : X.stack with _ | ⟨e, tl⟩
      · rw [hs] at hlen; cases hlen
      · rw [hs] at h1
        simp only [List.map_cons, List.cons.injEq] at h1
        exact h1.1
    refine ⟨X, stepsRun_reach _ _ _ _ hX, hlen, ?_, ?_, h3⟩
    · rw [htop]; decide
    · rw [htop]; exact .inl ⟨h2.symm, by decide⟩

/-- `C03_parse_fuel` / `C03_read_terminates`: 8 bytes, fuel `8·8 + 10`: the read accepts … -/
example : (read {} Config.init (.string exText) (parseFuel exText.length)).result = .accept := by
  decide +kernel

/-- … the loop needs 15 iterations for these 4 tokens (the bound is `8·4 + 10 = 42`), and with
less the model reports `.outOfFuel`: the conclusion of the theorem is not vacuous -/
example : (yyparse exEnv 15 exScan exCtx).2.2 = .accept ∧
    (yyparse exEnv 14 exScan exCtx).2.2 = .outOfFuel := by decide +kernel

/-- the scanner hypothesis of `C03_parse_fuel` holds for this text, by `C03_scanner_finite` -/
example : ∃ toks s', C02.LexesTo exEnv exScan toks s' ∧ toks.length ≤ exText.length :=
  C03_scanner_finite {} (fun _ => rfl) Config.init 100 exScan
    ⟨by decide, by intro x hx; revert x; show ∀ x ∈ exText, x < 256; decide +kernel,
     by intro f hf; cases hf⟩ rfl (by show exText.length < 100; decide +kernel)

example : exText.length = 8 := by decide +kernel

/-- `C03_read_fuel_irrelevant` applies to this text: fuel 74 and fuel 100000 give the same read -/
example : read {} Config.init (.string exText) 74 = read {} Config.init (.string exText) 100000 :=
  C03_read_fuel_irrelevant {} (fun _ => rfl) Config.init (.string exText)
    (by show ∀ x ∈ exText, x < 256; decide +kernel) 74 100000
    (by show 8 * exText.length + 10 ≤ 74; decide +kernel)
    (by show 8 * exText.length + 10 ≤ 100000; decide +kernel)

end Libconfig.C03
