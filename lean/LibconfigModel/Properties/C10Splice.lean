import LibconfigModel.Properties.C10
import LibconfigModel.Properties.C02
import LibconfigModel.Proofs.C10SpliceParse
import LibconfigModel.Proofs.Bytes
/-
  C10 (continued) — "@include is textual inlining": the splice equivalence of the include
  mechanism, at the token level and at the configuration level.
  Helper lemmas live in LibconfigModel/Proofs/C10Splice*.lean
  (…Lex: the compiled automaton on directive lines and plain lines; …Text: lines, `directive?`,
  `splice` line by line; …Step: the include machinery over one directive line; …Sim: the
  simulation between the run with includes and the run over the spliced text; …Parse: the
  parser loop); the lemmas about `Lexes` and the executable tree checks stand here, next to
  their definitions.

  FINDING.  `C10_spliceStatement` of Properties/C10.lean is FALSE as stated
  (`C10_spliceStatement_false`).  Two independent reasons, both exhibited below as
  kernel-evaluated counterexamples:

  1. *Seams inside a line.*  `IncludeTreeOK` lets the last file of a directive end without a
     newline and lets the directive line continue behind the closing quote.  The run with
     includes ends the last lexeme of the file at the end of its buffer (flex never matches
     across a buffer switch: `<<EOF>>` is only reached after the pending lexeme has been
     returned), the spliced text has no such boundary: `a = 1` + `2;` is the tokens `1` `2`
     with includes and the single token `12` spliced.
  2. *NUL in a path.*  The hypothesis "the spliced text is NUL-free" does not cover the path of
     a directive (it is not part of the spliced text).  `directive?` takes the path up to the
     closing quote, the scanner's string buffer is a C string and stops at the NUL: the two
     open different files.

  The repaired hypothesis `IncludeTreeOK'` adds to `IncludeTreeOK` exactly:
  (a) every text of the tree consists of bytes 1 … 255 (the data invariant of `Bytes`; it makes
      the separate NUL-freeness of the spliced text a consequence, `C10_spliced_bytes`);
  (b) the LAST file of a directive, like the others, is empty or ends in a newline — unless
      nothing follows the directive on its line (`rest = []`).
  Each addition is needed on its own: `wSeam` meets (a) and fails (b), `wNul` meets (b) — every
  file ends in a newline — and fails (a).

  PROVED under `IncludeTreeOK'` (depth ≤ 10, every named file exists, plain lines, (a), (b)):
  * `C10_one_directive`, `C10_splice_line` — one directive: what the include machinery does
    (2–3 silent iterations, push) and what `splice` puts in its place;
  * `C10_yylex_sim` — call by call: from related states the `yylex` call with includes and the
    call on the spliced text return the same token and value, or both end of input; never an
    include error; the spliced run never needs more iterations;
  * G1 `C10_tokens` (both scans reach end of input ⇒ same tokens), `C10_tokens_spliced`
    (one-sided, fuel `f₁ ≤ f₂`), `C10_tokens_exist` (unconditional: both scans DO reach end of
    input, with the same tokens, for every fuel ≥ an explicit bound `mu`);
  * G2 `C10_splice` — `read (.file top)` and `read (.string spliced)` agree on `ok`, on the
    `ParseResult` and on `stripPos root`, assuming only that the FIRST read does not run out of
    fuel (stronger than the original statement, `C10_spliceStatement'_holds`);
    `C10_splice_config` — they agree on the whole configuration up to source positions (error
    text and type included) and on the destructor calls.
  That the reads do not run out of fuel for large fuel is Properties/C10SpliceTotal.lean (the
  scanner side is `C10_tokens_exist` here, the parser loop is bounded in Properties/C03Term.lean).

  What really happens at seams (all of it is visible in `Rel`/`yylex_sim'` of
  Proofs/C10SpliceSim.lean, the non-obvious points are kernel-evaluated examples at the end):
  * start condition and string buffer belong to the scanner, not to the buffer: a `#` comment
    left open at the end of a file goes on in the parent buffer up to the next newline — in
    both runs alike;
  * the beginning-of-line flag belongs to the buffer: a fresh buffer starts at the beginning of
    a line, so the first line of an included file can be a directive; in the spliced text that
    position is the start of the including directive line (first file) or follows the newline
    that ends the previous file of a multi-path directive (this is what `IncludeTreeOK`'s
    condition on `files.dropLast` is for);
  * behind the closing quote the parent buffer is NOT at the beginning of a line, in the
    spliced text the same bytes may be (all files empty, or the last file newline-terminated):
    harmless, because the rest of a plain directive line has no quote and the only anchored
    rule, `^[ \t]*@include[ \t]+\"`, needs one (`next_unit`);
  * a last file without final newline followed by the end of the directive line is harmless:
    in INITIAL and SINGLE_LINE_COMMENT no lexeme other than the one-byte `\n` contains a
    newline, so the lexeme that ends at the end of the buffer also ends before the `\n` in
    the spliced text (`next_unit`); this is the case the dynamic oracle generates ("cut at
    line boundaries").
-/
set_option autoImplicit false

namespace Libconfig.C10

open Libconfig.C10S

/-! ### the repaired hypothesis -/

/-- `IncludeTreeOK` strengthened (differences marked NEW): the include tree below `text` is
well-formed down to `depth` levels, every text consists of bytes 1 … 255, every file of a
directive except the last is empty or newline-terminated, and so is the last one unless the
directive line ends behind the closing quote. -/
def IncludeTreeOK' (w : World) (ic : IncludeCfg) : Nat → Bytes → Prop
  | 0, text =>
    (∀ b ∈ text, 1 ≤ b ∧ b < 256) ∧                                            -- NEW
    (text.splitOn 10).all plainLine = true ∧ noDirective text = true
  | depth + 1, text =>
    (∀ b ∈ text, 1 ≤ b ∧ b < 256) ∧                                            -- NEW
    (text.splitOn 10).all plainLine = true ∧
    ∀ line ∈ text.splitOn 10, ∀ path rest, directive? line = some (path, rest) →
      ∃ files, includeFnEval ic.fn ic.dir path = (some files, none) ∧
        (∀ p ∈ files, ∃ content, w.open? p = some content ∧ IncludeTreeOK' w ic depth content) ∧
        (∀ p ∈ files.dropLast, ∀ content, w.open? p = some content →
          content = [] ∨ content.getLast? = some 10) ∧
        (∀ p, files.getLast? = some p → ∀ content, w.open? p = some content →           -- NEW
          content = [] ∨ content.getLast? = some 10 ∨ rest = [])

/-- it is a strengthening -/
theorem IncludeTreeOK'_imp (w : World) (ic : IncludeCfg) :
    ∀ (depth : Nat) (text : Bytes), IncludeTreeOK' w ic depth text → IncludeTreeOK w ic depth text := by
  intro depth
  induction depth with
  | zero => intro text h; exact ⟨h.2.1, h.2.2⟩
  | succ d ih =>
    intro text h
    refine ⟨h.2.1, fun line hl path rest hd => ?_⟩
    obtain ⟨files, hfn, h1, h2, -⟩ := h.2.2 line hl path rest hd
    exact ⟨files, hfn, fun p hp => (h1 p hp).imp fun c hc => ⟨hc.1, ih c hc.2⟩, h2⟩

/-- "down to `depth` levels" means at most `depth` levels: a shallower tree is a tree of 10
levels too -/
theorem IncludeTreeOK'_mono (w : World) (ic : IncludeCfg) :
    ∀ (depth : Nat) (text : Bytes), IncludeTreeOK' w ic depth text → IncludeTreeOK' w ic (depth + 1) text := by
  intro depth
  induction depth with
  | zero =>
    intro text h
    refine ⟨h.1, h.2.1, fun line hl path rest hd => ?_⟩
    have := List.all_eq_true.mp h.2.2 line hl
    rw [hd] at this
    cases this
  | succ d ih =>
    intro text h
    refine ⟨h.1, h.2.1, fun line hl path rest hd => ?_⟩
    obtain ⟨files, hfn, h1, h2, h3⟩ := h.2.2 line hl path rest hd
    exact ⟨files, hfn, fun p hp => (h1 p hp).imp fun c hc => ⟨hc.1, ih c hc.2⟩, h2, h3⟩

theorem IncludeTreeOK'_le (w : World) (ic : IncludeCfg) (text : Bytes) {d : Nat} (hd : d ≤ 10)
    (h : IncludeTreeOK' w ic d text) : IncludeTreeOK' w ic 10 text := by
  have key : ∀ k, IncludeTreeOK' w ic (d + k) text := by
    intro k
    induction k with
    | zero => exact h
    | succ k ih => exact IncludeTreeOK'_mono w ic _ text ih
  have := key (10 - d)
  rwa [show d + (10 - d) = 10 by omega] at this

/-- the internal form used by the helper lemmas -/
theorem treeOK_of (w : World) (ic : IncludeCfg) :
    ∀ (depth : Nat) (text : Bytes), IncludeTreeOK' w ic depth text → TreeOK w ic depth text := by
  intro depth
  induction depth with
  | zero =>
    intro text h
    refine ⟨h.1, fun line hl => ⟨List.all_eq_true.mp h.2.1 line hl, ?_⟩⟩
    have := List.all_eq_true.mp h.2.2 line hl
    simpa using this
  | succ d ih =>
    intro text h
    refine ⟨h.1, fun line hl => ⟨List.all_eq_true.mp h.2.1 line hl, fun path rest hd => ?_⟩⟩
    obtain ⟨files, hfn, h1, h2, h3⟩ := h.2.2 line hl path rest hd
    refine ⟨files, hfn, fun p hp => (h1 p hp).imp fun c hc => ⟨hc.1, ih c hc.2⟩, h2, ?_⟩
    intro p hp c hc
    rcases h3 p hp c hc with h | h | h
    · exact .inl (.inl h)
    · exact .inl (.inr h)
    · exact .inr h

mutual
theorem stripPos_eq : ∀ n : Node, stripPos n = eraseNode n
  | .mk _ _ _ _ _ _ kids _ _ _ => by
    rw [stripPos, eraseNode, stripPosList_eq kids]
theorem stripPosList_eq : ∀ ks : List Node, stripPosList ks = eraseList ks
  | [] => by rw [stripPosList, eraseList]
  | k :: ks => by rw [stripPosList, eraseList, stripPos_eq k, stripPosList_eq ks]
end

/-- **The spliced text of a well-formed tree consists of bytes 1 … 255**: the hypothesis
"the spliced text is NUL-free" of `C10_spliceStatement` follows from the tree hypothesis. -/
theorem C10_spliced_bytes (w : World) (ic : IncludeCfg) (content : Bytes)
    (h : IncludeTreeOK' w ic 10 content) : ∀ b ∈ splice w ic 11 content, 1 ≤ b ∧ b < 256 :=
  splice_bytes w ic 10 content (treeOK_of w ic 10 content h)

/-! ### the one-directive lemma -/

/-- **One directive, with includes.**  At the beginning of a line in INITIAL, on a directive
line `l` (path `path`, rest of the line `rest`, followed by `tail`) whose include function
names the files `p :: ps`, the first of which exists, one call of `yylex` performs 2 or 3
iterations without returning — the directive prefix up to the opening quote (rule 22), the
path if it is not empty (rule 23), the closing quote with the push (rule 27) — and goes on at
the start of the file `p`, in INITIAL, at the beginning of a line, with a frame holding the
file list and the parent buffer standing right behind the closing quote, not at the beginning
of a line.  (The files of the frame are then consumed in order and the frame is popped by the
`<<EOF>>` action: `C10_next_file`, `C10_pop`.) -/
theorem C10_one_directive (w : World) (ic : IncludeCfg) (s : ScanState)
    (l tail path rest p : Bytes) (ps : List Bytes) (content : Bytes)
    (hd : directive? l = some (path, rest)) (hl : 10 ∉ l) (hrest : s.buf.rest = l ++ tail)
    (hb : ∀ b ∈ l ++ tail, 1 ≤ b ∧ b < 256)
    (hsc : s.sc = 0) (hbol : s.buf.bol = true) (hstr : s.str = []) (hdepth : s.stack.length < 10)
    (hfn : includeFnEval ic.fn ic.dir path = (some (p :: ps), none))
    (hopen : w.open? p = some content) :
    ∃ k s', 2 ≤ k ∧ k ≤ 3 ∧
      (∀ fuel, yylex Generated.scanner Generated.scanActions w ic (fuel + k) s =
        yylex Generated.scanner Generated.scanActions w ic fuel s') ∧
      s'.sc = 0 ∧ s'.str = [] ∧ s'.buf.rest = content ∧ s'.buf.bol = true ∧
      ∃ ln, s'.stack = { files := p :: ps, cur := 0, parent := ⟨rest ++ tail, false, ln⟩ } :: s.stack := by
  obtain ⟨sb, k0, hk0, hk2, hsteps, hsbsc, hsbstr, hsbrest, hsbbol, hsbstack⟩ :=
    directive_prefix w ic s l tail path rest hd hrest hb hl hsc hbol hstr
  have hbl : ByteText l := (byteText_append.mp hb).1
  have hhead : ∀ c, (rest ++ tail).head? = some c → c < 256 := by
    intro c hc
    rcases List.mem_append.mp (List.mem_of_mem_head? hc) with hm | hm
    · exact (hbl c (rest_sub hd c hm)).2
    · exact ((byteText_append.mp hb).2 c hm).2
  obtain ⟨s', hsteps', hsc', hstr', hrest', hbol', ln, hstack'⟩ :=
    directive_close_push w ic sb path (rest ++ tail) hsbsc hsbstr hsbrest hsbbol hhead
      (fun b hbp => hbl b (path_sub hd b hbp)) (by rw [hsbstack]; exact hdepth) p ps content hfn hopen
  exact ⟨k0 + 1, s', by omega, by omega, hsteps.trans hsteps', hsc', hstr', hrest', hbol', ln,
    by rw [hstack', hsbstack]⟩

/-- **One directive, spliced.**  `splice` puts the spliced contents of the named files, in
order, then the rest of the line, in place of the directive line; the lines before and after
are spliced independently. -/
theorem C10_splice_line (w : World) (ic : IncludeCfg) (n : Nat) (l tail path rest : Bytes)
    (files : List Bytes) (hd : directive? l = some (path, rest)) (hl : 10 ∉ l)
    (hfn : includeFnEval ic.fn ic.dir path = (some files, none)) :
    splice w ic (n + 1) (l ++ 10 :: tail) =
      (files.flatMap fun p => splice w ic n ((w.open? p).getD [])) ++ rest ++
        10 :: splice w ic (n + 1) tail := by
  rw [splice_line w ic n hl (follow_cons tail), spliceLine_dir w ic n hd hfn]
  rfl

/-! ### G1 — the token level -/

/-- `Lexes w ic fuel s toks`: calling `yylex` repeatedly from the scan state `s` — every call
with `fuel` iterations at its disposal — returns the tokens `toks` (token number and value,
no source positions) and then end of input: no call runs out of fuel, reports an include
error, or falls into flex's ECHO rule. -/
inductive Lexes (w : World) (ic : IncludeCfg) (fuel : Nat) : ScanState → List (Nat × TokVal) → Prop
  | eof {s : ScanState} :
      (yylex Generated.scanner Generated.scanActions w ic fuel s).2 = .eof → Lexes w ic fuel s []
  | tok {s s' : ScanState} {t : Nat} {v : TokVal} {rest : List (Nat × TokVal)} :
      yylex Generated.scanner Generated.scanActions w ic fuel s = (s', .tok t v) →
      Lexes w ic fuel s' rest → Lexes w ic fuel s ((t, v) :: rest)

/-- `Lexes` is the relation `LexesTo` of Proofs/C02.lean (the token sequence handed to the
parser) without its include-error step -/
theorem Lexes.toLexesTo (E : ParserEnv) (hT : E.T = Generated.scanner)
    (hA : E.sacts = Generated.scanActions) (s : ScanState) (toks : List (Nat × TokVal))
    (h : Lexes E.w E.ic E.lexFuel s toks) : ∃ s', C02.LexesTo E s toks s' := by
  induction h with
  | @eof s he =>
    refine ⟨(yylex E.T E.sacts E.w E.ic E.lexFuel s).1, .eof s _ ?_⟩
    rw [hT, hA]
    exact Prod.ext rfl he
  | @tok s s₁ t v rest ht _ ih =>
    obtain ⟨s', hs'⟩ := ih
    exact ⟨s', .tok s s₁ s' t v rest (by rw [hT, hA]; exact ht) hs'⟩

/-- the scan state `__config_read` starts from -/
def scanStart (filename : Option Bytes) (inp : Bytes) : ScanState :=
  { buf := { rest := inp }, topFile := filename,
    filenames := match filename with | some f => [f] | none => [] }

theorem lexes_transfer (w : World) (ic : IncludeCfg) (f₁ f₂ : Nat) (hf : f₁ ≤ f₂) :
    ∀ (toks : List (Nat × TokVal)) (s₁ s₂ : ScanState),
      Rel w ic s₁ s₂ → Lexes w ic f₁ s₁ toks → Lexes w ic f₂ s₂ toks := by
  intro toks s₁ s₂ hrel h1
  induction h1 generalizing s₂ with
  | eof he =>
    have := yylex_sim' w ic f₁ f₂ _ _ hrel (by rw [he]; simp) (.inl hf)
    rw [he] at this
    obtain ⟨-, h | ⟨t, v, h, -⟩⟩ := this
    · exact .eof h.2
    · simp at h
  | tok ht _ ih =>
    have := yylex_sim' w ic f₁ f₂ _ _ hrel (by rw [ht]; simp) (.inl hf)
    rw [ht] at this
    obtain ⟨hrel', h | ⟨t, v, h1, h2⟩⟩ := this
    · simp at h
    · simp only [LexOut.tok.injEq] at h1
      obtain ⟨rfl, rfl⟩ := h1
      exact .tok (Prod.ext rfl h2) (ih _ hrel')

theorem lexes_mono (w : World) (ic : IncludeCfg) (f : Nat) (k : Nat) :
    ∀ (s : ScanState) (toks : List (Nat × TokVal)), Lexes w ic f s toks → Lexes w ic (f + k) s toks := by
  intro s toks h
  induction h with
  | eof he =>
    apply Lexes.eof
    rw [yylex_mono _ _ w ic f _ (by rw [he]; simp) k, he]
  | tok ht _ ih =>
    refine Lexes.tok ?_ ih
    rw [yylex_mono _ _ w ic f _ (by rw [ht]; simp) k, ht]

theorem lexes_det (w : World) (ic : IncludeCfg) (f : Nat) (s : ScanState)
    (toks toks' : List (Nat × TokVal)) (h : Lexes w ic f s toks) (h' : Lexes w ic f s toks') :
    toks = toks' := by
  let E : ParserEnv := { theEnv w {} f with ic := ic }
  obtain ⟨_, hl⟩ := h.toLexesTo E rfl rfl s toks
  obtain ⟨_, hl'⟩ := h'.toLexesTo E rfl rfl s toks'
  exact C02.lexes_det hl hl'

/-- the two-sided form from the one-sided one: give both scans the larger fuel -/
theorem lexes_agree (w : World) (ic : IncludeCfg) (f₁ f₂ : Nat)
    (toks₁ : List (Nat × TokVal)) (s₁ s₂ : ScanState) (toks₂ : List (Nat × TokVal))
    (hrel : Rel w ic s₁ s₂) (h1 : Lexes w ic f₁ s₁ toks₁) (h2 : Lexes w ic f₂ s₂ toks₂) :
    toks₁ = toks₂ :=
  lexes_det w ic (f₂ + f₁) s₂ _ _
    (lexes_transfer w ic f₁ (f₂ + f₁) (Nat.le_add_left _ _) toks₁ s₁ s₂ hrel h1)
    (lexes_mono w ic f₂ f₁ s₂ toks₂ h2)

/-- **G1: @include is textual inlining at the token level.**  For an include tree of at most 10
levels (`IncludeTreeOK'`): if scanning the top-level text with the include machinery (every
`yylex` call with fuel `f₁`) and scanning the spliced text as one string (fuel `f₂`) both reach
end of input, they return the same tokens with the same values. -/
theorem C10_tokens (w : World) (ic : IncludeCfg) (top : Option Bytes) (content : Bytes)
    (f₁ f₂ : Nat) (toks₁ toks₂ : List (Nat × TokVal)) (h : IncludeTreeOK' w ic 10 content)
    (h1 : Lexes w ic f₁ (scanStart top content) toks₁)
    (h2 : Lexes w ic f₂ (scanStart none (splice w ic 11 content)) toks₂) : toks₁ = toks₂ :=
  lexes_agree w ic f₁ f₂ toks₁ _ _ toks₂ (rel_init w ic top (treeOK_of w ic 10 content h)) h1 h2

/-- **G1, one-sided.**  If the scan with includes reaches end of input with fuel `f₁` per call,
returning `toks`, then the scan of the spliced text, with at least as much fuel per call,
reaches end of input too and returns the same `toks` (the spliced run never needs more
iterations per call than the run with includes). -/
theorem C10_tokens_spliced (w : World) (ic : IncludeCfg) (top : Option Bytes) (content : Bytes)
    (f₁ f₂ : Nat) (hf : f₁ ≤ f₂) (toks : List (Nat × TokVal)) (h : IncludeTreeOK' w ic 10 content)
    (h1 : Lexes w ic f₁ (scanStart top content) toks) :
    Lexes w ic f₂ (scanStart none (splice w ic 11 content)) toks :=
  lexes_transfer w ic f₁ f₂ hf toks _ _ (rel_init w ic top (treeOK_of w ic 10 content h)) h1

/-- from a state of the run with includes with `mu ≤ m`, with at least `mu` iterations per call,
the scan reaches end of input after fewer than `m` tokens -/
theorem lexes_exist_len (w : World) (ic : IncludeCfg) (fuel : Nat) :
    ∀ (m : Nat) (s₁ s₂ : ScanState), Rel w ic s₁ s₂ → mu w ic s₁ ≤ m → mu w ic s₁ ≤ fuel →
      ∃ toks, Lexes w ic fuel s₁ toks ∧ toks.length < m := by
  intro m
  induction m with
  | zero =>
    intro s₁ s₂ hrel hm _
    obtain ⟨D, inv, -⟩ := hrel
    have := mu_pos w ic s₁ inv.depth
    omega
  | succ m ih =>
    intro s₁ s₂ hrel hm hf
    obtain ⟨k₁, -, s₁', s₂', o, c1, -, -, hk1, hR, -, ho⟩ := call_sim w ic hrel
    have e := c1.ge (Nat.le_trans hk1 hf)
    rcases ho with rfl | ⟨t, v, rfl, hlt⟩
    · exact ⟨[], .eof (by rw [e]), Nat.zero_lt_succ _⟩
    · obtain ⟨rest, hrest, hlen⟩ := ih _ _ hR (by omega) (by omega)
      exact ⟨(t, v) :: rest, .tok e hrest, by rw [List.length_cons]; omega⟩

/-- `C10_tokens_exist` with the length of the token sequence: it is shorter than the bound `mu`
of the scanner iterations -/
theorem tokens_exist_len (w : World) (ic : IncludeCfg) (top : Option Bytes) (content : Bytes)
    (h : IncludeTreeOK' w ic 10 content) :
    ∃ toks : List (Nat × TokVal), toks.length < mu w ic (scanStart top content) ∧
      ∀ fuel, mu w ic (scanStart top content) ≤ fuel →
        Lexes w ic fuel (scanStart top content) toks ∧
        Lexes w ic fuel (scanStart none (splice w ic 11 content)) toks := by
  have hrel := rel_init w ic top (treeOK_of w ic 10 content h)
  obtain ⟨toks, htoks, hlen⟩ := lexes_exist_len w ic (mu w ic (scanStart top content)) _ _ _ hrel
    (Nat.le_refl _) (Nat.le_refl _)
  refine ⟨toks, hlen, fun fuel hf => ?_⟩
  obtain ⟨k, rfl⟩ : ∃ k, fuel = mu w ic (scanStart top content) + k :=
    ⟨fuel - mu w ic (scanStart top content), by omega⟩
  have h1 := lexes_mono w ic _ k _ _ htoks
  exact ⟨h1, lexes_transfer w ic _ _ (Nat.le_refl _) toks _ _ hrel h1⟩

/-- **G1, unconditionally: both scans terminate, without include error, with the same
tokens.**  For an include tree of at most 10 levels (`IncludeTreeOK'`) there are a number `N` of
loop iterations (`mu`, a bound computed from the sizes of the files of the tree) and a token
sequence `toks` such that, with any fuel `≥ N` per `yylex` call, the scan of the top-level
text with the include machinery and the scan of the spliced text as one string both reach end
of input and both return exactly `toks`. -/
theorem C10_tokens_exist (w : World) (ic : IncludeCfg) (top : Option Bytes) (content : Bytes)
    (h : IncludeTreeOK' w ic 10 content) :
    ∃ (N : Nat) (toks : List (Nat × TokVal)), ∀ fuel, N ≤ fuel →
      Lexes w ic fuel (scanStart top content) toks ∧
      Lexes w ic fuel (scanStart none (splice w ic 11 content)) toks := by
  obtain ⟨toks, -, h⟩ := tokens_exist_len w ic top content h
  exact ⟨_, toks, h⟩

/-- **No include error, call by call.**  The simulation behind G1 (`Rel` is the relation
between the two runs, Proofs/C10SpliceSim.lean): from related states, a call of `yylex` with
includes that does not run out of fuel returns a token or end of input — never an include
error (depth, missing file, include function) — and a call on the spliced text with at least
as much fuel returns the same; the states reached are related again. -/
theorem C10_yylex_sim (w : World) (ic : IncludeCfg) (f₁ f₂ : Nat) (s₁ s₂ : ScanState)
    (hrel : Rel w ic s₁ s₂)
    (h1 : (yylex Generated.scanner Generated.scanActions w ic f₁ s₁).2 ≠ .outOfFuel)
    (h2 : f₁ ≤ f₂ ∨ (yylex Generated.scanner Generated.scanActions w ic f₂ s₂).2 ≠ .outOfFuel) :
    Rel w ic (yylex Generated.scanner Generated.scanActions w ic f₁ s₁).1
      (yylex Generated.scanner Generated.scanActions w ic f₂ s₂).1 ∧
    (((yylex Generated.scanner Generated.scanActions w ic f₁ s₁).2 = .eof ∧
      (yylex Generated.scanner Generated.scanActions w ic f₂ s₂).2 = .eof) ∨
     ∃ t v, (yylex Generated.scanner Generated.scanActions w ic f₁ s₁).2 = .tok t v ∧
       (yylex Generated.scanner Generated.scanActions w ic f₂ s₂).2 = .tok t v) :=
  yylex_sim' w ic f₁ f₂ s₁ s₂ hrel h1 h2

/-- the two runs start related -/
theorem C10_rel_init (w : World) (ic : IncludeCfg) (top : Option Bytes) (content : Bytes)
    (h : IncludeTreeOK' w ic 10 content) :
    Rel w ic (scanStart top content) (scanStart none (splice w ic 11 content)) :=
  rel_init w ic top (treeOK_of w ic 10 content h)

/-! ### G2 — the configuration level -/

/-- **@include = textual inlining** — `C10_spliceStatement` with the repaired hypothesis, in a
stronger, one-sided form.  For an include tree of at most 10 levels (`IncludeTreeOK'`), if
reading the top file does not run out of fuel, then reading the spliced text with the same fuel
gives the same outcome (`ok`, and the same `ParseResult`) and the same configuration up to
the recorded source positions.  (No hypothesis on the second read; no separate NUL-freeness
hypothesis: `C10_spliced_bytes`.) -/
theorem C10_splice (w : World) (c : Config) (top content : Bytes) (fuel : Nat)
    (hopen : w.open? top = some content)
    (htree : IncludeTreeOK' w { fn := c.includeFn, dir := c.includeDir } 10 content) :
    let a := read w c (.file top) fuel
    let b := read w c (.string (splice w { fn := c.includeFn, dir := c.includeDir } 11 content)) fuel
    a.result ≠ .outOfFuel →
    a.ok = b.ok ∧ a.result = b.result ∧ stripPos a.cfg.root = stripPos b.cfg.root := by
  intro a b h1
  have hr := splice_read_all w c top content fuel hopen (treeOK_of w _ 10 content htree) h1
  rw [stripPos_eq, stripPos_eq, eraseNode_restamp, eraseNode_restamp]
  exact ⟨hr.1, hr.2.1, congrArg Config.root hr.2.2.1⟩

/-- a configuration without source positions: the settings' lines and files, the error line
and file, the list of file names -/
def erasePositions (c : Config) : Config :=
  { c with root := stripPos c.root, errFile := none, errLine := 0, filenames := [] }

/-- **… and everything else agrees too**: under the hypotheses of `C10_splice` the two reads
leave the same configuration up to source positions — the same settings, the same error text
and error type, the same attributes — and make the same destructor calls. -/
theorem C10_splice_config (w : World) (c : Config) (top content : Bytes) (fuel : Nat)
    (hopen : w.open? top = some content)
    (htree : IncludeTreeOK' w { fn := c.includeFn, dir := c.includeDir } 10 content) :
    let a := read w c (.file top) fuel
    let b := read w c (.string (splice w { fn := c.includeFn, dir := c.includeDir } 11 content)) fuel
    a.result ≠ .outOfFuel →
    erasePositions a.cfg = erasePositions b.cfg ∧ a.dtorLog = b.dtorLog := by
  intro a b h1
  have hr := splice_read_all w c top content fuel hopen (treeOK_of w _ 10 content htree) h1
  unfold erasePositions
  rw [stripPos_eq, stripPos_eq, ← eraseCfg, ← eraseCfg, eraseCfg_restamp, eraseCfg_restamp]
  exact ⟨hr.2.2.1, hr.2.2.2⟩

/-- the statement of Properties/C10.lean with `IncludeTreeOK'` in place of `IncludeTreeOK` -/
def C10_spliceStatement' : Prop :=
  ∀ (w : World) (c : Config) (top content : Bytes) (fuel : Nat),
    w.open? top = some content →
    (∀ b ∈ splice w { fn := c.includeFn, dir := c.includeDir } 11 content, b ≠ 0) →
    IncludeTreeOK' w { fn := c.includeFn, dir := c.includeDir } 10 content →
    let a := read w c (.file top) fuel
    let b := read w c (.string (splice w { fn := c.includeFn, dir := c.includeDir } 11 content)) fuel
    a.result ≠ .outOfFuel → b.result ≠ .outOfFuel →
    a.ok = b.ok ∧ stripPos a.cfg.root = stripPos b.cfg.root

/-- … holds. -/
theorem C10_spliceStatement'_holds : C10_spliceStatement' := by
  intro w c top content fuel hopen _ htree a b h1 _
  have h := C10_splice w c top content fuel hopen htree h1
  exact ⟨h.1, h.2.2⟩

/-! ### executable forms of the tree hypotheses (for the counterexamples and examples) -/

/-- `IncludeTreeOK`, decided -/
def checkTree (w : World) (ic : IncludeCfg) : Nat → Bytes → Bool
  | 0, text => (text.splitOn 10).all plainLine && noDirective text
  | d + 1, text =>
    (text.splitOn 10).all plainLine &&
    (text.splitOn 10).all fun line =>
      match directive? line with
      | none => true
      | some (path, _) =>
        match includeFnEval ic.fn ic.dir path with
        | (some files, none) =>
          files.all (fun p => match w.open? p with
            | some c => checkTree w ic d c
            | none => false) &&
          files.dropLast.all (fun p => match w.open? p with
            | some c => c.isEmpty || c.getLast? == some 10
            | none => true)
        | _ => false

theorem checkTree_sound (w : World) (ic : IncludeCfg) :
    ∀ (d : Nat) (text : Bytes), checkTree w ic d text = true → IncludeTreeOK w ic d text := by
  intro d
  induction d with
  | zero =>
    intro text h
    simpa [checkTree, IncludeTreeOK] using h
  | succ d ih =>
    intro text h
    simp only [checkTree, Bool.and_eq_true] at h
    refine ⟨h.1, fun line hline path rest hd => ?_⟩
    have hl := List.all_eq_true.mp h.2 line hline
    rw [hd] at hl
    simp only at hl
    split at hl
    · rename_i files heq
      simp only [Bool.and_eq_true] at hl
      refine ⟨files, heq, fun p hp => ?_, fun p hp c hc => ?_⟩
      · have := List.all_eq_true.mp hl.1 p hp
        cases hopen : w.open? p with
        | none => rw [hopen] at this; cases this
        | some c => rw [hopen] at this; exact ⟨c, rfl, ih c this⟩
      · have := List.all_eq_true.mp hl.2 p hp
        rw [hc] at this
        simpa using this
    · cases hl

/-- `IncludeTreeOK'`, decided -/
def checkTree' (w : World) (ic : IncludeCfg) : Nat → Bytes → Bool
  | 0, text => text.all (fun b => Nat.ble 1 b && Nat.blt b 256) &&
      (text.splitOn 10).all plainLine && noDirective text
  | d + 1, text =>
    text.all (fun b => Nat.ble 1 b && Nat.blt b 256) &&
    (text.splitOn 10).all plainLine &&
    (text.splitOn 10).all fun line =>
      match directive? line with
      | none => true
      | some (path, rest) =>
        match includeFnEval ic.fn ic.dir path with
        | (some files, none) =>
          files.all (fun p => match w.open? p with
            | some c => checkTree' w ic d c
            | none => false) &&
          files.dropLast.all (fun p => match w.open? p with
            | some c => c.isEmpty || c.getLast? == some 10
            | none => true) &&
          (match files.getLast? with
            | some p => (match w.open? p with
              | some c => c.isEmpty || c.getLast? == some 10 || rest.isEmpty
              | none => true)
            | none => true)
        | _ => false

theorem bytes_of_all {text : Bytes}
    (h : text.all (fun b => Nat.ble 1 b && Nat.blt b 256) = true) : ∀ b ∈ text, 1 ≤ b ∧ b < 256 := by
  intro b hb
  have := List.all_eq_true.mp h b hb
  simp only [Bool.and_eq_true] at this
  exact ⟨Nat.le_of_ble_eq_true this.1, Nat.le_of_ble_eq_true this.2⟩

theorem checkTree'_sound (w : World) (ic : IncludeCfg) :
    ∀ (d : Nat) (text : Bytes), checkTree' w ic d text = true → IncludeTreeOK' w ic d text := by
  intro d
  induction d with
  | zero =>
    intro text h
    simp only [checkTree', Bool.and_eq_true] at h
    exact ⟨bytes_of_all h.1.1, h.1.2, h.2⟩
  | succ d ih =>
    intro text h
    simp only [checkTree', Bool.and_eq_true] at h
    refine ⟨bytes_of_all h.1.1, h.1.2, fun line hline path rest hd => ?_⟩
    have hl := List.all_eq_true.mp h.2 line hline
    rw [hd] at hl
    simp only at hl
    split at hl
    · rename_i files heq
      simp only [Bool.and_eq_true] at hl
      refine ⟨files, heq, fun p hp => ?_, fun p hp c hc => ?_, fun p hp c hc => ?_⟩
      · have := List.all_eq_true.mp hl.1.1 p hp
        cases hopen : w.open? p with
        | none => rw [hopen] at this; cases this
        | some c => rw [hopen] at this; exact ⟨c, rfl, ih c this⟩
      · have := List.all_eq_true.mp hl.1.2 p hp
        rw [hc] at this
        simpa using this
      · have := hl.2
        rw [hp] at this
        simp only [hc] at this
        simpa [or_assoc] using this
    · cases hl

/-- the token list of a scan, computed: at most `n` calls of `yylex`, `fuel` iterations each -/
def lexList (w : World) (ic : IncludeCfg) (fuel : Nat) : Nat → ScanState → Option (List (Nat × TokVal))
  | 0, _ => none
  | n + 1, s =>
    match yylex Generated.scanner Generated.scanActions w ic fuel s with
    | (s', .tok t v) => (lexList w ic fuel n s').map ((t, v) :: ·)
    | (_, .eof) => some []
    | _ => none

theorem lexList_sound (w : World) (ic : IncludeCfg) (fuel : Nat) :
    ∀ (n : Nat) (s : ScanState) (toks : List (Nat × TokVal)),
      lexList w ic fuel n s = some toks → Lexes w ic fuel s toks := by
  intro n
  induction n with
  | zero => intro s toks h; cases h
  | succ n ih =>
    intro s toks h
    unfold lexList at h
    split at h
    · rename_i s' t v heq
      cases hl : lexList w ic fuel n s' with
      | none => rw [hl] at h; cases h
      | some rest =>
        rw [hl] at h
        simp only [Option.map_some, Option.some.injEq] at h
        subst h
        exact .tok heq (ih s' rest hl)
    · rename_i heq
      simp only [Option.some.injEq] at h
      subst h
      exact .eof (by rw [heq])
    · cases h

/-! ### the finding: `C10_spliceStatement` is false as stated -/

/-- counterexample 1 (a seam inside a line): the file `i` is `a = 1` without final newline, the
top file continues the directive line with `2;` -/
def topSeam : Bytes := bytesOfString "@include \"i\"2;\n"
def wSeam : World :=
  { files := [(bytesOfString "t", some topSeam), (bytesOfString "i", some (bytesOfString "a = 1"))] }

theorem wSeam_ok : IncludeTreeOK wSeam { fn := 0, dir := none } 10 topSeam :=
  checkTree_sound _ _ 10 _ (by decide +kernel)

/-- the two reads of this tree, each evaluated once -/
theorem wSeam_reads :
    let a := read wSeam Config.init (.file (bytesOfString "t")) 1000
    let b := read wSeam Config.init (.string (splice wSeam { fn := 0, dir := none } 11 topSeam)) 1000
    a.result = .abort ∧ b.result = .accept ∧ a.ok ≠ b.ok := by decide +kernel

/-- the tree meets every hypothesis of `C10_spliceStatement`; the spliced text is `a = 12;`;
with includes the tokens are NAME `=` INTEGER(1) INTEGER(2) `;` — a syntax error —, spliced they
are NAME `=` INTEGER(12) `;` -/
example :
    IncludeTreeOK wSeam { fn := 0, dir := none } 10 topSeam ∧
    (∀ e ∈ wSeam.files, ∀ c, e.2 = some c → ∀ b ∈ c, 1 ≤ b ∧ b < 256) ∧
    splice wSeam { fn := 0, dir := none } 11 topSeam = bytesOfString "a = 12;\n" ∧
    (lexList wSeam { fn := 0, dir := none } 20 20 (scanStart (some (bytesOfString "t")) topSeam)).map
        (·.map fun tv => (tv.1, tv.2.ival)) = some [(265, 0), (266, 0), (259, 1), (259, 2), (275, 0)] ∧
    (lexList wSeam { fn := 0, dir := none } 20 20
        (scanStart none (splice wSeam { fn := 0, dir := none } 11 topSeam))).map
        (·.map fun tv => (tv.1, tv.2.ival)) = some [(265, 0), (266, 0), (259, 12), (275, 0)] ∧
    (read wSeam Config.init (.file (bytesOfString "t")) 1000).result = .abort ∧
    (read wSeam Config.init (.string (splice wSeam { fn := 0, dir := none } 11 topSeam)) 1000).result
      = .accept :=
  ⟨wSeam_ok, by decide +kernel, by decide +kernel, by decide +kernel, by decide +kernel,
    wSeam_reads.1, wSeam_reads.2.1⟩

/-- **FINDING: the end-to-end statement of Properties/C10.lean does not hold.** -/
theorem C10_spliceStatement_false : ¬ C10_spliceStatement := by
  intro h
  obtain ⟨ha, hb, hne⟩ := wSeam_reads
  have h' := h wSeam Config.init (bytesOfString "t") topSeam 1000 (by decide +kernel)
    (by decide +kernel) wSeam_ok (fun e => by cases ha.symm.trans e) (fun e => by cases hb.symm.trans e)
  exact hne h'.1

/-- counterexample 2 (NUL in a path; every file ends in a newline): the directive names the
file `a\0b`, which exists; the scanner's string buffer is a C string, so the include function
is asked for `a`, which does not exist -/
def topNul : Bytes := bytesOfString "@include \"a" ++ [0] ++ bytesOfString "b\"\n"
def wNul : World :=
  { files := [(bytesOfString "t", some topNul),
              (bytesOfString "a" ++ [0] ++ bytesOfString "b", some (bytesOfString "x = 1;\n"))] }

/-- … every hypothesis of `C10_spliceStatement` holds (the spliced text `x = 1;` has no NUL),
the read of the top file fails with "cannot open include file", the read of the spliced text
succeeds.  Hence hypothesis (a) of `IncludeTreeOK'`. -/
theorem C10_spliceStatement_false_nul :
    wNul.open? (bytesOfString "t") = some topNul ∧
    (∀ b ∈ splice wNul { fn := 0, dir := none } 11 topNul, b ≠ 0) ∧
    IncludeTreeOK wNul { fn := 0, dir := none } 10 topNul ∧
    (∀ e ∈ wNul.files, ∀ c, e.2 = some c → c.getLast? = some 10) ∧
    (read wNul Config.init (.file (bytesOfString "t")) 1000).result = .abort ∧
    (read wNul Config.init (.file (bytesOfString "t")) 1000).cfg.errText
      = some (bytesOfString "cannot open include file") ∧
    (read wNul Config.init (.string (splice wNul { fn := 0, dir := none } 11 topNul)) 1000).result
      = .accept :=
  ⟨by decide +kernel, by decide +kernel, checkTree_sound _ _ 10 _ (by decide +kernel),
    by decide +kernel, by decide +kernel⟩

/-- both counterexamples are excluded by `IncludeTreeOK'`, each by one of the two additions -/
example : checkTree' wSeam { fn := 0, dir := none } 10 topSeam = false ∧
    checkTree' wNul { fn := 0, dir := none } 10 topNul = false := by decide +kernel

example : ¬ IncludeTreeOK' wSeam { fn := 0, dir := none } 10 topSeam := fun h =>
  wSeam_reads.2.2 (C10_splice wSeam Config.init (bytesOfString "t") topSeam 1000 (by decide +kernel) h
    (by rw [wSeam_reads.1]; decide)).1

/-! ### non-vacuity: the theorems on concrete trees, evaluated by the kernel -/

/-- a three-level tree with an include directory: an open `#` comment before a nested
directive, an indented directive, a last file without final newline included from a line that
ends behind the quote, an empty file included from a line that goes on -/
def topTree : Bytes := bytesOfString "a = 1;\n@include \"i\"\nc = 3;\n"
def wTree : World :=
  { files := [(bytesOfString "t", some topTree),
              (bytesOfString "d/i", some (bytesOfString
                "b = 2; # open comment\n  @include \"/j\"\n@include \"e\" # nothing\n")),
              (bytesOfString "/j", some (bytesOfString "g = { x = 1; };")),
              (bytesOfString "d/e", some [])] }
def cTree : Config := { Config.init with includeDir := some (bytesOfString "d") }
def icTree : IncludeCfg := { fn := 0, dir := some (bytesOfString "d") }

/-- what the examples need to know of this tree: the top file, the tree hypothesis in its
executable form, the bound `N` of `C10_tokens_exist`, the tokens of the scan with includes.
One kernel check for the four. -/
theorem wTree_facts :
    wTree.open? (bytesOfString "t") = some topTree ∧ checkTree' wTree icTree 10 topTree = true ∧
    mu wTree icTree (scanStart (some (bytesOfString "t")) topTree) = 77 ∧
    ∃ toks, lexList wTree icTree 50 50 (scanStart (some (bytesOfString "t")) topTree) = some toks ∧
      toks.map (·.1) = [265, 266, 259, 275, 265, 266, 259, 275, 265, 266, 273, 265, 266, 259, 275,
        274, 275, 265, 266, 259, 275] := by
  rw [wTree, topTree]; repeat rw [bytesOfString_ofList]
  decide +kernel

/-- the hypothesis of `C10_splice`, `C10_tokens…` is met -/
theorem wTree_ok : IncludeTreeOK' wTree icTree 10 topTree :=
  checkTree'_sound _ _ 10 _ wTree_facts.2.1

/-- the two reads of this tree, run by the kernel: four settings, whose recorded positions differ
between the reads; the read with includes opens and closes four files -/
theorem wTree_reads :
    let a := read wTree cTree (.file (bytesOfString "t")) 1000
    let b := read wTree cTree (.string (splice wTree icTree 11 topTree)) 1000
    a.result = .accept ∧
    a.cfg.root.kids.map (fun k => (k.name, k.line, k.file)) =
      [(some (bytesOfString "a"), 1, some (bytesOfString "t")),
       (some (bytesOfString "b"), 1, some (bytesOfString "d/i")),
       (some (bytesOfString "g"), 1, some (bytesOfString "/j")),
       (some (bytesOfString "c"), 3, some (bytesOfString "t"))] ∧
    b.cfg.root.kids.map (fun k => (k.name, k.line, k.file)) =
      [(some (bytesOfString "a"), 1, none), (some (bytesOfString "b"), 2, none),
       (some (bytesOfString "g"), 3, none), (some (bytesOfString "c"), 6, none)] ∧
    a.events.length = 14 := by
  rw [wTree, topTree]; repeat rw [bytesOfString_ofList]
  decide +kernel

/-- `C10_splice` applies, and its conclusion says something: the read succeeds, four settings,
whose recorded positions differ between the two reads -/
example :
    let a := read wTree cTree (.file (bytesOfString "t")) 1000
    let b := read wTree cTree (.string (splice wTree icTree 11 topTree)) 1000
    (a.ok = b.ok ∧ a.result = b.result ∧ stripPos a.cfg.root = stripPos b.cfg.root) ∧
    a.result = .accept ∧
    a.cfg.root.kids.map (fun k => (k.name, k.line, k.file)) =
      [(some (bytesOfString "a"), 1, some (bytesOfString "t")),
       (some (bytesOfString "b"), 1, some (bytesOfString "d/i")),
       (some (bytesOfString "g"), 1, some (bytesOfString "/j")),
       (some (bytesOfString "c"), 3, some (bytesOfString "t"))] ∧
    b.cfg.root.kids.map (fun k => (k.name, k.line, k.file)) =
      [(some (bytesOfString "a"), 1, none), (some (bytesOfString "b"), 2, none),
       (some (bytesOfString "g"), 3, none), (some (bytesOfString "c"), 6, none)] :=
  ⟨C10_splice wTree cTree (bytesOfString "t") topTree 1000 wTree_facts.1 wTree_ok
    (by rw [wTree_reads.1]; decide), wTree_reads.1, wTree_reads.2.1, wTree_reads.2.2.1⟩

/-- `C10_tokens`, `C10_tokens_spliced`: the token sequence of both scans (21 tokens) -/
example :
    ∃ toks, Lexes wTree icTree 50 (scanStart (some (bytesOfString "t")) topTree) toks ∧
      Lexes wTree icTree 50 (scanStart none (splice wTree icTree 11 topTree)) toks ∧
      toks.map (·.1) = [265, 266, 259, 275, 265, 266, 259, 275, 265, 266, 273, 265, 266, 259, 275,
        274, 275, 265, 266, 259, 275] := by
  obtain ⟨toks, h1, h2⟩ := wTree_facts.2.2.2
  have hl := lexList_sound _ _ _ _ _ _ h1
  exact ⟨toks, hl, C10_tokens_spliced wTree icTree _ topTree 50 50 (Nat.le_refl _) toks wTree_ok hl, h2⟩

/-- the bound `N` of `C10_tokens_exist` for this tree -/
example : mu wTree icTree (scanStart (some (bytesOfString "t")) topTree) = 77 := wTree_facts.2.2.1

/-- the scan state at the second line of the top file -/
def sDir : ScanState :=
  { buf := { rest := topTree.drop 7, bol := true, lineno := 2 }, topFile := some (bytesOfString "t") }

/-- `C10_one_directive` on the second line of the top file: its hypotheses are met -/
example :
    ∃ k s', 2 ≤ k ∧ k ≤ 3 ∧
      (∀ fuel, yylex Generated.scanner Generated.scanActions wTree icTree (fuel + k) sDir =
        yylex Generated.scanner Generated.scanActions wTree icTree fuel s') ∧
      s'.sc = 0 ∧ s'.str = [] ∧
      s'.buf.rest = bytesOfString "b = 2; # open comment\n  @include \"/j\"\n@include \"e\" # nothing\n" ∧
      s'.buf.bol = true ∧
      ∃ ln, s'.stack =
        [{ files := [bytesOfString "d/i"], cur := 0, parent := ⟨[] ++ bytesOfString "\nc = 3;\n", false, ln⟩ }] :=
  C10_one_directive wTree icTree sDir (bytesOfString "@include \"i\"") (bytesOfString "\nc = 3;\n")
    (bytesOfString "i") [] (bytesOfString "d/i") [] _ (by decide +kernel) (by decide +kernel)
    (by decide +kernel) (by decide +kernel) rfl rfl rfl (by decide) (by decide +kernel)
    (by decide +kernel)

/-- a multi-path directive of the custom include function, in the middle of a list: three
files, the second empty, the others newline-terminated, the line goes on behind the quote -/
def topMulti : Bytes := bytesOfString "x = ( 1,\n@include \"p|q|r\" 4 );\n"
def wMulti : World :=
  { files := [(bytesOfString "t", some topMulti), (bytesOfString "p", some (bytesOfString "2,\n")),
              (bytesOfString "q", some []), (bytesOfString "r", some (bytesOfString "3,\n"))] }
def cMulti : Config := { Config.init with includeFn := 1 }

example :
    let a := read wMulti cMulti (.file (bytesOfString "t")) 1000
    let b := read wMulti cMulti (.string (splice wMulti { fn := 1, dir := none } 11 topMulti)) 1000
    (a.ok = b.ok ∧ a.result = b.result ∧ stripPos a.cfg.root = stripPos b.cfg.root) ∧
    a.result = .accept ∧
    splice wMulti { fn := 1, dir := none } 11 topMulti = bytesOfString "x = ( 1,\n2,\n3,\n 4 );\n" ∧
    a.cfg.root.kids.map (fun k => k.kids.map fun e => (e.ival, e.line, e.file)) =
      [[(1, 1, some (bytesOfString "t")), (2, 1, some (bytesOfString "p")),
        (3, 1, some (bytesOfString "r")), (4, 2, some (bytesOfString "t"))]] :=
  -- the two evaluated hypotheses and what follows the first conjunct, in one kernel check
  have h : _ ∧ _ ∧ _ := by decide +kernel
  ⟨C10_splice wMulti cMulti (bytesOfString "t") topMulti 1000 h.1 (checkTree'_sound _ _ 10 _ h.2.1)
    (by rw [h.2.2.1]; decide), h.2.2⟩

/-- a failing read: a syntax error inside an included file.  Both reads abort with "syntax
error" and leave the same two settings (`C10_splice_config`); the error is located at line 2 of
`i` by the read with includes and at line 3 of nothing by the read of the spliced text -/
def topErr : Bytes := bytesOfString "a = 1;\n@include \"i\"\nc = 3;\n"
def wErr : World :=
  { files := [(bytesOfString "t", some topErr), (bytesOfString "i", some (bytesOfString "\nb = ;\n"))] }

example :
    let a := read wErr Config.init (.file (bytesOfString "t")) 1000
    let b := read wErr Config.init (.string (splice wErr { fn := 0, dir := none } 11 topErr)) 1000
    (erasePositions a.cfg = erasePositions b.cfg ∧ a.dtorLog = b.dtorLog) ∧
    a.result = .abort ∧ a.cfg.errText = some (bytesOfString "syntax error") ∧
    (a.cfg.errLine, a.cfg.errFile) = (2, some (bytesOfString "i")) ∧
    (b.cfg.errLine, b.cfg.errFile) = (3, none) ∧
    a.cfg.root.kids.map (·.name) = [some (bytesOfString "a"), some (bytesOfString "b")] :=
  have h : _ ∧ _ ∧ _ := by decide +kernel
  ⟨C10_splice_config wErr Config.init (bytesOfString "t") topErr 1000 h.1
    (checkTree'_sound _ _ 10 _ h.2.1) (by rw [h.2.2.1]; decide), h.2.2⟩

/-- the depth limit is met exactly: a chain `t → f1 → … → f10`, ten directives deep, is a tree of
10 levels; the frames pile up to ten and the theorem applies … -/
def chainName (k : Nat) : Bytes := bytesOfString "f" ++ natToDec k
def chainFile (k : Nat) : Bytes :=
  bytesOfString "@include \"" ++ chainName (k + 1) ++ bytesOfString "\"\n"
def wChain (n : Nat) : World :=
  { files := (bytesOfString "t", some (chainFile 0)) ::
      ((List.range n).map fun k => (chainName (k + 1), some (chainFile (k + 1)))) ++
      [(chainName (n + 1), some (bytesOfString "x = 1;\n"))] }

example :
    let a := read (wChain 9) Config.init (.file (bytesOfString "t")) 1000
    let b := read (wChain 9) Config.init
      (.string (splice (wChain 9) { fn := 0, dir := none } 11 (chainFile 0))) 1000
    (a.ok = b.ok ∧ a.result = b.result ∧ stripPos a.cfg.root = stripPos b.cfg.root) ∧
    a.result = .accept ∧
    a.cfg.root.kids.map (fun k => (k.name, k.line, k.file)) =
      [(some (bytesOfString "x"), 1, some (bytesOfString "f10"))] :=
  have h : _ ∧ _ ∧ _ := by decide +kernel
  ⟨C10_splice (wChain 9) Config.init (bytesOfString "t") (chainFile 0) 1000 h.1
    (checkTree'_sound _ _ 10 _ h.2.1) (by rw [h.2.2.1]; decide), h.2.2⟩

/-- … while one level more is not a tree of 10 levels, and indeed the read with includes
stops at the limit although the text-level `splice` (11 levels) inlines everything: the depth
hypothesis cannot be dropped -/
example :
    checkTree' (wChain 10) { fn := 0, dir := none } 10 (chainFile 0) = false ∧
    (read (wChain 10) Config.init (.file (bytesOfString "t")) 1000).cfg.errText
      = some (bytesOfString "include file nesting too deep") ∧
    (read (wChain 10) Config.init
      (.string (splice (wChain 10) { fn := 0, dir := none } 11 (chainFile 0))) 1000).result = .accept := by
  decide +kernel

/-! ### seams: what happens at the ends of included files (see the header) -/

/-- a `#` comment left open at the end of an included file goes on in the parent buffer: the
rest of the directive line is swallowed with includes exactly as in the spliced text (this
tree is outside `IncludeTreeOK'` — last file without newline and a non-empty rest — the two
runs agree all the same, here; `wSeam` shows they need not) -/
example :
    let top := bytesOfString "@include \"i\" x = 1;\ny = 2;\n"
    let w : World := { files := [(bytesOfString "t", some top), (bytesOfString "i", some (bytesOfString "# c"))] }
    splice w { fn := 0, dir := none } 11 top = bytesOfString "# c x = 1;\ny = 2;\n" ∧
    (lexList w { fn := 0, dir := none } 50 50 (scanStart none top)).map (·.map (·.1))
      = some [265, 266, 259, 275] ∧
    (lexList w { fn := 0, dir := none } 50 50
      (scanStart none (splice w { fn := 0, dir := none } 11 top))).map (·.map (·.1))
      = some [265, 266, 259, 275] := by decide +kernel

/-- more seams inside a line that `IncludeTreeOK` admits and (b) excludes: a file ending in `/`
followed by `/ x` (two GARBAGE tokens and a NAME with includes, a comment spliced), a file
ending in `tr` followed by `ue;` (two NAMEs with includes, the BOOLEAN `true` spliced) -/
example :
    let top₁ := bytesOfString "@include \"i\"/ x\nb = 2;\n"
    let w₁ : World := { files := [(bytesOfString "t", some top₁), (bytesOfString "i", some (bytesOfString "a = 1;/"))] }
    let top₂ := bytesOfString "@include \"i\"ue;\n"
    let w₂ : World := { files := [(bytesOfString "t", some top₂), (bytesOfString "i", some (bytesOfString "a = tr"))] }
    checkTree w₁ { fn := 0, dir := none } 10 top₁ = true ∧
    (lexList w₁ { fn := 0, dir := none } 50 50 (scanStart none top₁)).map (·.map (·.1))
      = some [265, 266, 259, 275, 276, 276, 265, 265, 266, 259, 275] ∧
    (lexList w₁ { fn := 0, dir := none } 50 50
      (scanStart none (splice w₁ { fn := 0, dir := none } 11 top₁))).map (·.map (·.1))
      = some [265, 266, 259, 275, 265, 266, 259, 275] ∧
    checkTree w₂ { fn := 0, dir := none } 10 top₂ = true ∧
    (lexList w₂ { fn := 0, dir := none } 50 50 (scanStart none top₂)).map (·.map (·.1))
      = some [265, 266, 265, 265, 275] ∧
    (lexList w₂ { fn := 0, dir := none } 50 50
      (scanStart none (splice w₂ { fn := 0, dir := none } 11 top₂))).map (·.map (·.1))
      = some [265, 266, 258, 275] := by decide +kernel

/-- behind the closing quote the parent buffer is not at the beginning of a line, the same
bytes in the spliced text are (the file is empty): `@include` without a quote is GARBAGE `@`
and a NAME in both positions, the anchored rule needs the quote -/
example :
    let top := bytesOfString "@include \"e\"@include\n"
    let w : World := { files := [(bytesOfString "t", some top), (bytesOfString "e", some [])] }
    checkTree' w { fn := 0, dir := none } 10 top = true ∧
    splice w { fn := 0, dir := none } 11 top = bytesOfString "@include\n" ∧
    (lexList w { fn := 0, dir := none } 50 50 (scanStart none top)).map (·.map (·.1))
      = some [276, 265] ∧
    (lexList w { fn := 0, dir := none } 50 50
      (scanStart none (splice w { fn := 0, dir := none } 11 top))).map (·.map (·.1))
      = some [276, 265] := by decide +kernel

end Libconfig.C10
