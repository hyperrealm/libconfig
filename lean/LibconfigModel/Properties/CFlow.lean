import LibconfigModel.Generated.CFlowSource
/-
  What happens on EVERY path through the read and write entry points, decided on the control-flow
  skeletons translated from lib/libconfig.c on every run (`Generated/CFlowSource.lean`).  A statement
  here is about all paths of the real function body: both outcomes of every condition, whatever the
  called functions return.  (Paths on which one condition text is recorded with both outcomes are
  infeasible - nothing between the two evaluations assigns the variables involved - and are excluded
  by `feasible` where a statement needs it.)

  These are the control-flow halves of C09 (the error record is reset first and set on every failing
  exit), C11 (the include stack is unwound and the scanner, scan context and parse context are
  released on every exit; a stream that was opened is closed exactly once), C12 (success is reported
  only after a flush whose result was tested, a tested ferror, a tested fsync when requested and a
  tested fclose), C13/C16 (the new root exists before the old one is destroyed; arguments are copied
  before the old contents are released) and C15 (the locale is overridden once before parsing and
  restored once after it, on every exit).
-/
namespace Libconfig.CFlow
open Libconfig.Generated.CFlowSource

/-- no condition text recorded with both outcomes -/
def feasible (p : List Ev) : Bool :=
  p.all fun e => match e with
    | .yes c => !(p.contains (.no c))
    | _ => true

/-! ### `__config_read` -/

abbrev READ := traces flow_config_read_impl

def setErrNone : Ev := .s "__config_set_error(config,CONFIG_ERR_NONE,NULL)"
def setErrIO : Ev := .s "__config_set_error(config,CONFIG_ERR_FILE_IO,__io_error)"
def scanInit : Ev := .s "libconfig_scanctx_init(&scan_ctx,filename)"
def lexInit : Ev := .s "libconfig_yylex_init_extra(&scan_ctx,&scanner)"
def restart : Ev := .s "libconfig_yyrestart(stream,scanner)"
def scanString : Ev := .s "(void)libconfig_yy_scan_string(str,scanner)"
def clear : Ev := .s "config_clear(config)"
def override : Ev := .s "saved_locale=__config_locale_override()"
def restore : Ev := .s "__config_locale_restore(saved_locale)"
def parse : Ev := .s "r=libconfig_yyparse(scanner,&parse_ctx,&scan_ctx)"
def unwind : Ev := .loop "(buf=(YY_BUFFER_STATE)libconfig_scanctx_pop_include(&scan_ctx))!=NULL" ["libconfig_yy_delete_buffer(buf,scanner)"]
def lexDestroy : Ev := .s "libconfig_yylex_destroy(scanner)"
def scanCleanup : Ev := .s "config->filenames=libconfig_scanctx_cleanup(&scan_ctx)"
def parseCleanup : Ev := .s "libconfig_parsectx_cleanup(&parse_ctx)"
def readReturn : Ev := .ret "(r==0?CONFIG_TRUE:CONFIG_FALSE)"

/-- the whole body was translated, and there is one exit: the `return` at the end -/
theorem CF_read_single_exit :
    (paths flow_config_read_impl).all (fun p => p.2 && !hasOther p.1 && p.1.getLast? == some readReturn && count readReturn p.1 == 1) = true := by
  decide +kernel

/-- C15: on every path the thread locale is overridden exactly once, before the parser runs, and restored exactly once,
after it - whatever the parser and the scanner report -/
theorem CF_read_locale :
    ∀ p ∈ READ, count override p = 1 ∧ count restore p = 1 ∧ before override parse p = true ∧ before parse restore p = true := by
  decide +kernel

/-- C11: on every path the scanner, the scan context (which hands over the file names) and the parse context are
released exactly once, after the parse -/
theorem CF_read_cleanup :
    ∀ p ∈ READ, count parse p = 1 ∧ count lexDestroy p = 1 ∧ count scanCleanup p = 1 ∧ count parseCleanup p = 1 ∧
      before parse lexDestroy p = true ∧ before parse scanCleanup p = true ∧ before parse parseCleanup p = true := by
  decide +kernel

/-- C11: whenever the parser failed, the include stack is unwound (buffers deleted, files closed by the pops) before the
scanner is destroyed - also when the input error is reported instead of the parser's message -/
theorem CF_read_unwind :
    ∀ p ∈ READ, p.contains (.yes "r!=0") = true → before parse unwind p = true ∧ before unwind lexDestroy p = true := by
  decide +kernel

/-- C09: the error record is reset before anything else can fail, once -/
theorem CF_read_error_reset :
    ∀ p ∈ READ, count setErrNone p = 1 ∧ before setErrNone scanInit p = true ∧ before setErrNone clear p = true ∧
      before setErrNone parse p = true := by
  decide +kernel

/-- C03/C09: an input error seen by the scanner always ends in the I/O error record and a failing result, after whatever
the parser's failure branch recorded -/
theorem CF_read_input_error :
    ∀ p ∈ READ, p.contains (.yes "scan_ctx.input_error") = true →
      count setErrIO p = 1 ∧ before parse setErrIO p = true ∧ before setErrIO (.s "r=1") p = true ∧
      before (.s "r=1") lexDestroy p = true := by
  decide +kernel

theorem CF_read_no_input_error :
    ∀ p ∈ READ, p.contains (.no "scan_ctx.input_error") = true → count setErrIO p = 0 ∧ count (.s "r=1") p = 0 := by
  decide +kernel

/-- C16 (fix a042870): the file name (`libconfig_scanctx_init` duplicates it) and the text (`yy_scan_string` copies it)
are taken before the previous contents - which may own them - are released; and the old tree is gone before parsing -/
theorem CF_read_copy_before_clear :
    ∀ p ∈ READ, count clear p = 1 ∧ before scanInit clear p = true ∧ before lexInit clear p = true ∧ before clear parse p = true ∧
      (p.contains (.yes "stream") = true → before restart clear p = true) ∧
      (p.contains (.no "stream") = true → before scanString clear p = true) := by
  decide +kernel

/-- the entry points are `__config_read` and nothing else -/
theorem CF_read_entries :
    traces flow_config_read = [[.ret "(__config_read(config,stream,NULL,NULL))"]] ∧
    traces flow_config_read_string = [[.ret "(__config_read(config,NULL,NULL,str))"]] :=
  ⟨rfl, rfl⟩

/-! ### `config_read_file` -/

/-- The flag `ok` is 0 at its declaration (`int ret,ok=0`, an event of every path: `CF_read_file_flag`) and only the
statement `ok=1` assigns it, so `!ok` fails exactly on the paths that executed `ok=1`; other paths are infeasible. -/
def okFlag (p : List Ev) : Bool := p.contains (.s "ok=1") == p.contains (.no "!ok")

abbrev RFILE := (traces flow_config_read_file).filter (fun p => feasible p && okFlag p)

theorem CF_read_file_flag :
    ∀ p ∈ traces flow_config_read_file, p.head? = some (.s "int ret,ok=0") ∧ hasOther p = false := by
  decide +kernel

def closeStream : Ev := .s "fclose(stream)"
def callRead : Ev := .s "ret=__config_read(config,stream,filename,NULL)"

/-- C11: a stream that was opened is closed exactly once on every path; nothing is closed when `fopen` failed -/
theorem CF_read_file_close :
    ∀ p ∈ RFILE, (p.contains (.yes "stream!=NULL") = true → count closeStream p = 1) ∧
                 (p.contains (.no "stream!=NULL") = true → count closeStream p = 0) := by
  decide +kernel

/-- either the file is read (only after the directory test, and closed afterwards) or the I/O error is recorded and
the call fails -/
theorem CF_read_file_outcomes :
    ∀ p ∈ RFILE,
      (count callRead p = 1 ∧ p.contains (.no "!ok") = true ∧ before callRead closeStream p = true ∧ p.getLast? = some (.ret "(ret)") ∧ count setErrIO p = 0) ∨
      (count callRead p = 0 ∧ p.contains (.yes "!ok") = true ∧ count setErrIO p = 1 ∧ p.getLast? = some (.ret "(CONFIG_FALSE)")) := by
  decide +kernel

theorem CF_read_file_dir_test :
    ∀ p ∈ RFILE, p.contains (.s "ok=1") = true →
      p.contains (.yes "stream!=NULL") = true ∧ p.contains (.yes "fstat(fd,&statbuf)==0") = true ∧ p.contains (.yes "!S_ISDIR(statbuf.st_mode)") = true := by
  decide +kernel

/-! ### `config_write_file` (C12) -/

abbrev WFILE := (traces flow_config_write_file).filter feasible

def doWrite : Ev := .s "config_write(config,stream)"
def flushFailed : String := "(fflush(stream)!=0)||ferror(stream)"
def wantSync : String := "config_get_option(config,CONFIG_OPTION_FSYNC)"
def syncFailed : String := "posix_fsync(fd)!=0"
def closeFailed : String := "fclose(stream)!=0"

/-- success is reported only when the file was opened, everything was written, the flush succeeded AND `ferror` is clear
(tested after the write), `fsync` - when requested and applicable - succeeded, and `fclose` succeeded; in that order -/
theorem CF_write_success :
    ∀ p ∈ WFILE, p.getLast? = some (.ret "(CONFIG_TRUE)") →
      p.contains (.no "stream==NULL") = true ∧ count doWrite p = 1 ∧
      before doWrite (.no flushFailed) p = true ∧ before (.no flushFailed) (.no closeFailed) p = true ∧
      (p.contains (.yes wantSync) = true → p.contains (.yes "fd>=0") = true →
        before (.no flushFailed) (.no syncFailed) p = true ∧ before (.no syncFailed) (.no closeFailed) p = true) ∧
      count setErrNone p = 1 ∧ count setErrIO p = 0 := by
  decide +kernel

/-- every other path reports failure with the I/O error record (once) and never clears it -/
theorem CF_write_failure :
    ∀ p ∈ WFILE, p.getLast? ≠ some (.ret "(CONFIG_TRUE)") →
      p.getLast? = some (.ret "(CONFIG_FALSE)") ∧ count setErrIO p = 1 ∧ count setErrNone p = 0 ∧
      (p.contains (.yes "stream==NULL") = true ∨ p.contains (.yes flushFailed) = true ∨ p.contains (.yes syncFailed) = true ∨
       p.contains (.yes closeFailed) = true) := by
  decide +kernel

/-- an opened stream is closed exactly once on every path (as a statement or as the tested final close) -/
theorem CF_write_close :
    ∀ p ∈ WFILE, p.contains (.no "stream==NULL") = true →
      count closeStream p + count (.yes closeFailed) p + count (.no closeFailed) p = 1 := by
  decide +kernel

theorem CF_write_translated : (traces flow_config_write_file).all (fun p => !hasOther p) = true := by decide +kernel

/-! ### `config_clear`, `config_destroy` (C13, C16) -/

/-- fix 59201b9: the new root is allocated before the old one is destroyed, and installed last -/
theorem CF_clear_order :
    traces flow_config_clear =
      [[.s "config_setting_t*root=__new(config_setting_t)", .s "root->type=CONFIG_TYPE_GROUP", .s "root->config=config",
        .s "__config_setting_destroy(config->root)", .s "libconfig_strvec_delete(config->filenames)", .s "config->filenames=NULL",
        .s "config->root=root"]] :=
  rfl

/-- everything the configuration owns is released, then the structure is zeroed -/
theorem CF_destroy_order :
    traces flow_config_destroy =
      [[.s "__config_setting_destroy(config->root)", .s "libconfig_strvec_delete(config->filenames)",
        .s "__delete(config->include_dir)", .s "__zero(config)"]] :=
  rfl

/-! ### `config_setting_add`, `config_setting_remove_elem`: the guards in front of every structural change (C04, C05, C16) -/

abbrev ADD := traces flow_config_setting_add

def create : Ev := .s "setting=config_setting_create(parent,name,type)"
def dropOld : Ev := .s "config_setting_remove_elem(parent,config_setting_index(existing))"
def lookupExisting : Ev := .s "existing=config_setting_get_member(parent,name)"

/-- a setting is created only behind ALL the guards, each evaluated and passed, in this order: type code in range,
parent present, only scalars into arrays, the array's element type (`__config_list_checktype`, `CS_list_checktype`),
a valid name where a name is used / a name at all in a group, no namesake unless overrides are allowed -/
theorem CF_add_guards :
    ∀ p ∈ ADD, p.contains create = true →
      before (.no "(type<CONFIG_TYPE_NONE)||(type>CONFIG_TYPE_LIST)") (.no "!parent") p = true ∧
      before (.no "!parent") (.no "(parent->type==CONFIG_TYPE_ARRAY)&&!__config_type_is_scalar(type)") p = true ∧
      before (.no "(parent->type==CONFIG_TYPE_ARRAY)&&!__config_type_is_scalar(type)")
             (.no "(parent->type==CONFIG_TYPE_ARRAY)&&!__config_list_checktype(parent,type)") p = true ∧
      (p.contains (.yes "name") = true → p.contains (.no "!__config_validate_name(name)") = true) ∧
      (p.contains (.no "name") = true → p.contains (.no "parent->type==CONFIG_TYPE_GROUP") = true) ∧
      before lookupExisting (.no "(existing!=NULL)&&!config_get_option(parent->config,CONFIG_OPTION_ALLOW_OVERRIDES)") p = true ∧
      before (.no "(existing!=NULL)&&!config_get_option(parent->config,CONFIG_OPTION_ALLOW_OVERRIDES)") create p = true ∧
      count create p = 1 ∧ p.getLast? = some (.ret "(setting)") := by
  decide +kernel

/-- every refusal returns NULL having changed nothing: nothing created, nothing removed -/
theorem CF_add_refusal :
    ∀ p ∈ ADD, p.contains create = false → p.getLast? = some (.ret "(NULL)") ∧ count dropOld p = 0 := by
  decide +kernel

/-- the name passed for an array or list element is dropped BEFORE it is looked at (documented: it is ignored) -/
theorem CF_add_name_ignored :
    ∀ p ∈ ADD, p.contains (.yes "(parent->type==CONFIG_TYPE_ARRAY)||(parent->type==CONFIG_TYPE_LIST)") = true →
      (p.contains (.yes "name") = true → before (.s "name=NULL") (.yes "name") p = true) ∧
      (p.contains (.no "name") = true → before (.s "name=NULL") (.no "name") p = true) ∧
      (p.contains create = true → before (.s "name=NULL") create p = true) := by
  decide +kernel

/-- fix 6140860: the overridden member goes only AFTER its replacement exists (the name may be its own), and only then -/
theorem CF_add_override_order :
    ∀ p ∈ ADD, (p.contains dropOld = true → before create dropOld p = true ∧ p.contains (.yes "(existing!=NULL)&&(setting!=NULL)") = true) ∧
      (p.contains (.yes "(existing!=NULL)&&(setting!=NULL)") = true → count dropOld p = 1) := by
  decide +kernel

/-- `config_setting_remove_elem`: destroyed is exactly what was unlinked, behind the four guards; a refusal touches nothing -/
theorem CF_remove_elem :
    ∀ p ∈ traces flow_config_setting_remove_elem,
      (p.getLast? = some (.ret "(CONFIG_TRUE)") →
        before (.no "!parent") (.no "!config_setting_is_aggregate(parent)") p = true ∧
        before (.no "!config_setting_is_aggregate(parent)") (.no "!list") p = true ∧ before (.no "!list") (.no "idx>=list->length") p = true ∧
        before (.no "idx>=list->length") (.s "removed=__config_list_remove(list,idx)") p = true ∧
        before (.s "removed=__config_list_remove(list,idx)") (.s "__config_setting_destroy(removed)") p = true) ∧
      (p.getLast? ≠ some (.ret "(CONFIG_TRUE)") →
        p.getLast? = some (.ret "(CONFIG_FALSE)") ∧ count (.s "removed=__config_list_remove(list,idx)") p = 0 ∧
        count (.s "__config_setting_destroy(removed)") p = 0) := by
  decide +kernel

/-! ### finding settings: by name, by index, by path (C04 queries, C06) -/

def nameMatches : String := "(strlen((*found)->name)==namelen)&&!strncmp(name,(*found)->name,namelen)"

/-- `__config_list_search` hands back a child only when that child HAS a name whose length equals the requested length AND
whose bytes equal the requested ones (an exact match: no prefix in either direction); a child without a name is skipped;
a NULL list or name finds nothing -/
theorem CF_list_search :
    ∀ p ∈ traces flow_config_list_search_impl,
      (p.getLast? = some (.ret "(*found)") →
        p.contains (.no "!list||!name") = true ∧ before (.no "!(*found)->name") (.yes nameMatches) p = true ∧
        (p.contains (.yes "idx") = true → p.contains (.s "*idx=i") = true)) ∧
      (p.getLast? ≠ some (.ret "(*found)") → p.getLast? = some (.ret "(NULL)")) ∧
      (p.contains (.yes "!(*found)->name") = true → p.contains .cont = true ∧ p.contains (.yes nameMatches) = false) ∧
      hasOther p = false := by
  decide +kernel

def getElemStep : Ev := .s "found=config_setting_get_elem(found,index)"
def searchStep : Ev := .s "found=__config_list_search(found->value.list,p,(size_t)(q-p),NULL)"

/-- one step of the path walker `config_setting_lookup_const`: an index step reaches `config_setting_get_elem` only after
the bracket syntax test AND the range test (no truncation: fix 402ea9d) passed, each failure ending the whole lookup with
NULL; a name step searches the children of a GROUP only, by the exact component between separators; anything else stops
the walk; the result is NULL when text is left over or nothing was walked -/
theorem CF_lookup_step :
    ∀ p ∈ traces flow_config_setting_lookup_const,
      (p.contains getElemStep = true →
        before (.yes "*p=='['") (.s "long index=strtol(++p,&q,10)") p = true ∧
        before (.s "long index=strtol(++p,&q,10)") (.no "(q==p)||(*q!=']')") p = true ∧
        before (.no "(q==p)||(*q!=']')") (.no "(index<0)||(index>INT_MAX)") p = true ∧
        before (.no "(index<0)||(index>INT_MAX)") getElemStep p = true) ∧
      (p.contains (.yes "(q==p)||(*q!=']')") = true ∨ p.contains (.yes "(index<0)||(index>INT_MAX)") = true →
        p.getLast? = some (.ret "NULL") ∧ p.contains getElemStep = false) ∧
      (p.contains searchStep = true →
        before (.no "*p=='['") (.yes "found->type==CONFIG_TYPE_GROUP") p = true ∧ before (.yes "found->type==CONFIG_TYPE_GROUP") searchStep p = true ∧
        before (.s "const char*q=p") (.loop "*q&&!strchr(PATH_TOKENS,*q)" ["++q"]) p = true ∧
        before (.loop "*q&&!strchr(PATH_TOKENS,*q)" ["++q"]) searchStep p = true ∧ before searchStep (.s "p=q") p = true) ∧
      (p.contains (.no "found->type==CONFIG_TYPE_GROUP") = true → p.contains .brk = true ∧ p.contains searchStep = false) ∧
      (p.getLast? = some (.ret "NULL") ∨ p.getLast? = some (.ret "((*p||(found==setting))?NULL:found)")) ∧ hasOther p = false := by
  decide +kernel

/-- `config_setting_get_elem` and `config_setting_get_member`: the guards in front of the child vector -/
theorem CF_get_elem :
    ∀ p ∈ traces flow_config_setting_get_elem,
      (p.getLast? ≠ some (.ret "(NULL)") →
        p.contains (.no "!config_setting_is_aggregate(setting)") = true ∧ p.contains (.no "!list") = true ∧
        p.contains (.no "idx>=list->length") = true ∧ p.getLast? = some (.ret "(list->elements[idx])")) ∧ hasOther p = false := by
  decide +kernel

theorem CF_get_member :
    ∀ p ∈ traces flow_config_setting_get_member,
      (p.getLast? ≠ some (.ret "(NULL)") →
        p.contains (.no "setting->type!=CONFIG_TYPE_GROUP") = true ∧ p.contains (.no "!name") = true ∧
        p.getLast? = some (.ret "(__config_list_search(setting->value.list,name,strlen(name),NULL))")) ∧ hasOther p = false := by
  decide +kernel

/-- `config_setting_index`: -1 for the root; otherwise the position at which the parent's vector holds this very setting -/
theorem CF_index :
    ∀ p ∈ traces flow_config_setting_index,
      (p.contains (.yes "!setting->parent") = true → p.getLast? = some (.ret "(-1)")) ∧
      (p.getLast? = some (.ret "(i)") → p.contains (.yes "*found==setting") = true ∧ p.contains (.s "list=setting->parent->value.list") = true) ∧
      (p.getLast? = some (.ret "(i)") ∨ p.getLast? = some (.ret "(-1)")) ∧ hasOther p = false := by
  decide +kernel

/-! ### creation and the child vector (C04, C05, C13) -/

def storeChild : Ev := .s "list->elements[list->length]=setting"
def growVector : Ev := .s "list->elements=(config_setting_t**)libconfig_realloc(list->elements,(list->length+CHUNK_SIZE)*sizeof(config_setting_t*))"

/-- `__config_list_add`: the vector grows (through the checked allocator wrapper) BEFORE the child is stored, and the
length counts the child only after it is stored - an allocation failure that does not return leaves the list as it was -/
theorem CF_list_add :
    ∀ p ∈ traces flow_config_list_add_impl, p.getLast? = some (.s "list->length++") ∧ count (.s "list->length++") p = 1 ∧
      before storeChild (.s "list->length++") p = true ∧
      (p.contains (.yes "(list->length%CHUNK_SIZE)==0") = true → before growVector storeChild p = true) ∧
      (p.contains (.no "(list->length%CHUNK_SIZE)==0") = true → count growVector p = 0) := by
  decide +kernel

/-- `config_setting_create`: nothing is allocated under a parent that is not an aggregate; otherwise the new setting is
completely filled in (parent, a COPY of the name, type, config, hook, line) before it is linked into the parent's list,
which is the last thing that happens -/
theorem CF_create :
    ∀ p ∈ traces flow_config_setting_create,
      (p.contains (.yes "!config_setting_is_aggregate(parent)") = true → p.getLast? = some (.ret "(NULL)") ∧ count (.s "setting=__new(config_setting_t)") p = 0) ∧
      (p.contains (.no "!config_setting_is_aggregate(parent)") = true →
        p.getLast? = some (.ret "(setting)") ∧ (p.dropLast).getLast? = some (.s "__config_list_add(list,setting)") ∧
        before (.s "setting=__new(config_setting_t)") (.s "setting->parent=parent") p = true ∧
        before (.s "setting->name=(name==NULL)?NULL:libconfig_strdup(name)") (.s "__config_list_add(list,setting)") p = true ∧
        before (.s "setting->type=type") (.s "__config_list_add(list,setting)") p = true ∧
        before (.s "setting->config=parent->config") (.s "__config_list_add(list,setting)") p = true ∧
        before (.s "setting->hook=NULL") (.s "__config_list_add(list,setting)") p = true ∧
        (p.contains (.yes "!list") = true → before (.s "list=parent->value.list=__new(config_list_t)") (.s "__config_list_add(list,setting)") p = true)) := by
  decide +kernel

/-- the shape the five element setters share, for the type constant `ty` and the scalar setter `setter` -/
def elemSetterOK (f : Flow) (ty setter : String) : Bool :=
  (traces f).all fun p =>
    let onAggregate := Ev.no "(setting->type!=CONFIG_TYPE_ARRAY)&&(setting->type!=CONFIG_TYPE_LIST)"
    let guard := Ev.no ("!__config_list_checktype(setting," ++ ty ++ ")")
    let mk := Ev.s ("element=config_setting_create(setting,NULL," ++ ty ++ ")")
    let get := Ev.s "element=config_setting_get_elem(setting,idx)"
    let assigned := Ev.no ("!" ++ setter ++ "(element,value)")
    !hasOther p &&
    -- an element is created only for a negative index, on an array or list, behind the element-type guard for THIS type
    (!(p.contains mk) || (p.contains (.yes "idx<0") && before onAggregate guard p && before guard mk p)) &&
    -- an existing element is addressed only for a non-negative index, on an array or list
    (!(p.contains get) || (p.contains (.no "idx<0") && before onAggregate get p)) &&
    !(p.contains mk && p.contains get) &&
    -- the element is handed back only when one was created (never NULL under an array or list: `CF_create`) or an existing
    -- one was found (tested), and the setter of THIS type accepted the value
    (!(p.getLast? == some (.ret "(element)")) || ((p.contains mk || (p.contains get && p.contains (.no "!element"))) && p.contains assigned)) &&
    (p.getLast? == some (.ret "(element)") || p.getLast? == some (.ret "(NULL)"))

theorem CF_set_int_elem : elemSetterOK flow_config_setting_set_int_elem "CONFIG_TYPE_INT" "config_setting_set_int" = true := by decide +kernel
theorem CF_set_int64_elem : elemSetterOK flow_config_setting_set_int64_elem "CONFIG_TYPE_INT64" "config_setting_set_int64" = true := by decide +kernel
theorem CF_set_float_elem : elemSetterOK flow_config_setting_set_float_elem "CONFIG_TYPE_FLOAT" "config_setting_set_float" = true := by decide +kernel
theorem CF_set_bool_elem : elemSetterOK flow_config_setting_set_bool_elem "CONFIG_TYPE_BOOL" "config_setting_set_bool" = true := by decide +kernel
theorem CF_set_string_elem : elemSetterOK flow_config_setting_set_string_elem "CONFIG_TYPE_STRING" "config_setting_set_string" = true := by decide +kernel

/-! ### destruction and string ownership (C16) -/

def callDestructor : Ev := .s "setting->config->destructor(setting->hook)"
def freeSetting : Ev := .s "__delete(setting)"
def destroyKids : Ev := .s "__config_list_destroy(setting->value.list)"

/-- `__config_setting_destroy`: the registered destructor is called for the setting's hook exactly when there is a hook and
a destructor, exactly once, AFTER the children have been destroyed (post-order) and BEFORE the setting itself is freed,
which is the last thing that happens; the name is freed when there is one, the string value only of a string, the child
list only of an aggregate that has one; a NULL setting is left alone -/
theorem CF_setting_destroy :
    ∀ p ∈ traces flow_config_setting_destroy_impl,
      (p.contains (.no "setting") = true → p = [.no "setting"]) ∧
      (p.contains (.yes "setting") = true →
        p.getLast? = some freeSetting ∧ count freeSetting p = 1 ∧
        (p.contains callDestructor = true ↔ p.contains (.yes "setting->hook&&setting->config->destructor") = true) ∧
        count callDestructor p ≤ 1 ∧
        (p.contains callDestructor = true → before callDestructor freeSetting p = true) ∧
        (p.contains callDestructor = true → p.contains destroyKids = true → before destroyKids callDestructor p = true) ∧
        (p.contains destroyKids = true → p.contains (.yes "config_setting_is_aggregate(setting)") = true ∧ p.contains (.yes "setting->value.list") = true ∧
          p.contains (.no "setting->type==CONFIG_TYPE_STRING") = true) ∧
        (p.contains (.s "__delete(setting->value.sval)") = true ↔ p.contains (.yes "setting->type==CONFIG_TYPE_STRING") = true) ∧
        (p.contains (.s "__delete(setting->name)") = true ↔ p.contains (.yes "setting->name") = true)) ∧
      hasOther p = false := by
  decide +kernel

/-- `__config_list_destroy`: every element is destroyed, then the vector, then the list; a NULL list is left alone -/
theorem CF_list_destroy :
    ∀ p ∈ traces flow_config_list_destroy_impl,
      (p.contains (.yes "!list") = true → p.getLast? = some (.ret "") ∧ count (.s "__delete(list)") p = 0) ∧
      (p.contains (.no "!list") = true → p.getLast? = some (.s "__delete(list)") ∧
        (p.contains (.yes "list->elements") = true →
          before (.loop "for(p=list->elements,i=0;i<list->length;p++,i++)" ["__config_setting_destroy(*p)"]) (.s "__delete(list->elements)") p = true ∧
          before (.s "__delete(list->elements)") (.s "__delete(list)") p = true)) ∧
      hasOther p = false := by
  decide +kernel

/-- `config_setting_set_string` (fix 6140860): a mismatching setting is refused before anything is copied or freed; otherwise
the argument is COPIED first, then the old value released, then the copy installed -/
theorem CF_set_string :
    ∀ p ∈ traces flow_config_setting_set_string,
      (p.contains (.yes "setting->type!=CONFIG_TYPE_STRING") = true →
        p.getLast? = some (.ret "(CONFIG_FALSE)") ∧ count (.s "copy=(value==NULL)?NULL:libconfig_strdup(value)") p = 0 ∧
        count (.s "__delete(setting->value.sval)") p = 0 ∧ count (.s "setting->value.sval=copy") p = 0) ∧
      (p.getLast? = some (.ret "(CONFIG_TRUE)") →
        before (.s "copy=(value==NULL)?NULL:libconfig_strdup(value)") (.s "setting->value.sval=copy") p = true ∧
        (p.contains (.s "__delete(setting->value.sval)") = true →
          before (.s "copy=(value==NULL)?NULL:libconfig_strdup(value)") (.s "__delete(setting->value.sval)") p = true ∧
          before (.s "__delete(setting->value.sval)") (.s "setting->value.sval=copy") p = true)) ∧
      (p.getLast? = some (.ret "(CONFIG_TRUE)") ∨ p.getLast? = some (.ret "(CONFIG_FALSE)")) := by
  decide +kernel

theorem CF_set_include_dir :
    traces flow_config_set_include_dir =
      [[.s "char*copy=(include_dir==NULL)?NULL:libconfig_strdup(include_dir)", .s "__delete(config->include_dir)",
        .s "config->include_dir=copy"]] :=
  rfl

/-! ### the locale switch itself and the writer's use of it (C15) -/

/-- writing happens between exactly one override and one restore of what that override returned -/
theorem CF_write_locale :
    traces flow_config_write =
      [[.s "config_saved_locale_t saved_locale=__config_locale_override()", .s "__config_write_setting(config,config->root,stream,0)",
        .s "__config_locale_restore(saved_locale)"]] :=
  rfl

/-- the override makes a NEW locale object and switches only the calling THREAD to it (`uselocale`, never `setlocale`),
returning what the thread had; when no locale object can be made nothing is switched and 0 is returned -/
theorem CF_locale_override :
    traces flow_config_locale_override_impl =
      [[.s "locale_t loc=newlocale(LC_NUMERIC,\"C\",NULL)", .ret "(loc?uselocale(loc):(locale_t)0)"]] :=
  rfl

/-- the restore reinstates exactly the saved locale (which may be LC_GLOBAL_LOCALE) and frees the temporary one that
`uselocale` hands back; after a failed override (saved = 0) it does nothing (fix 366676a) -/
theorem CF_locale_restore :
    traces flow_config_locale_restore_impl =
      [[.yes "saved", .s "locale_t loc=uselocale(saved)", .s "freelocale(loc)"], [.no "saved"]] :=
  rfl

/-! ### the include stack (lib/scanctx.c): C10 depth limit, C11 release of files and lists -/

/-- the part of a path in front of the first occurrence of `e` (the whole path if there is none) -/
def upTo (e : Ev) : List Ev → List Ev
  | [] => []
  | x :: xs => if x == e then [] else x :: upTo e xs

/-- the part of a path after the first occurrence of `e` -/
def after (e : Ev) : List Ev → List Ev
  | [] => []
  | x :: xs => if x == e then xs else after e xs

abbrev PUSH := traces flow_libconfig_scanctx_push_include
abbrev NEXT := traces flow_libconfig_scanctx_next_include_file
abbrev POP := traces flow_libconfig_scanctx_pop_include
abbrev CLEANUP := traces flow_libconfig_scanctx_cleanup

def callIncludeFn : Ev := .s "files=ctx->config->include_fn(ctx->config,ctx->config->include_dir,path,error)"
def deleteFiles : Ev := .s "libconfig_strvec_delete(files)"
def pushDepth : Ev := .s "++(ctx->stack_depth)"
def callNext : Ev := .s "fp=libconfig_scanctx_next_include_file(ctx,error)"
def callPop : Ev := .s "(void)libconfig_scanctx_pop_include(ctx)"

/-- C10: the depth limit is tested before anything else happens; at the limit nothing is pushed, the include function is
not called, the error text is the documented one -/
theorem CF_push_depth_limit :
    ∀ p ∈ PUSH, p.contains (.yes "ctx->stack_depth==MAX_INCLUDE_DEPTH") = true →
      p.contains (.s "*error=err_include_too_deep") = true ∧ p.getLast? = some (.ret "(NULL)") ∧
      count callIncludeFn p = 0 ∧ count pushDepth p = 0 := by
  decide +kernel

/-- C11: whatever the include function answered (an error, an error AND a list, NULL, an empty list), a list that is not
installed in a frame is released exactly once and nothing is pushed -/
theorem CF_push_refused_list_released :
    ∀ p ∈ PUSH, p.contains (.no "ctx->stack_depth==MAX_INCLUDE_DEPTH") = true → count pushDepth p = 0 →
      count deleteFiles p = 1 ∧ p.getLast? = some (.ret "(NULL)") ∧ count (.s "frame->files=files") p = 0 := by
  decide +kernel

/-- a frame that was pushed owns the list, its file names are recorded, the first file is opened through
`next_include_file`, and when that fails the frame is popped again (which releases list and stream) -/
theorem CF_push_installed :
    ∀ p ∈ PUSH, count pushDepth p = 1 →
      count deleteFiles p = 0 ∧ before (.s "frame->files=files") pushDepth p = true ∧ before pushDepth callNext p = true ∧
      p.contains (.loop "for(f=files;*f;++f)" ["libconfig_strvec_append(&(ctx->filenames),*f)"]) = true ∧
      (p.contains (.yes "!fp") = true → before callNext callPop p = true) ∧
      (p.contains (.no "!fp") = true → count callPop p = 0) ∧ p.getLast? = some (.ret "(fp)") := by
  decide +kernel

def openNext : Ev := .s "include_frame->current_stream=fopen(*(include_frame->current_file),\"rt\")"
def closeCur : Ev := .s "fclose(include_frame->current_stream)"
def resetCur : Ev := .s "include_frame->current_stream=NULL"
def curStream : String := "include_frame->current_stream"

/-- C11: the stream of the file just finished is closed, and forgotten, BEFORE the next file is opened or the end of the
list is reported - on every path on which there was one -/
theorem CF_next_closes_previous :
    ∀ p ∈ NEXT, (upTo openNext p).contains (.yes curStream) = true →
      before (.yes curStream) closeCur (upTo openNext p) = true ∧ before closeCur resetCur (upTo openNext p) = true := by
  decide +kernel

/-- C03/C11: a file that opened but is a directory (or cannot be examined) is closed again and forgotten, and the error
is the documented one exactly on the paths that end without a stream -/
theorem CF_next_directory :
    ∀ p ∈ NEXT, p.contains (.yes "(fstat(fd,&statbuf)!=0)||S_ISDIR(statbuf.st_mode)") = true →
      before openNext closeCur (openNext :: after openNext p) = true ∧ (after openNext p).contains resetCur = true := by
  decide +kernel

theorem CF_next_error_text :
    ∀ p ∈ NEXT, (p.contains (.s "*error=err_bad_include") = true ↔ p.contains (.yes "!include_frame->current_stream") = true) ∧
      p.head? = some (.s "struct include_stack_frame*include_frame") ∧ (p.drop 1).head? = some (.s "*error=NULL") ∧
      (p.getLast? = some (.ret "(NULL)") ∨ p.getLast? = some (.ret "(include_frame->current_stream)")) := by
  decide +kernel

/-- LIFO release: a pop gives back the parent buffer after releasing the frame's list and closing its stream -/
theorem CF_pop :
    ∀ p ∈ POP, (p.contains (.yes "ctx->stack_depth==0") = true → p = [.yes "ctx->stack_depth==0", .ret "(NULL)"] ∨ p.getLast? = some (.ret "(NULL)")) ∧
      (p.contains (.no "ctx->stack_depth==0") = true →
        count (.s "frame=&(ctx->include_stack[--(ctx->stack_depth)])") p = 1 ∧ count (.s "__delete(frame->files)") p = 1 ∧
        (p.contains (.yes "frame->current_stream") = true → p.contains (.s "fclose(frame->current_stream)") = true) ∧
        p.getLast? = some (.ret "(frame->parent_buffer)")) := by
  decide +kernel

/-- the final clean-up visits every frame still on the stack: closes its stream if it has one, releases its list; then
releases the string buffer and hands over the file names -/
theorem CF_cleanup :
    ∀ p ∈ CLEANUP, p.getLast? = some (.ret "(libconfig_strvec_release(&(ctx->filenames)))") ∧
      count (.s "__delete(libconfig_strbuf_release(&(ctx->string)))") p = 1 ∧
      (p.contains (.loopIter "for(i=0;i<ctx->stack_depth;++i)") = true →
        count (.s "__delete(frame->files)") p = 1 ∧
        (p.contains (.yes "frame->current_stream") = true → p.contains (.s "fclose(frame->current_stream)") = true)) := by
  decide +kernel

theorem CF_scanctx_translated :
    (PUSH ++ NEXT ++ POP ++ CLEANUP ++ traces flow_libconfig_scanctx_init ++ traces flow_libconfig_scanctx_current_filename).all
      (fun p => !hasOther p) = true := by
  decide +kernel

/-- the file a setting or an error is attributed to: the CURRENT file of the innermost frame, the top file outside includes -/
theorem CF_current_filename :
    traces flow_libconfig_scanctx_current_filename =
      [[.yes "ctx->stack_depth>0", .ret "(*(ctx->include_stack[ctx->stack_depth-1].current_file))"],
       [.no "ctx->stack_depth>0", .ret "(ctx->top_filename)"]] :=
  rfl

/-! ### the statements are not vacuous -/

example : PUSH.length = 9 ∧ NEXT.length = 29 ∧ POP.length = 3 ∧ CLEANUP.length = 3 := by decide +kernel
example : (PUSH.filter (fun p => count pushDepth p == 1)).length = 4 := by decide +kernel


example : READ.length = 8 ∧ RFILE.length = 4 ∧ WFILE.length = 9 := by decide +kernel
example : (WFILE.filter (fun p => p.getLast? == some (.ret "(CONFIG_TRUE)"))).length = 3 := by decide +kernel
example : (READ.filter (fun p => p.contains (.yes "scan_ctx.input_error"))).length = 4 := by decide +kernel

end Libconfig.CFlow
