import LibconfigModel.Generated.Constants
import LibconfigModel.Step
import LibconfigModel.Proofs.F64Exact
import LibconfigModel.Proofs.Api
/-
  C07 — typed get/set follow the documented conversion rules.  For every stored
  type, stored value, requested type and setting of auto-convert, as equations.
-/
namespace Libconfig.C07

/-! ### getters: the complete table -/

theorem C07_get_int (auto : Bool) (n : Node) :
    n.getInt auto =
      if n.ty = T_INT then some n.ival
      else if n.ty = T_INT64 then (if fits32 n.ival then some n.ival else none)
      else if n.ty = T_FLOAT then
        (if auto then some (if floatCastOk32 n.fval then F64.trunc n.fval else INT_MIN) else none)
      else none := by
  unfold Node.getInt; simp only [beq_iff_eq]

theorem C07_get_int64 (auto : Bool) (n : Node) :
    n.getInt64 auto =
      if n.ty = T_INT64 then some n.ival
      else if n.ty = T_INT then some n.ival
      else if n.ty = T_FLOAT then
        (if auto then some (if floatCastOk64 n.fval then F64.trunc n.fval else LLONG_MIN) else none)
      else none := by
  unfold Node.getInt64; simp only [beq_iff_eq]

theorem C07_get_float (auto : Bool) (n : Node) :
    n.getFloat auto =
      if n.ty = T_FLOAT then some n.fval
      else if n.ty = T_INT ∨ n.ty = T_INT64 then (if auto then some (F64.ofInt n.ival) else none)
      else none := by
  unfold Node.getFloat; simp only [beq_iff_eq]
  by_cases h1 : n.ty = T_FLOAT <;> by_cases h2 : n.ty = T_INT <;> by_cases h3 : n.ty = T_INT64 <;> simp [h1, h2, h3]

/-- booleans and strings never convert -/
theorem C07_get_bool (n : Node) : n.getBool = if n.ty = T_BOOL then n.ival else 0 := by
  unfold Node.getBool; simp only [beq_iff_eq]

theorem C07_get_string (n : Node) : n.getString = if n.ty = T_STRING then n.sval else none := by
  unfold Node.getString; simp only [beq_iff_eq]

/-- a 64-bit value is readable as `int` exactly when it fits -/
theorem C07_int64_as_int (auto : Bool) (n : Node) (h : n.ty = T_INT64) :
    (n.getInt auto).isSome = fits32 n.ival := by
  rw [C07_get_int]; simp [h]; split <;> simp_all

/-- without auto-conversion floats and integers never convert -/
theorem C07_no_autoconvert (n : Node) :
    (n.ty = T_FLOAT → n.getInt false = none ∧ n.getInt64 false = none) ∧
    ((n.ty = T_INT ∨ n.ty = T_INT64) → n.getFloat false = none) := by
  constructor
  · intro h; simp [C07_get_int, C07_get_int64, h, T_FLOAT, T_INT, T_INT64]
  · intro h; rw [C07_get_float]; rcases h with h | h <;> simp [h, T_FLOAT, T_INT, T_INT64]

/-! ### setters: type never changes (except from NONE), mismatches fail -/

theorem C07_set_int (auto : Bool) (n : Node) (v : Int) :
    n.setInt auto v =
      if n.ty = T_NONE then some { n with ty := T_INT, ival := v }
      else if n.ty = T_INT ∨ n.ty = T_INT64 then some { n with ival := v }
      else if n.ty = T_FLOAT then (if auto then some { n with fval := F64.ofInt v } else none)
      else none := by
  unfold Node.setInt; simp only [beq_iff_eq]
  by_cases h0 : n.ty = T_NONE <;> by_cases h1 : n.ty = T_INT <;> by_cases h2 : n.ty = T_INT64 <;> simp [h0, h1, h2]

theorem C07_set_int64 (auto : Bool) (n : Node) (v : Int) :
    n.setInt64 auto v =
      if n.ty = T_NONE then some { n with ty := T_INT64, ival := v }
      else if n.ty = T_INT64 then some { n with ival := v }
      else if n.ty = T_INT then (if fits32 v then some { n with ival := v } else none)
      else if n.ty = T_FLOAT then (if auto then some { n with fval := F64.ofInt v } else none)
      else none := by
  unfold Node.setInt64; simp only [beq_iff_eq]

theorem C07_set_bool (n : Node) (v : Int) :
    n.setBool v =
      if n.ty = T_NONE then some { n with ty := T_BOOL, ival := v }
      else if n.ty = T_BOOL then some { n with ival := v } else none := by
  unfold Node.setBool; simp only [beq_iff_eq]

theorem C07_set_string (n : Node) (s : Option Bytes) :
    n.setString s =
      if n.ty = T_NONE then some { n with ty := T_STRING, sval := s }
      else if n.ty = T_STRING then some { n with sval := s } else none := by
  unfold Node.setString; simp only [beq_iff_eq]

/-- a successful set never changes the type of a typed setting -/
theorem C07_set_keeps_type (auto : Bool) (n n' : Node) (hty : n.ty ≠ T_NONE) :
    (∀ v, n.setInt auto v = some n' → n'.ty = n.ty) ∧
    (∀ v, n.setInt64 auto v = some n' → n'.ty = n.ty) ∧
    (∀ b, n.setFloat auto b = some n' → n'.ty = n.ty) ∧
    (∀ v, n.setBool v = some n' → n'.ty = n.ty) ∧
    (∀ s, n.setString s = some n' → n'.ty = n.ty) := by
  -- each of these is a `ScalarSetter`: the type changes only from `NONE`
  have keep {f : Node → Option Node} (hf : ScalarSetter f) (h : f n = some n') : n'.ty = n.ty :=
    (hf.update h).ty.resolve_right fun h0 => hty h0.1
  exact ⟨fun v => keep (scalar_setInt auto v), fun v => keep (scalar_setInt64 auto v),
    fun b => keep (scalar_setFloat auto b), fun v => keep (scalar_setBool v),
    fun s => keep (scalar_setString s)⟩

/-! ### a value that was stored is the value read back -/

theorem C07_set_get_int (auto : Bool) (n n' : Node) (v : Int)
    (hty : n.ty = T_NONE ∨ n.ty = T_INT ∨ n.ty = T_INT64)
    (h : n.setInt auto v = some n') : n'.getInt64 auto = some v ∧ (fits32 v = true → n'.getInt auto = some v) := by
  rw [C07_set_int] at h
  rcases hty with h0 | h1 | h2
  · simp [h0] at h; subst h; simp [C07_get_int, C07_get_int64]
  · simp [h1] at h; subst h; simp [C07_get_int, C07_get_int64]
  · simp [h2] at h; subst h; simp [C07_get_int, C07_get_int64]

theorem C07_set_get_int64 (auto : Bool) (n n' : Node) (v : Int)
    (hty : n.ty = T_NONE ∨ n.ty = T_INT ∨ n.ty = T_INT64)
    (h : n.setInt64 auto v = some n') : n'.getInt64 auto = some v := by
  rw [C07_set_int64] at h
  rcases hty with h0 | h1 | h2
  · simp [h0] at h; subst h; simp [C07_get_int64]
  · have hne : ¬ n.ty = T_INT64 := by rw [h1]; decide
    have hne0 : ¬ n.ty = T_NONE := by rw [h1]; decide
    rw [if_neg hne0, if_neg hne, if_pos h1] at h
    by_cases hf : fits32 v = true
    · rw [if_pos hf] at h; cases h; simp [C07_get_int64, h1, T_INT, T_INT64]
    · rw [if_neg hf] at h; cases h
  · simp [h2] at h; subst h; simp [C07_get_int64]

theorem C07_set_get_float (auto : Bool) (n n' : Node) (b : Nat)
    (hty : n.ty = T_NONE ∨ n.ty = T_FLOAT) (h : n.setFloat auto b = some n') :
    n'.getFloat auto = some b := by
  unfold Node.setFloat at h; simp only [beq_iff_eq] at h
  rcases hty with h0 | h1
  · simp [h0] at h; subst h; simp [C07_get_float]
  · simp [h1] at h; subst h; simp [C07_get_float]

theorem C07_set_get_bool (n n' : Node) (v : Int) (h : n.setBool v = some n') : n'.getBool = v := by
  rw [C07_set_bool] at h; split at h
  · cases h; simp [C07_get_bool]
  · split at h
    · cases h; simp_all [C07_get_bool]
    · cases h

theorem C07_set_get_string (n n' : Node) (s : Option Bytes) (h : n.setString s = some n') :
    n'.getString = s := by
  rw [C07_set_string] at h; split at h
  · cases h; simp [C07_get_string]
  · split at h
    · cases h; simp_all [C07_get_string]
    · cases h

/-- a 64-bit set into an `int` setting succeeds exactly when the value fits -/
theorem C07_int64_into_int (auto : Bool) (n : Node) (v : Int) (h : n.ty = T_INT) :
    (n.setInt64 auto v).isSome = fits32 v := by
  have hne : ¬ n.ty = T_INT64 := by rw [h]; decide
  have hne0 : ¬ n.ty = T_NONE := by rw [h]; decide
  rw [C07_set_int64, if_neg hne0, if_neg hne, if_pos h]
  by_cases hf : fits32 v = true
  · rw [if_pos hf, hf]; rfl
  · rw [if_neg hf]; simp at hf; rw [hf]; rfl

/-- a 32-bit integer converts to float exactly: after `set_int` on a float setting (with
auto-conversion) the stored double is finite, has the sign of `v`, and its mantissa and
exponent denote |v| exactly -/
theorem C07_int_to_float_exact (n n' : Node) (v : Int) (hty : n.ty = T_FLOAT) (hv : fits32 v = true)
    (h : n.setInt true v = some n') :
    n'.getFloat true = some (F64.ofInt v) ∧ F64.isFinite (F64.ofInt v) = true ∧
    ((F64.expo (F64.ofInt v) ≥ 0 ∧ F64.mant (F64.ofInt v) * 2 ^ (F64.expo (F64.ofInt v)).toNat = v.natAbs) ∨
     (F64.expo (F64.ofInt v) < 0 ∧ F64.mant (F64.ofInt v) = v.natAbs * 2 ^ (-(F64.expo (F64.ofInt v))).toNat)) := by
  have hx := F64.ofInt_exact v hv
  simp only at hx
  refine ⟨?_, hx.1, hx.2.2⟩
  rw [C07_set_int] at h
  have h0 : ¬ n.ty = T_NONE := by rw [hty]; decide
  have h1 : ¬ (n.ty = T_INT ∨ n.ty = T_INT64) := by rw [hty]; decide
  rw [if_neg h0, if_neg h1, if_pos hty] at h
  simp at h; subst h
  simp [C07_get_float, hty]

/-! ### a mismatching set leaves the setting unchanged; accessor families -/

/-- `step` leaves the whole state unchanged when a set reports failure -/
theorem C07_mismatch_atomic (s : State) (p : Path) (f : Node → Option Node) (n : Node)
    (hn : s.cfg.root.get? p = some n) (hf : f n = none) : (setAt s p f).1 = s := by
  unfold setAt; simp [hn, hf]

/-- by-name lookup = member lookup followed by the direct accessor -/
theorem C07_family_by_name (k : Kind) (auto : Bool) (n : Node) (nm : Bytes) :
    lookupVal k auto n (some nm) = (getMember n nm).bind (fun m => typedGet k auto m.2) := by
  unfold lookupVal
  cases h : getMember n nm with
  | none => simp [h]
  | some m => obtain ⟨i, m⟩ := m; simp [h]

/-- by-path lookup = path resolution followed by the direct accessor -/
theorem C07_family_by_path (k : Kind) (c : Config) (path : Bytes) :
    clookupVal k c path =
      (lookupFrom c.root path).bind (fun q => (c.root.get? q).bind (typedGet k (c.opt OPT_AUTOCONVERT))) := by
  unfold clookupVal; cases lookupFrom c.root path with
  | none => rfl
  | some q => cases hq : c.root.get? q <;> simp [hq]

/-- non-vacuity: an int64 setting holding 2^31 is not readable as int, 5 is -/
example : ({ ty := T_INT64, ival := 2147483648 } : Node).getInt true = none := by decide
example : ({ ty := T_INT64, ival := 5 } : Node).getInt true = some 5 := by decide

/-- Bridge: the auto-convert option bit and the type codes -/
theorem C07_constants :
    Generated.CONFIG_OPTION_AUTOCONVERT = OPT_AUTOCONVERT ∧ Generated.CONFIG_TYPE_INT = T_INT ∧
    Generated.CONFIG_TYPE_INT64 = T_INT64 ∧ Generated.CONFIG_TYPE_FLOAT = T_FLOAT ∧
    Generated.CONFIG_TYPE_STRING = T_STRING ∧ Generated.CONFIG_TYPE_BOOL = T_BOOL := by decide

end Libconfig.C07
