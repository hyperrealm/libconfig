import LibconfigModel.Properties.C02
import LibconfigModel.Proofs.C02Complete
/-
  C02 (continued) — completeness direction: a text whose token kinds are derivable from the
  documented grammar is never rejected with a syntax error by the compiled parser.
  Statements only; helper lemmas live in LibconfigModel/Proofs/C02Complete*.lean.
-/
namespace Libconfig.C02
open Grammar

/-- the message of a syntactic rejection -/
def syntaxErrorText : Bytes := [115, 121, 110, 116, 97, 120, 32, 101, 114, 114, 111, 114]

/-- If the input lexes to a token sequence (ending in end of input) whose kinds are derivable
from the documented grammar, the parser — over the translated tables, with the real scanner
model and the real actions, started with no pending error message — does not report a syntax
error: whatever it returns, it is not the abort with the message "syntax error" (it accepts, or
it stops for a reason that is not syntactic: a semantic action aborted — duplicate name /
mismatched array element —, the stack limit, or the fuel of the model ran out). -/
theorem C02_complete (w : World) (c : Config) (fuel : Nat) (s₀ s₁ s' : ScanState) (ctx₀ ctx' : ParseCtx)
    (toks : List (Nat × TokVal)) (r : ParseResult)
    (hlex : LexesTo (theEnv w c fuel) s₀ toks s₁)
    (hder : Derivable (toks.map fun tv => translateTok Generated.parser tv.1))
    (h0 : ctx₀.cfg.errText = none)
    (h : yyparse (theEnv w c fuel) fuel s₀ ctx₀ = (s', ctx', r)) :
    ¬ (r = .abort ∧ ctx'.cfg.errText = some syntaxErrorText) := by
  have hb := C02C.complete_theEnv w c fuel s₀ s₁ ctx₀ toks hlex hder h0
  rw [h] at hb
  exact hb

end Libconfig.C02
