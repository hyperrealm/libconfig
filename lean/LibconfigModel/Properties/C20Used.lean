import LibconfigModel.Proofs.C09
/-
  C20 / C09 — a read does not depend on what an earlier call left behind.  The three entry
  points share `__config_read`, which first forgets the previous outcome and the previous
  tree; so the result, the error report, the I/O events and the configuration after a read
  are functions of the settings of the configuration (options, include function and
  directory, …), the world and the input only — not of the error state or the tree that an
  earlier (successful or failed) read or edit left in the object.  The statements are read off
  `C09P.read_congr` (Proofs/C09.lean), as `C09_read_independent` is.
-/
namespace Libconfig.C20U

/-- the two configurations were set up alike (everything `config_clear` keeps) -/
def SameSettings (a b : Config) : Prop :=
  a.destructor = b.destructor ∧ a.options = b.options ∧ a.tabWidth = b.tabWidth ∧
  a.floatPrecision = b.floatPrecision ∧ a.defaultFormat = b.defaultFormat ∧
  a.includeDir = b.includeDir ∧ a.includeFn = b.includeFn ∧ a.hook = b.hook

theorem SameSettings.prep {a b : Config} (h : SameSettings a b) : C09P.prep a = C09P.prep b := by
  obtain ⟨h1, h2, h3, h4, h5, h6, h7, h8⟩ := h
  exact C09P.prep_congr (by rw [h1, h2, h3, h4, h5, h6, h7, h8])

/-- **A read forgets the previous call.**  Through every entry point: same verdict, same
parser result, same I/O events, and the same error report (type, text, file, line) whatever
error state and tree the configuration had before — in particular after a *failed* read. -/
theorem C20_used_state (w : World) (a b : Config) (src : Source) (fuel : Nat) (h : SameSettings a b) :
    (read w a src fuel).ok = (read w b src fuel).ok ∧
    (read w a src fuel).result = (read w b src fuel).result ∧
    (read w a src fuel).events = (read w b src fuel).events ∧
    (read w a src fuel).cfg.errType = (read w b src fuel).cfg.errType ∧
    (read w a src fuel).cfg.errText = (read w b src fuel).cfg.errText ∧
    (read w a src fuel).cfg.errFile = (read w b src fuel).cfg.errFile ∧
    (read w a src fuel).cfg.errLine = (read w b src fuel).cfg.errLine := by
  rcases C09P.read_congr w src fuel h.prep with ⟨p, -, -, e₁, e₂⟩ | e
  · rw [e₁, e₂]; exact ⟨rfl, rfl, rfl, rfl, rfl, rfl, rfl⟩
  · rw [e]; exact ⟨rfl, rfl, rfl, rfl, rfl, rfl, rfl⟩

/-- …and, except for a file that cannot be opened (which leaves the old tree in place), the
whole configuration after the read is the same. -/
theorem C20_used_state_cfg (w : World) (a b : Config) (src : Source) (fuel : Nat) (h : SameSettings a b)
    (hopen : ∀ p, src = .file p → (w.open? p).isSome) :
    (read w a src fuel).cfg = (read w b src fuel).cfg := by
  rcases C09P.read_congr w src fuel h.prep with ⟨p, hs, hw, -, -⟩ | e
  · have := hopen p hs; rw [hw] at this; cases this
  · rw [e]

/-- Non-vacuity: a configuration whose previous read failed (error state set) and a fresh
one have the same settings; the next read reports no error on both. -/
example : SameSettings (read {} Config.init (.string [61]) 50).cfg Config.init := by
  unfold SameSettings; decide
example : (read {} Config.init (.string [61]) 50).cfg.errType = ERR_PARSE := by decide
example : (read {} (read {} Config.init (.string [61]) 50).cfg (.string [97, 61, 49, 59]) 50).cfg.errType = ERR_NONE := by decide

end Libconfig.C20U
