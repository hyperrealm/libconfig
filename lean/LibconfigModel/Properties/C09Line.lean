import LibconfigModel.DenotePos
import LibconfigModel.Properties.C02Denote
import LibconfigModel.Properties.C09
import LibconfigModel.Proofs.C09LineLex
import LibconfigModel.Proofs.Bytes
/-
  C09L — "the line (and the file) of the offending token": the position part of the parser's
  error report, as a theorem over the TRANSLATED tables.

  `Properties/C02Denote.lean` proves that `libconfig_yyparse` — the bison LALR(1) automaton over
  `Generated.parser` with the semantic actions of lib/grammar.y — rejects exactly the texts the
  reference interpreter `denote` rejects, with the same message; it says nothing about the LINE
  and the FILE reported with the message.  This file does:

      offence o toks = some (k, i)  →
        after `yyparse`:   config_error_text = the text of k
                           config_error_line = the scanner's line counter right after the token
                                               with index  reportIndex toks (k, i)  was returned
                           config_error_file = the file the scanner was reading at that moment

  where `offence` (DenotePos.lean) is the reference interpreter telling WHICH token it rejects —
  the one the documentation calls the offending one: the first token that cannot continue a
  sentence of the grammar (the end-of-input pseudo token if the text ends too early), the NAME
  token of a duplicate setting, the (last) token of a mismatching array element — and
  `reportIndex toks (k, i)` is `i` in every case but one: a mismatching array element that is a
  STRING is reported at the position of the token that FOLLOWS it (`i + 1`), because adjacent
  string literals are concatenated and the parser therefore knows that the element is complete
  only when it has seen the next token.  That is the project's recorded finding
  `C02:string-element-mismatch-line`; here it is part of the specification (`reportIndex`,
  `reportedLate`), proved in general (`C09L_position`), with the corollary "the reported position
  is the offending token's own in every other case" (`C09L_position_own`) and a kernel-evaluated
  witness that it really is another line in that case (`C09L_string_element_finding`).

  Why the positions come out like this (the proof follows the parser): bison fetches a lookahead
  token only in a state without default reduction.  A syntax error is detected in such a state,
  on the lookahead: the scanner stands right after the offending token.  The mid-rule action
  `$@1` that adds a setting (and finds the duplicate) and the actions for BOOLEAN … FLOAT run by
  default reduction in the state entered by shifting the NAME resp. the literal: the scanner
  stands right after that token.  Only `simple_value: string` needs the lookahead.
  (`DefaultOnly` / `dflt` of `Proofs/C01ParseStatic.lean` for the states 1 and 9 … 14; in
  `Proofs/C09LineStep.lean` `ninf_1`, `nn_22`, and `nn_2` … `nn_39` for the states that report
  syntax errors.)

  "The scanner's line counter right after a token was returned" is the line on which the token
  ENDS: white space, comments and newlines in front of a token are consumed by the call of
  `yylex` that returns it, those behind it by the next call.  For every token but a string literal
  with embedded newlines that is the line the token stands on.

  The scanner's side is an explicit hypothesis, as in C02Denote: `LexesToPos E s₀ ptoks s₁` —
  `C02Denote.LexesToPlain` recording, for each token, the scan state right after it was returned
  (line counter `buf.lineno` of the current buffer — per buffer: C10_lineno_per_buffer —, include
  stack, hence `currentFilename`).  Successful `@include`s happen inside `yylex`, so they DO occur
  in such runs: a token's recorded state then names the included file.

  Statements and examples only; the proof is in LibconfigModel/Proofs/C09Line*.lean:
    C09LineSpec   unfolding lemmas for the interpreter of DenotePos.lean; forgetting "where" gives
                  Denote.lean's; what it points at is a suffix of the text
    C09LineStep   the remaining input with positions in the form used here (that of
                  Proofs/C02DenoteStep.lean without include errors); which states consult the
                  lookahead
    C09LineMain   the whole parse: `C02D.parse_sim`, which follows the interpreter of
                  DenotePos.lean and keeps track of the scan state, read off
    C09LineLex    from positions to token indices; `topFile` is never touched
-/
namespace Libconfig.C09Line
open Libconfig Denote C02Denote
open C09L

/-! ### the specification: which token, and which position is reported

`offence`, `reportIndex`, `reportedLate`, `isStringAt` are defined in DenotePos.lean. -/

/-- `offence` and `denote` agree on whether and why a text is rejected: `offence` only adds
where. -/
theorem C09L_offence_denote (o : Options) (toks : List (Nat × TokVal)) :
    (offence o toks).map (·.1) =
      match denote o toks with
      | .ok _ => none
      | .error k => some k := by
  unfold offence
  rw [Option.map_map]
  exact C09L.offenceAt_denote o toks

/-- in particular: a text with an offence is one `denote` rejects, for the same reason -/
theorem C09L_offence_error (o : Options) (toks : List (Nat × TokVal)) (k : ErrKind) (i : Nat)
    (h : offence o toks = some (k, i)) : denote o toks = .error k := by
  have := C09L_offence_denote o toks
  rw [h] at this
  cases hd : denote o toks with
  | ok t => rw [hd] at this; cases this
  | error k' =>
    rw [hd] at this
    simp only [Option.map_some, Option.some.injEq] at this
    rw [this]

/-- … and a text `denote` rejects has an offence -/
theorem C09L_error_offence (o : Options) (toks : List (Nat × TokVal)) (k : ErrKind)
    (h : denote o toks = .error k) : ∃ i, offence o toks = some (k, i) := by
  have := C09L_offence_denote o toks
  rw [h] at this
  cases ho : offence o toks with
  | none => rw [ho] at this; cases this
  | some p =>
    obtain ⟨k', i⟩ := p
    rw [ho] at this
    simp only [Option.map_some, Option.some.injEq] at this
    exact ⟨i, by rw [this]⟩

/-- the offending token is one of the text, or the end of the input -/
theorem C09L_offence_le (o : Options) (toks : List (Nat × TokVal)) (k : ErrKind) (i : Nat)
    (h : offence o toks = some (k, i)) : i ≤ toks.length := by
  unfold offence at h
  cases ho : offenceAt o toks with
  | none => rw [ho] at h; cases h
  | some p =>
    rw [ho] at h
    simp only [Option.map_some, Option.some.injEq, Prod.mk.injEq] at h
    rw [← h.2]
    exact Nat.sub_le _ _

/-- `reportIndex` differs from the offending token's index in one case only … -/
theorem C09L_reportIndex_own (toks : List (Nat × TokVal)) (k : ErrKind) (i : Nat)
    (h : reportedLate toks (k, i) = false) : reportIndex toks (k, i) = i := by
  unfold reportIndex
  rw [h]
  rfl

/-- … a mismatching array element that is a string literal: then it is the next index -/
theorem C09L_reportIndex_late (toks : List (Nat × TokVal)) (k : ErrKind) (i : Nat) :
    reportedLate toks (k, i) = true ↔
      k = .arrayElemType ∧ ∃ tv, toks[i]? = some tv ∧ tv.1 = Generated.tokens.string := by
  unfold reportedLate isStringAt
  simp only [Bool.and_eq_true]
  constructor
  · intro ⟨h1, h2⟩
    refine ⟨?_, ?_⟩
    · cases k <;> first | rfl | cases h1
    · cases ht : toks[i]? with
      | none => rw [ht] at h2; cases h2
      | some tv =>
        rw [ht] at h2
        exact ⟨tv, rfl, by simpa using h2⟩
  · intro ⟨h1, tv, h2, h3⟩
    subst h1
    rw [h2]
    exact ⟨rfl, by simpa using h3⟩

theorem C09L_reportIndex_late_eq (toks : List (Nat × TokVal)) (k : ErrKind) (i : Nat)
    (h : reportedLate toks (k, i) = true) : reportIndex toks (k, i) = i + 1 := by
  unfold reportIndex
  rw [h]
  rfl

/-- a syntax error and a duplicate name are never reported late -/
theorem C09L_syntax_own (toks : List (Nat × TokVal)) (i : Nat) :
    reportIndex toks (.syntax, i) = i := rfl
theorem C09L_duplicate_own (toks : List (Nat × TokVal)) (i : Nat) :
    reportIndex toks (.duplicateName, i) = i := rfl

/-! #### the specification at work (evaluated by the kernel)

Each text is scanned by the compiled scanner (`C02Denote.lexText`), the tokens are handed to
`offence`; shown are the kind, the index of the offending token and the index of the token whose
position is reported. -/

/-- what the compiled scanner and the interpreter make of a text -/
def offenceText (o : Options) (text : Bytes) : Option (Option (ErrKind × Nat × Nat)) :=
  (lexText text).map fun toks => (offence o toks).map fun p => (p.1, p.2, reportIndex toks p)

/-- a text that denotes a configuration has no offence -/
example : offenceText {} C02Denote.text1 = some none := by decide +kernel

/-- `a = 1; b = ; a = 2;` — tokens `a = 1 ; b = ; a = 2 ;`: the `;` with index 6 cannot continue
`b =` (the later duplicate `a` is not reached) -/
example : offenceText {} (bytesOfString "a = 1; b = ; a = 2;") = some (some (.syntax, 6, 6)) := by
  decide +kernel

/-- `a = (1, 2` — the text ends too early: the offending "token" is the end of the input, index 6
= the number of tokens -/
example : offenceText {} (bytesOfString "a = (1, 2") = some (some (.syntax, 6, 6)) := by
  decide +kernel

/-- `a = 1; b = 2; a = 3;` — the NAME of the second `a`, index 8 -/
example : offenceText {} C02Denote.text3 = some (some (.duplicateName, 8, 8)) := by decide +kernel

/-- `a = [1, 2L, 3];` — the element `2L` (index 5) is reported where it stands -/
example : offenceText {} (bytesOfString "a = [1, 2L, 3];") = some (some (.arrayElemType, 5, 5)) := by
  decide +kernel

/-- `a = [1, "x" "y" , 3];` — the offending token is the LAST literal of the string element
(index 6); reported is the position of the token after it, the comma (index 7) -/
example : offenceText {} (bytesOfString "a = [1, \"x\" \"y\" , 3];") =
    some (some (.arrayElemType, 6, 7)) := by decide +kernel

/-- `a = [1, "x"` — … which may be the end of the input -/
example : offenceText {} (bytesOfString "a = [1, \"x\"") = some (some (.arrayElemType, 5, 6)) := by
  decide +kernel

/-- the first offence in reading order: the mismatching element before the missing bracket -/
example : offenceText {} (bytesOfString "a = [1, 2L }") = some (some (.arrayElemType, 5, 5)) := by
  decide +kernel

/-! ### vocabulary of the theorems

`LexesToPos E s ptoks s'` (Proofs/C09LineLex.lean): calling `yylex` repeatedly from `s` returns
the tokens of `ptoks`, each recorded with the scan state right after it was returned, and then
end of input, ending in `s'`; no include error occurs.  `tokensOf ptoks` are the tokens,
`stateAfter ptoks s' i` the scan state right after the token with index `i` (for the
end-of-input pseudo token: `s'`). -/

/-- forgetting the positions gives a run in the sense of C02Denote … -/
theorem LexesToPos.plain {E : ParserEnv} {s s' : ScanState}
    {ptoks : List ((Nat × TokVal) × ScanState)} (h : LexesToPos E s ptoks s') :
    LexesToPlain E s (tokensOf ptoks) s' := by
  induction h with
  | eof s s' hy => exact .eof s s' hy
  | tok s s₁ s' t v rest hy _ ih => exact .tok s s₁ s' t v (tokensOf rest) hy ih

/-- … and every such run has its positions: the hypothesis `LexesToPos` of the theorems below is
`LexesToPlain` of C02Denote, no more -/
theorem LexesToPos.exists_of_plain {E : ParserEnv} {s s' : ScanState} {toks : List (Nat × TokVal)}
    (h : LexesToPlain E s toks s') : ∃ ptoks, tokensOf ptoks = toks ∧ LexesToPos E s ptoks s' := by
  induction h with
  | eof s s' hy => exact ⟨[], rfl, .eof s s' hy⟩
  | tok s s₁ s' t v rest hy _ ih =>
    obtain ⟨ptoks, h1, h2⟩ := ih
    exact ⟨((t, v), s₁) :: ptoks, by rw [← h1]; rfl, .tok s s₁ s' t v ptoks hy h2⟩

/-- the end-of-input pseudo token: the final state of the scanner -/
theorem stateAfter_end (ptoks : List ((Nat × TokVal) × ScanState)) (sEnd : ScanState) :
    stateAfter ptoks sEnd ptoks.length = sEnd := by
  unfold stateAfter
  rw [List.getElem?_eq_none (Nat.le_refl _)]

/-! ### the theorem -/

/-- **The position of the offence.**  Let `E` be a parser environment over the compiled parser
tables and actions (any scanner, world and include configuration).  Let its scanner, started in
`s₀`, deliver the tokens of `ptoks` — each recorded with the scan state right after it — and then
end of input in `s₁`, without include error.  Let `ctx₀` be a parse context over a cleared
configuration as `__config_read` sets it up, with no error message pending, and `o` its options
that matter.  If the reference interpreter rejects the tokens for `k` at the token with index `i`
(`offence`), then whatever `yyparse` returns with enough fuel is: 1, with `config_error_text` the
text of `k`, `config_error_line` the line counter of the scan state right after the token with
index `reportIndex toks (k, i)` — and that scan state is the one `yyparse` hands back (from which
`__config_read` takes `config_error_file`). -/
theorem C09L_position_env (E : ParserEnv) (hP : E.P = Generated.parser)
    (hA : E.acts = Generated.parseActions) (o : Options)
    (ptoks : List ((Nat × TokVal) × ScanState)) (h0 : NonZero (tokensOf ptoks))
    (hnames : NamesValid (tokensOf ptoks)) (hnest : nesting (tokensOf ptoks) ≤ maxNesting)
    (fuel : Nat) (s₀ s₁ s' : ScanState) (ctx₀ ctx' : ParseCtx) (r : ParseResult)
    (hlex : LexesToPos E s₀ ptoks s₁)
    (hroot : stripPos ctx₀.cfg.root = { ty := T_GROUP }) (hpar : ctx₀.parent = some [])
    (hstr : ctx₀.str = none) (hopt : ctx₀.cfg.opt OPT_ALLOW_OVERRIDES = o.allowOverrides)
    (herr : ctx₀.cfg.errText = none)
    (h : yyparse E fuel s₀ ctx₀ = (s', ctx', r)) (hr : r ≠ .outOfFuel) (k : ErrKind) (i : Nat)
    (hd : offence o (tokensOf ptoks) = some (k, i)) :
    r = .abort ∧ ctx'.cfg.errText = some k.text ∧
      ctx'.cfg.errLine =
        (stateAfter ptoks s₁ (reportIndex (tokensOf ptoks) (k, i))).buf.lineno ∧
      s' = stateAfter ptoks s₁ (reportIndex (tokensOf ptoks) (k, i)) :=
  C09L.position_core ⟨hP, hA⟩ ptoks (rawOK_of h0 hnames) hnest hlex
    (by rw [← C01Parse.stripPos_pp]; exact hroot) hpar hstr ⟨hopt, fun _ => herr⟩ h hr hd

/-- **C09L** for the compiled scanner and parser (`theEnv w c₀ lexFuel`, any world and reading
configuration): the tokens are never numbered 0. -/
theorem C09L_position (w : World) (c₀ : Config) (lexFuel : Nat) (o : Options)
    (ptoks : List ((Nat × TokVal) × ScanState)) (hnames : NamesValid (tokensOf ptoks))
    (hnest : nesting (tokensOf ptoks) ≤ maxNesting)
    (fuel : Nat) (s₀ s₁ s' : ScanState) (ctx₀ ctx' : ParseCtx) (r : ParseResult)
    (hlex : LexesToPos (theEnv w c₀ lexFuel) s₀ ptoks s₁)
    (hroot : stripPos ctx₀.cfg.root = { ty := T_GROUP }) (hpar : ctx₀.parent = some [])
    (hstr : ctx₀.str = none) (hopt : ctx₀.cfg.opt OPT_ALLOW_OVERRIDES = o.allowOverrides)
    (herr : ctx₀.cfg.errText = none)
    (h : yyparse (theEnv w c₀ lexFuel) fuel s₀ ctx₀ = (s', ctx', r)) (hr : r ≠ .outOfFuel)
    (k : ErrKind) (i : Nat) (hd : offence o (tokensOf ptoks) = some (k, i)) :
    r = .abort ∧ ctx'.cfg.errText = some k.text ∧
      ctx'.cfg.errLine =
        (stateAfter ptoks s₁ (reportIndex (tokensOf ptoks) (k, i))).buf.lineno ∧
      s' = stateAfter ptoks s₁ (reportIndex (tokensOf ptoks) (k, i)) :=
  C09L_position_env (theEnv w c₀ lexFuel) rfl rfl o ptoks
    (C02D_scanner_nonzero w c₀ lexFuel s₀ s₁ _ (LexesToPos.plain hlex).lexesTo) hnames hnest fuel
    s₀ s₁ s' ctx₀ ctx' r hlex hroot hpar hstr hopt herr h hr k i hd

/-- **Corollary: in every case but the string element, the position reported is the offending
token's own.** -/
theorem C09L_position_own (w : World) (c₀ : Config) (lexFuel : Nat) (o : Options)
    (ptoks : List ((Nat × TokVal) × ScanState)) (hnames : NamesValid (tokensOf ptoks))
    (hnest : nesting (tokensOf ptoks) ≤ maxNesting)
    (fuel : Nat) (s₀ s₁ s' : ScanState) (ctx₀ ctx' : ParseCtx) (r : ParseResult)
    (hlex : LexesToPos (theEnv w c₀ lexFuel) s₀ ptoks s₁)
    (hroot : stripPos ctx₀.cfg.root = { ty := T_GROUP }) (hpar : ctx₀.parent = some [])
    (hstr : ctx₀.str = none) (hopt : ctx₀.cfg.opt OPT_ALLOW_OVERRIDES = o.allowOverrides)
    (herr : ctx₀.cfg.errText = none)
    (h : yyparse (theEnv w c₀ lexFuel) fuel s₀ ctx₀ = (s', ctx', r)) (hr : r ≠ .outOfFuel)
    (k : ErrKind) (i : Nat) (hd : offence o (tokensOf ptoks) = some (k, i))
    (hown : reportedLate (tokensOf ptoks) (k, i) = false) :
    ctx'.cfg.errLine = (stateAfter ptoks s₁ i).buf.lineno ∧ s' = stateAfter ptoks s₁ i :=
  C09L_reportIndex_own _ _ _ hown ▸
    (C09L_position w c₀ lexFuel o ptoks hnames hnest fuel s₀ s₁ s' ctx₀ ctx' r hlex hroot hpar hstr
      hopt herr h hr k i hd).2.2

/-- … and the parse does return: there is a bound `N` such that with any fuel ≥ `N` the parser
returns 1, in the scan state right after the token `reportIndex` names, with its line recorded. -/
theorem C09L_position_total (w : World) (c₀ : Config) (lexFuel : Nat) (o : Options)
    (ptoks : List ((Nat × TokVal) × ScanState)) (hnames : NamesValid (tokensOf ptoks))
    (hnest : nesting (tokensOf ptoks) ≤ maxNesting)
    (s₀ s₁ : ScanState) (ctx₀ : ParseCtx)
    (hlex : LexesToPos (theEnv w c₀ lexFuel) s₀ ptoks s₁)
    (hroot : stripPos ctx₀.cfg.root = { ty := T_GROUP }) (hpar : ctx₀.parent = some [])
    (hstr : ctx₀.str = none) (hopt : ctx₀.cfg.opt OPT_ALLOW_OVERRIDES = o.allowOverrides)
    (herr : ctx₀.cfg.errText = none)
    (k : ErrKind) (i : Nat) (hd : offence o (tokensOf ptoks) = some (k, i)) :
    ∃ N, ∀ fuel, N ≤ fuel →
      (yyparse (theEnv w c₀ lexFuel) fuel s₀ ctx₀).2.2 = .abort ∧
      (yyparse (theEnv w c₀ lexFuel) fuel s₀ ctx₀).2.1.cfg.errText = some k.text ∧
      (yyparse (theEnv w c₀ lexFuel) fuel s₀ ctx₀).2.1.cfg.errLine =
        (stateAfter ptoks s₁ (reportIndex (tokensOf ptoks) (k, i))).buf.lineno ∧
      (yyparse (theEnv w c₀ lexFuel) fuel s₀ ctx₀).1 =
        stateAfter ptoks s₁ (reportIndex (tokensOf ptoks) (k, i)) := by
  obtain ⟨N, hN⟩ := C02D_error_total w c₀ lexFuel o (tokensOf ptoks) hnames hnest s₀ s₁ ctx₀
    (LexesToPos.plain hlex).lexesTo hroot hpar hstr hopt k (C09L_offence_error o _ k i hd)
  refine ⟨N, fun fuel hf => ?_⟩
  have hab := hN fuel hf
  cases hp : yyparse (theEnv w c₀ lexFuel) fuel s₀ ctx₀ with
  | mk s' rest =>
    cases rest with
    | mk ctx' r =>
      rw [hp] at hab
      have hab : r = .abort := hab
      exact C09L_position w c₀ lexFuel o ptoks hnames hnest fuel s₀ s₁ s' ctx₀ ctx' r hlex hroot
        hpar hstr hopt herr hp (by rw [hab]; decide) k i hd

/-- **Premature end of input**: if the offending "token" is the end of the input, the line
reported is the scanner's final line (and the state handed back its final state). -/
theorem C09L_position_eof (w : World) (c₀ : Config) (lexFuel : Nat) (o : Options)
    (ptoks : List ((Nat × TokVal) × ScanState)) (hnames : NamesValid (tokensOf ptoks))
    (hnest : nesting (tokensOf ptoks) ≤ maxNesting)
    (fuel : Nat) (s₀ s₁ s' : ScanState) (ctx₀ ctx' : ParseCtx) (r : ParseResult)
    (hlex : LexesToPos (theEnv w c₀ lexFuel) s₀ ptoks s₁)
    (hroot : stripPos ctx₀.cfg.root = { ty := T_GROUP }) (hpar : ctx₀.parent = some [])
    (hstr : ctx₀.str = none) (hopt : ctx₀.cfg.opt OPT_ALLOW_OVERRIDES = o.allowOverrides)
    (herr : ctx₀.cfg.errText = none)
    (h : yyparse (theEnv w c₀ lexFuel) fuel s₀ ctx₀ = (s', ctx', r)) (hr : r ≠ .outOfFuel)
    (k : ErrKind) (hd : offence o (tokensOf ptoks) = some (k, ptoks.length)) :
    ctx'.cfg.errLine = s₁.buf.lineno ∧ s' = s₁ := by
  have hown : reportedLate (tokensOf ptoks) (k, ptoks.length) = false := by
    unfold reportedLate isStringAt
    simp only
    rw [List.getElem?_eq_none (by rw [C09L.tokensOf_length]; exact Nat.le_refl _)]
    exact Bool.and_false _
  have := C09L_position_own w c₀ lexFuel o ptoks hnames hnest fuel s₀ s₁ s' ctx₀ ctx' r hlex hroot
    hpar hstr hopt herr h hr k ptoks.length hd hown
  rw [stateAfter_end] at this
  exact this

/-! ### `config_read_string` / `config_read` / `config_read_file` -/

/-- **What `__config_read` reports** (the common core of the three read functions), with the
lexing as an explicit hypothesis: if the compiled scanner, started on the input, delivers the
tokens of `ptoks` (with their scan states) and then end of input, without include error, and the
reference interpreter rejects them for `k` at the token with index `i`, then the read — with
enough fuel — fails, `config_error_text` is the text of `k`, `config_error_line` the scanner's
line counter right after the token with index `reportIndex … (k, i)`, and `config_error_file` the
file the scanner was reading then: the top-level file's name (none for a string or a stream), or
the name of the included file the token comes from. -/
theorem C09L_readCore (w : World) (c₀ : Config) (filename : Option Bytes) (inp : Bytes)
    (fuel : Nat) (ptoks : List ((Nat × TokVal) × ScanState)) (s₁ : ScanState)
    (hlex : LexesToPos (theEnv w c₀ fuel) (C01Parse.readScanStart filename inp) ptoks s₁)
    (hnames : NamesValid (tokensOf ptoks)) (hnest : nesting (tokensOf ptoks) ≤ maxNesting)
    (hfuel : (readCore w c₀ filename inp fuel).result ≠ .outOfFuel) (k : ErrKind) (i : Nat)
    (hd : offence { allowOverrides := c₀.opt OPT_ALLOW_OVERRIDES } (tokensOf ptoks) = some (k, i)) :
    (readCore w c₀ filename inp fuel).ok = false ∧
    (readCore w c₀ filename inp fuel).cfg.errText = some k.text ∧
    (readCore w c₀ filename inp fuel).cfg.errLine =
      (stateAfter ptoks s₁ (reportIndex (tokensOf ptoks) (k, i))).buf.lineno ∧
    (readCore w c₀ filename inp fuel).cfg.errFile =
      (stateAfter ptoks s₁ (reportIndex (tokensOf ptoks) (k, i))).currentFilename := by
  obtain ⟨s', ctx', r, hp, hres, hok, hcfg⟩ := C09P.readCore_parse w c₀ filename inp fuel
  rw [hres] at hfuel
  obtain ⟨h1, h2, h3, h4⟩ := C09L_position w c₀ fuel { allowOverrides := c₀.opt OPT_ALLOW_OVERRIDES }
    ptoks hnames hnest fuel (C01Parse.readScanStart filename inp) s₁ s'
    { cfg := C09P.start c₀ filename } ctx' r hlex rfl rfl rfl rfl rfl hp hfuel k i hd
  subst h1 h4
  rw [hok, hcfg, C09P.finish_errText, C09P.finish_errLine,
    C09P.finish_errFile _ (by decide : ParseResult.abort ≠ .accept)]
  exact ⟨rfl, h2, h3, rfl⟩

/-- **`__config_read` on bytes**: `C09L_readCore` with the side condition on the names
replaced by "the input and the files of the world hold bytes" (every NAME token of the compiled
scanner then carries a valid name, `C02D_scanner_names`). -/
theorem C09L_readCore_bytes (w : World) (hw : C03P.WorldOK w) (c₀ : Config)
    (filename : Option Bytes) (inp : Bytes) (hb : C03P.BytesOK inp)
    (fuel : Nat) (ptoks : List ((Nat × TokVal) × ScanState)) (s₁ : ScanState)
    (hlex : LexesToPos (theEnv w c₀ fuel) (C01Parse.readScanStart filename inp) ptoks s₁)
    (hnest : nesting (tokensOf ptoks) ≤ maxNesting)
    (hfuel : (readCore w c₀ filename inp fuel).result ≠ .outOfFuel) (k : ErrKind) (i : Nat)
    (hd : offence { allowOverrides := c₀.opt OPT_ALLOW_OVERRIDES } (tokensOf ptoks) = some (k, i)) :
    (readCore w c₀ filename inp fuel).ok = false ∧
    (readCore w c₀ filename inp fuel).cfg.errText = some k.text ∧
    (readCore w c₀ filename inp fuel).cfg.errLine =
      (stateAfter ptoks s₁ (reportIndex (tokensOf ptoks) (k, i))).buf.lineno ∧
    (readCore w c₀ filename inp fuel).cfg.errFile =
      (stateAfter ptoks s₁ (reportIndex (tokensOf ptoks) (k, i))).currentFilename :=
  C09L_readCore w c₀ filename inp fuel ptoks s₁ hlex
    (C02D_scanner_names w hw c₀ fuel _ _ _ (scanOK_start filename inp hb)
      (LexesToPos.plain hlex).lexesTo) hnest hfuel k i hd

/-- outside included files the file reported is the top-level one: for `__config_read` with the
file name `filename` (none for strings and streams), if the token whose position is reported
was not read from an included file (the include stack is empty right after it), then
`config_error_file` is `filename` -/
theorem C09L_readCore_file_top (w : World) (c₀ : Config) (filename : Option Bytes) (inp : Bytes)
    (fuel : Nat) (ptoks : List ((Nat × TokVal) × ScanState)) (s₁ : ScanState)
    (hlex : LexesToPos (theEnv w c₀ fuel) (C01Parse.readScanStart filename inp) ptoks s₁)
    (j : Nat) (htop : (stateAfter ptoks s₁ j).stack = []) :
    (stateAfter ptoks s₁ j).currentFilename = filename := by
  rw [C09L.currentFilename_top htop, C09L.stateAfter_topFile hlex]
  rfl

/-- `config_read_string` -/
theorem C09L_read_string (w : World) (c₀ : Config) (text : Bytes) (fuel : Nat)
    (ptoks : List ((Nat × TokVal) × ScanState)) (s₁ : ScanState)
    (hlex : LexesToPos (theEnv w c₀ fuel) (C01Parse.readScanStart none (cstr text)) ptoks s₁)
    (hnames : NamesValid (tokensOf ptoks)) (hnest : nesting (tokensOf ptoks) ≤ maxNesting)
    (hfuel : (read w c₀ (.string text) fuel).result ≠ .outOfFuel) (k : ErrKind) (i : Nat)
    (hd : offence { allowOverrides := c₀.opt OPT_ALLOW_OVERRIDES } (tokensOf ptoks) = some (k, i)) :
    (read w c₀ (.string text) fuel).ok = false ∧
    (read w c₀ (.string text) fuel).cfg.errText = some k.text ∧
    (read w c₀ (.string text) fuel).cfg.errLine =
      (stateAfter ptoks s₁ (reportIndex (tokensOf ptoks) (k, i))).buf.lineno ∧
    (read w c₀ (.string text) fuel).cfg.errFile =
      (stateAfter ptoks s₁ (reportIndex (tokensOf ptoks) (k, i))).currentFilename :=
  C09L_readCore w c₀ none (cstr text) fuel ptoks s₁ hlex hnames hnest hfuel k i hd

/-- … for a string (or a stream) the file reported is none — unless the token whose position is
reported was read from an included file -/
theorem C09L_read_string_no_file (w : World) (c₀ : Config) (text : Bytes) (fuel : Nat)
    (ptoks : List ((Nat × TokVal) × ScanState)) (s₁ : ScanState)
    (hlex : LexesToPos (theEnv w c₀ fuel) (C01Parse.readScanStart none (cstr text)) ptoks s₁)
    (hnames : NamesValid (tokensOf ptoks)) (hnest : nesting (tokensOf ptoks) ≤ maxNesting)
    (hfuel : (read w c₀ (.string text) fuel).result ≠ .outOfFuel) (k : ErrKind) (i : Nat)
    (hd : offence { allowOverrides := c₀.opt OPT_ALLOW_OVERRIDES } (tokensOf ptoks) = some (k, i))
    (htop : (stateAfter ptoks s₁ (reportIndex (tokensOf ptoks) (k, i))).stack = []) :
    (read w c₀ (.string text) fuel).cfg.errFile = none := by
  rw [(C09L_read_string w c₀ text fuel ptoks s₁ hlex hnames hnest hfuel k i hd).2.2.2]
  exact C09L_readCore_file_top w c₀ none (cstr text) fuel ptoks s₁ hlex _ htop

/-- `config_read` from a stream -/
theorem C09L_read_stream (w : World) (c₀ : Config) (content : Bytes) (fuel : Nat)
    (ptoks : List ((Nat × TokVal) × ScanState)) (s₁ : ScanState)
    (hlex : LexesToPos (theEnv w c₀ fuel) (C01Parse.readScanStart none content) ptoks s₁)
    (hnames : NamesValid (tokensOf ptoks)) (hnest : nesting (tokensOf ptoks) ≤ maxNesting)
    (hfuel : (read w c₀ (.stream content) fuel).result ≠ .outOfFuel) (k : ErrKind) (i : Nat)
    (hd : offence { allowOverrides := c₀.opt OPT_ALLOW_OVERRIDES } (tokensOf ptoks) = some (k, i)) :
    (read w c₀ (.stream content) fuel).ok = false ∧
    (read w c₀ (.stream content) fuel).cfg.errText = some k.text ∧
    (read w c₀ (.stream content) fuel).cfg.errLine =
      (stateAfter ptoks s₁ (reportIndex (tokensOf ptoks) (k, i))).buf.lineno ∧
    (read w c₀ (.stream content) fuel).cfg.errFile =
      (stateAfter ptoks s₁ (reportIndex (tokensOf ptoks) (k, i))).currentFilename :=
  C09L_readCore w c₀ none content fuel ptoks s₁ hlex hnames hnest hfuel k i hd

/-- `config_read_file` of a readable file -/
theorem C09L_read_file (w : World) (c₀ : Config) (path content : Bytes) (fuel : Nat)
    (ptoks : List ((Nat × TokVal) × ScanState)) (s₁ : ScanState)
    (hfile : w.open? path = some content)
    (hlex : LexesToPos (theEnv w c₀ fuel) (C01Parse.readScanStart (some path) content) ptoks s₁)
    (hnames : NamesValid (tokensOf ptoks)) (hnest : nesting (tokensOf ptoks) ≤ maxNesting)
    (hfuel : (read w c₀ (.file path) fuel).result ≠ .outOfFuel) (k : ErrKind) (i : Nat)
    (hd : offence { allowOverrides := c₀.opt OPT_ALLOW_OVERRIDES } (tokensOf ptoks) = some (k, i)) :
    (read w c₀ (.file path) fuel).ok = false ∧
    (read w c₀ (.file path) fuel).cfg.errText = some k.text ∧
    (read w c₀ (.file path) fuel).cfg.errLine =
      (stateAfter ptoks s₁ (reportIndex (tokensOf ptoks) (k, i))).buf.lineno ∧
    (read w c₀ (.file path) fuel).cfg.errFile =
      (stateAfter ptoks s₁ (reportIndex (tokensOf ptoks) (k, i))).currentFilename := by
  rw [C09P.read_file w c₀ path content fuel hfile] at hfuel ⊢
  exact C09L_readCore w c₀ (some path) content fuel ptoks s₁ hlex hnames hnest hfuel k i hd

/-! ### the theorems at work (evaluated by the kernel)

The hypotheses of the theorems are satisfiable and their conclusions say something: for the
inputs below the compiled scanner does deliver tokens without include error (`lexAllPos` runs it,
keeping the scan state after every token), the tokens satisfy the side conditions, so
`C09L_readCore` applies and PREDICTS the line and the file of the error report from the
interpreter's verdict and the scanner's states alone (`predict`); the kernel, running `read`
itself, finds the same. -/

/-- run the scanner to end of input, collecting the tokens with the scan state after each, and
the final state (`n` bounds their number) -/
def lexAllPos (E : ParserEnv) : Nat → ScanState →
    Option (List ((Nat × TokVal) × ScanState) × ScanState)
  | 0, _ => none
  | n + 1, s =>
    match yylex E.T E.sacts E.w E.ic E.lexFuel s with
    | (s', .eof) => some ([], s')
    | (s', .tok t v) => (lexAllPos E n s').map fun p => (((t, v), s') :: p.1, p.2)
    | _ => none

theorem lexAllPos_sound {E : ParserEnv} : ∀ (n : Nat) (s : ScanState)
    (ptoks : List ((Nat × TokVal) × ScanState)) (sEnd : ScanState),
    lexAllPos E n s = some (ptoks, sEnd) → LexesToPos E s ptoks sEnd
  | 0, _, _, _, h => by cases h
  | n + 1, s, ptoks, sEnd, h => by
    rw [lexAllPos] at h
    split at h
    · rename_i s' hy
      simp only [Option.some.injEq, Prod.mk.injEq] at h
      rw [← h.1, ← h.2]
      exact .eof s s' hy
    · rename_i s' t v hy
      cases hr : lexAllPos E n s' with
      | none => rw [hr] at h; cases h
      | some p =>
        obtain ⟨ps, se⟩ := p
        rw [hr] at h
        simp only [Option.map_some, Option.some.injEq, Prod.mk.injEq] at h
        rw [← h.1, ← h.2]
        exact .tok s s' se t v ps hy (lexAllPos_sound n s' ps se hr)
    · cases h

/-- the error report `C09L_readCore` predicts for `__config_read` on an input whose scanning the
kernel can carry out: the kind of the error, the index of the offending token, the scanner's line
right after THAT token, and the line and the file right after the token whose position is reported
(computed from the scanner's states and the interpreter's verdict; the parser is not run) -/
def predict (w : World) (c₀ : Config) (filename : Option Bytes) (inp : Bytes) :
    Option (ErrKind × Nat × Nat × Nat × Option Bytes) :=
  match lexAllPos (theEnv w c₀ 1000) 200 (C01Parse.readScanStart filename inp) with
  | none => none
  | some (ptoks, sEnd) =>
    if checkToks (tokensOf ptoks) then
      match offence { allowOverrides := c₀.opt OPT_ALLOW_OVERRIDES } (tokensOf ptoks) with
      | none => none
      | some p =>
        some (p.1, p.2, (stateAfter ptoks sEnd p.2).buf.lineno,
          (stateAfter ptoks sEnd (reportIndex (tokensOf ptoks) p)).buf.lineno,
          (stateAfter ptoks sEnd (reportIndex (tokensOf ptoks) p)).currentFilename)
    else none

/-- how `C09L_readCore` applies: what `predict` says is what `__config_read` reports -/
theorem readCore_of_predict (w : World) (c₀ : Config) (filename : Option Bytes) (inp : Bytes)
    (k : ErrKind) (i own line : Nat) (file : Option Bytes)
    (h : predict w c₀ filename inp = some (k, i, own, line, file))
    (hfuel : (readCore w c₀ filename inp 1000).result ≠ .outOfFuel) :
    (readCore w c₀ filename inp 1000).ok = false ∧
    (readCore w c₀ filename inp 1000).cfg.errText = some k.text ∧
    (readCore w c₀ filename inp 1000).cfg.errLine = line ∧
    (readCore w c₀ filename inp 1000).cfg.errFile = file := by
  unfold predict at h
  split at h
  · cases h
  · rename_i ptoks sEnd hl
    split at h
    · rename_i hck
      obtain ⟨hn, hd⟩ := checkToks_spec hck
      split at h
      · cases h
      · rename_i p hoff
        obtain ⟨k', i'⟩ := p
        simp only [Option.some.injEq, Prod.mk.injEq] at h
        obtain ⟨rfl, rfl, _, rfl, rfl⟩ := h
        exact C09L_readCore w c₀ filename inp 1000 ptoks sEnd (lexAllPos_sound 200 _ _ _ hl) hn hd
          hfuel _ _ hoff
    · cases h

/-- 1. an error on line 3 of a string:
```
a = 1;
b = 2;
c = ;
d = 4;
```
the `;` (token 10) cannot continue `c =`; line 3, no file. -/
def text1 : Bytes := bytesOfString "a = 1;\nb = 2;\nc = ;\nd = 4;\n"

/-- What `read` itself does on text 1 — it ends, reporting line 3 and no file — and what `predict`
says.  One kernel check for all of it (so below, one for each input): within one check
the kernel evaluates a run once, however often it is mentioned. -/
theorem text1_facts :
    (read {} Config.init (.string text1) 1000).result ≠ .outOfFuel ∧
    ((read {} Config.init (.string text1) 1000).cfg.errLine = 3 ∧
      (read {} Config.init (.string text1) 1000).cfg.errFile = none) ∧
    predict {} Config.init none (cstr text1) = some (.syntax, 10, 3, 3, none) := by decide +kernel

theorem example1 : (read {} Config.init (.string text1) 1000).ok = false ∧
    (read {} Config.init (.string text1) 1000).cfg.errText = some ErrKind.syntax.text ∧
    (read {} Config.init (.string text1) 1000).cfg.errLine = 3 ∧
    (read {} Config.init (.string text1) 1000).cfg.errFile = none :=
  readCore_of_predict {} Config.init none (cstr text1) .syntax 10 3 3 none text1_facts.2.2 text1_facts.1

/-- … which the kernel confirms by running `read` -/
example : (read {} Config.init (.string text1) 1000).cfg.errLine = 3 ∧
    (read {} Config.init (.string text1) 1000).cfg.errFile = none := text1_facts.2.1

/-- … for `config_read_file` -/
theorem read_file_of_predict (w : World) (c₀ : Config) (path content : Bytes)
    (hfile : w.open? path = some content)
    (k : ErrKind) (i own line : Nat) (file : Option Bytes)
    (h : predict w c₀ (some path) content = some (k, i, own, line, file))
    (hfuel : (read w c₀ (.file path) 1000).result ≠ .outOfFuel) :
    (read w c₀ (.file path) 1000).ok = false ∧
    (read w c₀ (.file path) 1000).cfg.errText = some k.text ∧
    (read w c₀ (.file path) 1000).cfg.errLine = line ∧
    (read w c₀ (.file path) 1000).cfg.errFile = file := by
  rw [C09P.read_file w c₀ path content 1000 hfile] at hfuel ⊢
  exact readCore_of_predict w c₀ (some path) content k i own line file h hfuel

/-- 2. an error in the 2nd line of an included file: the file `top.cfg`
```
a = 1;
@include "inc.cfg"
b = 2;
```
includes `inc.cfg`
```
x = 1;
y = ;
z = 3;
```
The tokens of the run are `a = 1 ; x = 1 ; y = ;` … (the include is no token); the `;` with index
10 is the offence; reported are line 2 and the file `inc.cfg` — the INCLUDED file's line and
name, not line 2 of `top.cfg` (the directive's line, as it happens) and its name. -/
def top2 : Bytes := bytesOfString "a = 1;\n@include \"inc.cfg\"\nb = 2;\n"
def world2 : World :=
  { files := [(bytesOfString "top.cfg", some top2),
              (bytesOfString "inc.cfg", some (bytesOfString "x = 1;\ny = ;\nz = 3;\n"))] }

theorem world2_facts :
    (read world2 Config.init (.file (bytesOfString "top.cfg")) 1000).result ≠ .outOfFuel ∧
    ((read world2 Config.init (.file (bytesOfString "top.cfg")) 1000).cfg.errLine = 2 ∧
      (read world2 Config.init (.file (bytesOfString "top.cfg")) 1000).cfg.errFile =
        some (bytesOfString "inc.cfg")) ∧
    world2.open? (bytesOfString "top.cfg") = some top2 ∧
    predict world2 Config.init (some (bytesOfString "top.cfg")) top2 =
      some (.syntax, 10, 2, 2, some (bytesOfString "inc.cfg")) := by decide +kernel

theorem example2 :
    (read world2 Config.init (.file (bytesOfString "top.cfg")) 1000).ok = false ∧
    (read world2 Config.init (.file (bytesOfString "top.cfg")) 1000).cfg.errText =
      some ErrKind.syntax.text ∧
    (read world2 Config.init (.file (bytesOfString "top.cfg")) 1000).cfg.errLine = 2 ∧
    (read world2 Config.init (.file (bytesOfString "top.cfg")) 1000).cfg.errFile =
      some (bytesOfString "inc.cfg") :=
  read_file_of_predict world2 Config.init (bytesOfString "top.cfg") top2 world2_facts.2.2.1
    .syntax 10 2 2 (some (bytesOfString "inc.cfg")) world2_facts.2.2.2 world2_facts.1

example : (read world2 Config.init (.file (bytesOfString "top.cfg")) 1000).cfg.errLine = 2 ∧
    (read world2 Config.init (.file (bytesOfString "top.cfg")) 1000).cfg.errFile =
      some (bytesOfString "inc.cfg") := world2_facts.2.1

/-- … and an error in the top-level file AFTER the include is reported with the top-level file's
name and line again (the line counter is per buffer): `top.cfg` as above, `inc.cfg` without the
error, `b = ;` instead of `b = 2;` -/
def top2' : Bytes := bytesOfString "a = 1;\n@include \"inc.cfg\"\nb = ;\n"
def world2' : World :=
  { files := [(bytesOfString "top.cfg", some top2'),
              (bytesOfString "inc.cfg", some (bytesOfString "x = 1;\ny = 2;\nz = 3;\n"))] }

theorem example2' :
    (read world2' Config.init (.file (bytesOfString "top.cfg")) 1000).cfg.errLine = 3 ∧
    (read world2' Config.init (.file (bytesOfString "top.cfg")) 1000).cfg.errFile =
      some (bytesOfString "top.cfg") :=
  -- the three hypotheses in one kernel check
  have h : _ ∧ _ ∧ _ := by decide +kernel
  (read_file_of_predict world2' Config.init (bytesOfString "top.cfg") top2' h.1
    .syntax 18 3 3 (some (bytesOfString "top.cfg")) h.2.1 h.2.2).2.2

/-- 3. a duplicate whose NAME is on another line than its `=` and its value:
```
a = 1;
b = 2;
a
  =
    3;
```
reported is line 3, the line of the NAME (token 8) — the duplicate is found by the mid-rule action
`$@1`, which runs before the parser looks at the `=`. -/
def text3 : Bytes := bytesOfString "a = 1;\nb = 2;\na\n  =\n    3;\n"

theorem text3_facts :
    (read {} Config.init (.string text3) 1000).result ≠ .outOfFuel ∧
    (read {} Config.init (.string text3) 1000).cfg.errLine = 3 ∧
    predict {} Config.init none (cstr text3) = some (.duplicateName, 8, 3, 3, none) := by decide +kernel

theorem example3 : (read {} Config.init (.string text3) 1000).ok = false ∧
    (read {} Config.init (.string text3) 1000).cfg.errText = some ErrKind.duplicateName.text ∧
    (read {} Config.init (.string text3) 1000).cfg.errLine = 3 ∧
    (read {} Config.init (.string text3) 1000).cfg.errFile = none :=
  readCore_of_predict {} Config.init none (cstr text3) .duplicateName 8 3 3 none text3_facts.2.2 text3_facts.1

example : (read {} Config.init (.string text3) 1000).cfg.errLine = 3 := text3_facts.2.1

/-- 4. a mismatching integer element:
```
a = [ 1,
      2L
      , 3 ];
```
reported is line 2, the line of `2L` (token 5) — its action runs by default reduction, before
the parser looks at the comma on line 3. -/
def text4 : Bytes := bytesOfString "a = [ 1,\n      2L\n      , 3 ];\n"

theorem text4_facts :
    (read {} Config.init (.string text4) 1000).result ≠ .outOfFuel ∧
    (read {} Config.init (.string text4) 1000).cfg.errLine = 2 ∧
    predict {} Config.init none (cstr text4) = some (.arrayElemType, 5, 2, 2, none) := by decide +kernel

theorem example4 : (read {} Config.init (.string text4) 1000).ok = false ∧
    (read {} Config.init (.string text4) 1000).cfg.errText = some ErrKind.arrayElemType.text ∧
    (read {} Config.init (.string text4) 1000).cfg.errLine = 2 ∧
    (read {} Config.init (.string text4) 1000).cfg.errFile = none :=
  readCore_of_predict {} Config.init none (cstr text4) .arrayElemType 5 2 2 none text4_facts.2.2 text4_facts.1

example : (read {} Config.init (.string text4) 1000).cfg.errLine = 2 := text4_facts.2.1

/-- 5. the string element (finding `C02:string-element-mismatch-line`):
```
a = [ 1,
      "x"
      "y"


      , 3 ];
```
the offending token is the last literal `"y"` (token 6, line 3); reported is line 6: the line of
the comma (token 7), which the parser has had to look at to know that the string ends. -/
def text5 : Bytes := bytesOfString "a = [ 1,\n      \"x\"\n      \"y\"\n\n\n      , 3 ];\n"

theorem text5_facts :
    (read {} Config.init (.string text5) 1000).result ≠ .outOfFuel ∧
    (read {} Config.init (.string text5) 1000).cfg.errLine = 6 ∧
    predict {} Config.init none (cstr text5) = some (.arrayElemType, 6, 3, 6, none) := by
  rw [text5, bytesOfString_ofList]; decide +kernel

theorem example5 : (read {} Config.init (.string text5) 1000).ok = false ∧
    (read {} Config.init (.string text5) 1000).cfg.errText = some ErrKind.arrayElemType.text ∧
    (read {} Config.init (.string text5) 1000).cfg.errLine = 6 ∧
    (read {} Config.init (.string text5) 1000).cfg.errFile = none :=
  readCore_of_predict {} Config.init none (cstr text5) .arrayElemType 6 3 6 none text5_facts.2.2 text5_facts.1

example : (read {} Config.init (.string text5) 1000).cfg.errLine = 6 := text5_facts.2.1

/-- 6. premature end of input:
```
a = ( 1,
      2

```
the offending "token" is the end of the input (index 6 = the number of tokens); reported is the
scanner's final line, 4 (the text ends with two newlines after line 2, an empty line 3 — the
counter stands on line 4). -/
def text6 : Bytes := bytesOfString "a = ( 1,\n      2\n\n"

theorem text6_facts :
    (read {} Config.init (.string text6) 1000).result ≠ .outOfFuel ∧
    (read {} Config.init (.string text6) 1000).cfg.errLine = 4 ∧
    predict {} Config.init none (cstr text6) = some (.syntax, 6, 4, 4, none) := by decide +kernel

theorem example6 : (read {} Config.init (.string text6) 1000).ok = false ∧
    (read {} Config.init (.string text6) 1000).cfg.errText = some ErrKind.syntax.text ∧
    (read {} Config.init (.string text6) 1000).cfg.errLine = 4 ∧
    (read {} Config.init (.string text6) 1000).cfg.errFile = none :=
  readCore_of_predict {} Config.init none (cstr text6) .syntax 6 4 4 none text6_facts.2.2 text6_facts.1

example : (read {} Config.init (.string text6) 1000).cfg.errLine = 4 := text6_facts.2.1

/-! ### the recorded finding, as a theorem

The statement one would write down from the documentation alone — "the position reported is the
offending token's own", in ALL cases — is false of `libconfig_yyparse`: text 5 refutes it.  (This
is why `reportIndex` is part of the specification; `C09L_position_own` is the statement with the
one exception removed.) -/

/-- `C09L_position` with the offending token's own position in every case -/
def OwnPositionStatement : Prop :=
  ∀ (w : World) (c₀ : Config) (lexFuel : Nat) (o : Options)
    (ptoks : List ((Nat × TokVal) × ScanState)),
    NamesValid (tokensOf ptoks) → nesting (tokensOf ptoks) ≤ maxNesting →
    ∀ (fuel : Nat) (s₀ s₁ s' : ScanState) (ctx₀ ctx' : ParseCtx) (r : ParseResult),
      LexesToPos (theEnv w c₀ lexFuel) s₀ ptoks s₁ →
      stripPos ctx₀.cfg.root = { ty := T_GROUP } → ctx₀.parent = some [] → ctx₀.str = none →
      ctx₀.cfg.opt OPT_ALLOW_OVERRIDES = o.allowOverrides → ctx₀.cfg.errText = none →
      yyparse (theEnv w c₀ lexFuel) fuel s₀ ctx₀ = (s', ctx', r) → r ≠ .outOfFuel →
      ∀ (k : ErrKind) (i : Nat), offence o (tokensOf ptoks) = some (k, i) →
        ctx'.cfg.errLine = (stateAfter ptoks s₁ i).buf.lineno

/-- **The counterexample** (finding `C02:string-element-mismatch-line`): for text 5 all
hypotheses hold, the offending token — the string literal `"y"`, token 6 — stands on line 3
(the scanner's line right after it is 3), and `yyparse` records line 6. -/
theorem C09L_string_element_finding : ¬ OwnPositionStatement := by
  intro H
  -- the scan and the parse of text 5, in one kernel check
  have hfacts : (lexAllPos (theEnv {} Config.init 1000) 200
        (C01Parse.readScanStart none (cstr text5))).isSome = true ∧
      (lexAllPos (theEnv {} Config.init 1000) 200
        (C01Parse.readScanStart none (cstr text5))).all (fun p =>
          checkToks (tokensOf p.1) &&
          (offence {} (tokensOf p.1) == some (ErrKind.arrayElemType, 6)) &&
          ((stateAfter p.1 p.2 6).buf.lineno == 3)) = true ∧
      (yyparse (theEnv {} Config.init 1000) 1000
          (C01Parse.readScanStart none (cstr text5)) { cfg := {} }).2.2 ≠ .outOfFuel ∧
        (yyparse (theEnv {} Config.init 1000) 1000
          (C01Parse.readScanStart none (cstr text5)) { cfg := {} }).2.1.cfg.errLine = 6 := by
    rw [text5, bytesOfString_ofList]; decide +kernel
  obtain ⟨hsome, hall, hrun⟩ := hfacts
  cases hl : lexAllPos (theEnv {} Config.init 1000) 200
      (C01Parse.readScanStart none (cstr text5)) with
  | none =>
    rw [hl] at hsome
    cases hsome
  | some p =>
    obtain ⟨ptoks, sEnd⟩ := p
    rw [hl] at hall
    simp only [Option.all_some, Bool.and_eq_true, beq_iff_eq] at hall
    obtain ⟨⟨hck, hoff⟩, hown⟩ := hall
    obtain ⟨hn, hd⟩ := checkToks_spec hck
    generalize hout : yyparse (theEnv {} Config.init 1000) 1000
      (C01Parse.readScanStart none (cstr text5)) { cfg := {} } = out at hrun
    obtain ⟨s', ctx', r⟩ := out
    have := H {} Config.init 1000 {} ptoks hn hd 1000 _ sEnd s' { cfg := {} } ctx' r
      (lexAllPos_sound 200 _ _ _ hl) rfl rfl rfl (by decide) rfl hout hrun.1 .arrayElemType 6 hoff
    rw [hrun.2, hown] at this
    exact absurd this (by decide)

end Libconfig.C09Line
