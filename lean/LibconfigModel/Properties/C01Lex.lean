import LibconfigModel.Proofs.C01LexTree
import LibconfigModel.Proofs.C01LexItem
import LibconfigModel.Proofs.C01LexNul
import LibconfigModel.Proofs.C01LexFloatOK
import LibconfigModel.Proofs.C09
/-
  C01L — "the scanner cuts the writer's output at the item boundaries": the lexing half of the
  write → read round trip.

  `wtoksConfig bufLen c` (WriterSpec.lean) is the output of `config_write` as a sequence of
  lexical items (`C19_bytes`: the written bytes are the concatenation of the items' bytes);
  `WTok.token` (RoundTrip.lean) is the bison token and semantic value an item denotes
  (white space denotes nothing).  The headline theorem `C01_lex_items` says that for every
  configuration satisfying `LexOK`, repeated calls of `libconfig_yylex` (the table-driven
  matcher over the translated flex tables, with the translated rule actions) on the written
  bytes return exactly `tokensOfConfig` — the tokens of the items, in order, with their values —
  and then end of input.  No item is split, none is merged with its neighbour, every value
  survives.

  Statements only.  Proofs: LibconfigModel/Proofs/C01Lex*.lean
    C01LexAuto  — a small hand-written automaton for the writer's lexemes and the kernel-checked
                  certificate that the compiled flex automaton simulates it;
    C01LexSim   — what the certificate means for `Flex.scan` / `Flex.next`;
    C01LexTok   — each kind of lexeme as a path of that automaton;
    C01LexYy    — one iteration of `yylex` on a lexeme runs the action of its rule;
    C01LexItem  — one lexeme and one `yylex` call per item (all kinds but strings), also for
                  the documented regular expressions (via C18);
    C01LexStr   — the same for string literals (several rules per literal);
    C01LexFloat — the text of `libconfig_format_double` is a float literal;
    C01LexSeq   — one call per item (`yylex_item`) and the induction over item sequences;
    C01LexTree  — `LexOK` and the induction over the setting tree;
    C01LexNul   — the written text has no NUL byte (so `config_read_string` sees all of it);
    C01LexFloatOK — the float side conditions hold for every finite double under the default
                  float settings (no scientific notation, precision ≤ 26, buffer 341).

  The fields `WTok.token` names are the ones the scanner sets: `sval` for names and strings,
  `ival` for booleans and integers, `fval` for floats, nothing for punctuation.
-/
namespace Libconfig.C01Lex
open C01L C02 Flex ScanSpec

/-- the scan state `readCore` builds for a string / stream source holding `inp` -/
def initScan (inp : Bytes) : ScanState := { buf := { rest := inp }, topFile := none, filenames := [] }

/-- … it is the state the parse of `readCore` starts from (`C09P.start c none` is the cleared
configuration handed to the parser; `config_read_string` passes `cstr` of its argument) -/
example (w : World) (c : Config) (inp : Bytes) (fuel : Nat) :
    (readCore w c none inp fuel).result =
      (yyparse (theEnv w (C09P.start c none) fuel) fuel (initScan inp) { cfg := C09P.start c none }).2.2 := rfl
example (w : World) (c : Config) (str : Bytes) (fuel : Nat) :
    read w c (.string str) fuel = readCore w c none (cstr str) fuel := rfl

/-! ## The hypothesis

`LexOK bufLen c` (Proofs/C01LexTree.lean) is an executable check:
* every setting name is valid (`validName`, i.e. `__config_validate_name`) and does not spell
  `true` / `false` in any mixture of cases (`isBoolWord`; see the finding below);
* a scalar setting has one of the types BOOL, INT, INT64, FLOAT, STRING (a setting of type NONE
  is written as `???`), an INT value fits 32 bits, an INT64 value fits 64 bits (in C they
  always do; the model's `ival` is an unbounded `Int`), a string value has no NUL byte
  (bytes 1 … 255), and a float value satisfies `floatOK`: it is finite, its `printf` rendering
  (`C01P.rawText`) is not cut by the `snprintf(buf, buflen - 3, …)` limit of
  `libconfig_format_double`, and the text does not read back as an infinity.
Nothing is required of the tree shape: lists, arrays and groups may contain anything
(well-formedness is needed by the parser, not by the scanner), the root need not be a group
and may even have a name (it is then written as `name = …` like any member). -/
example (bufLen : Nat) (c : Config) : LexOK bufLen c = nodeOK bufLen c c.root := rfl

example (bufLen : Nat) (c : Config) (name : Option Bytes) (ty fmt : Nat) (ival : Int) (fval : Nat)
    (sval : Option Bytes) (kids : List Node) (hook line : Nat) (file : Option Bytes) :
    nodeOK bufLen c (.mk name ty fmt ival fval sval kids hook line file) =
      (nameOK name &&
       (if ty == T_LIST then nodesOK bufLen c kids
        else if ty == T_ARRAY then nodesOK bufLen c kids
        else if ty == T_GROUP then nodesOK bufLen c kids
        else scalarOK bufLen c ty ival fval sval)) := by rw [nodeOK]
example (bufLen : Nat) (c : Config) (k : Node) (ks : List Node) :
    nodesOK bufLen c (k :: ks) = (nodeOK bufLen c k && nodesOK bufLen c ks) := by rw [nodesOK]
example (nm : Bytes) : nameOK (some nm) = (validName nm && !isBoolWord nm) := rfl
example (nm : Bytes) :
    isBoolWord nm = (nm.map lower == [116, 114, 117, 101] || nm.map lower == [102, 97, 108, 115, 101]) := rfl
example (bufLen : Nat) (c : Config) (ty : Nat) (ival : Int) (fval : Nat) (sval : Option Bytes) :
    scalarOK bufLen c ty ival fval sval =
      (if ty == T_BOOL then true
       else if ty == T_INT then fits32 ival
       else if ty == T_INT64 then fits64 ival
       else if ty == T_FLOAT then floatOK bufLen c fval
       else if ty == T_STRING then (sval.getD []).all (fun b => decide (1 ≤ b) && decide (b < 256))
       else false) := rfl

/-- The float condition.  Under the default float settings it reduces to finiteness
(`C01_floatOK_default` below).  With scientific notation allowed (`%.{p}g`, and the 17-digit
re-rendering of values whose short rendering overflows) the two extra conjuncts are kept as
explicit, executable hypotheses here; `C01_floatOK_sci` (Properties/C01Idem.lean) discharges them
for every finite double at a precision of at most 70 and the buffer 341, from the correctness of
`F64.floorLog10` and an error analysis of the 17-digit rounding. -/
example (bufLen : Nat) (c : Config) (b : Nat) :
    floatOK bufLen c b =
      (F64.isFinite b &&
       decide ((C01P.rawText bufLen b c.floatPrecision (c.opt OPT_SCIENTIFIC)).length ≤ bufLen - 4) &&
       !F64.isInf (F64.strtod (formatDouble bufLen b c.floatPrecision (c.opt OPT_SCIENTIFIC)))) := rfl

/-! ## The vocabulary of the item-level statements (definitions in Proofs/C01LexItem.lean,
C01LexSeq.lean, C01LexTok.lean, C01LexYy.lean), spelled out -/

/-- `Ready K s rest`: the scanner is between two tokens of the top-level buffer -/
example (K : Ctx) (s : ScanState) (rest : Bytes) :
    Ready K s rest ↔ (s.sc = 0 ∧ s.str = [] ∧ s.stack = [] ∧ s.buf.rest = rest ∧
      (s.topFile, s.filenames, s.events) = K) :=
  ⟨fun h => ⟨h.sc, h.str, h.stack, h.rest, h.ctx⟩, fun ⟨a, b, c, d, e⟩ => ⟨a, b, c, d, e⟩⟩

/-- `FollowOK follow rest`: what follows is empty or starts with a byte (< 256) of `follow` -/
example (follow : Nat → Bool) (rest : Bytes) :
    FollowOK follow rest ↔ ∀ c, rest.head? = some c → c < 256 ∧ follow c = true := Iff.rfl

/-- `GoodTok t`: the side conditions per kind of item -/
example (nm : Bytes) : GoodTok (.name nm) ↔ (validName nm = true ∧ isBoolWord nm = false) := Iff.rfl
example (b : Bytes) : GoodTok (.ws b) ↔ (b = [10] ∨ (b ≠ [] ∧ ∀ x ∈ b, isBlank x = true)) := Iff.rfl
example (bits : Nat) (v : Int) (hex : Bool) :
    GoodTok (.int bits v hex) ↔ ((bits = 32 ∧ fits32 v = true) ∨ (bits = 64 ∧ fits64 v = true)) := Iff.rfl
example (b : Nat) (text : Bytes) :
    GoodTok (.float b text) ↔ (FloatLit text ∧ F64.isInf (F64.strtod text) = false) := Iff.rfl
example (x : Bytes) : GoodTok (.str x) ↔ ∀ b ∈ x, 1 ≤ b ∧ b < 256 := Iff.rfl
example : ¬ GoodTok .unknown := id

/-- the delimiters: after a name, a boolean or a number one of space, tab, newline, `;`, `,`
(what the writer puts there); after a run of blanks anything but a blank or `@`; after the other
items anything -/
example (x : Nat) : delim x = (x == 32 || x == 9 || x == 10 || x == 59 || x == 44) := rfl
example (x : Nat) : blankFollow x = (!(x == 32 || x == 9) && x != 64) := rfl
example (nm : Bytes) : itemFollow (.name nm) = delim := rfl
example (bits : Nat) (v : Int) (hex : Bool) : itemFollow (.int bits v hex) = delim := rfl
example : itemFollow (.ws [32, 32]) = blankFollow := by simp [itemFollow]
example (c : Nat) : itemFollow (.ws [10]) c = true := by simp [itemFollow]
example (x : Bytes) (c : Nat) : itemFollow (.str x) c = true := rfl

/-- `GoodSeq`: every item is good and is followed by one of its delimiters (or by nothing) -/
example (t : WTok) (ts : List WTok) :
    GoodSeq (t :: ts) ↔ (GoodTok t ∧ FollowOK (itemFollow t) (bytesOf ts) ∧ GoodSeq ts) := Iff.rfl

/-! ## The whole output -/

/-- **C01_lex_items.**  For every configuration `c` with `LexOK bufLen c`, every world, every
reading configuration `c₀` (only its include settings reach the scanner) and every fuel larger
than the number of bytes written: the scanner started on the buffer holding `c.write bufLen`
returns, call after call, exactly the tokens `tokensOfConfig` and then end of input; the final
scan state is back in INITIAL with an empty buffer, an empty string accumulator, an empty
include stack, and the fields `topFile`, `filenames`, `events` as they were (`Ready`).
(Each call of `yylex` spends one unit of fuel per rule matched, and every match consumes at
least one byte; `fuel > length` is therefore enough for every call.) -/
theorem C01_lex_items (bufLen : Nat) (c : Config) (hok : LexOK bufLen c = true)
    (w : World) (c₀ : Config) (fuel : Nat) (hfuel : (c.write bufLen).length < fuel) :
    ∃ s₁, LexesTo (theEnv w c₀ fuel) (initScan (c.write bufLen))
      (tokensOfConfig Generated.tokens bufLen c) s₁ ∧ Ready (none, [], []) s₁ [] :=
  lexes_written bufLen c hok w c₀ fuel hfuel _ ⟨rfl, rfl, rfl, rfl, rfl⟩

/-- The written text of such a configuration contains no NUL byte: `config_read_string`, which
reads the C string up to the first NUL (`cstr`, see `read` in Read.lean), sees all of it. -/
theorem C01_write_nul_free (bufLen : Nat) (c : Config) (hok : LexOK bufLen c = true) :
    cstr (c.write bufLen) = c.write bufLen :=
  write_cstr bufLen c hok

/-- `C01_lex_items` for the scan state `read w c₀ (.string (c.write bufLen)) fuel` starts from -/
theorem C01_lex_items_string (bufLen : Nat) (c : Config) (hok : LexOK bufLen c = true)
    (w : World) (c₀ : Config) (fuel : Nat) (hfuel : (c.write bufLen).length < fuel) :
    ∃ s₁, LexesTo (theEnv w c₀ fuel) (initScan (cstr (c.write bufLen)))
      (tokensOfConfig Generated.tokens bufLen c) s₁ ∧ Ready (none, [], []) s₁ [] := by
  rw [C01_write_nul_free bufLen c hok]
  exact C01_lex_items bufLen c hok w c₀ fuel hfuel

/-- **The float side conditions under the default float settings.**  With
`CONFIG_OPTION_ALLOW_SCIENTIFIC_NOTATION` off (as `config_init` leaves it), a precision of at
most 26 (default 6) and the buffer of `__config_write_value` (FLOAT_BUF_SIZE = 341), every
finite double satisfies `floatOK`: `%.{p}f` prints at most 311 + p ≤ 337 characters, and the
text — whose value is `round(|x|·10^p)/10^p` — stays below the overflow threshold of the
correctly rounded `strtod` (`F64.ofRat_nearest`). -/
theorem C01_floatOK_default (c : Config) (b : Nat) (hfin : F64.isFinite b = true)
    (hsci : c.opt OPT_SCIENTIFIC = false) (hp : c.floatPrecision ≤ 26) : floatOK 341 c b = true :=
  floatOK_fixed c b hfin hsci hp

/-- `C01_lex_items` for those settings: `LexOKfin` asks of a float value only that it is finite
(and is otherwise `LexOK`: readable names, integer ranges, NUL-free strings, no setting of
type NONE). -/
theorem C01_lex_items_default (c : Config) (hsci : c.opt OPT_SCIENTIFIC = false)
    (hp : c.floatPrecision ≤ 26) (hok : LexOKfin c = true)
    (w : World) (c₀ : Config) (fuel : Nat) (hfuel : (c.write 341).length < fuel) :
    ∃ s₁, LexesTo (theEnv w c₀ fuel) (initScan (c.write 341))
      (tokensOfConfig Generated.tokens 341 c) s₁ ∧ Ready (none, [], []) s₁ [] :=
  C01_lex_items 341 c (lexOK_of_fin c hsci hp hok) w c₀ fuel hfuel

/-- The same for any sequence of items that is "good" (`GoodSeq`: every item satisfies
`GoodTok` and is followed by a byte of `itemFollow`), from any scan state that is between two
tokens of the top-level buffer (`Ready`). -/
theorem C01_lex_seq {K : Ctx} (ts : List WTok) (hg : GoodSeq ts) (w : World) (c₀ : Config) (fuel : Nat)
    (hfuel : (bytesOf ts).length < fuel) (s : ScanState) (hs : Ready K s (bytesOf ts)) :
    ∃ s₁, LexesTo (theEnv w c₀ fuel) s (toksOf ts) s₁ ∧ Ready K s₁ [] := by
  obtain ⟨s₁, h, hfin⟩ := lexes_seq w c₀ fuel ts hg hfuel s hs fuel hfuel
  exact ⟨s₁, h.lexes, hfin⟩

/-- the item sequence of a configuration satisfying `LexOK` is good -/
theorem C01_items_good (bufLen : Nat) (c : Config) (hok : LexOK bufLen c = true) :
    GoodSeq (wtoksConfig bufLen c) :=
  config_good bufLen c hok

/-! ## One item, one call -/

/-- **C01_yylex_item.**  The buffer starts with a good item `t` followed by `rest`, whose first
byte (if any) is a delimiter for `t`.  A white-space item is skipped inside the call (the call
continues as the call on `rest` with `k` units of fuel less); any other item makes the call
return exactly the token `WTok.token` names, with its value.  In both cases the buffer is left
at `rest`, between two tokens. `k` is the number of rules matched: 1, except for a string
literal (opening quote, one per run of verbatim bytes, one per escape, closing quote). -/
theorem C01_yylex_item {K : Ctx} (w : World) (ic : IncludeCfg) (t : WTok) (hg : GoodTok t) (rest : Bytes)
    (hf : FollowOK (itemFollow t) rest) (s : ScanState) (hs : Ready K s (t.bytes ++ rest)) :
    ∃ k, 1 ≤ k ∧ k ≤ t.bytes.length ∧ ∃ s', Ready K s' rest ∧
      ∀ f, yylex Generated.scanner Generated.scanActions w ic (f + k) s =
        (match t.token Generated.tokens with
         | none => yylex Generated.scanner Generated.scanActions w ic f s'
         | some tv => (s', .tok tv.1 tv.2)) :=
  yylex_item w ic t hg rest hf s hs

/-- **C01_lex_string.**  A string literal as the writer prints it — quote, `escapeString s`,
quote — is read back as one TOK_STRING with exactly `s`, for every NUL-free `s`, whatever
follows.  (This is the rule-by-rule counterpart of `C01.C01_string`.) -/
theorem C01_lex_string {K : Ctx} (w : World) (ic : IncludeCfg) (x rest : Bytes) (hx : ∀ b ∈ x, 1 ≤ b ∧ b < 256)
    (hf : FollowOK (fun _ => true) rest) (s : ScanState)
    (hs : Ready K s ([34] ++ escapeString x ++ [34] ++ rest)) :
    ∃ k, 1 ≤ k ∧ k ≤ (escapeString x).length + 2 ∧ ∃ s', Ready K s' rest ∧
      ∀ f, yylex Generated.scanner Generated.scanActions w ic (f + k) s =
        (s', .tok Generated.tokens.string { sval := x }) := by
  obtain ⟨k, h1, h2, s', hr, hy⟩ := yylex_str w ic x rest hx hf s hs
  refine ⟨k, h1, ?_, s', hr, hy⟩
  simp only [WTok.bytes, List.length_append, List.length_cons, List.length_nil] at h2
  omega

/-! ## One item, one lexeme -/

/-- **C01_lex_item.**  For every good item other than a string literal: in the INITIAL start
condition, at or away from the beginning of a line, the compiled matcher selects the item's
rule (`itemRule`) and exactly the item's bytes — longest match — whenever what follows starts
with a delimiter of the item (or is empty). -/
theorem C01_lex_item (t : WTok) (hg : GoodTok t) (hns : isStr t = false) (rest : Bytes)
    (hf : FollowOK (itemFollow t) rest) (bol : Bool) :
    next Generated.scanner 0 bol (t.bytes ++ rest) = some (itemRule t, t.bytes.length) :=
  item_next t hg hns rest hf bol

/-- … and so do the documented token definitions (ScanSpec): `t.bytes` is the longest prefix
of `t.bytes ++ rest` matched by an active rule, `itemRule t` the earliest rule matching it. -/
theorem C01_lex_item_spec (t : WTok) (hg : GoodTok t) (hns : isStr t = false) (rest : Bytes)
    (hf : FollowOK (itemFollow t) rest) (hrest : ∀ b ∈ rest, b < 256) (bol : Bool) :
    Selects documented 0 bol (t.bytes ++ rest) (itemRule t) t.bytes.length :=
  item_selects t hg hns rest hf hrest bol

/-- names: `{name}`, rule 36, delimited by any byte that is not a name character -/
theorem C01_lex_name (nm rest : Bytes) (hv : validName nm = true) (hb : isBoolWord nm = false)
    (hf : FollowOK nameFollow rest) (bol : Bool) :
    next Generated.scanner 0 bol (nm ++ rest) = some (36, nm.length) :=
  (lex_name nm hv hb).next bol rest hf

/-- integers: decimal (rule 38), decimal with `L` (39), `0x…` (40), `0x…L` (41), delimited by
space, tab, newline, `;` or `,` -/
theorem C01_lex_int (bits : Nat) (v : Int) (hex : Bool) (rest : Bytes) (hb : bits = 32 ∨ bits = 64)
    (hf : FollowOK delim rest) (bol : Bool) :
    next Generated.scanner 0 bol ((WTok.int bits v hex).bytes ++ rest) =
      some ((if bits == 64 then (if hex then 41 else 39) else (if hex then 40 else 38)),
        (WTok.int bits v hex).bytes.length) :=
  (lex_int bits v hex hb).next bol rest hf

/-- floats: the text `libconfig_format_double` writes for a finite double, when the `snprintf`
limit does not cut it, is one `{float}` lexeme (rule 37) -/
theorem C01_lex_float (bufLen b prec : Nat) (sci : Bool) (rest : Bytes) (hfin : F64.isFinite b = true)
    (hfull : (C01P.rawText bufLen b prec sci).length ≤ bufLen - 4)
    (hf : FollowOK delim rest) (bol : Bool) :
    next Generated.scanner 0 bol (formatDouble bufLen b prec sci ++ rest) =
      some (37, (formatDouble bufLen b prec sci).length) :=
  (lex_float (formatDouble_lit bufLen b prec sci hfin hfull)).next bol rest hf

/-- … and that text has the shape `-?digits(.digits)?(e±digits)?` with a point or an exponent -/
theorem C01_float_literal (bufLen b prec : Nat) (sci : Bool) (hfin : F64.isFinite b = true)
    (hfull : (C01P.rawText bufLen b prec sci).length ≤ bufLen - 4) :
    FloatLit (formatDouble bufLen b prec sci) :=
  formatDouble_lit bufLen b prec sci hfin hfull

/-- the single-character tokens `= : , { } [ ] ( ) ;` and the newline: whatever follows -/
theorem C01_lex_punct (ch : Nat) (h : isPunct ch = true) (rest : Bytes)
    (hf : FollowOK (fun _ => true) rest) (bol : Bool) :
    next Generated.scanner 0 bol ([ch] ++ rest) = some (punctRule ch, 1) :=
  (lex_punct ch h).next bol rest hf

/-- white space: a run of blanks and tabs is one lexeme of rule 29 (action: nothing), provided
the next byte is neither a blank nor `@` (at the beginning of a line `[ \t]*@include` competes) -/
theorem C01_lex_ws (b rest : Bytes) (hne : b ≠ []) (hb : ∀ x ∈ b, isBlank x = true)
    (hf : FollowOK blankFollow rest) (bol : Bool) :
    next Generated.scanner 0 bol (b ++ rest) = some (29, b.length) :=
  (lex_blank b hne hb).next bol rest hf

/-! ## Finding: a member named `true` / `false` is not read back as a name

`config_setting_add` accepts the name `true` (it passes `__config_validate_name`), the writer
prints it verbatim, and the scanner reads it as a boolean literal (rule 34 precedes rule 36):
the written file does not parse back.  This is why `LexOK` excludes such names. -/

/-- **the finding, in general**: a valid name that spells `true` / `false` in any mixture of
cases, printed as a name item and followed by the blank the writer puts there, makes `yylex`
return TOK_BOOLEAN — whereas the item denotes TOK_NAME with that spelling -/
theorem C01_boolword_name_is_boolean {K : Ctx} (w : World) (ic : IncludeCfg) (nm rest : Bytes)
    (hv : validName nm = true) (hb : isBoolWord nm = true) (hf : FollowOK delim rest)
    (s : ScanState) (hs : Ready K s ((WTok.name nm).bytes ++ rest)) :
    (WTok.name nm).token Generated.tokens = some (Generated.tokens.name, { sval := nm }) ∧
    ∃ s' v, Ready K s' rest ∧ ∀ f, yylex Generated.scanner Generated.scanActions w ic (f + 1) s =
      (s', .tok Generated.tokens.boolean { ival := v }) := by
  obtain ⟨t, ht⟩ := isBoolWord_iff.mp hb
  have hl := (lex_boolword t nm hv ht).weaken delim_nameFollow
  have ha : actOut (acts.getD (boolRule t) .unknown) (advance T s (boolRule t) nm.length) nm =
      some (advance T s (boolRule t) nm.length,
        tokOut (some (Generated.tokens.boolean, { ival := if t then 1 else 0 }))) := by
    cases t <;> rfl
  exact ⟨rfl, _, _, hs.adv _, yylex_lexeme w ic hl hf hs.sc hs.rest ha⟩

/-- the item `name "true"` is read as TOK_BOOLEAN with value 1, not as TOK_NAME -/
theorem C01_name_true_is_boolean {K : Ctx} (w : World) (ic : IncludeCfg) (rest : Bytes) (hf : FollowOK delim rest)
    (s : ScanState) (hs : Ready K s ((WTok.name [116, 114, 117, 101]).bytes ++ rest)) :
    ∃ s', ∀ f, yylex Generated.scanner Generated.scanActions w ic (f + 1) s =
      (s', .tok Generated.tokens.boolean { ival := 1 }) := by
  obtain ⟨s', _, hy⟩ := yylex_item₁ w ic (.bool true) trivial rfl rest hf s
    (by rw [bool_bytes]; exact hs)
  exact ⟨s', hy⟩

/-! ## Non-vacuity: concrete instances, evaluated by the kernel -/

/-- a configuration with every kind of value: negative decimal int, hexadecimal 64-bit int, a
name that starts like a keyword (`truex`), a boolean, a string with a quote, a newline, a
control character, a byte ≥ 128 and a backslash, two floats (1.5 and DBL_MAX), a list holding
an int, an array and a group whose member `*-` has a NULL string -/
def sample : Config :=
  { root := { ty := T_GROUP, kids := [
      { name := some [97], ty := T_INT, ival := -255 },
      { name := some [116, 114, 117, 101, 120], ty := T_INT64, ival := 4294967296, fmt := FMT_HEX },
      { name := some [98], ty := T_BOOL, ival := 1 },
      { name := some [115], ty := T_STRING, sval := some [104, 105, 34, 10, 7, 200, 92] },
      { name := some [102], ty := T_FLOAT, fval := 0x3FF8000000000000 },
      { name := some [103], ty := T_FLOAT, fval := 0x7FEFFFFFFFFFFFFF },
      { name := some [108], ty := T_LIST, kids := [
          { ty := T_INT, ival := 0 },
          { ty := T_ARRAY, kids := [{ ty := T_BOOL, ival := 0 }, { ty := T_BOOL, ival := 1 }] },
          { ty := T_GROUP, kids := [{ name := some [42, 45], ty := T_STRING, sval := none }] } ] } ] } }

/-- the same tree written with scientific notation allowed, precision 3, tabs, no `;`, `=` only,
brace on the same line -/
def sample2 : Config := { sample with options := 0x20, tabWidth := 0, floatPrecision := 3 }

/-- repeated `yylex` until something other than a token is returned (at most `n` tokens) -/
def lexAll (w : World) (ic : IncludeCfg) (fuel : Nat) : Nat → ScanState → List (Nat × TokVal)
  | 0, _ => []
  | n + 1, s =>
    match yylex Generated.scanner Generated.scanActions w ic fuel s with
    | (s', .tok t v) => (t, v) :: lexAll w ic fuel n s'
    | _ => []

def tokBeq : List (Nat × TokVal) → List (Nat × TokVal) → Bool
  | [], [] => true
  | (t, v) :: a, (t', v') :: b =>
    Nat.beq t t' && decide (v.ival = v'.ival) && Nat.beq v.fval v'.fval && v.sval == v'.sval && tokBeq a b
  | _, _ => false

-- the hypothesis of `C01_lex_items` holds for both …
example : LexOK 341 sample = true := by decide +kernel
example : LexOK 341 sample2 = true := by decide +kernel
example : sample.opt OPT_SCIENTIFIC = false ∧ sample.floatPrecision ≤ 26 ∧ LexOKfin sample = true ∧
    Generated.FLOAT_BUF_SIZE = 341 := by decide +kernel
-- … the conclusion is about 43 tokens and 440 (resp. 214) bytes …
example : (tokensOfConfig Generated.tokens 341 sample).length = 43 ∧ (sample.write 341).length = 440 := by
  decide +kernel
-- … and running the scanner model on the written bytes gives exactly those tokens
example : tokBeq (lexAll {} { fn := 0, dir := none } 441 100 (initScan (sample.write 341)))
    (tokensOfConfig Generated.tokens 341 sample) = true := by decide +kernel
example : tokBeq (lexAll {} { fn := 0, dir := none } 441 100 (initScan (sample2.write 341)))
    (tokensOfConfig Generated.tokens 341 sample2) = true := by decide +kernel
-- a root that is not what `config_init` makes (a named list): still covered
def sampleOdd : Config :=
  { root := { name := some [114], ty := T_LIST, kids := [{ ty := T_INT, ival := 7 }, { ty := T_GROUP }] } }
example : LexOK 341 sampleOdd = true ∧
    sampleOdd.write 341 = [114, 32, 61, 32, 40, 32, 55, 44, 32, 10, 123, 10, 125, 32, 41] := by decide +kernel
example : tokBeq (lexAll {} { fn := 0, dir := none } 16 100 (initScan (sampleOdd.write 341)))
    (tokensOfConfig Generated.tokens 341 sampleOdd) = true ∧
    (tokensOfConfig Generated.tokens 341 sampleOdd).length = 8 := by decide +kernel
-- the first tokens: NAME `a`, `=`, INTEGER -255, `;`
example : (tokensOfConfig Generated.tokens 341 sample).take 4 =
    [(265, { sval := [97] }), (266, {}), (259, { ival := -255 }), (275, {})] := by decide +kernel

-- single items: hypotheses satisfiable, conclusions as stated
example : GoodTok (.name [116, 114, 117, 101, 120]) := by
  refine ⟨?_, ?_⟩ <;> decide
example : next Generated.scanner 0 true ([116, 114, 117, 101, 120] ++ [32, 61]) = some (36, 5) := by
  decide +kernel
example : GoodTok (.int 64 (-1) true) := .inr ⟨rfl, by decide⟩
example : (WTok.int 64 (-1) true).bytes =
    [48, 120, 70, 70, 70, 70, 70, 70, 70, 70, 70, 70, 70, 70, 70, 70, 70, 70, 76] := by decide +kernel
example : next Generated.scanner 0 false ((WTok.int 64 (-1) true).bytes ++ [59, 10]) = some (41, 19) := by
  decide +kernel
example : F64.isFinite 0x3FF8000000000000 = true ∧
    (C01P.rawText 341 0x3FF8000000000000 6 false).length ≤ 341 - 4 ∧
    formatDouble 341 0x3FF8000000000000 6 false = [49, 46, 53] := by decide +kernel
example : next Generated.scanner 0 false ([49, 46, 53] ++ [44, 32]) = some (37, 3) := by decide +kernel
-- without a delimiter the lexeme would be longer: `1.5` followed by `e3` is one float
example : next Generated.scanner 0 false ([49, 46, 53] ++ [101, 51]) = some (37, 5) := by decide +kernel
-- a blank run at the beginning of a line followed by `@` is not delimited (hence `blankFollow`)
example : next Generated.scanner 0 true ([32, 32] ++ [64, 105]) = some (29, 2) := by decide +kernel
example : next Generated.scanner 0 true
    ([32, 32] ++ [64, 105, 110, 99, 108, 117, 100, 101, 32, 34]) = some (22, 12) := by decide +kernel
-- a string literal: `"a\"\x01b"` is read in 6 steps as the 4 bytes a " ^A b
example : (WTok.str [97, 34, 1, 98]).bytes = [34, 97, 92, 34, 92, 120, 48, 49, 98, 34] := by decide
example : tokBeq (lexAll {} { fn := 0, dir := none } 6 1 (initScan ((WTok.str [97, 34, 1, 98]).bytes ++ [59])))
    [(264, { sval := [97, 34, 1, 98] })] = true := by decide +kernel

-- the finding, end to end: a member named `true` is accepted by the API's name check and
-- written verbatim, `LexOK` rejects it, and the scanner returns BOOLEAN 1 where the writer's
-- item denotes NAME `true`
def sampleTrue : Config :=
  { root := { ty := T_GROUP, kids := [{ name := some [116, 114, 117, 101], ty := T_INT, ival := 1 }] } }
example : validName [116, 114, 117, 101] = true := by decide
example : sampleTrue.write 341 = [116, 114, 117, 101, 32, 61, 32, 49, 59, 10] := by decide +kernel
example : LexOK 341 sampleTrue = false := by decide +kernel
example : (tokensOfConfig Generated.tokens 341 sampleTrue).take 1 = [(265, { sval := [116, 114, 117, 101] })] := by
  decide +kernel
example : tokBeq ((lexAll {} { fn := 0, dir := none } 20 100 (initScan (sampleTrue.write 341))).take 1)
    [(258, { ival := 1 })] = true := by decide +kernel
-- `False`, `TRUE` … are excluded as well
example : isBoolWord [70, 97, 108, 115, 69] = true := by decide
example : next Generated.scanner 0 true ([70, 97, 108, 115, 69] ++ [32]) = some (35, 5) := by decide +kernel

end Libconfig.C01Lex
