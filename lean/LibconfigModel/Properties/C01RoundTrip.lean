import LibconfigModel.Proofs.C01RoundTrip
/-
  C01RT — the write → read round trip, end to end.

  "A configuration written with `config_write` and read back with `config_read_string` /
  `config_read` / `config_read_file` yields the same settings: same names, order, types, values,
  formats."

  The two halves are proved elsewhere:
    Properties/C01Lex.lean    the scanner cuts the written bytes into exactly the tokens
                              `tokensOfConfig` (hypothesis `LexOK`);
    Properties/C01Parse.lean  fed with those tokens the parser accepts and rebuilds
                              `expectedRoot` (hypothesis `ParseOK`; lexing and "not out of fuel"
                              as explicit hypotheses);
    Properties/C03Term.lean   `8·|tokens| + 10` units of fuel suffice for the parser loop.
  This file composes them.  The glue is `C01_tokens_le_bytes`: the written form denotes at most
  as many tokens as it has bytes (every item the writer emits has at least one byte), so the
  single bound `fuel ≥ 8·|bytes| + 10` serves every `yylex` call (which needs `fuel > |bytes|`)
  and the parser loop.  No hypothesis on the world (files that `@include` could open do not
  matter: the written text contains no `@include`), none on the reading configuration `c₀`
  (its old tree, options, include directory, include function, error record), no `LexesTo`
  hypothesis and no proviso on the outcome remain.

  Hypotheses that do remain, and why they cannot go (findings of the two halves):
    `LexOK`    names that spell `true` / `false` are read as booleans (C01Lex, "Finding"; the
               example at the end of this file); settings of type NONE are written as `???`;
               string values must be NUL-free; float values must be finite and survive the
               `snprintf` limit — under the default float settings finiteness alone is enough
               (`C01_roundtrip_default`);
    `ParseOK`  well-formedness of the tree (C04) and nesting depth ≤ 1666: deeper trees exhaust
               the parser's stack (`C01Parse.C01_deep_nesting_exhausts`).

  Helpers: Proofs/C01RoundTrip.lean.
-/
namespace Libconfig.C01RoundTrip
open Libconfig C01L C01Parse

/-! ## The glue -/

/-- the written form of a configuration satisfying `LexOK` denotes at most as many tokens as it
has bytes -/
theorem C01_tokens_le_bytes (bufLen : Nat) (c : Config) (hl : LexOK bufLen c = true) :
    (tokensOfConfig Generated.tokens bufLen c).length ≤ (c.write bufLen).length :=
  C01RT.tokens_le_bytes bufLen c hl

/-- a good item is not empty; a good item sequence denotes at most as many tokens as it has
bytes -/
theorem C01_goodSeq_tokens_le_bytes (ts : List WTok) (hg : GoodSeq ts) :
    (toksOf ts).length ≤ (bytesOf ts).length :=
  C01RT.goodSeq_toks_le ts hg

/-! ## The round trip -/

/-- `__config_read` (the common core of the three read functions) on the written form, with any
top-level file name -/
theorem C01_roundtrip_readCore (bufLen : Nat) (c : Config) (hl : LexOK bufLen c = true)
    (hp : ParseOK c = true) (w : World) (c₀ : Config) (filename : Option Bytes) (fuel : Nat)
    (hfuel : fuel ≥ 8 * (c.write bufLen).length + 10) :
    let r := readCore w c₀ filename (c.write bufLen) fuel
    r.ok = true ∧ r.result = .accept ∧ stripPos r.cfg.root = expectedRoot bufLen c :=
  C01RT.readCore_written bufLen c hl hp w c₀ filename fuel hfuel

/-- **C01_roundtrip_string.**  `config_read_string(c₀, config_write(c))`: for every
configuration `c` satisfying `LexOK` and `ParseOK`, every world, every reading configuration
`c₀` and every fuel of at least `8·|written bytes| + 10`, the read succeeds
(`CONFIG_TRUE`, the parser accepts) and the tree it leaves is — source positions apart —
`expectedRoot bufLen c`. -/
theorem C01_roundtrip_string (bufLen : Nat) (c : Config) (hl : LexOK bufLen c = true)
    (hp : ParseOK c = true) (w : World) (c₀ : Config) (fuel : Nat)
    (hfuel : fuel ≥ 8 * (c.write bufLen).length + 10) :
    let r := read w c₀ (.string (c.write bufLen)) fuel
    r.ok = true ∧ r.result = .accept ∧ stripPos r.cfg.root = expectedRoot bufLen c := by
  show (readCore w c₀ none (cstr (c.write bufLen)) fuel).ok = true ∧
    (readCore w c₀ none (cstr (c.write bufLen)) fuel).result = .accept ∧
    stripPos (readCore w c₀ none (cstr (c.write bufLen)) fuel).cfg.root = expectedRoot bufLen c
  rw [C01Lex.C01_write_nul_free bufLen c hl]
  exact C01RT.readCore_written bufLen c hl hp w c₀ none fuel hfuel

/-- **C01_roundtrip_stream.**  `config_read` from a stream that holds the written form. -/
theorem C01_roundtrip_stream (bufLen : Nat) (c : Config) (hl : LexOK bufLen c = true)
    (hp : ParseOK c = true) (w : World) (c₀ : Config) (fuel : Nat)
    (hfuel : fuel ≥ 8 * (c.write bufLen).length + 10) :
    let r := read w c₀ (.stream (c.write bufLen)) fuel
    r.ok = true ∧ r.result = .accept ∧ stripPos r.cfg.root = expectedRoot bufLen c :=
  C01RT.readCore_written bufLen c hl hp w c₀ none fuel hfuel

/-- **C01_roundtrip_file.**  `config_read_file` of a file that holds the written form (the file
name becomes the current file of the scanner and the first entry of the file-name vector; the
tree is the same). -/
theorem C01_roundtrip_file (bufLen : Nat) (c : Config) (hl : LexOK bufLen c = true)
    (hp : ParseOK c = true) (w : World) (c₀ : Config) (path : Bytes)
    (hfile : w.open? path = some (c.write bufLen)) (fuel : Nat)
    (hfuel : fuel ≥ 8 * (c.write bufLen).length + 10) :
    let r := read w c₀ (.file path) fuel
    r.ok = true ∧ r.result = .accept ∧ stripPos r.cfg.root = expectedRoot bufLen c := by
  intro r
  show (read w c₀ (.file path) fuel).ok = true ∧ (read w c₀ (.file path) fuel).result = .accept ∧
    stripPos (read w c₀ (.file path) fuel).cfg.root = expectedRoot bufLen c
  rw [C09P.read_file w c₀ path _ fuel hfile]
  exact C01RT.readCore_written bufLen c hl hp w c₀ (some path) fuel hfuel

/-! ## … for the library's buffer and the default float notation

`config_write` formats floats in a buffer of `FLOAT_BUF_SIZE` = 341 bytes.  With
`CONFIG_OPTION_ALLOW_SCIENTIFIC_NOTATION` off (as `config_init` leaves it) and a float
precision of at most 26 (default 6) the float side conditions of `LexOK` reduce to finiteness:
`LexOKfin` asks for readable names (valid, not spelling `true` / `false`), integer values in
range, NUL-free strings, no setting of type NONE, finite floats. -/

/-- **C01_roundtrip_default.** -/
theorem C01_roundtrip_default (c : Config) (hsci : c.opt OPT_SCIENTIFIC = false)
    (hprec : c.floatPrecision ≤ 26) (hl : LexOKfin c = true) (hp : ParseOK c = true)
    (w : World) (c₀ : Config) (fuel : Nat)
    (hfuel : fuel ≥ 8 * (c.write Generated.FLOAT_BUF_SIZE).length + 10) :
    let r := read w c₀ (.string (c.write Generated.FLOAT_BUF_SIZE)) fuel
    r.ok = true ∧ r.result = .accept ∧
      stripPos r.cfg.root = expectedRoot Generated.FLOAT_BUF_SIZE c :=
  C01_roundtrip_string 341 c (lexOK_of_fin c hsci hprec hl) hp w c₀ fuel hfuel

theorem C01_roundtrip_default_stream (c : Config) (hsci : c.opt OPT_SCIENTIFIC = false)
    (hprec : c.floatPrecision ≤ 26) (hl : LexOKfin c = true) (hp : ParseOK c = true)
    (w : World) (c₀ : Config) (fuel : Nat)
    (hfuel : fuel ≥ 8 * (c.write Generated.FLOAT_BUF_SIZE).length + 10) :
    let r := read w c₀ (.stream (c.write Generated.FLOAT_BUF_SIZE)) fuel
    r.ok = true ∧ r.result = .accept ∧
      stripPos r.cfg.root = expectedRoot Generated.FLOAT_BUF_SIZE c :=
  C01_roundtrip_stream 341 c (lexOK_of_fin c hsci hprec hl) hp w c₀ fuel hfuel

theorem C01_roundtrip_default_file (c : Config) (hsci : c.opt OPT_SCIENTIFIC = false)
    (hprec : c.floatPrecision ≤ 26) (hl : LexOKfin c = true) (hp : ParseOK c = true)
    (w : World) (c₀ : Config) (path : Bytes)
    (hfile : w.open? path = some (c.write Generated.FLOAT_BUF_SIZE)) (fuel : Nat)
    (hfuel : fuel ≥ 8 * (c.write Generated.FLOAT_BUF_SIZE).length + 10) :
    let r := read w c₀ (.file path) fuel
    r.ok = true ∧ r.result = .accept ∧
      stripPos r.cfg.root = expectedRoot Generated.FLOAT_BUF_SIZE c :=
  C01_roundtrip_file 341 c (lexOK_of_fin c hsci hprec hl) hp w c₀ path hfile fuel hfuel

/-- `config_init` leaves exactly those settings, and the buffer size is 341 -/
example : Config.init.opt OPT_SCIENTIFIC = false ∧ Config.init.floatPrecision = 6 ∧
    Generated.FLOAT_BUF_SIZE = 341 := by decide +kernel

/-! ## What `expectedRoot` means: same names, order, types, values, formats

`Same bufLen c m m'` (Proofs/C01RoundTrip.lean) relates a written setting `m` to the setting `m'`
read back for it. -/
example (bufLen : Nat) (c : Config) (m m' : Node) : C01RT.Same bufLen c m m' ↔
    (m'.name = m.name ∧ m'.ty = m.ty ∧
     (m.isAggregate = true ∨ m.kids = [] → m'.kids.length = m.kids.length) ∧
     (m.ty = T_BOOL → m'.ival = if m.ival ≠ 0 then 1 else 0) ∧
     (m.ty = T_INT ∨ m.ty = T_INT64 → m'.ival = m.ival) ∧
     (m.ty = T_INT ∨ m.ty = T_INT64 →
        m'.fmt = if effFormat c m = FMT_HEX then FMT_HEX else FMT_DEFAULT) ∧
     (m.ty = T_FLOAT →
        m'.fval = F64.strtod (formatDouble bufLen m.fval c.floatPrecision (c.opt OPT_SCIENTIFIC))) ∧
     (m.ty = T_STRING → m'.sval = some (m.sval.getD [])) ∧
     (m.ty ≠ T_INT → m.ty ≠ T_INT64 → m'.fmt = 0) ∧
     (m.ty ≠ T_INT → m.ty ≠ T_INT64 → m.ty ≠ T_BOOL → m'.ival = 0) ∧
     (m.ty ≠ T_FLOAT → m'.fval = 0) ∧ (m.ty ≠ T_STRING → m'.sval = none) ∧ m'.hook = 0) :=
  ⟨fun h => ⟨h.name, h.ty, h.count, h.bool, h.int, h.fmt, h.float, h.string, h.fmtOther,
      h.ivalOther, h.fvalOther, h.svalOther, h.hook⟩,
   fun ⟨a, b, c, d, e, f, g, h, i, j, k, l, m⟩ => ⟨a, b, c, d, e, f, g, h, i, j, k, l, m⟩⟩

/-- the children of the expected form of a setting are the expected forms of its children, in
the same order -/
theorem C01_expected_children (bufLen : Nat) (c : Config) (n : Node) (hwf : n.WF) :
    (expectedNode bufLen c n).kids = n.kids.map (expectedNode bufLen c) :=
  C01RT.expectedNode_kids bufLen c n (C04.WF.localWF hwf).scalarNoKids

/-- the expected form of one setting: name, type, number of children, value and format -/
theorem C01_expected_setting (bufLen : Nat) (c : Config) (n : Node) (hwf : n.WF) :
    C01RT.Same bufLen c n (expectedNode bufLen c n) :=
  C01RT.same_expectedNode bufLen c n (C04.WF.localWF hwf).scalarNoKids

/-- **C01_expected_shape.**  Path by path: where the written tree has the setting `m` (at index
path `p`: the `p₀`-th child of the root, its `p₁`-th child, …), the expected tree has the expected
form of `m`, and where the written tree has nothing the expected tree has nothing.  So the two
trees have the same shape: the same number of children everywhere, in the same order. -/
theorem C01_expected_shape (bufLen : Nat) (c : Config) (hp : ParseOK c = true) (p : Path) :
    (expectedRoot bufLen c).get? p = (c.root.get? p).map (expectedNode bufLen c) :=
  C01RT.expectedNode_get? bufLen c p c.root (parseOK_spec hp).1.nodes

/-- … and at every path the setting of the expected tree has the name, type, number of children,
value and format that the documentation promises for the written one (`Same`). -/
theorem C01_expected_same (bufLen : Nat) (c : Config) (hp : ParseOK c = true) (p : Path)
    (m : Node) (hm : c.root.get? p = some m) :
    ∃ m', (expectedRoot bufLen c).get? p = some m' ∧ C01RT.Same bufLen c m m' := by
  have hwf : m.WF := C04.WF.get (parseOK_spec hp).1.nodes hm
  refine ⟨expectedNode bufLen c m, ?_, C01_expected_setting bufLen c m hwf⟩
  rw [C01_expected_shape bufLen c hp p, hm]
  rfl

/-- **C01_roundtrip_settings** — the round trip, setting by setting.  After
`config_read_string(c₀, config_write(c))`: at every index path `p`, the tree read back holds a
setting exactly where the written tree `c.root` holds one, and the two are `Same`: same name,
same type, same number of children (hence, with the paths, the same order), booleans as 0 / 1,
integers with their value and `FMT_HEX` exactly when the writer printed them in hexadecimal,
strings with their bytes (NULL as the empty string), floats with the value of the written text,
hook and the unused value fields as in a fresh setting. -/
theorem C01_roundtrip_settings (bufLen : Nat) (c : Config) (hl : LexOK bufLen c = true)
    (hp : ParseOK c = true) (w : World) (c₀ : Config) (fuel : Nat)
    (hfuel : fuel ≥ 8 * (c.write bufLen).length + 10) (p : Path) :
    let r := read w c₀ (.string (c.write bufLen)) fuel
    (c.root.get? p = none → r.cfg.root.get? p = none) ∧
    (∀ m, c.root.get? p = some m →
      ∃ m', r.cfg.root.get? p = some m' ∧ C01RT.Same bufLen c m m') := by
  intro r
  have hr : stripPos r.cfg.root = expectedRoot bufLen c :=
    (C01_roundtrip_string bufLen c hl hp w c₀ fuel hfuel).2.2
  have hget : (r.cfg.root.get? p).map stripPos = (c.root.get? p).map (expectedNode bufLen c) := by
    rw [← C01RT.stripPos_get?, hr, C01_expected_shape bufLen c hp p]
  refine ⟨fun hn => ?_, fun m hm => ?_⟩
  · rw [hn] at hget
    cases h : r.cfg.root.get? p with
    | none => rfl
    | some x => rw [h] at hget; cases hget
  · rw [hm] at hget
    cases h : r.cfg.root.get? p with
    | none => rw [h] at hget; cases hget
    | some m' =>
      rw [h] at hget
      simp only [Option.map_some, Option.some.injEq] at hget
      have hs := C01_expected_setting bufLen c m (C04.WF.get (parseOK_spec hp).1.nodes hm)
      rw [← hget] at hs
      obtain ⟨f1, f2, f3, f4, f5, f6, f7, f8⟩ := C01RT.stripPos_fields m'
      refine ⟨m', rfl, ?_⟩
      exact { name := f1 ▸ hs.name, ty := f2 ▸ hs.ty, count := fun h => f7 ▸ hs.count h,
              bool := fun h => f4 ▸ hs.bool h, int := fun h => f4 ▸ hs.int h,
              fmt := fun h => f3 ▸ hs.fmt h, float := fun h => f5 ▸ hs.float h,
              string := fun h => f6 ▸ hs.string h, fmtOther := fun a b => f3 ▸ hs.fmtOther a b,
              ivalOther := fun a b c => f4 ▸ hs.ivalOther a b c,
              fvalOther := fun h => f5 ▸ hs.fvalOther h,
              svalOther := fun h => f6 ▸ hs.svalOther h, hook := f8 ▸ hs.hook }

/-- the source positions, which `stripPos` erases, are the only thing the statement leaves
open -/
example (n : Node) : (stripPos n).name = n.name ∧ (stripPos n).ty = n.ty ∧ (stripPos n).fmt = n.fmt ∧
    (stripPos n).ival = n.ival ∧ (stripPos n).fval = n.fval ∧ (stripPos n).sval = n.sval ∧
    (stripPos n).kids.length = n.kids.length ∧ (stripPos n).hook = n.hook :=
  C01RT.stripPos_fields n

/-! ## Non-vacuity: concrete instances, evaluated by the kernel -/

/-- `C01Parse.exampleConfig`
```
a = 0x1F;
g :
{
  l = ( true, "x\"\n", ( ), 1.5 );
  v = [ 5L, -7L ];
};
z = "";
```
satisfies both hypotheses; its written form has 82 bytes and denotes 34 tokens -/
example : LexOK 341 exampleConfig = true ∧ ParseOK exampleConfig = true ∧
    (exampleConfig.write 341).length = 82 ∧
    (tokensOfConfig Generated.tokens 341 exampleConfig).length = 34 := by decide +kernel

/-- a reading configuration that is not fresh: an old tree, `ALLOW_OVERRIDES` and `AUTOCONVERT`
set, an include directory, an old error record -/
def oldConfig : Config :=
  { root := { ty := T_GROUP, kids := [{ name := some [97], ty := T_STRING, sval := some [120] }] },
    options := OPT_ALLOW_OVERRIDES ||| OPT_AUTOCONVERT, includeDir := some [47, 116, 109, 112],
    errType := ERR_PARSE, errLine := 3, errText := some [120] }

/-- a world in which files exist (one of them holding the written form) -/
def someWorld : World :=
  { files := [([105, 110, 99], some [120, 32, 61, 32, 49, 59]),
              ([102], some (exampleConfig.write 341))] }

/-- **`C01_roundtrip_string` applied**: all hypotheses discharged by the kernel; fuel
`8·82 + 10 = 666` -/
example :
    let r := read someWorld oldConfig (.string (exampleConfig.write 341)) 666
    r.ok = true ∧ r.result = .accept ∧ stripPos r.cfg.root = expectedRoot 341 exampleConfig :=
  C01_roundtrip_string 341 exampleConfig (by decide +kernel) (by decide +kernel) someWorld oldConfig
    666 (by decide +kernel)

/-- `C01_roundtrip_file` applied -/
example :
    let r := read someWorld oldConfig (.file [102]) 666
    r.ok = true ∧ r.result = .accept ∧ stripPos r.cfg.root = expectedRoot 341 exampleConfig :=
  C01_roundtrip_file 341 exampleConfig (by decide +kernel) (by decide +kernel) someWorld oldConfig
    [102] (by decide +kernel) 666 (by decide +kernel)

/-- `C01_roundtrip_default` applied (`LexOKfin`: the floats only need to be finite) -/
example :
    let r := read {} Config.init (.string (exampleConfig.write Generated.FLOAT_BUF_SIZE)) 1000
    r.ok = true ∧ r.result = .accept ∧
      stripPos r.cfg.root = expectedRoot Generated.FLOAT_BUF_SIZE exampleConfig :=
  C01_roundtrip_default exampleConfig (by decide +kernel) (by decide +kernel) (by decide +kernel)
    (by decide +kernel) {} Config.init 1000 (by decide +kernel)

/-- the conclusion is not trivial: the expected tree has 12 settings (`rows` lists them in document
order: name, type, format, integer value, float bits, string, number of children, hook, line,
file) — the hexadecimal format kept, the boolean 7 read back as 1, the NULL string as the empty
string — and the kernel, running `read` itself with that fuel, world and reading configuration,
finds the same tree -/
example :
    rows (expectedRoot 341 exampleConfig) =
      [⟨none, 1, 0, 0, 0, none, 3, 0, 0, none⟩,
       ⟨some [97], 2, 1, 31, 0, none, 0, 0, 0, none⟩,
       ⟨some [103], 1, 0, 0, 0, none, 2, 0, 0, none⟩,
       ⟨some [108], 8, 0, 0, 0, none, 4, 0, 0, none⟩,
       ⟨none, 6, 0, 1, 0, none, 0, 0, 0, none⟩,
       ⟨none, 5, 0, 0, 0, some [120, 34, 10], 0, 0, 0, none⟩,
       ⟨none, 8, 0, 0, 0, none, 0, 0, 0, none⟩,
       ⟨none, 4, 0, 0, 0x3FF8000000000000, none, 0, 0, 0, none⟩,
       ⟨some [118], 7, 0, 0, 0, none, 2, 0, 0, none⟩,
       ⟨none, 3, 0, 5, 0, none, 0, 0, 0, none⟩,
       ⟨none, 3, 0, -7, 0, none, 0, 0, 0, none⟩,
       ⟨some [122], 5, 0, 0, 0, some [], 0, 0, 0, none⟩] ∧
    rows (stripPos (read someWorld oldConfig (.string (exampleConfig.write 341)) 666).cfg.root) =
      rows (expectedRoot 341 exampleConfig) := by
  decide +kernel

/-- `C01_roundtrip_settings` at a path: the second element of the list `g.l` (path 1, 0, 1) is
the string `x"\n` in both trees; there is nothing at path 1, 0, 4 in either -/
example : (exampleConfig.root.get? [1, 0, 1]).map (·.sval) = some (some [120, 34, 10]) ∧
    ((read someWorld oldConfig (.string (exampleConfig.write 341)) 666).cfg.root.get? [1, 0, 1]).map
      (fun m => (m.ty, m.sval, m.line)) = some (T_STRING, some [120, 34, 10], 4) ∧
    (exampleConfig.root.get? [1, 0, 4]).isNone = true ∧
    ((read someWorld oldConfig (.string (exampleConfig.write 341)) 666).cfg.root.get? [1, 0, 4]).isNone =
      true := by
  decide +kernel

/-- the bound on the fuel is about the model only (its value is not observable: C03Term), but it
is needed: with too little fuel the model reports `.outOfFuel` -/
example : (read someWorld oldConfig (.string (exampleConfig.write 341)) 60).result = .outOfFuel := by
  decide +kernel

/-- **The excluded case is really excluded.**  `C01Lex.sampleTrue` — a group with a member named
`true` — is a well-formed configuration (`ParseOK`) that the API can build (the name passes
`__config_validate_name`); `LexOK` rejects it, and rightly so: its written form `true = 1;` does
not read back (the scanner returns BOOLEAN for the name, the parser reports a syntax error). -/
example : validName [116, 114, 117, 101] = true ∧ ParseOK C01Lex.sampleTrue = true ∧
    LexOK 341 C01Lex.sampleTrue = false ∧ LexOKfin C01Lex.sampleTrue = false ∧
    C01Lex.sampleTrue.write 341 = [116, 114, 117, 101, 32, 61, 32, 49, 59, 10] ∧
    (read {} Config.init (.string (C01Lex.sampleTrue.write 341)) 1000).ok = false ∧
    (read {} Config.init (.string (C01Lex.sampleTrue.write 341)) 1000).result = .abort := by
  decide +kernel

/-- the other hypothesis is needed as well: a tree that is not well-formed (an array holding a
group) satisfies `LexOK`, is written without complaint, and is rejected when read back -/
def badArray : Config :=
  { root := { ty := T_GROUP, kids := [{ name := some [97], ty := T_ARRAY, kids := [{ ty := T_GROUP }] }] } }

example : LexOK 341 badArray = true ∧ ParseOK badArray = false ∧
    (read {} Config.init (.string (badArray.write 341)) 1000).ok = false := by
  decide +kernel

end Libconfig.C01RoundTrip
