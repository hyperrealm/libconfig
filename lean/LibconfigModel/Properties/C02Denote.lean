import LibconfigModel.Denote
import LibconfigModel.Properties.C01Parse
import LibconfigModel.Properties.C02Complete
import LibconfigModel.Proofs.C02DenoteMain
import LibconfigModel.Proofs.C02DenoteDeep
import LibconfigModel.Proofs.C02DenoteLex
import LibconfigModel.Proofs.Bytes
/-
  C02D — "the parser builds exactly the configuration the text denotes".

  `Denote.lean` is a small recursive-descent reader of the documented grammar over the token
  sequence of a text: it answers with the setting tree the documentation promises, or with one
  of the three documented rejections.  This file states that `libconfig_yyparse` — the bison
  LALR(1) automaton over the TRANSLATED tables `Generated.parser`, with the semantic actions of
  lib/grammar.y operating on the API model (`config_setting_add`, `config_setting_set_*_elem`,
  `ALLOW_OVERRIDES`, the array element type check, the string accumulator of the parse context) —
  computes exactly that function of the tokens its scanner delivers:

      denote o toks = .ok t      →  yyparse accepts          ∧ the tree built is t (positions apart)
      denote o toks = .error k   →  yyparse returns 1 (abort) ∧ config_error_text is the text of k

  for every token sequence whose brackets are not nested deeper than `maxNesting` = 1665 (beyond
  that the parser's stack of `YYMAXDEPTH` = 10000 entries may overflow: "memory exhausted", see
  `C02D_deep_nesting_exhausts` — the choice made here is to RESTRICT the statement to such texts
  rather than to give the interpreter a fourth outcome), whatever the fuel of the model, as long
  as it does not run out; and with enough fuel the parser does return (`…_total`).

  Statements and examples only; the proof is in LibconfigModel/Proofs/C02Denote*.lean:
    C02DenoteStep    input with / without include errors and the scan state after every token,
                     runs that abort in a given scan state, shift / reduce / reduce-and-abort /
                     syntax-error iterations
    C02DenoteStatic  the kernel-evaluated facts about the compiled tables (beyond C01ParseStatic)
    C02DenoteSpec    unfolding lemmas and simple properties of the interpreter
    C02DenoteSem     what the grammar actions do (duplicates, overrides, strings, mismatches)
    C02DenoteSim     the building blocks of the simulation: the input as items, brackets, the
                     end of a setting, strings, scalars that are refused.  The simulation itself
                     is Proofs/C10ProvSim*.lean (induction on the fuel of the joint reading of
                     Proofs/DenoteJoint.lean): where the interpreter rejects, the loop aborts, with
                     the message, in the scan state after the token reported (this serves
                     Properties/C09Line.lean too); where it reads a value the loop arrives with
                     exactly the tree in place
    C02DenoteMain    the whole parse
    C02DenoteDeep    the deep text of the finding about the nesting bound
    C02DenoteLex     what the compiled scanner guarantees about NAME and TOK_ERROR tokens

  Hypotheses about the tokens:
    * no token is numbered 0 (0 is the end marker) — true of every run of the compiled scanner,
      `C02D_scanner_nonzero`, so the theorems for `theEnv` do not mention it;
    * a NAME token carries a valid setting name (`NamesValid`: `__config_validate_name`;
      otherwise `config_setting_add` fails and the parser reports "duplicate setting name" for a
      name that is merely malformed) — true of every run of the compiled scanner on bytes,
      `C02D_scanner_names`;
    * for the error TEXT: the scanner run contains no include error (`LexesToPlain`: an include
      error records its own message first, which then wins — `C02D_include_error_text`) — true
      of every run of the compiled scanner that delivers no TOK_ERROR, `C02D_plain_of_no_error`.
  `C02D_readCore_bytes` / `C02D_read_string_bytes` are the statements with these discharged.

  Findings: the order of offences of the LR parser (with its default reductions and one token
  of lookahead) is the reading order of the interpreter — no discrepancy; the statement is false
  without the nesting bound (`C02D_deep_nesting_exhausts`); the error text is not the denoted one
  when an include error has occurred (`C02D_include_error_text`).
-/
namespace Libconfig.C02Denote
open Libconfig Denote

/-! ### vocabulary -/

/-- the deepest bracket nesting for which the parser's stack (10000 entries) is large enough for
every shape of text: six entries per level in the worst case (a group that is not the first
member of its group: `setting_list NAME $@1 = { $@4`), at most seven more on top:
6·1665 + 7 < 10000.  (The same bound as `C01Parse.maxNesting` = 1666, which counts the root.) -/
def maxNesting : Nat := 1665

/-- no token is numbered 0 -/
def NonZero (toks : List (Nat × TokVal)) : Prop := ∀ tv ∈ toks, tv.1 ≠ 0

/-- every NAME token carries a valid setting name (true of every token the compiled scanner
returns for an input of bytes: `C02D_scanner_names`) -/
def NamesValid (toks : List (Nat × TokVal)) : Prop :=
  ∀ tv ∈ toks, tv.1 = Generated.tokens.name → validName tv.2.sval = true

/-- `C02.LexesTo` without include errors: calling `yylex` repeatedly from `s` returns the tokens
`toks` and then end of input, ending in `s'` -/
inductive LexesToPlain (E : ParserEnv) : ScanState → List (Nat × TokVal) → ScanState → Prop where
  | eof (s s' : ScanState) : yylex E.T E.sacts E.w E.ic E.lexFuel s = (s', .eof) →
      LexesToPlain E s [] s'
  | tok (s s₁ s' : ScanState) (t : Nat) (v : TokVal) (rest : List (Nat × TokVal)) :
      yylex E.T E.sacts E.w E.ic E.lexFuel s = (s₁, .tok t v) → LexesToPlain E s₁ rest s' →
      LexesToPlain E s ((t, v) :: rest) s'

theorem LexesToPlain.lexesTo {E : ParserEnv} {s s' : ScanState} {toks : List (Nat × TokVal)}
    (h : LexesToPlain E s toks s') : C02.LexesTo E s toks s' := by
  induction h with
  | eof s s' hy => exact .eof s s' hy
  | tok s s₁ s' t v rest hy _ ih => exact .tok s s₁ s' t v rest hy ih

/-- the tree without source positions (as in Properties/C01Parse.lean) -/
abbrev stripPos : Node → Node := C01Parse.stripPos

/-! ### the interpreter at work (evaluated by the kernel)

Each text is scanned by the compiled scanner (`lexText`), the tokens are handed to `denote`, and
the result is displayed as one row per setting in document order (`C01Parse.rows`). -/

/-- the tokens of a text (a C string, as `config_read_string` takes it), by the compiled scanner
(at most 200) -/
def lexTextIn (c₀ : Config) (text : Bytes) : Option (List (Nat × TokVal)) :=
  C01Parse.lexAll (theEnv {} c₀ 1000) 200 (C01Parse.readScanStart none (cstr text))

/-- … in the initial configuration -/
def lexText (text : Bytes) : Option (List (Nat × TokVal)) := lexTextIn Config.init text

/-- a decidable view of a result: the rows of the tree, or the error -/
inductive Shown where
  | ok (rows : List C01Parse.Row)
  | error (k : ErrKind)
deriving DecidableEq, Repr

def view : Result → Shown
  | .ok t => .ok (C01Parse.rows t)
  | .error k => .error k

/-- what the compiled scanner and the interpreter make of a text -/
def denoteText (o : Options) (text : Bytes) : Option Shown :=
  (lexText text).map fun toks => view (denote o toks)

/-- row of a setting: name, type, format, integer value, float bits, string value, number of
children -/
def row (name : Option Bytes) (ty fmt : Nat) (ival : Int) (fval : Nat) (sval : Option Bytes)
    (nkids : Nat) : C01Parse.Row :=
  ⟨name, ty, fmt, ival, fval, sval, nkids, 0, 0, none⟩

/-- 1. every kind of value, `=` and `:`, `;` `,` and no terminator, adjacent strings
concatenated, a hexadecimal literal (format `FMT_HEX`), a 64-bit literal, trailing and doubled
commas, nested empty aggregates:
```
a = 1; b : "x" "y", c = [1,2,,3,]
d = (1, (), {}, [], "s",); e = { f = 0x10; g = 2L }
``` -/
def text1 : Bytes := bytesOfString
  "a = 1; b : \"x\" \"y\", c = [1,2,,3,]\nd = (1, (), {}, [], \"s\",); e = { f = 0x10; g = 2L }"

example : denoteText {} text1 = some (.ok [
    row none T_GROUP 0 0 0 none 5,
    row (some [97]) T_INT 0 1 0 none 0,
    row (some [98]) T_STRING 0 0 0 (some [120, 121]) 0,
    row (some [99]) T_ARRAY 0 0 0 none 3,
    row none T_INT 0 1 0 none 0, row none T_INT 0 2 0 none 0, row none T_INT 0 3 0 none 0,
    row (some [100]) T_LIST 0 0 0 none 5,
    row none T_INT 0 1 0 none 0, row none T_LIST 0 0 0 none 0, row none T_GROUP 0 0 0 none 0,
    row none T_ARRAY 0 0 0 none 0, row none T_STRING 0 0 0 (some [115]) 0,
    row (some [101]) T_GROUP 0 0 0 none 2,
    row (some [102]) T_INT FMT_HEX 16 0 none 0,
    row (some [103]) T_INT64 0 2 0 none 0]) := by
  rw [text1, bytesOfString_ofList]; decide +kernel

/-- 2. the empty text denotes the empty configuration -/
example : denoteText {} [] = some (.ok [row none T_GROUP 0 0 0 none 0]) := by decide +kernel

/-- 3. a name used twice in a group: "duplicate setting name" … -/
def text3 : Bytes := bytesOfString "a = 1; b = 2; a = 3;"

example : denoteText {} text3 = some (.error .duplicateName) := by decide +kernel

/-- … unless overrides are allowed: the later setting replaces the earlier one and sits at the
end -/
example : denoteText { allowOverrides := true } text3 = some (.ok [
    row none T_GROUP 0 0 0 none 2,
    row (some [98]) T_INT 0 2 0 none 0,
    row (some [97]) T_INT 0 3 0 none 0]) := by decide +kernel

/-- the same name in different groups is no duplicate -/
example : denoteText {} (bytesOfString "a = { a = 1; }; b = ( { a = 2; } );") = some (.ok [
    row none T_GROUP 0 0 0 none 2,
    row (some [97]) T_GROUP 0 0 0 none 1, row (some [97]) T_INT 0 1 0 none 0,
    row (some [98]) T_LIST 0 0 0 none 1, row none T_GROUP 0 0 0 none 1,
    row (some [97]) T_INT 0 2 0 none 0]) := by decide +kernel

/-- 4. an array element of another type: "mismatched element type in array" (`1` and `2L`
differ, too) -/
example : denoteText {} (bytesOfString "a = [1, \"x\"];") = some (.error .arrayElemType) := by
  decide +kernel
example : denoteText {} (bytesOfString "a = [1, 2L];") = some (.error .arrayElemType) := by
  decide +kernel
/-- … but a list may mix types -/
example : denoteText {} (bytesOfString "a = (1, 2L, \"x\");") = some (.ok [
    row none T_GROUP 0 0 0 none 1, row (some [97]) T_LIST 0 0 0 none 3,
    row none T_INT 0 1 0 none 0, row none T_INT64 0 2 0 none 0,
    row none T_STRING 0 0 0 (some [120]) 0]) := by decide +kernel

/-- 5. syntax errors: a list that starts with a comma, a missing value, a stray bracket, a
group in an array, two terminators -/
example : denoteText {} (bytesOfString "a = (,1);") = some (.error .syntax) := by decide +kernel
example : denoteText {} (bytesOfString "a = ;") = some (.error .syntax) := by decide +kernel
example : denoteText {} (bytesOfString "a = 1; }") = some (.error .syntax) := by decide +kernel
example : denoteText {} (bytesOfString "a = [ { } ];") = some (.error .syntax) := by decide +kernel
example : denoteText {} (bytesOfString "a = 1;; b = 2;") = some (.error .syntax) := by decide +kernel

/-- 6. the first offence in reading order is reported: the duplicate name comes before the
missing `=`, the mismatching string before the wrong bracket; the syntax error before a later
duplicate -/
example : denoteText {} (bytesOfString "a = 1; a") = some (.error .duplicateName) := by
  decide +kernel
example : denoteText {} (bytesOfString "a = [1, \"x\" }") = some (.error .arrayElemType) := by
  decide +kernel
example : denoteText {} (bytesOfString "a = 1; b = ; a = 2;") = some (.error .syntax) := by
  decide +kernel

/-- The fuel of the interpreter is never used up: every step consumes a token, so any fuel above
the number of tokens gives the answer that `denote` (with one more than the number of tokens)
gives. -/
theorem C02D_denote_fuel (o : Options) (toks : List (Nat × TokVal)) (fuel : Nat)
    (h : toks.length < fuel) :
    settings o fuel [] (toks.map itemOf) = settings o (toks.length + 1) [] (toks.map itemOf) := by
  have := C02D.settings_fuel o fuel [] (toks.map itemOf) (by rw [List.length_map]; exact h)
  rw [List.length_map] at this
  exact this

/-! ### the theorems -/

open C02D in
theorem rawOK_of {toks : List (Nat × TokVal)} (h0 : NonZero toks) (hn : NamesValid toks) :
    RawOK toks := by
  intro tv htv
  refine ⟨h0 tv htv, fun s hs => ?_⟩
  obtain ⟨t, v⟩ := tv
  obtain ⟨h1, h2⟩ := itemOf_name hs
  rw [← h2]
  exact hn _ htv h1

open C02D in
/-- a complete run without include errors, with its scan states -/
theorem lexAt_of_plain {E : ParserEnv} {s s' : ScanState} {toks : List (Nat × TokVal)}
    (h : LexesToPlain E s toks s') :
    ∃ pos, pos (toks.length + 1) = s ∧ LexAt E true pos (toks ++ [C01PP.tEOF]) := by
  induction h with
  | eof s s' hy => exact ⟨fun n => if n = 0 then s' else s, rfl, .eof hy⟩
  | tok s s₁ s' t v rest hy _ ih =>
    obtain ⟨pos, hp, hl⟩ := ih
    obtain ⟨pos', h1, h2, hl'⟩ := hl.front s
    have hlen : (rest ++ [C01PP.tEOF]).length = rest.length + 1 := List.length_append
    rw [hlen] at h1 h2
    exact ⟨pos', h1, .tok t v (rest ++ [C01PP.tEOF]) (by rw [hlen, h1, h2, hp]; exact hy) hl'⟩

/-- **The text denotes a configuration ⇒ the parser accepts and has built it.**
Let `E` be a parser environment over the compiled parser tables and actions (any scanner, world
and include configuration: what matters is the token sequence the scanner delivers).  Let its
scanner, started in `s₀`, deliver the tokens `toks` and then end of input (include errors, handed
over as their error token, are allowed).  Let `ctx₀` be a parse context over a cleared
configuration as `__config_read` sets it up (the root an empty group, `ctx->parent` the root,
`ctx->string` empty), and `o` the options of that configuration that matter.  If the reference
interpreter reads `toks` as the tree `t`, then whatever `yyparse` returns with enough fuel is:
accept, with a tree that — source positions apart — is `t`. -/
theorem C02D_accept_env (E : ParserEnv) (hP : E.P = Generated.parser)
    (hA : E.acts = Generated.parseActions) (o : Options) (toks : List (Nat × TokVal))
    (h0 : NonZero toks) (hnames : NamesValid toks) (hnest : nesting toks ≤ maxNesting)
    (fuel : Nat) (s₀ s₁ s' : ScanState) (ctx₀ ctx' : ParseCtx) (r : ParseResult)
    (hlex : C02.LexesTo E s₀ toks s₁)
    (hroot : stripPos ctx₀.cfg.root = { ty := T_GROUP }) (hpar : ctx₀.parent = some [])
    (hstr : ctx₀.str = none) (hopt : ctx₀.cfg.opt OPT_ALLOW_OVERRIDES = o.allowOverrides)
    (h : yyparse E fuel s₀ ctx₀ = (s', ctx', r)) (hr : r ≠ .outOfFuel) (t : Node)
    (hd : denote o toks = .ok t) :
    r = .accept ∧ stripPos ctx'.cfg.root = t := by
  show _ ∧ C01Parse.stripPos _ = _
  rw [C01Parse.stripPos_pp]
  obtain ⟨pos, rfl, hl⟩ := C02D.lexAt_of_lexesTo hlex
  exact C02D.denote_ok_core ⟨hP, hA⟩ toks (rawOK_of h0 hnames) (C02D.nest_of hnest)
    hl (by rw [← C01Parse.stripPos_pp]; exact hroot) hpar hstr
    ⟨hopt, fun hp => by cases hp⟩ h hr hd

/-- **The text is rejected ⇒ the parser aborts with the denoted message.**  Under the
hypotheses of `C02D_accept_env`, with a scanner run without include errors and no error message
pending: if the reference interpreter rejects `toks` with the error `k` (the first offence in
reading order: a syntax error, a duplicate setting name, a mismatched array element), then
whatever `yyparse` returns with enough fuel is: 1 (`YYABORT`, resp. the abort after a syntax
error), with `config_error_text` = the text of `k`. -/
theorem C02D_error_env (E : ParserEnv) (hP : E.P = Generated.parser)
    (hA : E.acts = Generated.parseActions) (o : Options) (toks : List (Nat × TokVal))
    (h0 : NonZero toks) (hnames : NamesValid toks) (hnest : nesting toks ≤ maxNesting)
    (fuel : Nat) (s₀ s₁ s' : ScanState) (ctx₀ ctx' : ParseCtx) (r : ParseResult)
    (hlex : LexesToPlain E s₀ toks s₁)
    (hroot : stripPos ctx₀.cfg.root = { ty := T_GROUP }) (hpar : ctx₀.parent = some [])
    (hstr : ctx₀.str = none) (hopt : ctx₀.cfg.opt OPT_ALLOW_OVERRIDES = o.allowOverrides)
    (herr : ctx₀.cfg.errText = none)
    (h : yyparse E fuel s₀ ctx₀ = (s', ctx', r)) (hr : r ≠ .outOfFuel) (k : ErrKind)
    (hd : denote o toks = .error k) :
    r = .abort ∧ ctx'.cfg.errText = some k.text := by
  obtain ⟨pos, rfl, hl⟩ := lexAt_of_plain hlex
  have := C02D.denote_error_core ⟨hP, hA⟩ toks (rawOK_of h0 hnames) (C02D.nest_of hnest)
    hl (by rw [← C01Parse.stripPos_pp]; exact hroot) hpar hstr
    ⟨hopt, fun _ => herr⟩ h hr hd
  exact ⟨this.1, this.2 rfl⟩

/-- … and when include errors may occur (and whatever message is pending), the parser still
aborts; only the text is not determined by `toks` alone (`C02D_include_error_text`). -/
theorem C02D_rejects_env (E : ParserEnv) (hP : E.P = Generated.parser)
    (hA : E.acts = Generated.parseActions) (o : Options) (toks : List (Nat × TokVal))
    (h0 : NonZero toks) (hnames : NamesValid toks) (hnest : nesting toks ≤ maxNesting)
    (fuel : Nat) (s₀ s₁ s' : ScanState) (ctx₀ ctx' : ParseCtx) (r : ParseResult)
    (hlex : C02.LexesTo E s₀ toks s₁)
    (hroot : stripPos ctx₀.cfg.root = { ty := T_GROUP }) (hpar : ctx₀.parent = some [])
    (hstr : ctx₀.str = none) (hopt : ctx₀.cfg.opt OPT_ALLOW_OVERRIDES = o.allowOverrides)
    (h : yyparse E fuel s₀ ctx₀ = (s', ctx', r)) (hr : r ≠ .outOfFuel) (k : ErrKind)
    (hd : denote o toks = .error k) :
    r = .abort := by
  obtain ⟨pos, rfl, hl⟩ := C02D.lexAt_of_lexesTo hlex
  exact (C02D.denote_error_core ⟨hP, hA⟩ toks (rawOK_of h0 hnames) (C02D.nest_of hnest)
    hl (by rw [← C01Parse.stripPos_pp]; exact hroot) hpar hstr
    ⟨hopt, fun hp => by cases hp⟩ h hr hd).1

/-- the compiled scanner never returns the token number 0 -/
theorem C02D_scanner_nonzero (w : World) (c : Config) (lexFuel : Nat) (s s' : ScanState)
    (toks : List (Nat × TokVal)) (h : C02.LexesTo (theEnv w c lexFuel) s toks s') : NonZero toks := by
  have hnz := C02P.tokNZ_theEnv w c lexFuel
  have k0 : ∀ t, translateTok (theEnv w c lexFuel).P t ≠ 0 → t ≠ 0 := by
    intro t ht h0
    subst h0
    exact ht C01PP.kind_eof
  induction h with
  | eof s s' hy => intro tv h; cases h
  | tok s s₁ s' t v rest hy _ ih =>
    intro tv htv
    rcases List.mem_cons.mp htv with rfl | htv
    · exact k0 _ ((hnz s s₁).1 t v hy)
    · exact ih tv htv
  | incl s s₁ s' t text file line rest hy _ ih =>
    intro tv htv
    rcases List.mem_cons.mp htv with rfl | htv
    · exact k0 _ ((hnz s s₁).2 t text file line hy)
    · exact ih tv htv

/-- **C02D (accepting direction)** for the compiled scanner and parser: `theEnv w c₀ lexFuel`
with any world and any reading configuration `c₀`. -/
theorem C02D_accept (w : World) (c₀ : Config) (lexFuel : Nat) (o : Options)
    (toks : List (Nat × TokVal)) (hnames : NamesValid toks) (hnest : nesting toks ≤ maxNesting)
    (fuel : Nat) (s₀ s₁ s' : ScanState) (ctx₀ ctx' : ParseCtx) (r : ParseResult)
    (hlex : C02.LexesTo (theEnv w c₀ lexFuel) s₀ toks s₁)
    (hroot : stripPos ctx₀.cfg.root = { ty := T_GROUP }) (hpar : ctx₀.parent = some [])
    (hstr : ctx₀.str = none) (hopt : ctx₀.cfg.opt OPT_ALLOW_OVERRIDES = o.allowOverrides)
    (h : yyparse (theEnv w c₀ lexFuel) fuel s₀ ctx₀ = (s', ctx', r)) (hr : r ≠ .outOfFuel)
    (t : Node) (hd : denote o toks = .ok t) :
    r = .accept ∧ stripPos ctx'.cfg.root = t :=
  C02D_accept_env (theEnv w c₀ lexFuel) rfl rfl o toks
    (C02D_scanner_nonzero w c₀ lexFuel s₀ s₁ toks hlex) hnames hnest fuel s₀ s₁ s' ctx₀ ctx' r hlex
    hroot hpar hstr hopt h hr t hd

/-- **C02D (rejecting direction)** for the compiled scanner and parser. -/
theorem C02D_error (w : World) (c₀ : Config) (lexFuel : Nat) (o : Options)
    (toks : List (Nat × TokVal)) (hnames : NamesValid toks) (hnest : nesting toks ≤ maxNesting)
    (fuel : Nat) (s₀ s₁ s' : ScanState) (ctx₀ ctx' : ParseCtx) (r : ParseResult)
    (hlex : LexesToPlain (theEnv w c₀ lexFuel) s₀ toks s₁)
    (hroot : stripPos ctx₀.cfg.root = { ty := T_GROUP }) (hpar : ctx₀.parent = some [])
    (hstr : ctx₀.str = none) (hopt : ctx₀.cfg.opt OPT_ALLOW_OVERRIDES = o.allowOverrides)
    (herr : ctx₀.cfg.errText = none)
    (h : yyparse (theEnv w c₀ lexFuel) fuel s₀ ctx₀ = (s', ctx', r)) (hr : r ≠ .outOfFuel)
    (k : ErrKind) (hd : denote o toks = .error k) :
    r = .abort ∧ ctx'.cfg.errText = some k.text :=
  C02D_error_env (theEnv w c₀ lexFuel) rfl rfl o toks
    (C02D_scanner_nonzero w c₀ lexFuel s₀ s₁ toks hlex.lexesTo) hnames hnest fuel s₀ s₁ s' ctx₀
    ctx' r hlex hroot hpar hstr hopt herr h hr k hd

/-- **C02D, both directions in one statement**: the outcome of the parse is a function of the
tokens — the one `denote` computes. -/
theorem C02D_parse_denotes (w : World) (c₀ : Config) (lexFuel : Nat) (o : Options)
    (toks : List (Nat × TokVal)) (hnames : NamesValid toks) (hnest : nesting toks ≤ maxNesting)
    (fuel : Nat) (s₀ s₁ s' : ScanState) (ctx₀ ctx' : ParseCtx) (r : ParseResult)
    (hlex : LexesToPlain (theEnv w c₀ lexFuel) s₀ toks s₁)
    (hroot : stripPos ctx₀.cfg.root = { ty := T_GROUP }) (hpar : ctx₀.parent = some [])
    (hstr : ctx₀.str = none) (hopt : ctx₀.cfg.opt OPT_ALLOW_OVERRIDES = o.allowOverrides)
    (herr : ctx₀.cfg.errText = none)
    (h : yyparse (theEnv w c₀ lexFuel) fuel s₀ ctx₀ = (s', ctx', r)) (hr : r ≠ .outOfFuel) :
    match denote o toks with
    | .ok t => r = .accept ∧ stripPos ctx'.cfg.root = t
    | .error k => r = .abort ∧ ctx'.cfg.errText = some k.text := by
  cases hd : denote o toks with
  | ok t =>
    exact C02D_accept w c₀ lexFuel o toks hnames hnest fuel s₀ s₁ s' ctx₀ ctx' r hlex.lexesTo hroot
      hpar hstr hopt h hr t hd
  | error k =>
    exact C02D_error w c₀ lexFuel o toks hnames hnest fuel s₀ s₁ s' ctx₀ ctx' r hlex hroot hpar
      hstr hopt herr h hr k hd

/-! ### … and the parse does return -/

/-- Termination, accepting direction: there is a bound `N` such that with any fuel ≥ `N` the
parser returns: accept, with the denoted tree. -/
theorem C02D_accept_total (w : World) (c₀ : Config) (lexFuel : Nat) (o : Options)
    (toks : List (Nat × TokVal)) (hnames : NamesValid toks) (hnest : nesting toks ≤ maxNesting)
    (s₀ s₁ : ScanState) (ctx₀ : ParseCtx)
    (hlex : C02.LexesTo (theEnv w c₀ lexFuel) s₀ toks s₁)
    (hroot : stripPos ctx₀.cfg.root = { ty := T_GROUP }) (hpar : ctx₀.parent = some [])
    (hstr : ctx₀.str = none) (hopt : ctx₀.cfg.opt OPT_ALLOW_OVERRIDES = o.allowOverrides)
    (t : Node) (hd : denote o toks = .ok t) :
    ∃ N s' ctx', (∀ fuel, N ≤ fuel →
        yyparse (theEnv w c₀ lexFuel) fuel s₀ ctx₀ = (s', ctx', .accept)) ∧
      stripPos ctx'.cfg.root = t := by
  obtain ⟨pos, rfl, hl⟩ := C02D.lexAt_of_lexesTo hlex
  obtain ⟨N, s', ctx', h1, h2⟩ := C02D.denote_ok_total
    (C01PP.compiled_theEnv w c₀ lexFuel) toks
    (rawOK_of (C02D_scanner_nonzero w c₀ lexFuel _ s₁ toks hlex) hnames) (C02D.nest_of hnest)
    hl (by rw [← C01Parse.stripPos_pp]; exact hroot) hpar hstr
    ⟨hopt, fun hp => by cases hp⟩ hd
  refine ⟨N, s', ctx', h1, ?_⟩
  show C01Parse.stripPos _ = _
  rw [C01Parse.stripPos_pp]
  exact h2

/-- Termination, rejecting direction: there is a bound `N` such that with any fuel ≥ `N` the
parser returns 1. -/
theorem C02D_error_total (w : World) (c₀ : Config) (lexFuel : Nat) (o : Options)
    (toks : List (Nat × TokVal)) (hnames : NamesValid toks) (hnest : nesting toks ≤ maxNesting)
    (s₀ s₁ : ScanState) (ctx₀ : ParseCtx)
    (hlex : C02.LexesTo (theEnv w c₀ lexFuel) s₀ toks s₁)
    (hroot : stripPos ctx₀.cfg.root = { ty := T_GROUP }) (hpar : ctx₀.parent = some [])
    (hstr : ctx₀.str = none) (hopt : ctx₀.cfg.opt OPT_ALLOW_OVERRIDES = o.allowOverrides)
    (k : ErrKind) (hd : denote o toks = .error k) :
    ∃ N, ∀ fuel, N ≤ fuel → (yyparse (theEnv w c₀ lexFuel) fuel s₀ ctx₀).2.2 = .abort := by
  obtain ⟨pos, rfl, hl⟩ := C02D.lexAt_of_lexesTo hlex
  exact C02D.denote_error_total (C01PP.compiled_theEnv w c₀ lexFuel) toks
    (rawOK_of (C02D_scanner_nonzero w c₀ lexFuel _ s₁ toks hlex) hnames) (C02D.nest_of hnest)
    hl (by rw [← C01Parse.stripPos_pp]; exact hroot) hpar hstr
    ⟨hopt, fun hp => by cases hp⟩ hd

/-! ### `config_read_string` / `config_read` / `config_read_file` -/

theorem finish_errText (p : ScanState × ParseCtx × ParseResult) :
    (C09P.finish p).errText = p.2.1.cfg.errText :=
  C09P.finish_errText p

/-- **What `__config_read` answers** (the common core of the three read functions), with the
lexing as an explicit hypothesis: if the compiled scanner, started on the input, delivers the
tokens `toks` and then end of input, without include error, then the read — with enough fuel —
succeeds with the tree `denote` computes from `toks`, or fails with the message `denote`
computes, whatever the configuration `c₀` held before; only its option `ALLOW_OVERRIDES`
matters. -/
theorem C02D_readCore (w : World) (c₀ : Config) (filename : Option Bytes) (inp : Bytes)
    (fuel : Nat) (toks : List (Nat × TokVal)) (s₁ : ScanState)
    (hlex : LexesToPlain (theEnv w c₀ fuel) (C01Parse.readScanStart filename inp) toks s₁)
    (hnames : NamesValid toks) (hnest : nesting toks ≤ maxNesting)
    (hfuel : (readCore w c₀ filename inp fuel).result ≠ .outOfFuel) :
    match denote { allowOverrides := c₀.opt OPT_ALLOW_OVERRIDES } toks with
    | .ok t => (readCore w c₀ filename inp fuel).ok = true ∧
        (readCore w c₀ filename inp fuel).result = .accept ∧
        stripPos (readCore w c₀ filename inp fuel).cfg.root = t
    | .error k => (readCore w c₀ filename inp fuel).ok = false ∧
        (readCore w c₀ filename inp fuel).result = .abort ∧
        (readCore w c₀ filename inp fuel).cfg.errText = some k.text := by
  obtain ⟨s', ctx', r, hp, hres, hok, hcfg⟩ := C09P.readCore_parse w c₀ filename inp fuel
  rw [hres] at hfuel
  rw [hok, hres, hcfg, C09P.finish_root, finish_errText]
  have h := C02D_parse_denotes w c₀ fuel { allowOverrides := c₀.opt OPT_ALLOW_OVERRIDES } toks
    hnames hnest fuel (C01Parse.readScanStart filename inp) s₁ s'
    { cfg := C09P.start c₀ filename } ctx' r hlex rfl rfl rfl rfl rfl hp hfuel
  cases hd : denote { allowOverrides := c₀.opt OPT_ALLOW_OVERRIDES } toks <;> rw [hd] at h <;>
    exact ⟨by rw [h.1]; rfl, h.1, h.2⟩

/-- `config_read_string` -/
theorem C02D_read_string (w : World) (c₀ : Config) (text : Bytes) (fuel : Nat)
    (toks : List (Nat × TokVal)) (s₁ : ScanState)
    (hlex : LexesToPlain (theEnv w c₀ fuel) (C01Parse.readScanStart none (cstr text)) toks s₁)
    (hnames : NamesValid toks) (hnest : nesting toks ≤ maxNesting)
    (hfuel : (read w c₀ (.string text) fuel).result ≠ .outOfFuel) :
    match denote { allowOverrides := c₀.opt OPT_ALLOW_OVERRIDES } toks with
    | .ok t => (read w c₀ (.string text) fuel).ok = true ∧
        (read w c₀ (.string text) fuel).result = .accept ∧
        stripPos (read w c₀ (.string text) fuel).cfg.root = t
    | .error k => (read w c₀ (.string text) fuel).ok = false ∧
        (read w c₀ (.string text) fuel).result = .abort ∧
        (read w c₀ (.string text) fuel).cfg.errText = some k.text :=
  C02D_readCore w c₀ none (cstr text) fuel toks s₁ hlex hnames hnest hfuel

/-- `config_read` from a stream -/
theorem C02D_read_stream (w : World) (c₀ : Config) (content : Bytes) (fuel : Nat)
    (toks : List (Nat × TokVal)) (s₁ : ScanState)
    (hlex : LexesToPlain (theEnv w c₀ fuel) (C01Parse.readScanStart none content) toks s₁)
    (hnames : NamesValid toks) (hnest : nesting toks ≤ maxNesting)
    (hfuel : (read w c₀ (.stream content) fuel).result ≠ .outOfFuel) :
    match denote { allowOverrides := c₀.opt OPT_ALLOW_OVERRIDES } toks with
    | .ok t => (read w c₀ (.stream content) fuel).ok = true ∧
        (read w c₀ (.stream content) fuel).result = .accept ∧
        stripPos (read w c₀ (.stream content) fuel).cfg.root = t
    | .error k => (read w c₀ (.stream content) fuel).ok = false ∧
        (read w c₀ (.stream content) fuel).result = .abort ∧
        (read w c₀ (.stream content) fuel).cfg.errText = some k.text :=
  C02D_readCore w c₀ none content fuel toks s₁ hlex hnames hnest hfuel

/-- `config_read_file` of a readable file -/
theorem C02D_read_file (w : World) (c₀ : Config) (path content : Bytes) (fuel : Nat)
    (toks : List (Nat × TokVal)) (s₁ : ScanState) (hfile : w.open? path = some content)
    (hlex : LexesToPlain (theEnv w c₀ fuel) (C01Parse.readScanStart (some path) content) toks s₁)
    (hnames : NamesValid toks) (hnest : nesting toks ≤ maxNesting)
    (hfuel : (read w c₀ (.file path) fuel).result ≠ .outOfFuel) :
    match denote { allowOverrides := c₀.opt OPT_ALLOW_OVERRIDES } toks with
    | .ok t => (read w c₀ (.file path) fuel).ok = true ∧
        (read w c₀ (.file path) fuel).result = .accept ∧
        stripPos (read w c₀ (.file path) fuel).cfg.root = t
    | .error k => (read w c₀ (.file path) fuel).ok = false ∧
        (read w c₀ (.file path) fuel).result = .abort ∧
        (read w c₀ (.file path) fuel).cfg.errText = some k.text := by
  rw [C09P.read_file w c₀ path content fuel hfile] at hfuel ⊢
  exact C02D_readCore w c₀ (some path) content fuel toks s₁ hlex hnames hnest hfuel

/-! ### the side conditions, discharged for reads of bytes

For the compiled scanner the hypotheses `NamesValid` and `LexesToPlain` need not be assumed:
if the input and the files of the world hold bytes (`C03P.ScanOK`, `C03P.WorldOK`), every NAME
token carries a valid name (the rule that returns NAME matches `[A-Za-z\*][-A-Za-z0-9_\*]*`,
no other rule returns NAME — from the bisimulation of the flex tables with the documented
rules, Properties/C18.lean); and a token sequence without TOK_ERROR was delivered without
include error (an include error is handed over as TOK_ERROR). -/

/-- the compiled scanner returns NAME only with a valid setting name -/
theorem C02D_scanner_names (w : World) (hw : C03P.WorldOK w) (c : Config) (lexFuel : Nat)
    (s s' : ScanState) (toks : List (Nat × TokVal)) (hs : C03P.ScanOK s)
    (h : C02.LexesTo (theEnv w c lexFuel) s toks s') : NamesValid toks :=
  C02D.lexes_namesValid w hw c lexFuel s toks s' h hs

/-- a token sequence without TOK_ERROR was delivered without include error -/
theorem C02D_plain_of_no_error (w : World) (c : Config) (lexFuel : Nat) (s s' : ScanState)
    (toks : List (Nat × TokVal)) (h : C02.LexesTo (theEnv w c lexFuel) s toks s')
    (hne : ∀ tv ∈ toks, tv.1 ≠ Generated.tokens.error) :
    LexesToPlain (theEnv w c lexFuel) s toks s' := by
  induction h with
  | eof s s' hy => exact .eof s s' hy
  | tok s s₁ s' t v rest hy _ ih =>
    exact .tok s s₁ s' t v rest hy (ih (fun tv htv => hne tv (List.mem_cons_of_mem _ htv)))
  | incl s s₁ s' t text file line rest hy _ _ =>
    exfalso
    have hk := C02C.inclKind_theEnv w c lexFuel _ _ _ _ _ _ hy
    exact hne (t, {}) List.mem_cons_self (C02D.kind22_error t hk)

/-- the scan state `__config_read` starts from is well-formed when the input holds bytes -/
theorem scanOK_start (filename : Option Bytes) (inp : Bytes) (hb : C03P.BytesOK inp) :
    C03P.ScanOK (C01Parse.readScanStart filename inp) :=
  ⟨Nat.zero_lt_succ _, hb, fun f hf => by cases hf⟩

/-- **`__config_read` on bytes**: `C02D_readCore` with the side conditions on names and include
errors replaced by "the input and the files of the world hold bytes" and "no token is
TOK_ERROR". -/
theorem C02D_readCore_bytes (w : World) (hw : C03P.WorldOK w) (c₀ : Config)
    (filename : Option Bytes) (inp : Bytes) (hb : C03P.BytesOK inp) (fuel : Nat)
    (toks : List (Nat × TokVal)) (s₁ : ScanState)
    (hlex : C02.LexesTo (theEnv w c₀ fuel) (C01Parse.readScanStart filename inp) toks s₁)
    (hne : ∀ tv ∈ toks, tv.1 ≠ Generated.tokens.error) (hnest : nesting toks ≤ maxNesting)
    (hfuel : (readCore w c₀ filename inp fuel).result ≠ .outOfFuel) :
    match denote { allowOverrides := c₀.opt OPT_ALLOW_OVERRIDES } toks with
    | .ok t => (readCore w c₀ filename inp fuel).ok = true ∧
        (readCore w c₀ filename inp fuel).result = .accept ∧
        stripPos (readCore w c₀ filename inp fuel).cfg.root = t
    | .error k => (readCore w c₀ filename inp fuel).ok = false ∧
        (readCore w c₀ filename inp fuel).result = .abort ∧
        (readCore w c₀ filename inp fuel).cfg.errText = some k.text :=
  C02D_readCore w c₀ filename inp fuel toks s₁
    (C02D_plain_of_no_error w c₀ fuel _ _ toks hlex hne)
    (C02D_scanner_names w hw c₀ fuel _ _ toks (scanOK_start filename inp hb) hlex) hnest hfuel

/-- `config_read_string` on a string of bytes -/
theorem C02D_read_string_bytes (w : World) (hw : C03P.WorldOK w) (c₀ : Config) (text : Bytes)
    (hb : C03P.BytesOK text) (fuel : Nat) (toks : List (Nat × TokVal)) (s₁ : ScanState)
    (hlex : C02.LexesTo (theEnv w c₀ fuel) (C01Parse.readScanStart none (cstr text)) toks s₁)
    (hne : ∀ tv ∈ toks, tv.1 ≠ Generated.tokens.error) (hnest : nesting toks ≤ maxNesting)
    (hfuel : (read w c₀ (.string text) fuel).result ≠ .outOfFuel) :
    match denote { allowOverrides := c₀.opt OPT_ALLOW_OVERRIDES } toks with
    | .ok t => (read w c₀ (.string text) fuel).ok = true ∧
        (read w c₀ (.string text) fuel).result = .accept ∧
        stripPos (read w c₀ (.string text) fuel).cfg.root = t
    | .error k => (read w c₀ (.string text) fuel).ok = false ∧
        (read w c₀ (.string text) fuel).result = .abort ∧
        (read w c₀ (.string text) fuel).cfg.errText = some k.text :=
  C02D_readCore_bytes w hw c₀ none (cstr text)
    (C03P.cstr_bytes hb) fuel toks s₁ hlex hne hnest hfuel

/-! ### the theorems at work (evaluated by the kernel)

The hypotheses of the theorems are satisfiable and their conclusions say something: for the
texts of the examples above the compiled scanner does deliver tokens without include error, the
tokens satisfy the side conditions, so the theorems apply and yield the outcome of the read; the
kernel, running `read` itself, finds the same. -/

theorem lexAll_plain {E : ParserEnv} : ∀ (n : Nat) (s : ScanState) (toks : List (Nat × TokVal)),
    C01Parse.lexAll E n s = some toks → ∃ s', LexesToPlain E s toks s'
  | 0, _, _, h => by cases h
  | n + 1, s, toks, h => by
    rw [C01Parse.lexAll] at h
    split at h
    · rename_i s' hy
      cases h
      exact ⟨s', .eof s s' hy⟩
    · rename_i s' t v hy
      cases hr : C01Parse.lexAll E n s' with
      | none => rw [hr] at h; cases h
      | some ts =>
        rw [hr] at h
        cases h
        obtain ⟨s'', hl⟩ := lexAll_plain n s' ts hr
        exact ⟨s'', .tok s s' s'' t v ts hy hl⟩
    · cases h

/-- the side conditions on the tokens, decidably -/
def checkToks (toks : List (Nat × TokVal)) : Bool :=
  toks.all (fun tv => tv.1 != Generated.tokens.name || validName tv.2.sval) &&
    decide (nesting toks ≤ maxNesting)

theorem checkToks_spec {toks : List (Nat × TokVal)} (h : checkToks toks = true) :
    NamesValid toks ∧ nesting toks ≤ maxNesting := by
  unfold checkToks at h
  simp only [Bool.and_eq_true, List.all_eq_true, Bool.or_eq_true, bne_iff_ne, ne_eq,
    decide_eq_true_eq] at h
  refine ⟨fun tv htv hn => ?_, h.2⟩
  rcases h.1 tv htv with h1 | h1
  · exact absurd hn h1
  · exact h1

/-- how the theorem `C02D_read_string` applies to a text whose scanning the kernel can carry
out -/
theorem read_string_of_lexText (c₀ : Config) (text : Bytes) (toks : List (Nat × TokVal))
    (hlex : lexTextIn c₀ text = some toks) (hck : checkToks toks = true)
    (hfuel : (read {} c₀ (.string text) 1000).result ≠ .outOfFuel) :
    match denote { allowOverrides := c₀.opt OPT_ALLOW_OVERRIDES } toks with
    | .ok t => (read {} c₀ (.string text) 1000).ok = true ∧
        (read {} c₀ (.string text) 1000).result = .accept ∧
        stripPos (read {} c₀ (.string text) 1000).cfg.root = t
    | .error k => (read {} c₀ (.string text) 1000).ok = false ∧
        (read {} c₀ (.string text) 1000).result = .abort ∧
        (read {} c₀ (.string text) 1000).cfg.errText = some k.text := by
  obtain ⟨s₁, hl⟩ := lexAll_plain 200 _ _ hlex
  obtain ⟨hn, hd⟩ := checkToks_spec hck
  exact C02D_read_string {} c₀ text 1000 toks s₁ hl hn hd hfuel

/-- The scan of text 1: the scanner delivers tokens, they meet the side conditions and `denote`
accepts them; and the read does not run out of fuel, succeeds and leaves settings with these
names.  One kernel check for all of it: within one check the kernel evaluates the scan and the
read once, however often they are mentioned. -/
theorem text1_facts :
    lexText text1 ≠ none ∧ (lexText text1).all checkToks = true ∧
    (lexText text1).all (fun toks => match denote {} toks with | .ok _ => true | .error _ => false)
      = true ∧
    (read {} Config.init (.string text1) 1000).result ≠ .outOfFuel ∧
    (read {} Config.init (.string text1) 1000).ok = true ∧
    (C01Parse.rows (stripPos (read {} Config.init (.string text1) 1000).cfg.root)).map (·.name) =
      [none, some [97], some [98], some [99], none, none, none, some [100], none, none, none, none,
       none, some [101], some [102], some [103]] := by
  rw [text1, bytesOfString_ofList]; decide +kernel

/-- text 1 (accepted): the theorem applies … -/
theorem example1 : ∃ toks, lexText text1 = some toks ∧
    (read {} Config.init (.string text1) 1000).ok = true ∧
    view (denote {} toks) =
      .ok (C01Parse.rows (stripPos (read {} Config.init (.string text1) 1000).cfg.root)) := by
  obtain ⟨hsome, hck, hok, hfuel, -⟩ := text1_facts
  cases hl : lexText text1 with
  | none => exact absurd hl hsome
  | some toks =>
    rw [hl] at hck hok
    have h := read_string_of_lexText Config.init text1 toks hl hck hfuel
    have ho : ({ allowOverrides := Config.init.opt OPT_ALLOW_OVERRIDES } : Options) = {} := by
      have : Config.init.opt OPT_ALLOW_OVERRIDES = false := by decide +kernel
      rw [this]
    rw [ho] at h
    simp only [Option.all_some] at hok
    split at hok
    · rename_i t ht
      rw [ht] at h
      refine ⟨toks, rfl, h.1, ?_⟩
      rw [ht, h.2.2]
      rfl
    · cases hok

/-- … and the kernel, running `read` itself, finds the tree of the first example -/
example : (read {} Config.init (.string text1) 1000).ok = true ∧
    (C01Parse.rows (stripPos (read {} Config.init (.string text1) 1000).cfg.root)).map (·.name) =
      [none, some [97], some [98], some [99], none, none, none, some [100], none, none, none, none,
       none, some [101], some [102], some [103]] :=
  text1_facts.2.2.2.2

/-- how `C02D_read_string` yields a failure, for a text whose scanning the kernel can carry out:
the side conditions and the interpreter's verdict are decidable -/
theorem read_fails_of_lexText (text : Bytes) (k : ErrKind)
    (h : (match lexText text with
      | some toks => checkToks toks &&
          (match denote {} toks with | .error k' => decide (k' = k) | .ok _ => false)
      | none => false) = true)
    (hfuel : (read {} Config.init (.string text) 1000).result ≠ .outOfFuel) :
    (read {} Config.init (.string text) 1000).ok = false ∧
    (read {} Config.init (.string text) 1000).result = .abort ∧
    (read {} Config.init (.string text) 1000).cfg.errText = some k.text := by
  cases hl : lexText text with
  | none => rw [hl] at h; cases h
  | some toks =>
    rw [hl] at h
    simp only [Bool.and_eq_true] at h
    have hr := read_string_of_lexText Config.init text toks hl h.1 hfuel
    have ho : ({ allowOverrides := Config.init.opt OPT_ALLOW_OVERRIDES } : Options) = {} := by
      have : Config.init.opt OPT_ALLOW_OVERRIDES = false := by decide +kernel
      rw [this]
    rw [ho] at hr
    have h2 := h.2
    cases hd : denote {} toks with
    | ok t => rw [hd] at h2; cases h2
    | error k' =>
      rw [hd] at h2 hr
      simp only [decide_eq_true_eq] at h2
      subst h2
      exact hr

/-- text 3 (a duplicate name): the theorem applies and yields the failure with its message … -/
theorem example3 : (read {} Config.init (.string text3) 1000).ok = false ∧
    (read {} Config.init (.string text3) 1000).result = .abort ∧
    (read {} Config.init (.string text3) 1000).cfg.errText = some ErrKind.duplicateName.text :=
  -- both hypotheses in one kernel check
  have h : _ ∧ _ := by decide +kernel
  read_fails_of_lexText text3 .duplicateName h.1 h.2

/-- … which the kernel confirms by running `read` -/
example : (read {} Config.init (.string text3) 1000).cfg.errText =
    some [100, 117, 112, 108, 105, 99, 97, 116, 101, 32, 115, 101, 116, 116, 105, 110, 103, 32, 110, 97,
      109, 101] := by decide +kernel

/-- … and with `ALLOW_OVERRIDES` set in the reading configuration the same text is accepted, the
later `a` at the end (by running `read`; `denoteText { allowOverrides := true } text3` above is
the same tree) -/
example :
    (read {} { Config.init with options := OPT_ALLOW_OVERRIDES } (.string text3) 1000).ok = true ∧
    C01Parse.rows (stripPos
      (read {} { Config.init with options := OPT_ALLOW_OVERRIDES } (.string text3) 1000).cfg.root) =
      [row none T_GROUP 0 0 0 none 2, row (some [98]) T_INT 0 2 0 none 0,
       row (some [97]) T_INT 0 3 0 none 0] := by decide +kernel

/-- a mismatched array element: the theorem yields the failure and its message -/
example : (read {} Config.init (.string (bytesOfString "a = [1, \"x\"];")) 1000).cfg.errText =
    some ErrKind.arrayElemType.text :=
  have h : _ ∧ _ := by decide +kernel
  (read_fails_of_lexText _ .arrayElemType h.1 h.2).2.2

/-- a syntax error -/
example : (read {} Config.init (.string (bytesOfString "a = (,1);")) 1000).cfg.errText =
    some ErrKind.syntax.text :=
  have h : _ ∧ _ := by decide +kernel
  (read_fails_of_lexText _ .syntax h.1 h.2).2.2

/-- the first offence wins: the duplicate in front of the missing `=` -/
example : (read {} Config.init (.string (bytesOfString "a = 1; a")) 1000).cfg.errText =
    some ErrKind.duplicateName.text :=
  have h : _ ∧ _ := by decide +kernel
  (read_fails_of_lexText _ .duplicateName h.1 h.2).2.2

/-! ### the documented grammar

With `C02_sound` / `C02_complete` (soundness and completeness of the compiled tables with respect
to `Grammar.lean`) the theorems above tie the interpreter to the documented BNF, for every token
sequence a scanner run delivers: what it accepts is a sentence of the grammar; what it rejects
as a syntax error is none.  (A sentence of the grammar can still be rejected for a duplicate
name or a mismatched element.) -/

/-- the kinds (`YYTRANSLATE`) of a token sequence -/
def kinds (toks : List (Nat × TokVal)) : List Nat :=
  toks.map fun tv => translateTok Generated.parser tv.1

/-- a parse context over a cleared configuration with the option `ALLOW_OVERRIDES` as in `o` -/
def startCtx (o : Options) : ParseCtx :=
  { cfg := { options := if o.allowOverrides then OPT_ALLOW_OVERRIDES else 0 } }

theorem startCtx_opt (o : Options) :
    (startCtx o).cfg.opt OPT_ALLOW_OVERRIDES = o.allowOverrides := by
  cases o with
  | mk ov => cases ov <;> decide

/-- **What the interpreter accepts is a sentence of the documented grammar.** -/
theorem C02D_ok_derivable (w : World) (c₀ : Config) (lexFuel : Nat) (o : Options)
    (toks : List (Nat × TokVal)) (hnames : NamesValid toks) (hnest : nesting toks ≤ maxNesting)
    (s₀ s₁ : ScanState) (hlex : C02.LexesTo (theEnv w c₀ lexFuel) s₀ toks s₁) (t : Node)
    (hd : denote o toks = .ok t) : Grammar.Derivable (kinds toks) := by
  obtain ⟨N, s', ctx', hN, _⟩ := C02D_accept_total w c₀ lexFuel o toks hnames hnest s₀ s₁
    (startCtx o) hlex rfl rfl rfl (startCtx_opt o) t hd
  obtain ⟨toks', hl', hder⟩ := C02P.yyparse_sound (E := theEnv w c₀ lexFuel) C02P.edges_ok
    (C02P.tokNZ_theEnv w c₀ lexFuel) N s₀ s' (startCtx o) ctx' (hN N (Nat.le_refl _))
  rw [C02.lexes_det hlex hl']
  exact hder

/-- **What the interpreter rejects as a syntax error is no sentence of the documented
grammar.** -/
theorem C02D_syntax_not_derivable (w : World) (c₀ : Config) (lexFuel : Nat) (o : Options)
    (toks : List (Nat × TokVal)) (hnames : NamesValid toks) (hnest : nesting toks ≤ maxNesting)
    (s₀ s₁ : ScanState) (hlex : LexesToPlain (theEnv w c₀ lexFuel) s₀ toks s₁)
    (hd : denote o toks = .error .syntax) : ¬ Grammar.Derivable (kinds toks) := by
  intro hder
  obtain ⟨N, hN⟩ := C02D_error_total w c₀ lexFuel o toks hnames hnest s₀ s₁ (startCtx o)
    hlex.lexesTo rfl rfl rfl (startCtx_opt o) .syntax hd
  cases hp : yyparse (theEnv w c₀ lexFuel) N s₀ (startCtx o) with
  | mk s' rest =>
    cases rest with
    | mk ctx' r =>
      have hr : r = .abort := by
        have := hN N (Nat.le_refl _)
        rw [hp] at this
        exact this
      have h := C02D_error w c₀ lexFuel o toks hnames hnest N s₀ s₁ s' (startCtx o) ctx' r hlex
        rfl rfl rfl (startCtx_opt o) rfl hp (by rw [hr]; decide) .syntax hd
      have hlk : C02C.LexK (theEnv w c₀ lexFuel) s₀ (kinds toks ++ [0]) := by
        clear hd hN hp h hder hnames hnest
        induction hlex with
        | eof s s' hy => exact .eof _ _ hy
        | tok s s₁ s' t v rest hy _ ih => exact .tok _ _ _ _ _ hy ih
      have hbad := C02C.yyparse_complete (E := theEnv w c₀ lexFuel) C02C.cfacts N s₀ (startCtx o)
        (kinds toks) hlk hder (by intro h0; cases h0)
      rw [hp] at hbad
      exact hbad ⟨h.1, by rw [h.2]; rfl⟩

/-- the two theorems at work: the tokens of text 1 (which `denote` accepts) are a sentence of
the documented grammar; those of `a = (,1);` (a syntax error) are not -/
example : ∀ toks, lexText text1 = some toks → Grammar.Derivable (kinds toks) := by
  intro toks hl
  obtain ⟨s₁, h⟩ := lexAll_plain 200 _ _ hl
  obtain ⟨-, hck, hok, -⟩ := text1_facts
  rw [hl] at hck hok
  obtain ⟨hn, hd⟩ := checkToks_spec hck
  simp only [Option.all_some] at hok
  split at hok
  · rename_i t ht
    exact C02D_ok_derivable {} Config.init 1000 {} toks hn hd _ s₁ h.lexesTo t ht
  · cases hok

example : ∀ toks, lexText (bytesOfString "a = (,1);") = some toks →
    ¬ Grammar.Derivable (kinds toks) := by
  intro toks hl
  obtain ⟨s₁, h⟩ := lexAll_plain 200 _ _ hl
  have hk : (lexText (bytesOfString "a = (,1);")).all checkToks = true ∧
      (lexText (bytesOfString "a = (,1);")).all (fun toks => match denote {} toks with
        | .error .syntax => true | _ => false) = true := by decide +kernel
  obtain ⟨hck, herr⟩ := hk
  rw [hl] at hck herr
  obtain ⟨hn, hd⟩ := checkToks_spec hck
  simp only [Option.all_some] at herr
  split at herr
  · rename_i ht
    exact C02D_syntax_not_derivable {} Config.init 1000 {} toks hn hd _ s₁ h ht
  · cases herr

/-! ### FINDING: include errors

When the scanner reports an include error (a file that cannot be opened, includes nested too
deeply, an error of the include function) it records its own message and hands the parser the
token TOK_ERROR; `libconfig_yyerror` keeps the first message of a read.  The parser may fetch
that token as lookahead BEFORE it runs the action for the tokens in front of it — so even an
offence that precedes the failing `@include` in the text is then reported with the include
error's message.  Hence the hypothesis `LexesToPlain` of the rejecting direction.  Example:
```
a = [1, "x"
@include "nofile"
];
```
The tokens in front of the include directive already contain the mismatching element `"x"`
(which `denote` reports), but the string is only stored once the token after it has been seen;
the read fails (as `C02D_rejects_env` says) with the message "cannot open include file". -/

/-- the tokens of a text, include errors handed over as their error token -/
def lexAllI (E : ParserEnv) : Nat → ScanState → Option (List (Nat × TokVal))
  | 0, _ => none
  | n + 1, s =>
    match yylex E.T E.sacts E.w E.ic E.lexFuel s with
    | (_, .eof) => some []
    | (s', .tok t v) => (lexAllI E n s').map ((t, v) :: ·)
    | (s', .includeError t _ _ _) => (lexAllI E n s').map ((t, {}) :: ·)
    | _ => none

theorem lexAllI_sound {E : ParserEnv} : ∀ (n : Nat) (s : ScanState) (toks : List (Nat × TokVal)),
    lexAllI E n s = some toks → ∃ s', C02.LexesTo E s toks s'
  | 0, _, _, h => by cases h
  | n + 1, s, toks, h => by
    rw [lexAllI] at h
    split at h
    · rename_i s' hy
      cases h
      exact ⟨s', .eof s s' hy⟩
    · rename_i s' t v hy
      cases hr : lexAllI E n s' with
      | none => rw [hr] at h; cases h
      | some ts =>
        rw [hr] at h
        cases h
        obtain ⟨s'', hl⟩ := lexAllI_sound n s' ts hr
        exact ⟨s'', .tok s s' s'' t v ts hy hl⟩
    · rename_i s' t text file line hy
      cases hr : lexAllI E n s' with
      | none => rw [hr] at h; cases h
      | some ts =>
        rw [hr] at h
        cases h
        obtain ⟨s'', hl⟩ := lexAllI_sound n s' ts hr
        exact ⟨s'', .incl s s' s'' t text file line ts hy hl⟩
    · cases h

def includeText : Bytes := bytesOfString "a = [1, \"x\"\n@include \"nofile\"\n];"

/-- the counterexample to the rejecting direction without `LexesToPlain` -/
theorem C02D_include_error_text :
    (lexAllI (theEnv {} Config.init 1000) 200
        (C01Parse.readScanStart none (cstr includeText))).map (fun toks => view (denote {} toks)) =
      some (.error .arrayElemType) ∧
    (read {} Config.init (.string includeText) 1000).result = .abort ∧
    (read {} Config.init (.string includeText) 1000).cfg.errText = some Generated.ERR_BAD_INCLUDE ∧
    Generated.ERR_BAD_INCLUDE ≠ ErrKind.arrayElemType.text := by decide +kernel

/-! ### FINDING: the statement is false without the bound on the nesting

`libconfig_yyparse` has a stack limit (`YYMAXDEPTH` = 10000 entries) and gives up with "memory
exhausted" (return value 2) when a text nests too deeply — an outcome the documentation of the
file format does not mention and the reference interpreter does not have.  The witness is the
one of `C01Parse.C01_deep_nesting_exhausts`: `a = ( ( … ( ) … ) );` with 4998 nested lists.  The
interpreter reads it as the tree of nested lists; its names are valid; its nesting measure is
4998 > `maxNesting`; the parser answers `exhausted`.  (The kernel cannot evaluate a parse of that
size, so this is proved, not decided.) -/

/-- the deep text: what the interpreter says, and the side conditions it meets and fails -/
theorem C02D_deep_denotes (d bufLen : Nat) (o : Options) :
    denote o (tokensOfConfig Generated.tokens bufLen (C01Parse.deepConfig d)) =
      .ok { ty := T_GROUP, kids := [{ C01Parse.nestedLists d with name := some [97] }] } ∧
    NamesValid (tokensOfConfig Generated.tokens bufLen (C01Parse.deepConfig d)) ∧
    d + 1 ≤ nesting (tokensOfConfig Generated.tokens bufLen (C01Parse.deepConfig d)) := by
  have hok : C01PP.okNode (C01Parse.deepConfig d).root = true := by
    have h := C01Parse.deepConfig_ok d
    unfold Config.wfb at h
    simp only [Bool.and_eq_true] at h
    exact C01Parse.okNode_of_wfb _ h.1.1.2 h.1.2
  rw [C01Parse.deepConfig_pp] at hok ⊢
  rw [C01Parse.nestedLists_pp]
  refine ⟨?_, ?_, ?_⟩
  · rw [C01PP.denote_written bufLen _ o hok rfl rfl, C02D.expNode_deep]
    rfl
  · intro tv htv hname
    obtain ⟨t, v⟩ := tv
    simp only at hname
    subst hname
    exact (C01PP.tokOK_config bufLen _ hok rfl rfl _ htv).2 _ rfl
  · unfold nesting
    rw [C02D.items_deep]
    exact C02D.nesting_deep d

/-- the statement of `C02D_parse_denotes` without the nesting bound -/
def UnboundedStatement : Prop :=
  ∀ (w : World) (c₀ : Config) (lexFuel : Nat) (o : Options) (toks : List (Nat × TokVal)),
    NamesValid toks →
    ∀ (fuel : Nat) (s₀ s₁ s' : ScanState) (ctx₀ ctx' : ParseCtx) (r : ParseResult),
      LexesToPlain (theEnv w c₀ lexFuel) s₀ toks s₁ →
      stripPos ctx₀.cfg.root = { ty := T_GROUP } → ctx₀.parent = some [] → ctx₀.str = none →
      ctx₀.cfg.opt OPT_ALLOW_OVERRIDES = o.allowOverrides → ctx₀.cfg.errText = none →
      yyparse (theEnv w c₀ lexFuel) fuel s₀ ctx₀ = (s', ctx', r) → r ≠ .outOfFuel →
      match denote o toks with
      | .ok t => r = .accept ∧ stripPos ctx'.cfg.root = t
      | .error k => r = .abort ∧ ctx'.cfg.errText = some k.text

/-- **The counterexample**: under exactly the hypotheses of `C02D_accept` except the nesting
bound, for the text `a = ( ( … ( ) … ) );` with at least 4998 nested lists — which `denote` reads
as a configuration — whatever `yyparse` returns with enough fuel is `exhausted`, not
acceptance. -/
theorem C02D_deep_nesting_exhausts (d : Nat) (hd : 4997 ≤ d) (w : World) (c₀ : Config)
    (lexFuel bufLen fuel : Nat) (s₀ s₁ s' : ScanState) (ctx₀ ctx' : ParseCtx) (r : ParseResult)
    (hlex : C02.LexesTo (theEnv w c₀ lexFuel) s₀
      (tokensOfConfig Generated.tokens bufLen (C01Parse.deepConfig d)) s₁)
    (hroot : stripPos ctx₀.cfg.root = { ty := T_GROUP }) (hpar : ctx₀.parent = some [])
    (hstr : ctx₀.str = none)
    (h : yyparse (theEnv w c₀ lexFuel) fuel s₀ ctx₀ = (s', ctx', r)) (hr : r ≠ .outOfFuel) :
    r = .exhausted ∧
    ∃ t, denote {} (tokensOfConfig Generated.tokens bufLen (C01Parse.deepConfig d)) = .ok t :=
  ⟨C01Parse.C01_deep_nesting_exhausts d hd w c₀ lexFuel bufLen fuel s₀ s₁ s' ctx₀ ctx' r hlex hroot
    hpar hstr h hr, _, (C02D_deep_denotes d bufLen {}).1⟩

/-- Hence: as soon as some scanner run delivers the tokens of `a = ( ( … ( ) … ) );` with 4998
nested lists (which the lexing half of C01 establishes for the written form of
`C01Parse.deepConfig 4997`), the statement without the nesting bound is refuted. -/
theorem C02D_unbounded_statement_false (w : World) (c₀ : Config) (lexFuel bufLen : Nat)
    (s₀ s₁ : ScanState)
    (hlex : LexesToPlain (theEnv w c₀ lexFuel) s₀
      (tokensOfConfig Generated.tokens bufLen (C01Parse.deepConfig 4997)) s₁) :
    ¬ UnboundedStatement := by
  intro H
  obtain ⟨N, hN⟩ := C01Parse.C01_deep_nesting_exhausts_total 4997 (Nat.le_refl _) w c₀ lexFuel bufLen
    s₀ s₁ { cfg := {} } hlex.lexesTo rfl rfl rfl
  have hres := hN N (Nat.le_refl _)
  obtain ⟨hden, hnames, _⟩ := C02D_deep_denotes 4997 bufLen {}
  generalize tokensOfConfig Generated.tokens bufLen (C01Parse.deepConfig 4997) = toks at hlex hden hnames
  cases hp : yyparse (theEnv w c₀ lexFuel) N s₀ { cfg := {} } with
  | mk s' rest =>
    cases rest with
    | mk ctx' r =>
      rw [hp] at hres
      simp only at hres
      have hthis := H w c₀ lexFuel {} toks hnames N s₀ s₁ s'
        { cfg := {} } ctx' r hlex rfl rfl rfl (by decide) rfl hp (by rw [hres]; decide)
      rw [hden] at hthis
      rw [hres] at hthis
      exact absurd hthis.1 (by decide)

end Libconfig.C02Denote
