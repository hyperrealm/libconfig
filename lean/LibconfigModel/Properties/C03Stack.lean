import LibconfigModel.Proofs.C03StackHeap
import LibconfigModel.Proofs.C03StackSim
import LibconfigModel.Proofs.C03StackReplay2
import LibconfigModel.Proofs.C03StackNeed
import LibconfigModel.Proofs.C03StackReplay3
import LibconfigModel.Proofs.C03StackDeep
import LibconfigModel.Properties.C01Parse
/-
  C03S — the memory arithmetic of the parser stacks of the generated parser (`yyss`/`yyssp`,
  `yyvs`/`yyvsp`, `yystacksize`, `YYSTACK_RELOCATE`, `yyreturnlab` in lib/grammar.c) is
  index-safe, loses and duplicates no stack entry, grows as documented and releases what it
  allocates.  The model is `BisonStack.lean`; an execution is any list of `Event`s (a shift of
  any state and value, a reduction popping any number of entries, error pops, the end of the
  parse with any `yylen`; each push with any answer of `YYSTACK_ALLOC`) from `init P ok`.  All
  theorems are parametric in `YYINITDEPTH = P.I > 0` and `YYMAXDEPTH = P.M ≥ P.I`;
  `parserParams_ok` instantiates them with the constants translated from grammar.c (200 and
  10000).  `C03S_parser_drives` connects the model with the loop of `Parser.lean`.

  Findings: none of S1–S4 is violated in a reachable state.  Observations, proved below:
  (1) one slot of every block is never used while the parser runs: after `yysetstate`,
      `yyssp < yyss + yystacksize - 1` (`C03S_spare_slot`).  That slot is what makes the ORDER of
      the generated code safe: `*++yyvsp = v`, `yyssp++` and `*yyssp = yystate` all come BEFORE
      the test `yyss + yystacksize - 1 <= yyssp` (`C03S_push_order`); the incremented pointers
      address the spare slot — an element of the array, never the one-past-the-end position —
      and the test then restores the spare slot or ends the parse.  With the test weakened to `<`
      the spare slot is gone and the very next push stores behind the arrays
      (`C03S_seeded_breaks`, `C03S_seeded_breaks_all`).
  (2) So a block of `n` slots holds `n - 1` entries: the automatic arrays (200 slots) are left when
      the 200th entry is pushed; with `yystacksize = YYMAXDEPTH = 10000` the parser runs with at
      most 9999 entries; the push that creates the 10000th entry still stores it (in bounds, into
      the last slot) and then reports "memory exhausted" (`C03S_exhausted_iff`,
      `C03S_last_depth`).  This is the limit of `Parser.lean` (`stack.length ≥ maxDepth`) and of
      `C03_stack_limit`, at the same moment (`C03S_parser_exhausted_iff`).  The recorded finding says
      "from 4998 nested lists"; already 4997 nested lists need 10000 entries (`2k + 6` for
      `k` lists, the innermost `( )` costs two more than the descent) and are refused
      (`C03S_nested_lists`, proved; confirmed on the compiled library, which accepts 4996).
  (3) The `YYABORT` behind the relocation (`if (yyss + yystacksize - 1 <= yyssp) YYABORT;`) is
      dead code (`C03S_abort_dead`): the new block is always larger than `yysize`.
  (4) `yyval = yyvsp[1-yylen]` with `yylen = 0` (the nine empty rules of grammar.y) loads the
      spare slot ABOVE the top of the value stack — in bounds by (1), but never-written or stale
      memory (`garbageV` in the log; bison: "sets YYVAL to garbage"); `Parser.lean` uses the value
      of the top entry as that garbage.  For `yylen ≥ 1` the slot loaded holds the value of `$1`
      of the idealised stack (`C03S_default_value`).  The bottom slot `yyvs[0]` is never written;
      the relocation copies it, nothing else reads it.
  (5) If `YYSTACK_ALLOC` fails, `yystacksize` has already been doubled while `yyss` still points to
      the old, smaller block; harmless, because `YYNOMEM` leaves the loop and `yyreturnlab` only
      pops (`Inv.top`, `C03S_in_bounds` hold for every answer of the allocator).

  Contents: S1 `C03S_inv`, `C03S_in_bounds` (+ `_store_room`, `_load_room`, `_copy_room`),
  `C03S_same_offset`, `C03S_spare_slot`, `C03S_push_order`, `C03S_abort_dead`, `C03S_copy_loop`,
  `C03S_layout(_slot)`; S2 `C03S_content`, `C03S_relocation`, `C03S_slots`, `C03S_default_value`,
  `C03S_lockstep(_init)`, `C03S_parser_drives`, `C03S_parser_no_fault`; S3 `C03S_growth`,
  `C03S_size_needed`, `C03S_exhausted_iff`, `C03S_last_depth`, `C03S_parser_exhausted_iff`,
  `C03S_exhausted_run`, `C03S_nested_lists`; S4 `C03S_heap`, `C03S_held`, `C03S_freed_once`, `C03S_no_leak`,
  `C03S_returns`, `C03S_parser_returns`; S5 `C03S_seeded_breaks`, `C03S_seeded_breaks_all`; replays
  at 4/16 (full model), at 200/10000 (integer shadow, exact by `ctl_run`), and of the parser on
  real bytes driving the model (`a=((1,2),3);` at 4/16, `a=(((…` through 200 → 400).
-/
namespace Libconfig.C03S

open Libconfig Libconfig.BisonStack Libconfig.C03SP Libconfig.C03P

variable {V : Type}

/-- the constants of grammar.c satisfy the assumptions -/
theorem parserParams_ok : parserParams.OK := C03SP.parserParams_ok

example : parserParams.I = 200 ∧ parserParams.M = 10000 := by decide

/-! ### a step-by-step replay with small constants

`YYINITDEPTH = 4`, `YYMAXDEPTH = 16`, values are numbers.  `view` shows where the stacks are,
`yystacksize`, the two arrays, the two offsets and the status. -/

def P4 : Params := { I := 4, M := 16 }

theorem P4_ok : P4.OK := ⟨by decide, by decide, rfl⟩

structure View where
  loc : Blk
  stacksize : Nat
  ss : List (Option Nat)
  vs : List (Option Nat)
  ssp : Nat
  vsp : Nat
  status : Status
deriving Repr, DecidableEq

def view (s : BisonStack.State Nat) : View :=
  ⟨s.loc, s.stacksize, s.ss, s.vs, s.ssp, s.vsp, s.status⟩

/-- the start of `yyparse`: state 0 in `yyssa[0]`, `yyvsa[0]` stays unwritten -/
example : view (init P4) =
    ⟨.auto, 4, [some 0, none, none, none], [none, none, none, none], 0, 0, .running⟩ := by decide +kernel

/-- two shifts: three entries in the automatic arrays, the fourth slot is spare -/
example : view (BisonStack.run P4 [.shift 1 10, .shift 2 20] (init P4)) =
    ⟨.auto, 4, [some 0, some 1, some 2, none], [none, some 10, some 20, none], 2, 2, .running⟩ := by
  decide +kernel

/-- the third shift fills the last slot: `yysize = 4`, a block of 8 slots is allocated, both
stacks are copied (4 elements each), nothing is released (the old block is `yyssa`) -/
example :
    view (BisonStack.run P4 [.shift 1 10, .shift 2 20, .shift 3 30] (init P4)) =
      ⟨.heap 0, 8, [some 0, some 1, some 2, some 3, none, none, none, none],
        [none, some 10, some 20, some 30, none, none, none, none], 3, 3, .running⟩ ∧
    (BisonStack.run P4 [.shift 1 10, .shift 2 20, .shift 3 30] (init P4)).trace.drop 5 =
      [.storeV .auto 4 3, .storeS .auto 4 3, .alloc (.heap 0) 8, .copyS .auto 4 (.heap 0) 8 4,
       .copyV .auto 4 (.heap 0) 8 4] := by decide +kernel

/-- four more: the 8th entry fills block 0; block 1 (16 slots = `YYMAXDEPTH`) is allocated,
block 0 is released after the copies -/
example :
    (BisonStack.run P4 (List.replicate 7 (.shift 1 10)) (init P4)).loc = .heap 1 ∧
    (BisonStack.run P4 (List.replicate 7 (.shift 1 10)) (init P4)).stacksize = 16 ∧
    (BisonStack.run P4 (List.replicate 7 (.shift 1 10)) (init P4)).ssp = 7 ∧
    (BisonStack.run P4 (List.replicate 7 (.shift 1 10)) (init P4)).trace.drop 16 =
      [.storeV (.heap 0) 8 7, .storeS (.heap 0) 8 7, .alloc (.heap 1) 16,
       .copyS (.heap 0) 8 (.heap 1) 16 8, .copyV (.heap 0) 8 (.heap 1) 16 8, .free (.heap 0)] := by
  decide +kernel

/-- 14 shifts: 15 entries, the parser runs; the 15th shift stores the 16th entry into the last
slot and that is "memory exhausted": the stack is emptied (loads of slots 15 … 1) and block 1 is
released -/
example :
    (BisonStack.run P4 (List.replicate 14 (.shift 1 10)) (init P4)).status = .running ∧
    (BisonStack.run P4 (List.replicate 14 (.shift 1 10)) (init P4)).ssp = 14 ∧
    (BisonStack.run P4 (List.replicate 15 (.shift 1 10)) (init P4)).status = .done .nomem ∧
    (BisonStack.run P4 (List.replicate 15 (.shift 1 10)) (init P4)).ssp = 0 ∧
    (BisonStack.run P4 (List.replicate 15 (.shift 1 10)) (init P4)).log.take 3 =
      [.free (.heap 1), .loadV (.heap 1) 16 1 true, .loadS (.heap 1) 16 1 true] ∧
    ((BisonStack.run P4 (List.replicate 15 (.shift 1 10)) (init P4)).trace.drop 36).take 3 =
      [.storeV (.heap 1) 16 15, .storeS (.heap 1) 16 15, .loadS (.heap 1) 16 15 true] := by decide +kernel

/-- reductions: an empty rule (`yylen = 0`: the garbage load of the spare slot 3, the goto is
computed from slot 2, the push fills the arrays and moves the stacks), a rule of two symbols
(`yyval = yyvsp[-1]` from slot 2, the goto from slot 1), then `YYACCEPT` -/
example :
    view (BisonStack.run P4 [.shift 1 10, .shift 2 20, .reduce 0 5 50, .reduce 2 7 70, .finish .accept 0]
      (init P4)) =
      ⟨.heap 0, 8, [some 0, some 1, some 7, some 5, none, none, none, none],
        [none, some 10, some 70, some 50, none, none, none, none], 0, 0, .done .accept⟩ ∧
    (BisonStack.run P4 [.shift 1 10, .shift 2 20, .reduce 0 5 50, .reduce 2 7 70, .finish .accept 0]
      (init P4)).trace.drop 5 =
      [.garbageV .auto 4 3, .storeV .auto 4 3, .loadS .auto 4 2 true, .storeS .auto 4 3,
       .alloc (.heap 0) 8, .copyS .auto 4 (.heap 0) 8 4, .copyV .auto 4 (.heap 0) 8 4,
       .loadV (.heap 0) 8 2 true, .storeV (.heap 0) 8 2, .loadS (.heap 0) 8 1 true,
       .storeS (.heap 0) 8 2, .loadS (.heap 0) 8 2 true, .loadV (.heap 0) 8 2 true,
       .loadS (.heap 0) 8 1 true, .loadV (.heap 0) 8 1 true, .free (.heap 0)] := by decide +kernel

/-- `YYSTACK_ALLOC` fails at the first extension: `yystacksize` is 8 already, the stacks are
still the automatic arrays of 4 slots; "memory exhausted", nothing to release -/
example :
    view (BisonStack.run P4 [.shift 1 10, .shift 2 20, .shift 3 30 false] (init P4)) =
      ⟨.auto, 8, [some 0, some 1, some 2, some 3], [none, some 10, some 20, some 30], 0, 0,
        .done .nomem⟩ ∧
    (BisonStack.run P4 [.shift 1 10, .shift 2 20, .shift 3 30 false] (init P4)).trace.drop 7 =
      [.allocFail 8, .loadS .auto 4 3 true, .loadV .auto 4 3 true, .loadS .auto 4 2 true,
       .loadV .auto 4 2 true, .loadS .auto 4 1 true, .loadV .auto 4 1 true] := by decide +kernel

/-! ## S1 — every access is in bounds -/

/-- What holds after every execution (`Inv`): every access so far was in bounds; `yyssp` and
`yyvsp` have the same offset; both arrays have `yystacksize` slots and one slot is spare while the
parser runs; every state slot up to the top and every value slot but the bottom one has been
written; `yystacksize = min (YYINITDEPTH · 2^k) YYMAXDEPTH` after `k` allocations, each made
below `YYMAXDEPTH`; the stacks are in the automatic arrays until the first allocation and in the
newest block afterwards. -/
theorem C03S_inv (P : Params) (hP : P.OK) (ok : Bool) (es : List (Event V)) :
    Inv P (BisonStack.run P es (init P ok)) :=
  run_inv P hP es _ (init_inv P hP ok)

/-- S1.  Every store `*yyssp = yystate`, `*++yyvsp = …`, every load (`yyvsp[1-yylen]`, the
uncovered state `*yyssp` of a reduction, the loads of `yydestruct` and of the error loop), and
both `YYCOPY`s of every relocation lie inside the block that is current at that moment (for a
copy: `yysize` elements inside the old AND inside the new block); every load except
`yyvsp[1]` of an empty rule reads a slot that has been written; only heap blocks are released —
for every event sequence and every behaviour of the allocator. -/
theorem C03S_in_bounds (P : Params) (hP : P.OK) (ok : Bool) (es : List (Event V)) :
    ∀ a ∈ (BisonStack.run P es (init P ok)).log, a.ok :=
  (C03S_inv P hP ok es).safe

/-- … spelled out for the stores -/
theorem C03S_store_room (P : Params) (hP : P.OK) (ok : Bool) (es : List (Event V)) (b : Blk)
    (cap idx : Nat) :
    (Access.storeS b cap idx ∈ (BisonStack.run P es (init P ok)).log → idx < cap) ∧
    (Access.storeV b cap idx ∈ (BisonStack.run P es (init P ok)).log → idx < cap) :=
  ⟨fun h => C03S_in_bounds P hP ok es _ h, fun h => C03S_in_bounds P hP ok es _ h⟩

/-- … for the loads: in bounds and initialised; the garbage load of an empty rule: in bounds -/
theorem C03S_load_room (P : Params) (hP : P.OK) (ok : Bool) (es : List (Event V)) (b : Blk)
    (cap idx : Nat) (i : Bool) :
    (Access.loadS b cap idx i ∈ (BisonStack.run P es (init P ok)).log → idx < cap ∧ i = true) ∧
    (Access.loadV b cap idx i ∈ (BisonStack.run P es (init P ok)).log → idx < cap ∧ i = true) ∧
    (Access.garbageV b cap idx ∈ (BisonStack.run P es (init P ok)).log → idx < cap) :=
  ⟨fun h => C03S_in_bounds P hP ok es _ h, fun h => C03S_in_bounds P hP ok es _ h,
   fun h => C03S_in_bounds P hP ok es _ h⟩

/-- … and for the relocation: the `yysize` elements copied lie inside both blocks -/
theorem C03S_copy_room (P : Params) (hP : P.OK) (ok : Bool) (es : List (Event V)) (src dst : Blk)
    (sc dc n : Nat) :
    (Access.copyS src sc dst dc n ∈ (BisonStack.run P es (init P ok)).log → n ≤ sc ∧ n ≤ dc) ∧
    (Access.copyV src sc dst dc n ∈ (BisonStack.run P es (init P ok)).log → n ≤ sc ∧ n ≤ dc) :=
  ⟨fun h => C03S_in_bounds P hP ok es _ h, fun h => C03S_in_bounds P hP ok es _ h⟩

/-- non-vacuity: the log of the reduction replay has 21 entries, among them a garbage load, six
initialised loads before the cleanup, two copies — all in bounds (here by evaluation, in general
by the theorem) -/
example :
    (BisonStack.run P4 [.shift 1 10, .shift 2 20, .reduce 0 5 50, .reduce 2 7 70, .finish .accept 0]
      (init P4)).log.length = 21 ∧
    ∀ a ∈ (BisonStack.run P4 [.shift 1 10, .shift 2 20, .reduce 0 5 50, .reduce 2 7 70,
      .finish .accept 0] (init P4)).log, a.ok := by decide +kernel

/-- `yyssp` and `yyvsp` always have the same offset (between events; inside a push `yyvsp` is
one ahead from `*++yyvsp = …` until `yyssp++`) -/
theorem C03S_same_offset (P : Params) (hP : P.OK) (ok : Bool) (es : List (Event V)) :
    (BisonStack.run P es (init P ok)).vsp = (BisonStack.run P es (init P ok)).ssp :=
  (C03S_inv P hP ok es).same

/-- **The spare slot.**  While the parser runs, both arrays have exactly `yystacksize` slots and
`yyssp - yyss ≤ yystacksize - 2`: the slot behind the top exists.  Hence `yyssp + 1` and `yyvsp +
1`, the pointers the next push forms with `++`, address an element of their array — not even the
one-past-the-end position is ever formed —, the expression `yyss + yystacksize - 1` of the test is
the address of the last element, and `yyvsp[1]` (the garbage load) is an element too. -/
theorem C03S_spare_slot (P : Params) (hP : P.OK) (ok : Bool) (es : List (Event V))
    (hr : (BisonStack.run P es (init P ok)).status = .running) :
    (BisonStack.run P es (init P ok)).ss.length = (BisonStack.run P es (init P ok)).stacksize ∧
    (BisonStack.run P es (init P ok)).vs.length = (BisonStack.run P es (init P ok)).stacksize ∧
    (BisonStack.run P es (init P ok)).ssp + 2 ≤ (BisonStack.run P es (init P ok)).stacksize := by
  have h := C03S_inv P hP ok es
  exact ⟨h.capS hr, by rw [h.capV, h.capS hr], h.spare hr⟩

/-- **The order of a push**, as in grammar.c: first the value store `*++yyvsp = v` and `yyssp++`
(`pushed`), then `*yyssp = yystate` (`stored`), and only then the test — on the already
incremented `yyssp` —, which extends the stacks or ends the parse (`growStack`).  Both stores go
to slot `yyssp + 1` of the state before the push, which is inside the arrays by
`C03S_spare_slot` (`s`: any running state satisfying the invariant, e.g. `run P es (init P ok)`). -/
theorem C03S_push_order (P : Params) (s : BisonStack.State V) (h : Inv P s)
    (hr : s.status = .running) (st : Nat) (v : V) (ok : Bool) :
    BisonStack.step P s (.shift st v ok) =
      (if P.test s.stacksize (s.ssp + 1) then growStack P ok (stored st (pushed v s))
       else stored st (pushed v s)) ∧
    (stored st (pushed v s)).log =
      .storeS s.loc s.ss.length (s.ssp + 1) :: .storeV s.loc s.vs.length (s.vsp + 1) :: s.log ∧
    s.ssp + 1 < s.ss.length ∧ s.vsp + 1 < s.vs.length := by
  have h1 := h.capS hr
  have h2 := h.capV
  have h3 := h.spare hr
  have h4 := h.same
  refine ⟨?_, rfl, by omega, by omega⟩
  unfold BisonStack.step
  rw [hr]
  rfl

/-- **The `YYABORT` behind the relocation is dead code**, and a push has no outcome but these:
from a running state, a shift or an admissible reduction leaves the parser running or ends it
with "memory exhausted". -/
theorem C03S_abort_dead (P : Params) (hP : P.OK) (ok : Bool) (es : List (Event V)) (e : Event V)
    (hr : (BisonStack.run P es (init P ok)).status = .running)
    (he : pushing (BisonStack.run P es (init P ok)) e) :
    (BisonStack.step P (BisonStack.run P es (init P ok)) e).status = .running ∨
    (BisonStack.step P (BisonStack.run P es (init P ok)) e).status = .done .nomem := by
  exact (push_outcome P hP _ e (C03S_inv P hP ok es) hr he).imp And.left And.left

/-- non-vacuity of `C03S_copy_loop`: three elements into a fresh array of five -/
example : yycopy 3 0 [some 1, some 2, none, some 4] (List.replicate 5 (none : Option Nat)) =
    [some 1, some 2, none, none, none] := by decide +kernel

/-- The element loop of `YYCOPY` (`for (yyi = 0; yyi < yysize; yyi++) yyss_alloc[yyi] =
yyss[yyi];`, what `__builtin_memcpy` does as well) into a fresh array leaves what the model's
`relocate` says, whenever `yysize` elements are inside both arrays. -/
theorem C03S_copy_loop {α : Type} (old : List (Option α)) (n sz : Nat) (h1 : n ≤ old.length)
    (h2 : n ≤ sz) : yycopy n 0 old (List.replicate sz none) = relocate old n sz :=
  yycopy_eq_relocate old n sz h1 h2

/-- **The byte layout of a heap block** (`union yyalloc`; `a = sizeof (yy_state_t)`, `b = sizeof
(YYSTYPE)`, `u = sizeof (union yyalloc) > 0`): the value array starts behind the `n` state
elements, at a multiple of `u`, and its `n` elements end inside the `YYSTACK_BYTES (n)` bytes that
were allocated. -/
theorem C03S_layout (a b u n : Nat) (hu : 0 < u) :
    n * a ≤ vsByteOffset a u n ∧ u ∣ vsByteOffset a u n ∧
    vsByteOffset a u n + n * b ≤ stackBytes a b u n := by
  unfold vsByteOffset stackBytes
  have h1 := Nat.div_add_mod (n * a + (u - 1)) u
  have h2 := Nat.mod_lt (n * a + (u - 1)) hu
  rw [Nat.mul_comm u] at h1
  refine ⟨by omega, Nat.dvd_mul_left _ _, ?_⟩
  rw [Nat.mul_add]
  omega

/-- the layout at the types of grammar.c (`yy_state_t` = `yytype_int8`: 1 byte, `YYSTYPE`: 8,
`union yyalloc`: 8) for the largest block: 90007 bytes, the value array at offset 10000 -/
example : stackBytes 1 8 8 10000 = 90007 ∧ vsByteOffset 1 8 10000 = 10000 ∧
    stackBytes 1 8 8 400 = 3607 ∧ vsByteOffset 1 8 400 = 400 ∧ vsByteOffset 1 8 6 = 8 := by decide +kernel

/-- … so every element lies inside the block: the bytes of `yyss[i]` in front of the value
array, the bytes of `yyvs[i]` inside the allocation (`i < n`) -/
theorem C03S_layout_slot (a b u n i : Nat) (hu : 0 < u) (hi : i < n) :
    (i + 1) * a ≤ vsByteOffset a u n ∧ vsByteOffset a u n + (i + 1) * b ≤ stackBytes a b u n := by
  obtain ⟨h1, _, h3⟩ := C03S_layout a b u n hu
  have ha : (i + 1) * a ≤ n * a := Nat.mul_le_mul_right _ hi
  have hb : (i + 1) * b ≤ n * b := Nat.mul_le_mul_right _ hi
  omega

/-! ## S2 — the stacks hold what `Parser.lean` says -/

/-- S2, one push.  `Abs s stack`: the parser runs, the slots `yyssp … yyss` hold the states and the
slots `yyvsp … yyvs + 1` the values of the idealised stack `stack` of `Parser.lean` (top first;
all of them written).  A push `p` that pops fewer entries than `stack` has leads to the idealised
stack `p.apply stack`, which never has more than `yystacksize` entries, and
* if it has fewer, the memory holds it afterwards, in the same block;
* if it has exactly `yystacksize < YYMAXDEPTH`, the stacks are in a new block of `newSize` slots
  and the memory holds it: **growth preserves the contents** — nothing lost, nothing duplicated;
* if it has `yystacksize = YYMAXDEPTH` entries, the parse has ended with "memory exhausted". -/
theorem C03S_content (P : Params) (hP : P.OK) (p : Push V) (s : BisonStack.State V)
    (stack : List (Nat × V)) (h : Inv P s) (ha : Abs s stack) (hp : p.pops < stack.length) :
    (p.apply stack).length ≤ s.stacksize ∧
    ((p.apply stack).length < s.stacksize →
      Abs (BisonStack.step P s p.toEvent) (p.apply stack) ∧
      (BisonStack.step P s p.toEvent).stacksize = s.stacksize ∧
      (BisonStack.step P s p.toEvent).loc = s.loc ∧
      (BisonStack.step P s p.toEvent).nextId = s.nextId) ∧
    ((p.apply stack).length = s.stacksize → s.stacksize < P.M →
      Abs (BisonStack.step P s p.toEvent) (p.apply stack) ∧
      (BisonStack.step P s p.toEvent).stacksize = newSize P s.stacksize ∧
      (BisonStack.step P s p.toEvent).loc = .heap s.nextId ∧
      (BisonStack.step P s p.toEvent).nextId = s.nextId + 1) ∧
    ((p.apply stack).length = s.stacksize → P.M ≤ s.stacksize →
      (BisonStack.step P s p.toEvent).status = .done .nomem) :=
  push_abs P hP p s stack h ha hp

/-- what the relocation leaves in a new array of `sz` slots: the old elements `0 … n-1` in
place, behind them memory as the allocator delivered it -/
theorem C03S_relocation {α : Type} (old : List (Option α)) (n sz : Nat) (h1 : n ≤ old.length)
    (h2 : n ≤ sz) :
    (relocate old n sz).length = sz ∧ (relocate old n sz).take n = old.take n ∧
    (∀ i, i < n → (relocate old n sz)[i]? = old[i]?) ∧
    (∀ i, n ≤ i → i < sz → (relocate old n sz)[i]? = some none) :=
  ⟨length_relocate old n sz h1 h2, take_relocate old n sz h1,
   fun i hi => getElem?_relocate old n sz i h1 hi, fun i hi h3 => getElem?_relocate_ge old n sz i h1 hi h3⟩

/-- what the slots hold: `yyssp[-k]` the state and `yyvsp[-k]` the value of the `k`-th entry from
the top of the idealised stack — the operands `$1 … $n` of a semantic action (`yyvsp[i - n]`) and
the `yyvsp[0]` read by the actions of grammar.y are these -/
theorem C03S_slots (P : Params) (s : BisonStack.State V) (stack : List (Nat × V)) (h : Inv P s)
    (ha : Abs s stack) (k : Nat) :
    (k < stack.length → s.ss[s.ssp - k]? = stack[k]?.map (fun e => some e.1)) ∧
    (k + 1 < stack.length → s.vs[s.vsp - k]? = stack[k]?.map (fun e => some e.2)) :=
  ⟨abs_state_at ha h.top k, abs_value_at ha h.top h.capV k⟩

/-- `yyval = yyvsp[1-yylen]` for `yylen = n ≥ 1`: the slot loaded holds the value of the first
right-hand-side symbol, which is what `Parser.lean` pushes (`$$ = $1`) -/
theorem C03S_default_value (P : Params) (s : BisonStack.State V) (stack : List (Nat × V))
    (h : Inv P s) (ha : Abs s stack) (n : Nat) (h1 : 1 ≤ n) (hn : n < stack.length) :
    s.vs[s.vsp + 1 - n]? = (stack.drop (n - 1)).head?.map (fun e => some e.2) := by
  have := (C03S_slots P s stack h ha (n - 1)).2 (by omega)
  rw [List.head?_drop]
  rw [← this]
  congr 1
  have hl := abs_length ha h.top
  have := ha.2.1
  omega

/-- the rules with an empty right-hand side, whose `yyval = yyvsp[1-yylen]` is the garbage load:
the empty alternatives of `configuration`, `setting_list_optional`, `setting_terminator`,
`value_list_optional`, `simple_value_list_optional` and the mid-rule actions `$@1` … `$@4` — 9 of
the 41 rules -/
example : (List.range 42).filter (fun r => decide (1 ≤ r) && (Generated.parser.r2.get r).toNat == 0) =
    [2, 6, 8, 11, 13, 15, 33, 38, 40] := by decide +kernel

/-- S2, any number of pushes: the memory model and the idealised machine of `Parser.lean` (a
list and the limit) stay in lock step — the same stack as long as the idealised one stays below
`YYMAXDEPTH` entries, "memory exhausted" from the push on that reaches `YYMAXDEPTH` entries, and
the fault status exactly when a reduction underflows the idealised stack. -/
theorem C03S_lockstep (P : Params) (hP : P.OK) (ps : List (Push V)) (s : BisonStack.State V)
    (stack : List (Nat × V)) (h : Inv P s) (ha : Abs s stack) :
    match ideal P.M ps stack with
    | .stack l => Abs (BisonStack.run P (ps.map Push.toEvent) s) l
    | .exhausted => (BisonStack.run P (ps.map Push.toEvent) s).status = .done .nomem
    | .underflow => (BisonStack.run P (ps.map Push.toEvent) s).status = .fault :=
  run_abs P hP ps s stack h ha

/-- … from the start of `yyparse` (with `YYINITDEPTH ≥ 2`; `v0` is the placeholder `Parser.lean`
uses for the value of the bottom entry) -/
theorem C03S_lockstep_init (P : Params) (hP : P.OK) (hI : 1 < P.I) (ps : List (Push V)) (v0 : V) :
    match ideal P.M ps [(0, v0)] with
    | .stack l => Abs (BisonStack.run P (ps.map Push.toEvent) (init P)) l
    | .exhausted => (BisonStack.run P (ps.map Push.toEvent) (init P : BisonStack.State V)).status = .done .nomem
    | .underflow => (BisonStack.run P (ps.map Push.toEvent) (init P : BisonStack.State V)).status = .fault :=
  run_abs P hP ps _ _ (init_inv P hP true) ((init_abs P hP true v0).1 hI).1

/-- non-vacuity: the replay with reductions, on the idealised machine and in memory -/
example :
    ideal (V := Nat) 16 [.shift 1 10, .shift 2 20, .reduce 0 5 50, .reduce 2 7 70] [(0, 0)] =
      .stack [(7, 70), (1, 10), (0, 0)] ∧
    absStates (BisonStack.run P4 [.shift 1 10, .shift 2 20, .reduce 0 5 50, .reduce 2 7 70] (init P4)) =
      [some 7, some 1, some 0] ∧
    absValues (BisonStack.run P4 [.shift 1 10, .shift 2 20, .reduce 0 5 50, .reduce 2 7 70] (init P4)) =
      [some 70, some 10] := by decide +kernel

/-- **The parser of `Parser.lean` drives the memory model.**  For every configuration `X` that the
loop (`yystep` over the translated tables, any world, any input) reaches from the start of
`yyparse`, the shifts and reductions of the iterations so far form a list of pushes `ps` — every
reduction popping fewer entries than the stack holds, by `C03_no_underflow` — that builds
`X.stack` on the idealised machine, and the memory model driven by `ps` tracks it: it HOLDS
`X.stack` (`Abs`) while that has fewer than 10000 entries, and has reported "memory exhausted" when
it has 10000. -/
theorem C03S_parser_drives (w : World) (c : Config) (fuel : Nat) (s : ScanState) (ctx : ParseCtx)
    (X : PState) (h : Reach (theEnv w c fuel) (initial s ctx) X) :
    ∃ ps : List (Push TokVal), applyAll ps [(0, {})] = X.stack ∧ Tracks parserParams ps X.stack :=
  reach_tracks w c fuel s ctx X h

/-- … in particular the memory model never faults under the parser (no pop below the bottom of
the arrays), and every access of every such run is in bounds (`C03S_in_bounds` holds for all event
lists, these included) -/
theorem C03S_parser_no_fault (w : World) (c : Config) (fuel : Nat) (s : ScanState) (ctx : ParseCtx)
    (X : PState) (h : Reach (theEnv w c fuel) (initial s ctx) X) :
    ∃ ps : List (Push TokVal), applyAll ps [(0, {})] = X.stack ∧
      ((BisonStack.run parserParams (ps.map Push.toEvent) (init parserParams)).status = .running ∨
       (BisonStack.run parserParams (ps.map Push.toEvent) (init parserParams)).status = .done .nomem) ∧
      ∀ a ∈ (BisonStack.run parserParams (ps.map Push.toEvent) (init parserParams)).log, a.ok := by
  obtain ⟨ps, h1, h2⟩ := reach_tracks w c fuel s ctx X h
  refine ⟨ps, h1, ?_, C03S_in_bounds parserParams parserParams_ok true _⟩
  rcases Nat.lt_or_ge X.stack.length parserParams.M with hlt | hge
  · exact .inl (h2.1 hlt).1
  · exact .inr (h2.2 hge)

/-! ### the parser driving the memory model on a concrete text

`a=((1,2),3);` through the loop of `Parser.lean` over the translated tables; the pushes of the
first 18 iterations (`pushesRun`; shift / reduce with the number of entries popped and the state
pushed) are fed to the memory model WITH THE SMALL CONSTANTS (4 and 16), so that the stacks move
twice on the way to the deepest point of this parse, 10 entries. -/

/-- `a=((1,2),3);` -/
def exText : Bytes := [97, 61, 40, 40, 49, 44, 50, 41, 44, 51, 41, 59]
def exEnv : ParserEnv := theEnv {} Config.init 100
def exStart : PState := initial { buf := { rest := exText } } { cfg := Config.init }

/-- shift or not, entries popped, state pushed -/
def summ : Push TokVal → Bool × Nat × Nat
  | .shift st _ => (true, 0, st)
  | .reduce n st _ => (false, n, st)

set_option synthInstance.maxSize 2000 in
example : ∃ (X : PState) (ps : List (Push TokVal)),
    Reach exEnv exStart X ∧ X.stack.map (·.1) = [43, 37, 26, 17, 26, 17, 8, 5, 1, 0] ∧
    ps.map summ =
      [(true, 0, 1), (false, 0, 5), (true, 0, 8), (true, 0, 17), (false, 0, 26), (true, 0, 17),
       (false, 0, 26), (true, 0, 10), (false, 1, 23), (false, 1, 35), (false, 1, 36), (true, 0, 42),
       (true, 0, 10), (false, 1, 23), (false, 1, 46), (false, 3, 36), (false, 1, 37), (true, 0, 43)] ∧
    applyAll ps [(0, {})] = X.stack ∧
    Abs (BisonStack.run P4 (ps.map Push.toEvent) (init P4)) X.stack ∧
    (BisonStack.run P4 (ps.map Push.toEvent) (init P4 : BisonStack.State TokVal)).nextId = 2 ∧
    (BisonStack.run P4 (ps.map Push.toEvent) (init P4 : BisonStack.State TokVal)).stacksize = 16 := by
  have h : (pushesRun exEnv 18 exStart).map (fun r =>
      (r.2.stack.map (·.1), r.1.map summ, decide (applyAll r.1 [(0, {})] = r.2.stack),
       decide (ideal 16 r.1 [(0, {})] = .stack r.2.stack),
       (BisonStack.run P4 (r.1.map Push.toEvent) (init P4 : BisonStack.State TokVal)).nextId,
       (BisonStack.run P4 (r.1.map Push.toEvent) (init P4 : BisonStack.State TokVal)).stacksize)) =
      some ([43, 37, 26, 17, 26, 17, 8, 5, 1, 0],
        [(true, 0, 1), (false, 0, 5), (true, 0, 8), (true, 0, 17), (false, 0, 26), (true, 0, 17),
         (false, 0, 26), (true, 0, 10), (false, 1, 23), (false, 1, 35), (false, 1, 36), (true, 0, 42),
         (true, 0, 10), (false, 1, 23), (false, 1, 46), (false, 3, 36), (false, 1, 37), (true, 0, 43)],
        true, true, 2, 16) := by decide +kernel
  cases hr : pushesRun exEnv 18 exStart with
  | none => rw [hr] at h; cases h
  | some r =>
    obtain ⟨ps, X⟩ := r
    rw [hr] at h
    simp only [Option.map_some, Option.some.injEq, Prod.mk.injEq, decide_eq_true_eq] at h
    obtain ⟨h1, h2, h3, h4, h5, h6⟩ := h
    refine ⟨X, ps, pushesRun_reach exEnv 18 exStart X ps hr, h1, h2, h3, ?_, h5, h6⟩
    have := C03S_lockstep_init P4 P4_ok (by decide) ps ({} : TokVal)
    rw [show P4.M = 16 from rfl, h4] at this
    exact this

/-- The same at the constants of grammar.c, on real bytes, kernel-evaluated
(`Proofs/C03StackReplay3.lean`): `a=` and 100 opening parentheses.  After 199 iterations the
parser's list has 200 entries; the memory model, fed with the parser's pushes, holds that list —
in a heap block of 400 slots, into which the stacks moved when the 200th entry filled
`yyssa[199]`.  One iteration earlier (199 entries) they were still in the automatic arrays
(`deep_replay_198`). -/
example : ∃ (X : PState) (ps : List (Push TokVal)),
    Reach deepEnv (deepStart 100) X ∧ X.stack.length = 200 ∧
    Abs (BisonStack.run parserParams (ps.map Push.toEvent) (init parserParams)) X.stack ∧
    ctlOf (BisonStack.run parserParams (ps.map Push.toEvent) (init parserParams : BisonStack.State TokVal)) =
      { loc := .heap 0, stacksize := 400, capS := 400, capV := 400, ssp := 199, vsp := 199,
        status := .running, nextId := 1, sizes := [400] } := by
  have h := deep_replay_199
  cases hr : pushesRun deepEnv 199 (deepStart 100) with
  | none => rw [hr] at h; cases h
  | some r =>
    obtain ⟨ps, X⟩ := r
    rw [hr] at h
    simp only [Option.map_some, Option.some.injEq, deepView, Prod.mk.injEq, decide_eq_true_eq] at h
    obtain ⟨h1, _, h3, h4⟩ := h
    refine ⟨X, ps, pushesRun_reach deepEnv 199 (deepStart 100) X ps hr, h1, ?_, ?_⟩
    · have := C03S_lockstep_init parserParams parserParams_ok (by decide) ps ({} : TokVal)
      rw [show parserParams.M = 10000 from by decide, h3] at this
      exact this
    · rw [ctl_run, ctl_init]; exact h4

/-! ## S3 — growth and the limit -/

/-- S3, sizes.  While the parser runs, `yystacksize` is `YYINITDEPTH · 2^k` clamped to
`YYMAXDEPTH`, `k` the number of extensions so far (each one `yystacksize *= 2`, clamped:
`C03S_content`); an extension is only made from a size below `YYMAXDEPTH`, so there are at most
`log2 ((YYMAXDEPTH - 1) / YYINITDEPTH) + 1 = ⌈log2 (YYMAXDEPTH / YYINITDEPTH)⌉` of them (6 for
200 and 10000), whatever the events are. -/
theorem C03S_growth (P : Params) (hP : P.OK) (ok : Bool) (es : List (Event V)) :
    ((BisonStack.run P es (init P ok)).status = .running →
      (BisonStack.run P es (init P ok)).stacksize =
        min (P.I * 2 ^ (BisonStack.run P es (init P ok)).nextId) P.M) ∧
    ((BisonStack.run P es (init P ok)).nextId = 0 ∨
      P.I * 2 ^ ((BisonStack.run P es (init P ok)).nextId - 1) < P.M) ∧
    (BisonStack.run P es (init P ok)).nextId ≤ ((P.M - 1) / P.I).log2 + 1 := by
  have h := C03S_inv P hP ok es
  exact ⟨h.size, h.steps, growth_count P hP _ h.steps⟩

example : ((parserParams.M - 1) / parserParams.I).log2 + 1 = 6 ∧
    (List.range 7).map (fun k => min (parserParams.I * 2 ^ k) parserParams.M) =
      [200, 400, 800, 1600, 3200, 6400, 10000] := by decide +kernel

/-- S3, **only as large as needed**: the stacks are extended only when the block in use is
full.  `hwmOf` reads the deepest stack so far off the log (a store `*yyssp = …` into slot `idx`
makes `idx + 1` entries); every allocation was preceded by a stack filling the whole previous
block, so `yystacksize` is `YYINITDEPTH` or at most twice the deepest stack so far. -/
theorem C03S_size_needed (P : Params) (hP : P.OK) (ok : Bool) (es : List (Event V))
    (hr : (BisonStack.run P es (init P ok)).status = .running) :
    ((BisonStack.run P es (init P ok)).nextId = 0 ∨
      P.I * 2 ^ ((BisonStack.run P es (init P ok)).nextId - 1) ≤
        hwmOf (BisonStack.run P es (init P ok)).log) ∧
    (BisonStack.run P es (init P ok)).stacksize ≤
      max P.I (2 * hwmOf (BisonStack.run P es (init P ok)).log) := by
  have h := C03S_inv P hP ok es
  have hn := run_need P hP es _ (init_inv P hP ok) (init_need P hP ok)
  exact ⟨hn, size_needed P _ h hn hr⟩

/-- non-vacuity: after 7 shifts and 5 pops with the small constants the deepest stack had 8
entries, the block has 16 slots (= 2 · 8), two allocations: `4 · 2^1 ≤ 8` -/
example :
    hwmOf (BisonStack.run P4 (List.replicate 7 (.shift 1 10) ++ [.reduce 5 2 20]) (init P4)).log = 8 ∧
    (BisonStack.run P4 (List.replicate 7 (.shift 1 10) ++ [.reduce 5 2 20]) (init P4)).stacksize = 16 ∧
    (BisonStack.run P4 (List.replicate 7 (.shift 1 10) ++ [.reduce 5 2 20]) (init P4)).ssp = 3 ∧
    (BisonStack.run P4 (List.replicate 7 (.shift 1 10) ++ [.reduce 5 2 20]) (init P4)).nextId = 2 := by
  decide +kernel

/-- S3, **"memory exhausted" exactly**.  From a running state of any execution, a shift or an
admissible reduction leaves `entriesAfter` ≤ `yystacksize` entries, and the parser reports
"memory exhausted" if and only if the push fills the last slot (`entriesAfter = yystacksize`)
while `yystacksize` is `YYMAXDEPTH` — or the allocator refuses the extension. -/
theorem C03S_exhausted_iff (P : Params) (hP : P.OK) (ok : Bool) (es : List (Event V)) (e : Event V)
    (hr : (BisonStack.run P es (init P ok)).status = .running)
    (he : pushing (BisonStack.run P es (init P ok)) e) :
    (BisonStack.step P (BisonStack.run P es (init P ok)) e).status = .done .nomem ↔
      entriesAfter (BisonStack.run P es (init P ok)) e = (BisonStack.run P es (init P ok)).stacksize ∧
      ((BisonStack.run P es (init P ok)).stacksize = P.M ∨ allocOk e = false) := by
  rcases push_outcome P hP _ e (C03S_inv P hP ok es) hr he with ⟨h1, h2⟩ | ⟨h1, h2⟩
  · exact ⟨fun hd => (by rw [h1] at hd; cases hd), fun hc => (h2 hc).elim⟩
  · exact ⟨fun _ => h2, fun _ => h1⟩

/-- S3, **the last depth that works**: after `n` shifts from the start of `yyparse` (allocations
succeeding) the parser runs, its memory holding the `n + 1` entries, if and only if `n + 1 <
YYMAXDEPTH`; the shift that makes the stack `YYMAXDEPTH` entries deep ends with "memory exhausted".
The deepest stack the parser works with has `YYMAXDEPTH - 1` = 9999 entries. -/
theorem C03S_last_depth (P : Params) (hP : P.OK) (st : Nat) (v v0 : V) (n : Nat) :
    (n + 1 < P.M →
      Abs (BisonStack.run P (List.replicate n (.shift st v true)) (init P))
        (List.replicate n (st, v) ++ [(0, v0)])) ∧
    (P.M ≤ n + 1 →
      (BisonStack.run P (List.replicate n (.shift st v true)) (init P : BisonStack.State V)).status =
        .done .nomem) := by
  have hev : List.replicate n (Event.shift st v true) =
      (List.replicate n (Push.shift st v)).map Push.toEvent := by
    rw [List.map_replicate]; rfl
  have hI := hP.I
  have hM := hP.M
  obtain ⟨a1, a2, a3⟩ := init_abs P hP true v0
  by_cases hM1 : P.M = 1
  · have hd : (init P : BisonStack.State V).status = .done .nomem := a3 (by omega) (.inl hM1)
    refine ⟨fun h => by omega, fun _ => ?_⟩
    rw [run_stopped P _ _ (by rw [hd]; intro hh; cases hh)]
    exact hd
  · have ha : Abs (init P : BisonStack.State V) [(0, v0)] := by
      by_cases h1 : 1 < P.I
      · exact (a1 h1).1
      · exact (a2 (by omega) (by omega) rfl).1
    have := run_abs P hP (List.replicate n (Push.shift st v)) _ _ (init_inv P hP true) ha
    rw [ideal_shifts P.M st v n _ (by simp), ← hev] at this
    constructor
    · intro hlt
      rw [if_pos (.inl (by simpa [Nat.add_comm] using hlt))] at this
      exact this
    · intro hge
      rw [if_neg (by
        intro h
        rcases h with h | h
        · simp only [List.length_singleton] at h; omega
        · omega)] at this
      exact this

/-- S3, **the limit of `Parser.lean` and `C03_stack_limit` is this limit, at the same moment**:
for every configuration `X` the loop reaches, the memory model driven by the parser's own pushes
has reported "memory exhausted" if and only if the next iteration of the loop does (`yystep`
returns `exhausted` with the message of `C03_stack_limit`), which is if and only if `X.stack` has
10000 entries. -/
theorem C03S_parser_exhausted_iff (w : World) (c : Config) (fuel : Nat) (s : ScanState)
    (ctx : ParseCtx) (X : PState) (h : Reach (theEnv w c fuel) (initial s ctx) X) :
    ∃ ps : List (Push TokVal), applyAll ps [(0, {})] = X.stack ∧
      ((BisonStack.run parserParams (ps.map Push.toEvent) (init parserParams)).status = .done .nomem ↔
        X.stack.length = 10000) ∧
      (X.stack.length = 10000 ↔
        yystep (theEnv w c fuel) X =
          .inl (X.s, X.ctx.yyerror X.s.buf.lineno Libconfig.C03.memoryExhausted, .exhausted)) := by
  obtain ⟨ps, h1, h2⟩ := reach_tracks w c fuel s ctx X h
  obtain ⟨hne, hle⟩ := Libconfig.C03.C03_stack_bounded w c fuel s ctx X h
  have hM : parserParams.M = 10000 := by decide
  refine ⟨ps, h1, ⟨fun hd => ?_, fun heq => h2.2 (by rw [hM]; omega)⟩, ⟨fun heq => ?_, fun hs => ?_⟩⟩
  · rcases Nat.lt_or_ge X.stack.length 10000 with hlt | hge
    · have := (h2.1 (by rw [hM]; exact hlt)).1
      rw [this] at hd; cases hd
    · omega
  · exact Libconfig.C03.C03_stack_limit w c fuel X hne (by omega)
  · have := Libconfig.C03.C03_exhausted_only_at_limit w c fuel X _ _ hs
    omega

/-- Whenever `yyparse` of `Parser.lean` returns "memory exhausted" (for all sufficiently large
fuel), the loop has reached a configuration whose stack has exactly 10000 entries, and the memory
model, driven by the pushes of that run, has filled the last slot of a block of `YYMAXDEPTH`
slots and reported "memory exhausted" as well. -/
theorem C03S_exhausted_run (w : World) (c₀ : Config) (lexFuel : Nat) (s₀ : ScanState) (ctx₀ : ParseCtx)
    (hex : ∃ N, ∀ fuel, N ≤ fuel → (yyparse (theEnv w c₀ lexFuel) fuel s₀ ctx₀).2.2 = .exhausted) :
    ∃ (X : PState) (ps : List (Push TokVal)),
      Reach (theEnv w c₀ lexFuel) (initial s₀ ctx₀) X ∧ X.stack.length = 10000 ∧
      applyAll ps [(0, {})] = X.stack ∧
      (BisonStack.run parserParams (ps.map Push.toEvent) (init parserParams)).status = .done .nomem := by
  obtain ⟨N, hN⟩ := hex
  have hres := hN N (Nat.le_refl _)
  obtain ⟨Y, hr, hfin⟩ := yyparseLoop_final (theEnv w c₀ lexFuel) N (initial s₀ ctx₀)
  have hloop : yyparseLoop (theEnv w c₀ lexFuel) N (initial s₀ ctx₀).stack (initial s₀ ctx₀).la
      (initial s₀ ctx₀).s (initial s₀ ctx₀).ctx = yyparse (theEnv w c₀ lexFuel) N s₀ ctx₀ := rfl
  rw [hloop] at hfin
  have hge : 10000 ≤ Y.stack.length := by
    rcases hfin with hstep | hout
    · have hst : yystep (theEnv w c₀ lexFuel) Y =
          .inl ((yyparse (theEnv w c₀ lexFuel) N s₀ ctx₀).1,
            (yyparse (theEnv w c₀ lexFuel) N s₀ ctx₀).2.1, .exhausted) := by
        rw [hstep, ← hres]
      exact Libconfig.C03.C03_exhausted_only_at_limit w c₀ lexFuel Y _ _ hst
    · rw [hout] at hres; cases hres
  obtain ⟨_, hle⟩ := Libconfig.C03.C03_stack_bounded w c₀ lexFuel s₀ ctx₀ Y hr
  obtain ⟨ps, h1, h2⟩ := reach_tracks w c₀ lexFuel s₀ ctx₀ Y hr
  have hM : parserParams.M = 10000 := by decide
  have hd := h2.2 (by rw [hM]; exact hge)
  exact ⟨Y, ps, hr, by omega, h1, hd⟩

/-- S3, **the known finding in memory terms, with the exact threshold**: a setting
`a = ( ( … ( ) … ) )` with 4997 or more nested lists makes the parser reach a configuration whose
stack has 10000 entries; the memory model, driven by the parser's pushes up to there, has filled
the last slot of its last block (10000 slots, `replay_9999`) and reported "memory exhausted".
`k` nested lists need `2k + 6` entries at their deepest point: `4 + 2k` after the `k`-th `(` and its
`$@3` (two entries per `(` on top of the four of `NAME $@1 =` and the bottom), one more for the
empty `value_list_optional` of the innermost list, one for its `)`.  For `k ≥ 4998` the limit is
reached while the parentheses are being opened (`C01_deep_nesting_exhausts`, which is where the
recorded figure 4998 comes from); for `k = 4997` at the innermost `)`
(`Proofs/C03StackDeep.lean`).  4996 nested lists need 9998 entries — below the last depth that
works, 9999 (`C03S_last_depth`) — and are accepted by the compiled library (observed, not proved:
grammar.c built with `YYDEBUG` prints stacks of at most 9998 entries for 4996 lists and "memory
exhausted" for 4997; `#eval` of `read` on the compiled model agrees: `accept` / `exhausted`). -/
theorem C03S_nested_lists (d : Nat) (hd : 4996 ≤ d) (w : World) (c₀ : Config) (lexFuel bufLen : Nat)
    (s₀ s₁ : ScanState) (ctx₀ : ParseCtx)
    (hlex : C02.LexesTo (theEnv w c₀ lexFuel) s₀
      (tokensOfConfig Generated.tokens bufLen (C01Parse.deepConfig d)) s₁)
    (hroot : C01Parse.stripPos ctx₀.cfg.root = { ty := T_GROUP }) (hpar : ctx₀.parent = some [])
    (hstr : ctx₀.str = none) :
    ∃ (X : PState) (ps : List (Push TokVal)),
      Reach (theEnv w c₀ lexFuel) (initial s₀ ctx₀) X ∧ X.stack.length = 10000 ∧
      applyAll ps [(0, {})] = X.stack ∧
      (BisonStack.run parserParams (ps.map Push.toEvent) (init parserParams)).status = .done .nomem := by
  apply C03S_exhausted_run
  rcases Nat.lt_or_ge d 4997 with hlt | hge
  · have hd' : d = 4996 := by omega
    subst hd'
    rw [C01Parse.stripPos_pp] at hroot
    rw [C01Parse.deepConfig_pp] at hlex
    exact deep_exhausts_4997 bufLen (C01PP.compiled_theEnv w c₀ lexFuel)
      (C01PP.lexT_of_lexesTo hlex) hroot hpar hstr
  · exact C01Parse.C01_deep_nesting_exhausts_total d hge w c₀ lexFuel bufLen s₀ s₁ ctx₀ hlex
      hroot hpar hstr

/-! ## S4 — every block is released exactly once -/

/-- S4.  An allocator monitor (`Heap.check`: which heap blocks are allocated, with how many
slots; which have been released) accepts the log of every execution: every load, store and copy
goes to the automatic arrays or to a block that is allocated AT THAT MOMENT and has the number
of slots the access was checked against in S1; every `YYSTACK_FREE` releases an allocated heap
block.  Afterwards the allocator's view is `heapOf`: the blocks `0 … nextId - 1` were handed out;
the parser holds the newest one if it still runs on the heap and none after `yyparse` has
returned; all the others have been released, in the order of their allocation. -/
theorem C03S_heap (P : Params) (hP : P.OK) (ok : Bool) (es : List (Event V)) :
    Heap.check P.I (BisonStack.run P es (init P ok)).log = some (heapOf (BisonStack.run P es (init P ok))) :=
  run_heap P hP es _ (init_inv P hP ok) (init_heap P hP ok)

/-- what the parser holds: nothing after the return or while it uses the automatic arrays,
otherwise exactly the newest block, the one `yyss` points to -/
theorem C03S_held (P : Params) (hP : P.OK) (ok : Bool) (es : List (Event V)) :
    let s := BisonStack.run P es (init P ok)
    ((∃ r, s.status = .done r) → liveOf s = []) ∧ (s.loc = .auto → liveOf s = []) ∧
    (∀ id, s.loc = .heap id → id + 1 = s.nextId ∧
      ((∀ r, s.status ≠ .done r) → liveOf s = [(id, s.ss.length)])) := by
  intro s
  have hw := (C03S_inv P hP ok es).where_
  refine ⟨?_, ?_, ?_⟩
  · intro ⟨r, hr⟩
    unfold liveOf
    rw [hr]
  · intro hl
    unfold liveOf
    rw [hl]
    cases s.status <;> rfl
  · intro id hl
    constructor
    · rcases loc_cases hw with ⟨h1, _⟩ | ⟨k, h1, h2⟩
      · rw [show s.loc = _ from hl] at h1; cases h1
      · rw [show s.loc = _ from hl] at h1
        cases h1
        exact h2.symm
    · intro hnd
      unfold liveOf
      rw [hl]
      cases hs : s.status with
      | running => rfl
      | fault => rfl
      | done r => exact absurd hs (hnd r)

/-- S4, spelled out.  In the log of every execution: the automatic arrays are never released;
block `id` was allocated once if `id < nextId` and never otherwise; it has been released once if
it is not the block the parser holds, and not at all if it is; and no entry after a
`YYSTACK_FREE (b)` — load, store, copy, another release — names `b` again (the log is newest
first: `post` is what came after). -/
theorem C03S_freed_once (P : Params) (hP : P.OK) (ok : Bool) (es : List (Event V)) :
    let s := BisonStack.run P es (init P ok)
    Access.free .auto ∉ s.log ∧
    (∀ id, allocCount id s.log = if id < s.nextId then 1 else 0) ∧
    (∀ id, freeCount id s.log = if id + (liveOf s).length < s.nextId then 1 else 0) ∧
    (∀ post pre b, s.log = post ++ .free b :: pre → ∀ a ∈ post, b ∉ blocksOf a) := by
  intro s
  have hc := C03S_heap P hP ok es
  refine ⟨check_auto P.I _ _ hc, fun id => (check_counts P.I _ _ hc id).1, fun id => ?_,
    fun post pre b hlog => ?_⟩
  · rw [(check_counts P.I _ _ hc id).2]
    have : id ∈ (heapOf s).freed ↔ id + (liveOf s).length < s.nextId := by
      show id ∈ (List.range _).reverse ↔ _
      rw [List.mem_reverse, List.mem_range]
      omega
    by_cases h : id + (liveOf s).length < s.nextId
    · rw [if_pos h, if_pos (this.mpr h)]
    · rw [if_neg h, if_neg (fun hh => h (this.mp hh))]
  · have hc' : Heap.check P.I (post ++ .free b :: pre) = some (heapOf s) := by
      rw [← hlog]; exact hc
    exact check_no_use_after_free P.I post pre b _ hc'

/-- S4, **no leak**: once `yyparse` has returned — by `YYACCEPT`, `YYABORT` or "memory exhausted",
whichever events led there — every block that was allocated has been released exactly once, and
the allocator holds nothing for the parser. -/
theorem C03S_no_leak (P : Params) (hP : P.OK) (ok : Bool) (es : List (Event V)) (r : Result)
    (hd : (BisonStack.run P es (init P ok)).status = .done r) :
    (∀ id, freeCount id (BisonStack.run P es (init P ok)).log =
        allocCount id (BisonStack.run P es (init P ok)).log ∧
      allocCount id (BisonStack.run P es (init P ok)).log ≤ 1) ∧
    ∃ h, Heap.check P.I (BisonStack.run P es (init P ok)).log = some h ∧ h.live = [] := by
  obtain ⟨_, h2, h3, _⟩ := C03S_freed_once P hP ok es
  have hl : liveOf (BisonStack.run P es (init P ok)) = [] := (C03S_held P hP ok es).1 ⟨r, hd⟩
  refine ⟨fun id => ?_, _, C03S_heap P hP ok es, hl⟩
  have a := h2 id
  have b := h3 id
  rw [hl] at b
  simp only [List.length_nil, Nat.add_zero] at b
  rw [a, b]
  constructor
  · rfl
  · split <;> omega

/-- every way out of the loop returns: `YYACCEPT` / `YYABORT` with an admissible `yylen`, and the
error loop when it runs down to the bottom of the stack (which it always does for this grammar:
no state shifts the error token, `C03_no_error_shift`) -/
theorem C03S_returns (P : Params) (hP : P.OK) (ok : Bool) (es : List (Event V))
    (hr : (BisonStack.run P es (init P ok)).status = .running) :
    (∀ r len, len ≤ (BisonStack.run P es (init P ok)).ssp →
      (BisonStack.step P (BisonStack.run P es (init P ok)) (.finish r len)).status = .done r) ∧
    (∀ k, (BisonStack.run P es (init P ok)).ssp < k →
      (BisonStack.step P (BisonStack.run P es (init P ok)) (.errPop k)).status = .done .abort) := by
  have h := C03S_inv P hP ok es
  generalize BisonStack.run P es (init P ok) = s at h hr
  constructor
  · intro r len hlen
    have : BisonStack.step P s (.finish r len) = returnLab r len s := by
      unfold BisonStack.step; rw [hr]
    rw [this]
    exact returnLab_status r len s hlen h.filled
  · intro k hk
    have : BisonStack.step P s (.errPop k) = errPop k s := by
      unfold BisonStack.step; rw [hr]
    rw [this]
    exact errPop_status P k s h hr hk

/-- S4 for the parser: from every configuration the loop of `Parser.lean` reaches below the
limit, whichever way it leaves the loop — `YYACCEPT`, `YYABORT` out of an action of a rule with
`len` right-hand-side symbols (fewer than the stack has entries, `C03_no_underflow`), a syntax
error (`len = 0`; the error loop finds no state that shifts `error` and empties the stack, which
is what the cleanup loop does as well) — `yyparse` returns, the allocator holds nothing for it
afterwards, and every block allocated has been released exactly once. -/
theorem C03S_parser_returns (w : World) (c : Config) (fuel : Nat) (s : ScanState) (ctx : ParseCtx)
    (X : PState) (h : Reach (theEnv w c fuel) (initial s ctx) X) (hlt : X.stack.length < 10000) :
    ∃ ps : List (Push TokVal), applyAll ps [(0, {})] = X.stack ∧
      ∀ (r : Result) (len : Nat), len < X.stack.length →
        let m := BisonStack.run parserParams (ps.map Push.toEvent ++ [.finish r len]) (init parserParams)
        m.status = .done r ∧
        (∀ id, freeCount id m.log = allocCount id m.log ∧ allocCount id m.log ≤ 1) ∧
        ∃ hp, Heap.check parserParams.I m.log = some hp ∧ hp.live = [] := by
  obtain ⟨ps, h1, h2⟩ := reach_tracks w c fuel s ctx X h
  refine ⟨ps, h1, fun r len hlen => ?_⟩
  intro m
  have ha := h2.1 (by rw [show parserParams.M = 10000 from by decide]; exact hlt)
  have hinv := C03S_inv parserParams parserParams_ok true (ps.map Push.toEvent)
  have hl := abs_length ha hinv.top
  have hm : m = BisonStack.step parserParams
      (BisonStack.run parserParams (ps.map Push.toEvent) (init parserParams)) (.finish r len) :=
    run_append parserParams _ [_] _
  have hd : m.status = .done r := by
    rw [hm]
    exact (C03S_returns parserParams parserParams_ok true (ps.map Push.toEvent) ha.1).1 r len (by omega)
  obtain ⟨n1, n2⟩ := C03S_no_leak parserParams parserParams_ok true
    (ps.map Push.toEvent ++ [.finish r len]) r hd
  exact ⟨hd, n1, n2⟩

/-- non-vacuity: 7 shifts and `YYABORT` with the small constants — two blocks allocated (8 and 16
slots), block 0 released by the second extension, block 1 at the return; the monitor ends with
nothing allocated, both released -/
example :
    Heap.check 4 (BisonStack.run P4 (List.replicate 7 (.shift 1 10) ++ [.finish .abort 0]) (init P4)).log =
      some { live := [], freed := [1, 0], next := 2 } ∧
    Heap.check 4 (BisonStack.run P4 (List.replicate 7 (.shift 1 10)) (init P4)).log =
      some { live := [(1, 16)], freed := [0], next := 2 } ∧
    allocCount 0 (BisonStack.run P4 (List.replicate 7 (.shift 1 10)) (init P4)).log = 1 ∧
    freeCount 0 (BisonStack.run P4 (List.replicate 7 (.shift 1 10)) (init P4)).log = 1 ∧
    freeCount 1 (BisonStack.run P4 (List.replicate 7 (.shift 1 10)) (init P4)).log = 0 ∧
    freeCount 1 (BisonStack.run P4 (List.replicate 7 (.shift 1 10) ++ [.finish .abort 0]) (init P4)).log = 1 := by
  decide +kernel

/-- the monitor is not vacuous: it rejects a store to a released block, a second release, and a
store checked against the wrong number of slots -/
example :
    Heap.check 4 [.storeS (.heap 0) 8 1, .free (.heap 0), .alloc (.heap 0) 8] = none ∧
    Heap.check 4 [.free (.heap 0), .free (.heap 0), .alloc (.heap 0) 8] = none ∧
    Heap.check 4 [.storeS (.heap 0) 9 1, .alloc (.heap 0) 8] = none ∧
    Heap.check 4 [.free .auto] = none ∧
    Heap.check 4 [.free (.heap 0), .storeS (.heap 0) 8 1, .alloc (.heap 0) 8] =
      some { live := [], freed := [0], next := 1 } := by decide +kernel

/-! ## S5 — the seeded change is refuted -/

/-- the small constants with the seeded test `yyss + yystacksize - 1 < yyssp` -/
def P4seeded : Params := { P4 with test := fullTestSeeded }

/-- S5, small constants: three shifts fill the automatic arrays (the real code has left them by
then); the fourth stores to `yyvsa[4]` and `yyssa[4]`, and only then are the stacks extended —
with copies of 5 elements out of arrays of 4 -/
example :
    (BisonStack.run P4seeded (List.replicate 3 (.shift 1 10)) (init P4seeded : BisonStack.State Nat)).ssp = 3 ∧
    (BisonStack.run P4seeded (List.replicate 3 (.shift 1 10)) (init P4seeded : BisonStack.State Nat)).loc = .auto ∧
    (BisonStack.run P4seeded (List.replicate 4 (.shift 1 10)) (init P4seeded : BisonStack.State Nat)).trace.drop 7 =
      [.storeV .auto 4 4, .storeS .auto 4 4, .alloc (.heap 0) 8, .copyS .auto 4 (.heap 0) 8 5,
       .copyV .auto 4 (.heap 0) 8 5] ∧
    ¬ (Access.storeV .auto 4 4).ok ∧ ¬ (Access.copyS .auto 4 (.heap 0) 8 5).ok := by decide +kernel

/-- S5 at the constants of grammar.c: with the seeded test 199 shifts leave
`yyssp` at `yyssa + 199`, the last slot, nothing allocated (`replay_seeded_199`, on the integer
shadow); the 200th shift stores to `yyvsa[200]` (`C03S_seeded_breaks_all` at these constants):
S1 fails. -/
theorem C03S_seeded_breaks :
    ¬ ∀ a ∈ (BisonStack.run seededParams (shifts 200) (init seededParams true)).log, a.ok :=
  seeded_breaks seededParams (by decide) rfl 1 7 true

example : ctlOf (BisonStack.run seededParams (shifts 199) (init seededParams true)) =
    { loc := .auto, stacksize := 200, capS := 200, capV := 200, ssp := 199, vsp := 199,
      status := .running, nextId := 0, sizes := [] } := by
  rw [ctl_shifts]; exact replay_seeded_199

/-- S5 for all constants: whatever `YYINITDEPTH > 0` and `YYMAXDEPTH` are, the parser with the
seeded test reaches an out-of-bounds store — after `YYINITDEPTH` shifts from the start of `yyparse`
the log holds the value store to slot `YYINITDEPTH` of the automatic array of `YYINITDEPTH`
slots.  The state before that shift is one the real code never is in: `yyssp` at the last slot
(`C03S_spare_slot`). -/
theorem C03S_seeded_breaks_all (P : Params) (hI : 0 < P.I) (hT : P.test = fullTestSeeded) (st : Nat)
    (v : V) (ok : Bool) :
    Access.storeV .auto P.I P.I ∈
      (BisonStack.run P (List.replicate P.I (.shift st v ok)) (init P ok)).log ∧
    ¬ ∀ a ∈ (BisonStack.run P (List.replicate P.I (.shift st v ok)) (init P ok)).log, a.ok :=
  ⟨seeded_oob_store P hI hT st v ok, seeded_breaks P hI hT st v ok⟩

/-! ## replays at the constants of grammar.c

On the integer shadow `Ctl` (`Ctl.run_shifts_init` in `Proofs/C03StackReplay.lean`: shifts move the
two pointers until a block is full), which `ctl_run` proves exact for every execution: `ctlOf` of
the full model's state is what the shadow computes. -/

/-- 198 shifts: 199 entries, still in `yyssa` / `yyvsa` -/
example : ctlOf (BisonStack.run parserParams (shifts 198) (init parserParams true)) =
    { loc := .auto, stacksize := 200, capS := 200, capV := 200, ssp := 198, vsp := 198,
      status := .running, nextId := 0, sizes := [] } := by
  rw [ctl_shifts]; exact replay_198

/-- the 199th shift pushes the 200th entry: 200 → 400 -/
example : ctlOf (BisonStack.run parserParams (shifts 199) (init parserParams true)) =
    { loc := .heap 0, stacksize := 400, capS := 400, capV := 400, ssp := 199, vsp := 199,
      status := .running, nextId := 1, sizes := [400] } := by
  rw [ctl_shifts]; exact replay_199

/-- 9998 shifts: 9999 entries, the parser runs; six blocks: 400, 800, 1600, 3200, 6400, 10000 -/
example : ctlOf (BisonStack.run parserParams (shifts 9998) (init parserParams true)) =
    { loc := .heap 5, stacksize := 10000, capS := 10000, capV := 10000, ssp := 9998, vsp := 9998,
      status := .running, nextId := 6, sizes := [10000, 6400, 3200, 1600, 800, 400] } := by
  rw [ctl_shifts]; exact replay_9998

/-- the 9999th shift pushes the 10000th entry: "memory exhausted" -/
example : ctlOf (BisonStack.run parserParams (shifts 9999) (init parserParams true)) =
    { loc := .heap 5, stacksize := 10000, capS := 10000, capV := 10000, ssp := 0, vsp := 0,
      status := .done .nomem, nextId := 6, sizes := [10000, 6400, 3200, 1600, 800, 400] } := by
  rw [ctl_shifts]; exact replay_9999

/-- … in agreement with `C03S_last_depth` at these constants -/
example :
    Abs (BisonStack.run parserParams (List.replicate 9998 (.shift 1 7 true)) (init parserParams))
      (List.replicate 9998 (1, 7) ++ [(0, 0)]) ∧
    (BisonStack.run parserParams (List.replicate 9999 (.shift 1 7 true))
      (init parserParams : BisonStack.State Nat)).status = .done .nomem :=
  ⟨(C03S_last_depth parserParams parserParams_ok 1 7 0 9998).1 (by decide),
   (C03S_last_depth parserParams parserParams_ok 1 7 0 9999).2 (by decide)⟩

end Libconfig.C03S
