import LibconfigModel.Writer
import LibconfigModel.Read
/-
  `config_write_file` (lib/libconfig.c): fopen, config_write through stdio,
  fflush + ferror, optional fsync, fclose — against an oracle that decides the
  outcome of each I/O step.
-/
namespace Libconfig

/-- outcome of the I/O steps of one `config_write_file` call, chosen by the environment -/
structure IOFaults where
  openOk : Bool := true
  /-- every buffered write and the final `fflush` succeed (`fflush(stream) == 0 && !ferror(stream)`) -/
  writeOk : Bool := true
  fsyncOk : Bool := true
  closeOk : Bool := true
deriving Repr, DecidableEq, Inhabited

inductive IOCall where
  | fopen | write | fflush | fsync | fclose
deriving Repr, DecidableEq, Inhabited

structure WriteFileOut where
  ret : Bool
  cfg : Config
  /-- the file's content when every step up to and including `fclose` succeeded -/
  fileBytes : Option Bytes
  calls : List IOCall
deriving Repr, Inhabited

def writeFile (bufLen : Nat) (c : Config) (io : IOFaults) : WriteFileOut :=
  let ioErr := c.setError ERR_FILE_IO (some Generated.IO_ERROR_TEXT)
  if !io.openOk then { ret := false, cfg := ioErr, fileBytes := none, calls := [.fopen] }
  else if !io.writeOk then
    { ret := false, cfg := ioErr, fileBytes := none, calls := [.fopen, .write, .fflush, .fclose] }
  else if c.opt OPT_FSYNC && !io.fsyncOk then
    { ret := false, cfg := ioErr, fileBytes := none, calls := [.fopen, .write, .fflush, .fsync, .fclose] }
  else if !io.closeOk then
    { ret := false, cfg := ioErr, fileBytes := none,
      calls := [.fopen, .write, .fflush] ++ (if c.opt OPT_FSYNC then [.fsync] else []) ++ [.fclose] }
  else
    { ret := true, cfg := c.setError ERR_NONE none, fileBytes := some (c.write bufLen),
      calls := [.fopen, .write, .fflush] ++ (if c.opt OPT_FSYNC then [.fsync] else []) ++ [.fclose] }

/-- the call fails at the first I/O step that fails, always with the same error record and no
file; otherwise the error record is cleared and the file is what `config_write` produces -/
theorem writeFile_of_ret (bufLen : Nat) (c : Config) (io : IOFaults) :
    ((writeFile bufLen c io).cfg =
      if (writeFile bufLen c io).ret then c.setError ERR_NONE none
      else c.setError ERR_FILE_IO (some Generated.IO_ERROR_TEXT)) ∧
    ((writeFile bufLen c io).fileBytes = if (writeFile bufLen c io).ret then some (c.write bufLen) else none) := by
  unfold writeFile
  cases io.openOk; · exact ⟨rfl, rfl⟩
  cases io.writeOk; · exact ⟨rfl, rfl⟩
  cases c.opt OPT_FSYNC && !io.fsyncOk
  · cases io.closeOk <;> exact ⟨rfl, rfl⟩
  · exact ⟨rfl, rfl⟩

/-- `config_write_file` never touches the settings, the options or the destructor -/
theorem writeFile_root (bufLen : Nat) (c : Config) (io : IOFaults) :
    (writeFile bufLen c io).cfg.root = c.root := by
  rw [(writeFile_of_ret bufLen c io).1]; split <;> rfl

theorem writeFile_destructor (bufLen : Nat) (c : Config) (io : IOFaults) :
    (writeFile bufLen c io).cfg.destructor = c.destructor := by
  rw [(writeFile_of_ret bufLen c io).1]; split <;> rfl

/-- Can `fopen(path, "wt")` succeed in this world?  The path must not be a
directory, and its directory part (if any) must exist. -/
def World.canCreate (w : World) (path : Bytes) : Bool :=
  let isDir (p : Bytes) : Bool := w.files.any (fun e => e.1 == p && e.2.isNone)
  if path.isEmpty || isDir path then false
  else
    let rev := path.reverse
    let dirRev := (rev.dropWhile (· != 47)).drop 1
    if path.contains 47 then isDir dirRev.reverse || dirRev.isEmpty else true

end Libconfig
