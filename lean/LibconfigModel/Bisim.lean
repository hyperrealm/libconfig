import LibconfigModel.Flex
import LibconfigModel.ScanSpec
import LibconfigModel.Proofs.Bounded
/-
  Equivalence of a flex automaton (compressed tables, `Flex.scan`) with the
  derivative automaton of a rule list (`ScanSpec.specScan`), by bisimulation:

  * a relation is a list of pairs ⟨flex state, vector of live rule derivatives⟩;
    `IsBisim` says what makes one a bisimulation, and `IsBisim.next_eq` that
    `Flex.next T sc bol inp = specNext rules sc bol inp` then holds for all inputs;
  * for a GIVEN relation, `checkCert` checks that it contains the ten start pairs
    and is closed under every byte 0 … 255 with equal jam behaviour and equal
    accept labels (`checkCert_sound`);
  * `C18_equiv` is not given a relation: Proofs/C18.lean builds it, as the closure of
    the start pairs under one byte of each class of bytes, and reaches `IsBisim`
    from there (`checkClosure_sound`); of the checker it uses `labEq`,
    `checkStart(s)` and `SuccRel`.
-/
namespace Libconfig
namespace Bisim
open ScanSpec

/-! ### structural equality of derivative vectors -/
def vecBeq : Vec → Vec → Bool
  | [], [] => true
  | (i, a) :: u, (j, b) :: v => Nat.beq i j && (Rx.beq a b && vecBeq u v)
  | _, _ => false

theorem vecBeq_eq : ∀ {u v : Vec}, vecBeq u v = true → u = v := by
  intro u
  induction u with
  | nil => intro v h; cases v with
    | nil => rfl
    | cons _ _ => simp [vecBeq] at h
  | cons x u ih =>
    intro v h
    cases v with
    | nil => simp [vecBeq] at h
    | cons y v =>
      obtain ⟨i, a⟩ := x
      obtain ⟨j, b⟩ := y
      simp only [vecBeq, Bool.and_eq_true] at h
      rw [Nat.eq_of_beq_eq_true h.1, Rx.beq_eq h.2.1, ih h.2.2]

/-- a candidate relation: pairs ⟨flex state, spec state⟩ -/
abbrev Cert := List (Nat × Vec)

def memPair : Cert → Nat → Vec → Bool
  | [], _, _ => false
  | (s', v') :: R, s, v => (Nat.beq s s' && vecBeq v v') || memPair R s v

theorem memPair_mem : ∀ {R : Cert} {s : Nat} {v : Vec}, memPair R s v = true → (s, v) ∈ R := by
  intro R
  induction R with
  | nil => intro s v h; simp [memPair] at h
  | cons p R ih =>
    intro s v h
    obtain ⟨s', v'⟩ := p
    simp only [memPair, Bool.or_eq_true, Bool.and_eq_true] at h
    cases h with
    | inl h => rw [Nat.eq_of_beq_eq_true h.1, vecBeq_eq h.2]; exact List.Mem.head _
    | inr h => exact List.Mem.tail _ (ih h)

/-! ### the checker of a given relation -/

/-- flex's accept entry (0 = not accepting) against the spec's label -/
def labEq (a : Nat) : Option Nat → Bool
  | none => Nat.beq a 0
  | some r => Nat.beq a r && !Nat.beq r 0

/-- successor `s'` of the flex automaton against successor `d` of the spec: both
jam, or neither does and the pair is in `R` -/
def succOK (R : Cert) (jam s' : Nat) (d : Vec) : Bool :=
  match Nat.beq s' jam, d with
  | true, [] => true
  | false, x :: v' => memPair R s' (x :: v')
  | _, _ => false

/-- one byte from one pair.  A NUL byte goes through `Flex.classOf` like any
other byte, inside `Flex.step`. -/
def checkByte (T : FlexTables) (R : Cert) (s : Nat) (v : Vec) (b : Nat) : Bool :=
  succOK R T.jamState (Flex.step T s b) (derivVec b v)

/-- bytes `0 … n-1` -/
def checkBytes (T : FlexTables) (R : Cert) (s : Nat) (v : Vec) : Nat → Bool
  | 0 => true
  | n + 1 => checkByte T R s v n && checkBytes T R s v n

def checkPair (T : FlexTables) (R : Cert) (s : Nat) (v : Vec) : Bool :=
  labEq (T.accept.getN s) (acceptLabel v) && checkBytes T R s v 256

def checkPairs (T : FlexTables) (R : Cert) : Cert → Bool
  | [] => true
  | (s, v) :: rest => checkPair T R s v && checkPairs T R rest

/-- the start pair of `(sc, bol)` is in `R` and the start state does not accept -/
def checkStart (T : FlexTables) (rules : List SpecRule) (R : Cert) (sc : Nat) (bol : Bool) : Bool :=
  Nat.beq (T.accept.getN (Flex.startState sc bol)) 0 &&
    memPair R (Flex.startState sc bol) (startVec rules sc bol)

/-- start conditions `0 … n-1`, at and away from the beginning of a line -/
def checkStarts (T : FlexTables) (rules : List SpecRule) (R : Cert) : Nat → Bool
  | 0 => true
  | n + 1 => checkStart T rules R n false && (checkStart T rules R n true && checkStarts T rules R n)

def checkCert (T : FlexTables) (rules : List SpecRule) (R : Cert) : Bool :=
  checkStarts T rules R 5 && checkPairs T R R

/-! ### soundness -/

theorem checkBytes_lt {T : FlexTables} {R : Cert} {s : Nat} {v : Vec} {n : Nat}
    (h : checkBytes T R s v n = true) : ∀ b, b < n → checkByte T R s v b = true :=
  (below_iff (g := checkBytes T R s v) rfl fun _ => rfl).mp h

theorem checkPair_spec {T : FlexTables} {R : Cert} {s : Nat} {v : Vec}
    (h : checkPair T R s v = true) :
    labEq (T.accept.getN s) (acceptLabel v) = true ∧ ∀ b, b < 256 → checkByte T R s v b = true := by
  unfold checkPair at h
  rw [Bool.and_eq_true] at h
  exact ⟨h.1, checkBytes_lt h.2⟩

theorem checkPairs_mem {T : FlexTables} {R : Cert} :
    ∀ {L : Cert}, checkPairs T R L = true → ∀ {s : Nat} {v : Vec}, (s, v) ∈ L →
      checkPair T R s v = true := by
  intro L
  induction L with
  | nil => intro _ s v hm; cases hm
  | cons p L ih =>
    intro h s v hm
    obtain ⟨s', v'⟩ := p
    simp only [checkPairs, Bool.and_eq_true] at h
    cases hm with
    | head => exact h.1
    | tail _ hm => exact ih h.2 hm

theorem checkStarts_lt {T : FlexTables} {rules : List SpecRule} {R : Cert} {n : Nat}
    (h : checkStarts T rules R n = true) (sc : Nat) (hsc : sc < n) :
    ∀ bol, checkStart T rules R sc bol = true := by
  have := (below_iff (g := checkStarts T rules R) rfl fun _ => (Bool.and_assoc ..).symm).mp h sc hsc
  rw [Bool.and_eq_true] at this
  exact fun | false => this.1 | true => this.2

/-- `succOK` for an arbitrary relation -/
def SuccRel (Rel : Nat → Vec → Prop) (jam s' : Nat) (d : Vec) : Prop :=
  ((s' == jam) = true ∧ d = []) ∨ ((s' == jam) = false ∧ ∃ x v', d = x :: v' ∧ Rel s' (x :: v'))

theorem nat_beq_eq (a b : Nat) : (a == b) = Nat.beq a b := by
  cases h : Nat.beq a b with
  | true => exact beq_iff_eq.mpr (Nat.eq_of_beq_eq_true h)
  | false => exact beq_eq_false_iff_ne.mpr (Nat.ne_of_beq_eq_false h)

theorem succOK_spec {R : Cert} {jam s' : Nat} {d : Vec} (h : succOK R jam s' d = true) :
    SuccRel (fun s v => memPair R s v = true) jam s' d := by
  unfold SuccRel
  rw [nat_beq_eq]
  unfold succOK at h
  cases h1 : Nat.beq s' jam <;> cases d <;> simp only [h1] at h
  · cases h
  · exact .inr ⟨rfl, _, _, rfl, h⟩
  · exact .inl ⟨rfl, rfl⟩
  · cases h

/-- equal labels make flex's bookkeeping of the last accepting state equal to `bump` -/
theorem labEq_bump {a : Nat} {v : Vec} (h : labEq a (acceptLabel v) = true) (pos : Nat)
    (last : Option (Nat × Nat)) :
    (if (a != 0) = true then some (a, pos) else last) = bump v pos last := by
  unfold bump
  cases hl : acceptLabel v with
  | none =>
    rw [hl] at h
    simp only [labEq] at h
    have : a = 0 := Nat.eq_of_beq_eq_true h
    subst this
    simp
  | some r =>
    rw [hl] at h
    simp only [labEq, Bool.and_eq_true, Bool.not_eq_true'] at h
    have h1 : a = r := Nat.eq_of_beq_eq_true h.1
    have h2 : r ≠ 0 := Nat.ne_of_beq_eq_false h.2
    subst h1
    simp [h2]

theorem specScan_nil (inp : List Nat) (pos : Nat) (last : Option (Nat × Nat)) :
    specScan [] inp pos last = last := by
  cases inp <;> simp [specScan, bump, acceptLabel, derivVec]

/-- `Rel` is a bisimulation between the flex automaton and the derivative automaton: related
states have equal labels and related successors under every byte -/
structure IsBisim (T : FlexTables) (Rel : Nat → Vec → Prop) : Prop where
  label : ∀ {s v}, Rel s v → labEq (T.accept.getN s) (acceptLabel v) = true
  step : ∀ {s v}, Rel s v → ∀ b, b < 256 →
    SuccRel Rel T.jamState (Flex.step T s b) (derivVec b v)

theorem IsBisim.scan_eq {T : FlexTables} {Rel : Nat → Vec → Prop} (hR : IsBisim T Rel) :
    ∀ (inp : List Nat) (s : Nat) (v : Vec) (pos : Nat) (last : Option (Nat × Nat)),
      Rel s v → (∀ b ∈ inp, b < 256) →
      Flex.scan T s inp pos last = specScan v inp pos last := by
  intro inp
  induction inp with
  | nil =>
    intro s v pos last hm _
    simp only [Flex.scan, specScan]
    exact labEq_bump (hR.label hm) pos last
  | cons c cs ih =>
    intro s v pos last hm hb
    have hc := hR.step hm c (hb c (List.Mem.head _))
    simp only [Flex.scan, specScan]
    rw [labEq_bump (hR.label hm) pos last]
    generalize Flex.step T s c = s' at hc ⊢
    generalize derivVec c v = d at hc ⊢
    cases hc with
    | inl hjam => rw [hjam.1, hjam.2]; rfl
    | inr hgo =>
      obtain ⟨hj, x, v', hd, hmem⟩ := hgo
      rw [hj, hd]
      simp only [Bool.false_eq_true, if_false]
      exact ih _ _ _ _ hmem (fun b hb' => hb b (List.Mem.tail _ hb'))

theorem IsBisim.next_eq {T : FlexTables} {Rel : Nat → Vec → Prop} (hR : IsBisim T Rel)
    {rules : List SpecRule} {sc : Nat} {bol : Bool}
    (hacc : T.accept.getN (Flex.startState sc bol) = 0)
    (hs : Rel (Flex.startState sc bol) (startVec rules sc bol))
    (inp : List Nat) (hb : ∀ b ∈ inp, b < 256) :
    Flex.next T sc bol inp = specNext rules sc bol inp := by
  cases inp with
  | nil => simp [Flex.next, Flex.scan, specNext, hacc]
  | cons c cs =>
    have hc := hR.step hs c (hb c (List.Mem.head _))
    simp only [Flex.next, Flex.scan, specNext, hacc]
    generalize Flex.step T (Flex.startState sc bol) c = s' at hc ⊢
    generalize derivVec c (startVec rules sc bol) = d at hc ⊢
    cases hc with
    | inl hjam => rw [hjam.1, hjam.2, specScan_nil]; rfl
    | inr hgo =>
      obtain ⟨hj, x, v', hd, hmem⟩ := hgo
      rw [hj, hd]
      simp only [Bool.false_eq_true, if_false]
      exact hR.scan_eq cs _ _ _ _ hmem (fun b hb' => hb b (List.Mem.tail _ hb'))

theorem checkPairs_bisim {T : FlexTables} {R : Cert} (hR : checkPairs T R R = true) :
    IsBisim T (fun s v => memPair R s v = true) where
  label hm := (checkPair_spec (checkPairs_mem hR (memPair_mem hm))).1
  step hm b hb := succOK_spec ((checkPair_spec (checkPairs_mem hR (memPair_mem hm))).2 b hb)

/-- **Soundness of the certificate check.** -/
theorem checkCert_sound {T : FlexTables} {rules : List SpecRule} {R : Cert}
    (h : checkCert T rules R = true) :
    ∀ sc, sc < 5 → ∀ (bol : Bool) (inp : List Nat), (∀ b ∈ inp, b < 256) →
      Flex.next T sc bol inp = specNext rules sc bol inp := by
  intro sc hsc bol inp hb
  simp only [checkCert, Bool.and_eq_true] at h
  have hs := checkStarts_lt h.1 sc hsc bol
  simp only [checkStart, Bool.and_eq_true] at hs
  exact (checkPairs_bisim h.2).next_eq (Nat.eq_of_beq_eq_true hs.1) hs.2 inp hb

/-- the start pairs of the start conditions `0 … n-1`, at and away from the beginning of a line -/
def startPairs (rules : List SpecRule) : Nat → Cert
  | 0 => []
  | n + 1 =>
    (Flex.startState n false, startVec rules n false) ::
    (Flex.startState n true, startVec rules n true) :: startPairs rules n

/-! ### diagnostics (untrusted): shortest distinguishing input

Used when the check fails after the tables or the rule list changed: a
breadth-first search from the ten start pairs for the first place where the two
automata disagree.  The result is an input to try with `Flex.next` and
`specNext`; for a `jam` mismatch a continuation may be needed to make the
difference observable. -/

inductive MismatchKind where
  | label      -- the accept labels after `inp` differ
  | jam        -- after `inp` exactly one side has no transition left
deriving Repr

structure Mismatch where
  kind : MismatchKind
  sc : Nat
  bol : Bool
  inp : List Nat
  flex : Option (Nat × Nat)
  spec : Option (Nat × Nat)
deriving Repr

/-- an exploration item: where it started, the bytes consumed (reversed), the pair -/
abbrev Item := Nat × Bool × List Nat × Nat × Vec

def mkMismatch (T : FlexTables) (rules : List SpecRule) (k : MismatchKind) (sc : Nat) (bol : Bool)
    (rev : List Nat) : Mismatch :=
  let inp := rev.reverse
  ⟨k, sc, bol, inp, Flex.next T sc bol inp, specNext rules sc bol inp⟩

/-- successors of one item under bytes `0 … n-1`, or the first jam mismatch -/
def diagSuccs (T : FlexTables) (rules : List SpecRule) (it : Item) :
    Nat → List Item → Except Mismatch (List Item)
  | 0, acc => .ok acc
  | n + 1, acc =>
    let (sc, bol, rev, s, v) := it
    let s' := Flex.step T s n
    let v' := derivVec n v
    match Nat.beq s' T.jamState, v' with
    | true, [] => diagSuccs T rules it n acc
    | false, x :: v'' => diagSuccs T rules it n ((sc, bol, n :: rev, s', x :: v'') :: acc)
    | _, _ => .error (mkMismatch T rules .jam sc bol (n :: rev))

/-- one breadth-first level -/
def diagLevel (T : FlexTables) (rules : List SpecRule) :
    List Item → Cert → List Item → Except Mismatch (Cert × List Item)
  | [], seen, next => .ok (seen, next)
  | (sc, bol, rev, s, v) :: rest, seen, next =>
    if memPair seen s v then diagLevel T rules rest seen next
    else if !labEq (T.accept.getN s) (acceptLabel v) then
      .error (mkMismatch T rules .label sc bol rev)
    else
      match diagSuccs T rules (sc, bol, rev, s, v) 256 [] with
      | .error m => .error m
      | .ok new => diagLevel T rules rest ((s, v) :: seen) (next ++ new)

def diagLoop (T : FlexTables) (rules : List SpecRule) :
    Nat → List Item → Cert → Option Mismatch
  | 0, _, _ => none
  | _ + 1, [], _ => none
  | fuel + 1, frontier, seen =>
    match diagLevel T rules frontier seen [] with
    | .error m => some m
    | .ok (seen', next) => diagLoop T rules fuel next seen'

def startItems (rules : List SpecRule) : Nat → List Item
  | 0 => []
  | n + 1 =>
    startItems rules n ++
      [(n, false, [], Flex.startState n false, startVec rules n false),
       (n, true, [], Flex.startState n true, startVec rules n true)]

/-- `none`: the automata agree; `some m`: a shortest input on which they part. -/
def findMismatch (T : FlexTables) (rules : List SpecRule) : Option Mismatch :=
  diagLoop T rules 10000 (startItems rules 5) []

end Bisim
end Libconfig
