import LibconfigModel.Proofs.Actions
import LibconfigModel.Proofs.ReadCore
/-
  For property C16 (hooks are released exactly once), stated for an arbitrary destructor flag `d`;
  `hooks n` of Properties/C16.lean is `destroyLog true n`.  For the semantic actions: `ActClosed R
  file`, a relation kept by each piece the actions are made of, hence by `runAction`; the
  conservation law (`Rel`) and the file names of C11 (`C11T.actClosed_CtxOk`) are its instances.
-/
namespace Libconfig.C16P

open Libconfig C04R

/-! ### `destroyLog` / `destroyLogList` basics -/

theorem destroyLog_eq (d : Bool) (n : Node) :
    destroyLog d n = destroyLogList d n.kids ++ (if n.hook != 0 && d then [n.hook] else []) := by
  cases n; rw [destroyLog]

@[simp] theorem destroyLogList_nil (d : Bool) : destroyLogList d [] = [] := by
  rw [destroyLogList]

@[simp] theorem destroyLogList_cons (d : Bool) (k : Node) (ks : List Node) :
    destroyLogList d (k :: ks) = destroyLog d k ++ destroyLogList d ks := by
  rw [destroyLogList]

theorem destroyLogList_append (d : Bool) (xs ys : List Node) :
    destroyLogList d (xs ++ ys) = destroyLogList d xs ++ destroyLogList d ys := by
  induction xs with
  | nil => simp
  | cons x xs ih => simp [ih]

mutual
theorem destroyLog_false : ∀ n : Node, destroyLog false n = []
  | .mk _ _ _ _ _ _ kids hook _ _ => by
    rw [destroyLog, destroyLogList_false kids]; simp
theorem destroyLogList_false : ∀ ks : List Node, destroyLogList false ks = []
  | [] => by simp
  | k :: ks => by simp [destroyLog_false k, destroyLogList_false ks]
end

theorem destroyLog_congr (d : Bool) {n n' : Node} (hk : n'.kids = n.kids) (hh : n'.hook = n.hook) :
    destroyLog d n' = destroyLog d n := by
  rw [destroyLog_eq d n', destroyLog_eq d n, hk, hh]

/-- a freshly created child contributes nothing -/
theorem destroyLog_fresh (d : Bool) (name : Option Bytes) (ty : Nat) :
    destroyLog d { name := name, ty := ty } = [] := by
  simp [destroyLog_eq]

/-- The log of a list of settings is laid around the log of its `i`-th. -/
theorem destroyLogList_at (d : Bool) {ks : List Node} {i : Nat} {k : Node} (h : ks[i]? = some k) :
    ∃ A B, destroyLogList d ks = A ++ destroyLog d k ++ B ∧
      (∀ k', destroyLogList d (ks.set i k') = A ++ destroyLog d k' ++ B) ∧
      destroyLogList d (ks.eraseIdx i) = A ++ B := by
  obtain ⟨hi, rfl⟩ := List.getElem?_eq_some_iff.mp h
  refine ⟨destroyLogList d (ks.take i), destroyLogList d (ks.drop (i + 1)), ?_, fun k' => ?_, ?_⟩
  · have e : destroyLogList d ks = destroyLogList d (ks.take i ++ ks[i] :: ks.drop (i + 1)) := by
      rw [List.getElem_cons_drop hi, List.take_append_drop]
    rw [e, destroyLogList_append, destroyLogList_cons, List.append_assoc]
  · rw [List.set_eq_take_append_cons_drop, if_pos hi, destroyLogList_append, destroyLogList_cons,
      List.append_assoc]
  · rw [List.eraseIdx_eq_take_drop_succ, destroyLogList_append]

/-! ### `Node.modify` -/

/-- … and so is the log of a tree around the log of the setting at `p`. -/
theorem destroyLog_at (d : Bool) : ∀ (p : Path) (root n : Node), root.get? p = some n →
    ∃ A B, destroyLog d root = A ++ destroyLog d n ++ B ∧
      ∀ f, destroyLog d (root.modify f p) = A ++ destroyLog d (f n) ++ B
  | [], root, n, h => by
    rw [get?_nil] at h; cases h
    exact ⟨[], [], by simp, fun f => by simp [modify_nil]⟩
  | i :: p, root, n, h => by
    rw [Node.get?] at h
    split at h
    · rename_i k hk
      obtain ⟨A, B, h0, hf⟩ := destroyLog_at d p k n h
      obtain ⟨A', B', h0', hs, -⟩ := destroyLogList_at d hk
      refine ⟨A' ++ A, B ++ B' ++ (if root.hook != 0 && d then [root.hook] else []), ?_, fun f => ?_⟩
      · rw [destroyLog_eq, h0', h0]; simp
      · rw [Node.modify, hk, destroyLog_eq, hs, hf]; simp
    · cases h

/-- If the addressed node `n` trades the hooks `L` for becoming `f n`, so does the root. -/
theorem modify_perm (d : Bool) (f : Node → Node) {L : List Nat} (p : Path) (root n : Node)
    (h : root.get? p = some n) (hp : (destroyLog d n).Perm (L ++ destroyLog d (f n))) :
    (destroyLog d root).Perm (L ++ destroyLog d (root.modify f p)) := by
  obtain ⟨A, B, h0, hf⟩ := destroyLog_at d p root n h
  rw [h0, hf]
  refine ((hp.append_left A).append_right B).trans ?_
  simp only [List.append_assoc]
  exact List.perm_append_comm_assoc A L _

/-! ### node-level operations -/

theorem eraseIdx_node_perm (d : Bool) (s victim : Node) (idx : Nat) (hv : s.kids[idx]? = some victim) :
    (destroyLog d s).Perm
      (destroyLog d victim ++ destroyLog d { s with kids := s.kids.eraseIdx idx }) := by
  obtain ⟨A, B, h0, -, he⟩ := destroyLogList_at d hv
  rw [destroyLog_eq d s, destroyLog_eq d { s with kids := _ }, h0, he]
  simp only [List.append_assoc]
  exact List.perm_append_comm_assoc A _ _

theorem removeElem_perm (d : Bool) (parent n' : Node) (idx : Nat) (log : List Nat)
    (h : parent.removeElem d idx = some (n', log)) :
    (destroyLog d parent).Perm (log ++ destroyLog d n') := by
  obtain ⟨victim, hv, rfl, rfl⟩ := removeElem_some h
  exact eraseIdx_node_perm d parent victim idx hv

theorem remove_perm (d : Bool) (parent n' : Node) (name : Option Bytes) (log : List Nat)
    (h : parent.remove d name = some (n', log)) :
    (destroyLog d parent).Perm (log ++ destroyLog d n') := by
  obtain ⟨pp, sp, idx, victim, hsp, hv, rfl, rfl⟩ := remove_some h
  exact modify_perm d _ _ parent sp hsp (eraseIdx_node_perm d sp victim idx hv)

theorem destroyLog_snoc (d : Bool) (n : Node) (ks : List Node) {k : Node}
    (hk : destroyLog d k = []) :
    destroyLog d { n with kids := ks ++ [k] } = destroyLog d { n with kids := ks } := by
  rw [destroyLog_eq, destroyLog_eq d { n with kids := ks }]
  simp [destroyLogList_append, hk]

theorem add_perm (d ov : Bool) (parent n' : Node) (name : Option Bytes) (ty : Int) (i : Nat)
    (log : List Nat) (h : parent.add d ov name ty = some (n', i, log)) :
    (destroyLog d parent).Perm (log ++ destroyLog d n') := by
  obtain ⟨ks, nm, rfl, -, hks, -⟩ := add_some h
  rw [destroyLog_snoc d parent ks (destroyLog_fresh d nm ty.toNat)]
  rcases hks with ⟨rfl, rfl⟩ | ⟨j, old, -, hj, rfl, rfl⟩
  · exact .of_eq (Eq.symm (destroyLog_congr d rfl rfl))
  · exact eraseIdx_node_perm d parent old j hj

theorem destroyLog_set {f : Node → Option Node} (hf : ScalarSetter f) (d : Bool) {n n' : Node}
    (h : f n = some n') : destroyLog d n' = destroyLog d n :=
  destroyLog_congr d (hf.update h).kids (hf.update h).hook

theorem setKid_eq (d : Bool) (n k k' : Node) (i : Nat) (hk : n.kids[i]? = some k)
    (he : destroyLog d k' = destroyLog d k) :
    destroyLog d { n with kids := n.kids.set i k' } = destroyLog d n := by
  obtain ⟨A, B, h0, hs, -⟩ := destroyLogList_at d hk
  rw [destroyLog_eq d n, destroyLog_eq d { n with kids := _ }, hs, h0, he]

theorem setElem_eq (d : Bool) {setter : Node → Option Node} (hs : ScalarSetter setter) (ty : Nat)
    (n n' : Node) (idx : Int) (i : Nat) (h : n.setElem setter ty idx = some (n', i)) :
    destroyLog d n' = destroyLog d n := by
  obtain ⟨-, -, ⟨-, -, e', he, rfl, -⟩ | ⟨-, e, e', hk, he, rfl, -⟩⟩ := setElem_some h
  · rw [destroyLog_snoc d n n.kids ((destroyLog_set hs d he).trans (destroyLog_fresh d none ty))]
    exact destroyLog_congr d rfl rfl
  · exact setKid_eq d n e e' _ hk (destroyLog_set hs d he)

/-! ### the transition function -/

/-- the conservation law for one transition, for the destructor flag `d` -/
def Conserves (d : Bool) (s : State) (r : State × Out) : Prop :=
  (destroyLog d s.cfg.root).Perm (r.2.log ++ destroyLog d r.1.cfg.root)

theorem conserves_same (d : Bool) (s s' : State) (res : Res) (h : s'.cfg.root = s.cfg.root) :
    Conserves d s (s', { res := res }) := by
  simp [Conserves, h]

theorem nodeOp_perm {d ov : Bool} {n n' : Node} {log : List Nat} (h : NodeOp d ov n n' log) :
    (destroyLog d n).Perm (log ++ destroyLog d n') := by
  cases h with
  | add h => exact add_perm d ov _ _ _ _ _ _ h
  | remove h => exact remove_perm d _ _ _ _ h
  | removeElem h => exact removeElem_perm d _ _ _ _ h
  | set u => simp [destroyLog_congr d u.kids u.hook]
  | setElem hf _ h => simp [setElem_eq d hf _ _ _ _ _ h]

/-- the operations excluded from the conservation law: `set_hook` puts a hook into the tree,
and reads are treated with the parser loop below -/
def isSpecial : Op → Bool
  | .setHook .. => true
  | .read _ => true
  | _ => false

theorem step_conserves (s : State) (op : Op) (hop : isSpecial op = false) :
    Conserves s.cfg.destructor s (step s op) := by
  have e := step_effect s op
  generalize step s op = r at e
  cases e with
  | same res => exact conserves_same _ _ _ _ rfl
  | edit res hn ho =>
    simpa [Conserves, State.withRoot] using modify_perm _ _ _ _ _ hn (nodeOp_perm ho)
  | setHook => cases hop
  | kept s' hr => exact conserves_same _ _ _ _ hr
  | reset c hr => simp [Conserves, State.withCfg, hr, destroyLog_fresh]
  | writeFile => exact conserves_same _ _ _ _ rfl
  | read => cases hop

theorem perm_nodup_parts {L A B : List Nat} (h : L.Perm (A ++ B)) (hn : L.Nodup) :
    A.Nodup ∧ B.Nodup ∧ ∀ x ∈ A, x ∉ B := by
  have h2 := (h.nodup_iff).mp hn
  rw [List.nodup_append] at h2
  obtain ⟨ha, hb, hab⟩ := h2
  exact ⟨ha, hb, fun x hx hxb => hab x hx x hxb rfl⟩

theorem setHook_silent (s : State) (p : Path) (h : Nat) : (step s (.setHook p h)).2.log = [] := by
  simp only [step]; split <;> rfl

theorem no_destructor (s : State) (op : Op) (hd : s.cfg.destructor = false)
    (hop : ∀ src, op ≠ .read src) : (step s op).2.log = [] := by
  cases hsp : isSpecial op with
  | false =>
    -- nothing is attached to the tree, so conservation leaves nothing for the log
    have h := step_conserves s op hsp
    rw [hd, Conserves, destroyLog_false, destroyLog_false, List.append_nil] at h
    exact List.perm_nil.mp h.symm
  | true =>
    cases op with
    | setHook p h => exact setHook_silent s p h
    | read src => exact absurd rfl (hop src)
    | _ => cases hsp

theorem removeElem_log (s : State) (p : Path) (i : Nat) (n victim : Node)
    (hn : s.cfg.root.get? p = some n) (ha : n.isAggregate = true) (hv : n.kids[i]? = some victim) :
    (step s (.removeElem p i)).2.log = destroyLog s.cfg.destructor victim := by
  simp [step, hn, Node.removeElem, ha, hv]

theorem destroy_log (s : State) :
    (step s .destroy).2.log = destroyLog s.cfg.destructor s.cfg.root ∧
    destroyLog true (step s .destroy).1.cfg.root = [] := by
  simp [step, State.withCfg, Config.init, destroyLog_fresh]

/-! ### relations closed under what the semantic actions are made of -/

/-- what an edit of one node may not touch if it is to be invisible here: children, hook, file -/
def SameBelow (f : Node → Node) : Prop :=
  ∀ n, (f n).kids = n.kids ∧ (f n).hook = n.hook ∧ (f n).file = n.file

theorem sameBelow_getD {f : Node → Option Node} (hf : ScalarSetter f) :
    SameBelow fun n => (f n).getD n := by
  intro n
  show ((f n).getD n).kids = n.kids ∧ ((f n).getD n).hook = n.hook ∧ ((f n).getD n).file = n.file
  cases h : f n with
  | none => exact ⟨rfl, rfl, rfl⟩
  | some n' => exact ⟨(hf.update h).kids, (hf.update h).hook, (hf.update h).file⟩

/-- `R` holds across every step the semantic actions (given the file name `file`) are made of;
`added` is `config_setting_add` (the log growing by its log), `elem` is
`config_setting_set_*_elem` -/
structure ActClosed (R : ParseCtx → ParseCtx → Prop) (file : Option Bytes) : Prop where
  trans : ∀ {a b c}, R a b → R b c → R a c
  fields : ∀ c c' : ParseCtx, c'.cfg = c.cfg → c'.log = c.log → R c c'
  yyerror : ∀ c line text, R c (c.yyerror line text)
  edit : ∀ c p f, SameBelow f → R c (c.modify p f)
  capture : ∀ c p line, R c (c.capture p line file)
  added : ∀ (c : ParseCtx) pp pn pn' name ty i log par set, c.cfg.root.get? pp = some pn →
    pn.add c.cfg.destructor (c.cfg.opt OPT_ALLOW_OVERRIDES) name ty = some (pn', i, log) →
    R c { (c.modify pp (fun _ => pn')) with parent := par, setting := set, log := c.log ++ log }
  elem : ∀ (c : ParseCtx) pp pn pn' setter ty idx i, ScalarSetter setter →
    c.cfg.root.get? pp = some pn → pn.setElem setter ty idx = some (pn', i) →
    R c (c.modify pp (fun _ => pn'))

theorem sameBelow_setFmtF (fmt : Option Nat) : SameBelow (setFmtF fmt) := by
  cases fmt with
  | none => exact fun _ => ⟨rfl, rfl, rfl⟩
  | some f => exact sameBelow_getD (scalar_setFormat f)

section
variable {R : ParseCtx → ParseCtx → Prop} {file : Option Bytes} (hR : ActClosed R file)
include hR

theorem ActClosed.runAction (act : ParseAct) (c : ParseCtx) (v : TokVal) (line : Nat) :
    R c (actCtx (runAction act c v line file)) := by
  have he := runAction_effect c v line file act
  have taken : R c (c.taken act) := hR.fields _ _ rfl rfl
  generalize Libconfig.runAction act c v line file = out at he
  cases he with
  | skip => exact hR.fields _ _ rfl rfl
  | ascend | piece => exact hR.fields _ _ rfl rfl
  | crash => exact taken
  | duplicate => exact hR.trans (hR.fields c { c with setting := none } rfl rfl) (hR.yyerror _ _ _)
  | mismatch => exact hR.trans taken (hR.yyerror _ _ _)
  | named hpp hpn hadd | opened _ _ hpp hpn hadd =>
    rw [← capture_added]
    exact hR.trans (hR.added c _ _ _ _ _ _ _ _ _ hpn hadd) (hR.capture _ _ _)
  | retyped _ _ hsp hn =>
    exact hR.trans (hR.edit c _ (fun n => { n with ty := _ }) fun _ => ⟨rfl, rfl, rfl⟩)
      (hR.fields _ _ rfl rfl)
  | @elem _ σ pp pn pn' i hσ _ hpp hpn hse =>
    have h1 := hR.trans taken (hR.elem (c.taken act) pp pn pn' _ _ _ i (valueSpec_scalar hσ).1 hpn hse)
    have h2 := hR.trans h1 (hR.edit _ (pp ++ [i]) _ (sameBelow_setFmtF σ.fmt))
    have h3 := hR.trans h2 (hR.capture _ (pp ++ [i]) line)
    rwa [capture_elem] at h3
  | @assigned _ σ sp n hσ _ hsp hn =>
    refine hR.trans taken (hR.edit _ sp _ fun n => ?_)
    obtain ⟨a1, a2, a3⟩ := sameBelow_getD (valueSpec_scalar hσ).1 n
    obtain ⟨b1, b2, b3⟩ := sameBelow_setFmtF σ.fmt ((σ.setter n).getD n)
    exact ⟨b1.trans a1, b2.trans a2, b3.trans a3⟩

end

/-! ### the parser loop -/

theorem modify_eq_all (d : Bool) (f : Node → Node)
    (hf : ∀ n, destroyLog d (f n) = destroyLog d n) :
    ∀ (p : Path) (root : Node), destroyLog d (root.modify f p) = destroyLog d root
  | [], root => by rw [modify_nil]; exact hf root
  | i :: p, root => by
    rw [Node.modify]
    split
    · rename_i k hk
      exact setKid_eq d root k _ i hk (modify_eq_all d f hf p k)
    · rfl

/-- hooks already logged plus hooks still attached -/
def total (c : ParseCtx) : List Nat := c.log ++ destroyLog c.cfg.destructor c.cfg.root

def Rel (c c' : ParseCtx) : Prop :=
  c'.cfg.destructor = c.cfg.destructor ∧ (total c).Perm (total c')

theorem Rel.refl (c : ParseCtx) : Rel c c := ⟨rfl, List.Perm.refl _⟩

theorem Rel.trans {a b c : ParseCtx} (h1 : Rel a b) (h2 : Rel b c) : Rel a c :=
  ⟨h2.1.trans h1.1, h1.2.trans h2.2⟩

theorem rel_of_eq {c c' : ParseCtx} (h1 : c'.cfg.destructor = c.cfg.destructor)
    (h2 : c'.cfg.root = c.cfg.root) (h3 : c'.log = c.log) : Rel c c' := by
  refine ⟨h1, ?_⟩
  simp [total, h1, h2, h3]

theorem rel_yyerror (c : ParseCtx) (line : Nat) (text : Bytes) : Rel c (c.yyerror line text) := by
  unfold ParseCtx.yyerror
  split
  · exact Rel.refl c
  · exact rel_of_eq rfl rfl rfl

theorem rel_modify_all (c : ParseCtx) (p : Path) (f : Node → Node)
    (hf : ∀ n, destroyLog c.cfg.destructor (f n) = destroyLog c.cfg.destructor n) :
    Rel c (c.modify p f) := by
  refine ⟨rfl, ?_⟩
  simp [total, ParseCtx.modify, modify_eq_all _ f hf]

theorem rel_modify_at (c : ParseCtx) (p : Path) (n n' : Node) (hn : c.cfg.root.get? p = some n)
    (he : destroyLog c.cfg.destructor n' = destroyLog c.cfg.destructor n) :
    Rel c (c.modify p (fun _ => n')) := by
  refine ⟨rfl, ?_⟩
  simp only [total, ParseCtx.modify]
  exact (modify_perm (L := []) _ (fun _ => n') p c.cfg.root n hn (he ▸ .refl _)).append_left _

theorem rel_modify_log (c : ParseCtx) (p : Path) (n n' : Node) (log : List Nat)
    (hn : c.cfg.root.get? p = some n)
    (hp : (destroyLog c.cfg.destructor n).Perm (log ++ destroyLog c.cfg.destructor n'))
    (par set : Option Path) :
    Rel c { (c.modify p (fun _ => n')) with parent := par, setting := set, log := c.log ++ log } := by
  refine ⟨rfl, ?_⟩
  simp only [total, ParseCtx.modify, List.append_assoc]
  exact (modify_perm _ (fun _ => n') p c.cfg.root n hn hp).append_left _

theorem actClosed_Rel (file : Option Bytes) : ActClosed Rel file where
  trans := Rel.trans
  fields := fun _ _ h1 h2 => rel_of_eq (by rw [h1]) (by rw [h1]) h2
  yyerror := rel_yyerror
  edit := fun c p f hf =>
    rel_modify_all c p f fun n => destroyLog_congr _ (hf n).1 (hf n).2.1
  capture := fun c p _ => rel_modify_all c p _ (fun _ => destroyLog_congr _ rfl rfl)
  added := fun c pp pn pn' _ _ i log par set hn hadd =>
    rel_modify_log c pp pn pn' log hn (add_perm _ _ pn pn' _ _ i log hadd) par set
  elem := fun c pp pn pn' _ ty idx i hs hn hse =>
    rel_modify_at c pp pn pn' hn (setElem_eq _ hs ty pn pn' idx i hse)

/-! ### reads -/

theorem loopRel_Rel : LoopRel Rel where
  refl := Rel.refl
  trans := Rel.trans
  yyerror := rel_yyerror
  act := fun a c v line file => (actClosed_Rel file).runAction a c v line
  incl := fun _ _ _ _ => rel_of_eq rfl rfl rfl

theorem yyparse_rel (E : ParserEnv) (fuel : Nat) (s : ScanState) (ctx : ParseCtx) :
    Rel ctx (yyparse E fuel s ctx).2.1 :=
  yyparseLoop_rel loopRel_Rel E fuel _ _ s ctx

theorem readCore_conserves (w : World) (c : Config) (filename : Option Bytes) (inp : Bytes)
    (fuel : Nat) :
    (destroyLog c.destructor c.root).Perm
      ((readCore w c filename inp fuel).dtorLog ++
        destroyLog c.destructor (readCore w c filename inp fuel).cfg.root) := by
  rw [C09P.readCore_dtorLog, C09P.readCore_cfg, C09P.finish_root, List.append_assoc]
  -- the parse starts from an empty tree and an empty log, so it ends with nothing logged or attached
  have hnil : (C09P.parseOf w (C09P.start c filename) filename inp fuel).2.1.log ++
      destroyLog c.destructor
        (C09P.parseOf w (C09P.start c filename) filename inp fuel).2.1.cfg.root = [] := by
    obtain ⟨hd, hp⟩ := yyparse_rel (theEnv w (C09P.start c filename) fuel) fuel
      (C09P.scan0 filename inp) { cfg := C09P.start c filename }
    have h0 : total { cfg := C09P.start c filename } = [] := by
      simp [total, C09P.start_root, destroyLog_eq]
    rw [h0, total, hd] at hp
    exact List.perm_nil.mp hp.symm
  rw [hnil, List.append_nil]
  -- what is left of `dtorLog` is the log of `Config.clear`: the hooks of the old tree, by definition
  exact .refl _

theorem read_conserves (w : World) (c : Config) (src : Source) (fuel : Nat) :
    (destroyLog c.destructor c.root).Perm
      ((read w c src fuel).dtorLog ++ destroyLog c.destructor (read w c src fuel).cfg.root) :=
  C09P.read_ind (Q := fun r => (destroyLog c.destructor c.root).Perm
      (r.dtorLog ++ destroyLog c.destructor r.cfg.root)) w c src fuel
    (fun _ _ _ => readCore_conserves ..) fun _ _ _ => .refl _

theorem step_read_conserves (s : State) (src : Source) :
    Conserves s.cfg.destructor s (step s (.read src)) := by
  simp only [step, Conserves, State.withCfg]
  exact read_conserves _ _ _ _

end Libconfig.C16P
