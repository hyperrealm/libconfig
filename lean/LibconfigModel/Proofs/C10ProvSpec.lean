import LibconfigModel.Proofs.C02DenoteSem
import LibconfigModel.Proofs.Restamp
import LibconfigModel.Proofs.C09LineSpec
import LibconfigModel.Proofs.DenoteJoint
/-
  C10P (provenance of the tree), specification side in the form the proofs use: unfolding lemmas
  for the stamped interpreter of DenoteProv.lean (named only where a clause has a side condition
  or leaves a match to reduce; the other clauses are the definition's own equations,
  `rw [valueP]`); that it and the interpreter of DenotePos.lean
  are the two projections of the joint reading of Proofs/DenoteJoint.lean, so that forgetting the
  stamps gives the interpreter of Denote.lean (and what it consumes is known from there); that it
  is NATURAL in the stamps
  (re-stamping the result = running it with other stamps — which gives: only the stamps of tokens
  of the text matter; the provenance tree determines every stamped tree).  Nothing here mentions
  the parser.
-/
namespace Libconfig.C10Prov
open Libconfig Denote C02D C01PP C09L

/-! ### unfolding lemmas -/

section
variable (σ : Nat → Stamp) (o : Options)

theorem valueP_arr (fuel : Nat) (nm : Option Bytes) (mk : Option Nat) (rest : List Denote.Item)
    (h : ∀ r, rest ≠ .arrayEnd :: r) :
    valueP σ o (fuel + 1) nm mk (.arrayStart :: rest) =
      match scalarP σ none none rest with
      | none => .error .syntax
      | some (x, rest') =>
        match arrayRestP σ x.ty fuel [x] rest' with
        | .error k => .error k
        | .ok elems rest'' =>
          .ok (stamped { name := nm, ty := T_ARRAY, kids := elems }
            (σ (keyOf mk (.arrayStart :: rest)))) rest'' := by
  rw [valueP]
  · rfl
  · exact h

theorem valueP_lst (fuel : Nat) (nm : Option Bytes) (mk : Option Nat) (rest : List Denote.Item)
    (h : ∀ r, rest ≠ .listEnd :: r) :
    valueP σ o (fuel + 1) nm mk (.listStart :: rest) =
      match valueP σ o fuel none none rest with
      | .error k => .error k
      | .ok x rest' =>
        match listRestP σ o fuel [x] rest' with
        | .error k => .error k
        | .ok elems rest'' =>
          .ok (stamped { name := nm, ty := T_LIST, kids := elems }
            (σ (keyOf mk (.listStart :: rest)))) rest'' := by
  rw [valueP]
  · rfl
  · exact h

theorem valueP_other (fuel : Nat) (nm : Option Bytes) (mk : Option Nat) (items : List Denote.Item)
    (h1 : ∀ r, items ≠ .arrayStart :: r) (h2 : ∀ r, items ≠ .listStart :: r)
    (h3 : ∀ r, items ≠ .groupStart :: r) :
    valueP σ o (fuel + 1) nm mk items =
      match scalarP σ nm mk items with
      | some (x, rest) => .ok x rest
      | none => .error .syntax := by
  rw [valueP]
  · rfl
  · exact h1
  · exact h2
  · exact h3

theorem listRestP_skip (fuel : Nat) (acc : List Node) (rest : List Denote.Item)
    (h : (∃ r, rest = .comma :: r) ∨ (∃ r, rest = .listEnd :: r)) :
    listRestP σ o (fuel + 1) acc (.comma :: rest) = listRestP σ o fuel acc rest := by
  rcases h with ⟨r, rfl⟩ | ⟨r, rfl⟩ <;> rw [listRestP]

theorem listRestP_value (fuel : Nat) (acc : List Node) (rest : List Denote.Item)
    (h1 : ∀ r, rest ≠ .listEnd :: r) (h2 : ∀ r, rest ≠ .comma :: r) :
    listRestP σ o (fuel + 1) acc (.comma :: rest) =
      match valueP σ o fuel none none rest with
      | .error k => .error k
      | .ok x rest' => listRestP σ o fuel (acc ++ [x]) rest' := by
  rw [listRestP]
  · rfl
  · exact h2
  · exact h1

theorem listRestP_other (fuel : Nat) (acc : List Node) (items : List Denote.Item)
    (h1 : ∀ r, items ≠ .listEnd :: r) (h2 : ∀ r, items ≠ .comma :: r) :
    listRestP σ o (fuel + 1) acc items = .error .syntax := by
  rw [listRestP]
  · exact h1
  · exact h2

theorem arrayRestP_other (ty fuel : Nat) (acc : List Node) (items : List Denote.Item)
    (h1 : ∀ r, items ≠ .arrayEnd :: r) (h2 : ∀ r, items ≠ .comma :: r) :
    arrayRestP σ ty (fuel + 1) acc items = .error .syntax := by
  rw [arrayRestP]
  · exact h1
  · exact h2

theorem settingsP_noAssign (fuel : Nat) (members : List Node) (nm : Bytes)
    (rest : List Denote.Item) (h : ∀ r, rest ≠ .assign :: r) :
    settingsP σ o (fuel + 1) members (.name nm :: rest) =
      match enter o members nm with
      | none => .error .duplicateName
      | some _ => .error .syntax := by
  rw [settingsP]
  cases enter o members nm with
  | none => rfl
  | some m' =>
    cases rest with
    | nil => rfl
    | cons it tl =>
      cases it
      case assign => exact absurd rfl (h _)
      all_goals rfl

theorem settingsP_setting (fuel : Nat) (members : List Node) (nm : Bytes) (rest : List Denote.Item) :
    settingsP σ o (fuel + 1) members (.name nm :: .assign :: rest) =
      match enter o members nm with
      | none => .error .duplicateName
      | some members' =>
        match valueP σ o fuel (some nm) (some (rest.length + 2)) rest with
        | .error k => .error k
        | .ok x rest'' => settingsP σ o fuel (members' ++ [x]) (skipTerminator rest'') := by
  rw [settingsP]
  rfl

theorem settingsP_other (fuel : Nat) (members : List Node) (items : List Denote.Item)
    (h : ∀ nm r, items ≠ .name nm :: r) :
    settingsP σ o (fuel + 1) members items = .ok members items := by
  rw [settingsP]
  exact h

end

/-! ### re-stamping a tree -/

def mapOk {α β : Type} (f : α → β) : Denote.Res α → Denote.Res β
  | .ok a rest => .ok (f a) rest
  | .error k => .error k

mutual
theorem stripPos_restamp : ∀ n : Node, stripPos n = restamp (fun _ => (0, none)) n
  | .mk name ty fmt ival fval sval kids hook line file => by
    rw [stripPos, restamp, stripPosList_restamp kids]
theorem stripPosList_restamp : ∀ l : List Node, stripPosList l = restampList (fun _ => (0, none)) l
  | [] => by rw [stripPosList, restampList]
  | k :: ks => by rw [stripPosList, restampList, stripPos_restamp k, stripPosList_restamp ks]
end

theorem enter_restamp (o : Options) (g : Stamp → Stamp) (kids : List Node) (nm : Bytes) :
    enter o (restampList g kids) nm = (enter o kids nm).map (restampList g) := by
  rw [restampList_map, enter_map o _ (restamp_name g)]
  cases enter o kids nm with
  | none => rfl
  | some l => simp [restampList_map]

/-! ### scalars -/

theorem scalar_leaf {nm : Option Bytes} {items rest : List Denote.Item} {x : Node}
    (h : scalar nm items = some (x, rest)) : x.kids = [] ∧ x.line = 0 ∧ x.file = none := by
  cases items with
  | nil => simp [scalar] at h
  | cons it tl =>
    cases it
    all_goals simp only [scalar, Option.some.injEq, Prod.mk.injEq, reduceCtorEq] at h
    all_goals
      rw [← h.1]
      exact ⟨rfl, rfl, rfl⟩

theorem elemKey_le (items : List Denote.Item) : elemKey items ≤ items.length := by
  cases items with
  | nil => exact Nat.le_refl _
  | cons it tl =>
    cases it
    case string s =>
      obtain ⟨_, h⟩ := strings_reads tl s
      exact Nat.le_of_succ_le h.length_le
    all_goals exact Nat.le_refl _

theorem scalarP_some {σ : Nat → Stamp} {nm : Option Bytes} {mk : Option Nat}
    {items rest : List Denote.Item} {x : Node} (h : scalarP σ nm mk items = some (x, rest)) :
    ∃ x0, scalar nm items = some (x0, rest) ∧ x = stamped x0 (σ (keyOf mk items)) := by
  unfold scalarP at h
  cases hs : scalar nm items with
  | none => rw [hs] at h; cases h
  | some p =>
    obtain ⟨x0, r0⟩ := p
    rw [hs] at h
    simp only [Option.some.injEq, Prod.mk.injEq] at h
    exact ⟨x0, by rw [h.2], h.1.symm⟩

theorem scalarP_none {σ : Nat → Stamp} {nm : Option Bytes} {mk : Option Nat}
    {items : List Denote.Item} (h : scalarP σ nm mk items = none) : scalar nm items = none := by
  unfold scalarP at h
  cases hs : scalar nm items with
  | none => rfl
  | some p => rw [hs] at h; cases h

theorem scalarP_of {σ : Nat → Stamp} {nm : Option Bytes} {mk : Option Nat}
    {items rest : List Denote.Item} {x0 : Node} (h : scalar nm items = some (x0, rest)) :
    scalarP σ nm mk items = some (stamped x0 (σ (keyOf mk items)), rest) := by
  unfold scalarP
  rw [h]

theorem scalarP_of_none {σ : Nat → Stamp} {nm : Option Bytes} {mk : Option Nat}
    {items : List Denote.Item} (h : scalar nm items = none) : scalarP σ nm mk items = none := by
  unfold scalarP
  rw [h]

theorem stamped_ty (n : Node) (p : Stamp) : (stamped n p).ty = n.ty := rfl

/-! ### `stripPos` of what the interpreter builds -/

theorem stripPos_stamped (x : Node) (p : Stamp) : stripPos (stamped x p) = stripPos x := by
  rw [stripPos_eq, stripPos_eq]
  rfl

theorem stripPos_scalar {nm : Option Bytes} {items rest : List Denote.Item} {x : Node}
    (h : scalar nm items = some (x, rest)) : stripPos x = x := by
  obtain ⟨hk, hl, hf⟩ := scalar_leaf h
  cases x
  simp only at hk hl hf
  rw [stripPos, hk, hl, hf]
  rfl

theorem scalarP_strip (σ : Nat → Stamp) (nm : Option Bytes) (mk : Option Nat)
    (items : List Denote.Item) :
    scalar nm items = (scalarP σ nm mk items).map fun p => (stripPos p.1, p.2) := by
  unfold scalarP
  cases hs : scalar nm items with
  | none => rfl
  | some p => simp only [Option.map_some, stripPos_stamped, stripPos_scalar hs]

theorem stripPos_agg (nm : Option Bytes) (ty : Nat) (kids : List Node) (p : Stamp) :
    stripPos (stamped { name := nm, ty := ty, kids := kids } p) =
      { name := nm, ty := ty, kids := stripPosList kids } := by
  rw [stripPos_eq]; rfl

/-! ### the joint reading: the stamped and the positional interpreter are its projections

`valueJ` (Proofs/DenoteJoint.lean) is `valueP` clause by clause with the error payloads of
`valueAt`; each agreement is one walk through the clauses of `valueJ`. -/

theorem arrayRestJ_erase (σ : Nat → Stamp) (ty fuel : Nat) (acc : List Node)
    (items : List Denote.Item) :
    arrayRestP σ ty fuel acc items = (arrayRestJ σ ty fuel acc items).erase := by
  fun_induction arrayRestJ σ ty fuel acc items <;> simp [arrayRestP, ResAt.erase, *]

theorem arrayRestJ_at (σ : Nat → Stamp) (ty fuel : Nat) (acc : List Node)
    (items : List Denote.Item) :
    arrayRestAt ty fuel (stripPosList acc) items =
      (arrayRestJ σ ty fuel acc items).map stripPosList := by
  fun_induction arrayRestJ σ ty fuel acc items <;>
    simp [arrayRestAt, ResAt.map, scalarP_strip σ none none, ← stripPosList_snoc, stripPos_ty, *]

/-- **forgetting where gives the interpreter of DenoteProv.lean** -/
theorem joint_erase (σ : Nat → Stamp) (o : Options) :
    (∀ fuel nm mk items, valueP σ o fuel nm mk items = (valueJ σ o fuel nm mk items).erase) ∧
    (∀ fuel m items, settingsP σ o fuel m items = (settingsJ σ o fuel m items).erase) ∧
    (∀ fuel acc items, listRestP σ o fuel acc items = (listRestJ σ o fuel acc items).erase) := by
  apply valueJ.mutual_induct σ o
    (motive_1 := fun fuel nm mk items =>
      valueP σ o fuel nm mk items = (valueJ σ o fuel nm mk items).erase)
    (motive_2 := fun fuel m items => settingsP σ o fuel m items = (settingsJ σ o fuel m items).erase)
    (motive_3 := fun fuel acc items =>
      listRestP σ o fuel acc items = (listRestJ σ o fuel acc items).erase)
  all_goals intros
  all_goals simp only [valueJ, valueP, settingsJ, settingsP, listRestJ, listRestP, ResAt.erase,
    arrayRestJ_erase, *]

/-- **forgetting the stamps gives the interpreter of DenotePos.lean** -/
theorem joint_at (σ : Nat → Stamp) (o : Options) :
    (∀ fuel nm mk items, valueAt o fuel nm items = (valueJ σ o fuel nm mk items).map stripPos) ∧
    (∀ fuel m items, settingsAt o fuel (stripPosList m) items =
      (settingsJ σ o fuel m items).map stripPosList) ∧
    (∀ fuel acc items, listRestAt o fuel (stripPosList acc) items =
      (listRestJ σ o fuel acc items).map stripPosList) := by
  apply valueJ.mutual_induct σ o
    (motive_1 := fun fuel nm mk items =>
      valueAt o fuel nm items = (valueJ σ o fuel nm mk items).map stripPos)
    (motive_2 := fun fuel m items => settingsAt o fuel (stripPosList m) items =
      (settingsJ σ o fuel m items).map stripPosList)
    (motive_3 := fun fuel acc items => listRestAt o fuel (stripPosList acc) items =
      (listRestJ σ o fuel acc items).map stripPosList)
  -- the first element of an array, then the agreement for arrays
  case case4 | case5 =>
    intro fuel nm mk rest x rest' hs
    intros
    have := arrayRestJ_at σ x.ty fuel [x] rest'
    simp_all [valueJ, valueAt, ResAt.map, stripPos_agg, scalarP_strip σ none none, stripPosList,
      stripPos_ty]
  -- a scalar in a place for a value: the one clause in which `mk` matters
  case case13 | case14 =>
    intro n nm mk items
    intros
    simp_all [valueJ, valueAt, ResAt.map, scalarP_strip σ nm mk]
  all_goals intros
  all_goals simp_all only [valueJ, valueAt, settingsJ, settingsAt, listRestJ, listRestAt, ResAt.map,
    stripPos_agg, scalarP_strip σ none none, enter_strip, stripPosList_snoc, stripPosList,
    Option.map_some, Option.map_none]

/-! ### forgetting the stamps: the interpreter of Denote.lean -/

theorem erase_map {α β : Type} (f : α → β) (r : ResAt α) : (r.map f).erase = mapOk f r.erase := by
  cases r <;> rfl

theorem valueP_erase (σ : Nat → Stamp) (o : Options) (fuel : Nat) (nm : Option Bytes)
    (mk : Option Nat) (items : List Denote.Item) :
    value o fuel nm items = mapOk stripPos (valueP σ o fuel nm mk items) := by
  rw [← (erases o fuel).1, (joint_at σ o).1 fuel nm mk, (joint_erase σ o).1, erase_map]

theorem listRestP_erase (σ : Nat → Stamp) (o : Options) (fuel : Nat) (acc : List Node)
    (items : List Denote.Item) :
    listRest o fuel (stripPosList acc) items = mapOk stripPosList (listRestP σ o fuel acc items) := by
  rw [← (erases o fuel).2.1, (joint_at σ o).2.2, (joint_erase σ o).2.2, erase_map]

theorem settingsP_erase (σ : Nat → Stamp) (o : Options) (fuel : Nat) (m : List Node)
    (items : List Denote.Item) :
    settings o fuel (stripPosList m) items = mapOk stripPosList (settingsP σ o fuel m items) := by
  rw [← (erases o fuel).2.2, (joint_at σ o).2.1, (joint_erase σ o).2.1, erase_map]

theorem arrayRestP_erase (σ : Nat → Stamp) (ty fuel : Nat) (acc : List Node)
    (items : List Denote.Item) :
    arrayRest ty fuel (stripPosList acc) items =
      mapOk stripPosList (arrayRestP σ ty fuel acc items) := by
  rw [← erase_arrayRest, arrayRestJ_at σ, arrayRestJ_erase, erase_map]

/-! ### what the stamped interpreter consumes -/

section
variable {σ : Nat → Stamp} {o : Options} {fuel : Nat}

theorem scalarP_length {nm : Option Bytes} {mk : Option Nat} {items rest : List Denote.Item}
    {x : Node} (h : scalarP σ nm mk items = some (x, rest)) : rest.length < items.length :=
  let ⟨_, hs, _⟩ := scalarP_some h
  scalar_length hs

theorem valueP_reads {nm : Option Bytes} {mk : Option Nat} {items rest : List Denote.Item}
    {x : Node} (h : valueP σ o fuel nm mk items = .ok x rest) : ∃ it, (it :: rest) <:+ items :=
  value_reads (by rw [valueP_erase σ o fuel nm mk, h]; rfl)

theorem listRestP_reads {acc r : List Node} {items rest : List Denote.Item}
    (h : listRestP σ o fuel acc items = .ok r rest) : ∃ it, (it :: rest) <:+ items :=
  listRest_reads (by rw [listRestP_erase σ, h]; rfl)

theorem settingsP_suffix {m r : List Node} {items rest : List Denote.Item}
    (h : settingsP σ o fuel m items = .ok r rest) : rest <:+ items :=
  settings_suffix (by rw [settingsP_erase σ, h]; rfl)

theorem arrayRestP_reads {ty : Nat} {acc r : List Node} {items rest : List Denote.Item}
    (h : arrayRestP σ ty fuel acc items = .ok r rest) : ∃ it, (it :: rest) <:+ items :=
  arrayRest_reads ty fuel _ items _ rest (by rw [arrayRestP_erase σ, h]; rfl)

theorem valueP_length {nm : Option Bytes} {mk : Option Nat} {items rest : List Denote.Item}
    {x : Node} (h : valueP σ o fuel nm mk items = .ok x rest) : rest.length < items.length :=
  let ⟨_, hs⟩ := valueP_reads h
  hs.length_le

theorem valueJ_length {nm : Option Bytes} {mk : Option Nat} {items rest : List Denote.Item}
    {x : Node} (h : valueJ σ o fuel nm mk items = .ok x rest) : rest.length < items.length :=
  valueP_length (nm := nm) (mk := mk) (x := x) (by rw [(joint_erase σ o).1, h]; rfl)

theorem listRestP_length {acc r : List Node} {items rest : List Denote.Item}
    (h : listRestP σ o fuel acc items = .ok r rest) : rest.length < items.length :=
  let ⟨_, hs⟩ := listRestP_reads h
  hs.length_le

theorem settingsP_length {m r : List Node} {items rest : List Denote.Item}
    (h : settingsP σ o fuel m items = .ok r rest) : rest.length ≤ items.length :=
  (settingsP_suffix h).length_le

theorem arrayRestP_length {ty : Nat} {acc r : List Node} {items rest : List Denote.Item}
    (h : arrayRestP σ ty fuel acc items = .ok r rest) : rest.length < items.length :=
  let ⟨_, hs⟩ := arrayRestP_reads h
  hs.length_le

end

/-! ### naturality -/

section
variable {g : Stamp → Stamp} {σ σ' : Nat → Stamp} {N : Nat}

theorem keyOf_agree (H : ∀ k, k ≤ N → σ' k = g (σ k)) {mk : Option Nat} {items : List Denote.Item}
    (hl : items.length ≤ N) (hm : ∀ k, mk = some k → σ' k = g (σ k)) :
    σ' (keyOf mk items) = g (σ (keyOf mk items)) := by
  cases mk with
  | some k => exact hm k rfl
  | none => exact H _ (Nat.le_trans (elemKey_le items) hl)

theorem scalarP_nat (H : ∀ k, k ≤ N → σ' k = g (σ k)) {nm : Option Bytes} {mk : Option Nat}
    {items : List Denote.Item} (hl : items.length ≤ N) (hm : ∀ k, mk = some k → σ' k = g (σ k)) :
    scalarP σ' nm mk items = (scalarP σ nm mk items).map (fun p => (restamp g p.1, p.2)) := by
  unfold scalarP
  cases hs : scalar nm items with
  | none => rfl
  | some p =>
    obtain ⟨x, rest⟩ := p
    simp only [Option.map_some]
    rw [keyOf_agree H hl hm, restamp_stamped_leaf _ _ _ (scalar_leaf hs).1]

theorem arrayRestP_nat (H : ∀ k, k ≤ N → σ' k = g (σ k)) (ty : Nat) :
    ∀ (fuel : Nat) (acc : List Node) (items : List Denote.Item), items.length ≤ N →
    arrayRestP σ' ty fuel (restampList g acc) items =
      mapOk (restampList g) (arrayRestP σ ty fuel acc items) := by
  intro fuel
  induction fuel with
  | zero => intro acc items _; rw [arrayRestP, arrayRestP]; rfl
  | succ fuel ih =>
    intro acc items hl
    cases arrayRestView items with
    | done r' => rw [arrayRestP, arrayRestP]; rfl
    | comma rest' =>
      have hl' : rest'.length ≤ N := Nat.le_of_succ_le hl
      rw [arrayRestP, arrayRestP, scalarP_nat H hl' (fun _ h => by cases h)]
      cases hs : scalarP σ none none rest' with
      | none => exact ih acc rest' hl'
      | some p =>
        simp only [Option.map_some, restamp_ty]
        by_cases hty : p.1.ty ≠ ty
        · rw [if_pos hty, if_pos hty]; rfl
        · rw [if_neg hty, if_neg hty, ← restampList_snoc]
          exact ih _ _ (Nat.le_trans (Nat.le_of_lt (scalarP_length hs)) hl')
    | other _ h1 h2 =>
      rw [arrayRestP_other _ _ _ _ _ h1 h2, arrayRestP_other _ _ _ _ _ h1 h2]
      rfl

/-- `σ'` is `g ∘ σ` on the tokens of a text of `N` items: then running the interpreter with `σ'`
is re-stamping with `g` what it yields with `σ` -/
theorem natural (H : ∀ k, k ≤ N → σ' k = g (σ k)) (o : Options) : ∀ fuel : Nat,
    (∀ nm mk items, items.length ≤ N → (∀ k, mk = some k → σ' k = g (σ k)) →
      valueP σ' o fuel nm mk items = mapOk (restamp g) (valueP σ o fuel nm mk items)) ∧
    (∀ acc items, items.length ≤ N →
      listRestP σ' o fuel (restampList g acc) items =
        mapOk (restampList g) (listRestP σ o fuel acc items)) ∧
    (∀ m items, items.length ≤ N →
      settingsP σ' o fuel (restampList g m) items =
        mapOk (restampList g) (settingsP σ o fuel m items)) := by
  intro fuel
  induction fuel with
  | zero =>
    refine ⟨?_, ?_, ?_⟩
    · intro nm mk items _ _; rw [valueP, valueP]; rfl
    · intro acc items _; rw [listRestP, listRestP]; rfl
    · intro m items _; rw [settingsP, settingsP]; rfl
  | succ fuel ih =>
    obtain ⟨ihv, ihl, ihs⟩ := ih
    refine ⟨?_, ?_, ?_⟩
    · intro nm mk items hl hm
      have hkey := keyOf_agree H hl hm
      cases valueView items with
      | arrNil r => rw [valueP, valueP, hkey]; rfl
      | arr rest' hne =>
        have hl' : rest'.length ≤ N := Nat.le_of_succ_le hl
        rw [valueP_arr _ _ _ _ _ _ hne, valueP_arr _ _ _ _ _ _ hne, hkey,
          scalarP_nat H hl' (fun _ h => by cases h)]
        cases hs : scalarP σ none none rest' with
        | none => rfl
        | some p =>
          simp only [Option.map_some, restamp_ty]
          rw [show [restamp g p.1] = restampList g [p.1] from rfl, arrayRestP_nat H _ _ _ _
            (Nat.le_trans (Nat.le_of_lt (scalarP_length hs)) hl')]
          cases arrayRestP σ p.1.ty fuel [p.1] p.2 with
          | error k => rfl
          | ok xs r2 => simp only [mapOk, restamp_stamped]
      | lstNil r => rw [valueP, valueP, hkey]; rfl
      | lst rest' hne =>
        have hl' : rest'.length ≤ N := Nat.le_of_succ_le hl
        rw [valueP_lst _ _ _ _ _ _ hne, valueP_lst _ _ _ _ _ _ hne, hkey,
          ihv none none rest' hl' (fun _ h => by cases h)]
        cases hv : valueP σ o fuel none none rest' with
        | error k => rfl
        | ok x r1 =>
          simp only [mapOk]
          rw [show [restamp g x] = restampList g [x] from rfl,
            ihl [x] r1 (Nat.le_trans (Nat.le_of_lt (valueP_length hv)) hl')]
          cases listRestP σ o fuel [x] r1 with
          | error k => rfl
          | ok xs r2 => simp only [mapOk, restamp_stamped]
      | grp rest' =>
        rw [valueP, valueP, hkey,
          show settingsP σ' o fuel [] rest' = _ from ihs [] rest' (Nat.le_of_succ_le hl)]
        cases settingsP σ o fuel [] rest' with
        | error k => rfl
        | ok members r1 =>
          cases r1 with
          | nil => rfl
          | cons it tl =>
            cases it
            case groupEnd => simp only [mapOk, restamp_stamped]
            all_goals rfl
      | other _ h1 h2 h3 =>
        rw [valueP_other _ _ _ _ _ _ h1 h2 h3, valueP_other _ _ _ _ _ _ h1 h2 h3,
          scalarP_nat H hl hm]
        cases scalarP σ nm mk items <;> rfl
    · intro acc items hl
      cases listRestView items with
      | done r' => rw [listRestP, listRestP]; rfl
      | comma rest' =>
        have hl' : rest'.length ≤ N := Nat.le_of_succ_le hl
        cases listRestView rest' with
        | done r' =>
          rw [listRestP_skip _ _ _ _ _ (.inr ⟨_, rfl⟩), listRestP_skip _ _ _ _ _ (.inr ⟨_, rfl⟩)]
          exact ihl _ _ hl'
        | comma r' =>
          rw [listRestP_skip _ _ _ _ _ (.inl ⟨_, rfl⟩), listRestP_skip _ _ _ _ _ (.inl ⟨_, rfl⟩)]
          exact ihl _ _ hl'
        | other _ h1 h2 =>
          rw [listRestP_value _ _ _ _ _ h1 h2, listRestP_value _ _ _ _ _ h1 h2,
            ihv none none rest' hl' (fun _ h => by cases h)]
          cases hv : valueP σ o fuel none none rest' with
          | error k => rfl
          | ok x r1 =>
            simp only [mapOk]
            rw [← restampList_snoc]
            exact ihl _ _ (Nat.le_trans (Nat.le_of_lt (valueP_length hv)) hl')
      | other _ h1 h2 =>
        rw [listRestP_other _ _ _ _ _ h1 h2, listRestP_other _ _ _ _ _ h1 h2]
        rfl
    · intro m items hl
      cases settingsView items with
      | setting nm rest' =>
        have hl' : rest'.length ≤ N := Nat.le_of_succ_le (Nat.le_of_succ_le hl)
        rw [settingsP_setting, settingsP_setting, enter_restamp]
        cases enter o m nm with
        | none => rfl
        | some m' =>
          simp only [Option.map_some]
          rw [ihv (some nm) (some (rest'.length + 2)) rest' hl'
            (fun k hk => by injection hk with hk; rw [← hk]; exact H _ hl)]
          cases hv : valueP σ o fuel (some nm) (some (rest'.length + 2)) rest' with
          | error k => rfl
          | ok x r1 =>
            simp only [mapOk]
            rw [← restampList_snoc]
            exact ihs _ _ (Nat.le_trans (skipTerminator_length r1)
              (Nat.le_trans (Nat.le_of_lt (valueP_length hv)) hl'))
      | noAssign nm rest' hne =>
        rw [settingsP_noAssign _ _ _ _ _ _ hne, settingsP_noAssign _ _ _ _ _ _ hne, enter_restamp]
        cases enter o m nm <;> rfl
      | other _ hne => rw [settingsP_other _ _ _ _ _ hne, settingsP_other _ _ _ _ _ hne]; rfl

theorem settingsP_nat (H : ∀ k, k ≤ N → σ' k = g (σ k)) (o : Options) (fuel : Nat)
    (m : List Node) (items : List Denote.Item) (hl : items.length ≤ N) :
    settingsP σ' o fuel (restampList g m) items =
      mapOk (restampList g) (settingsP σ o fuel m items) :=
  (natural H o fuel).2.2 m items hl

end

/-- only the stamps of the tokens of the text matter -/
theorem settingsP_congr {σ σ' : Nat → Stamp} (o : Options) (fuel : Nat) (m : List Node)
    (items : List Denote.Item) (H : ∀ k, k ≤ items.length → σ' k = σ k) :
    settingsP σ' o fuel m items = settingsP σ o fuel m items := by
  have := settingsP_nat (g := fun p => p) (σ := σ) (σ' := σ') (N := items.length) H o fuel m items
    (Nat.le_refl _)
  rw [restampList_id] at this
  rw [this]
  cases settingsP σ o fuel m items with
  | ok xs rest => show Denote.Res.ok (restampList (fun p => p) xs) rest = _; rw [restampList_id]
  | error k => rfl

end Libconfig.C10Prov
