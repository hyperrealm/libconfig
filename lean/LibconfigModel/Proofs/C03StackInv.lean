import LibconfigModel.BisonStack
/-
  C03S: what each piece of the stack code of grammar.c (`BisonStack.lean`) does to the
  state, as equations with the log delta made explicit, and the invariant `Inv` along every
  execution.
-/
namespace Libconfig.C03SP

open Libconfig Libconfig.BisonStack

variable {V : Type}

/-! ### the test -/

theorem fullTestC_iff (sz off : Nat) : fullTestC sz off = true ↔ sz ≤ off + 1 := by
  unfold fullTestC
  rw [decide_eq_true_iff]
  omega

theorem fullTestSeeded_iff (sz off : Nat) : fullTestSeeded sz off = true ↔ sz < off + 1 := by
  unfold fullTestSeeded
  rw [decide_eq_true_iff]
  omega

/-! ### slots -/

theorem isInit_set_self {α : Type} (l : List (Option α)) (i : Nat) (x : α) (h : i < l.length) :
    isInit (l.set i (some x)) i = true := by
  unfold isInit
  rw [List.getElem?_set_self h]

theorem isInit_set_ne {α : Type} (l : List (Option α)) (i j : Nat) (x : Option α) (h : j ≠ i) :
    isInit (l.set j x) i = isInit l i := by
  unfold isInit
  rw [List.getElem?_set_ne h]

theorem isInit_lt {α : Type} (l : List (Option α)) (i : Nat) (h : isInit l i = true) : i < l.length := by
  unfold isInit at h
  cases hx : l[i]? with
  | none => rw [hx] at h; cases h
  | some _ => exact (List.getElem?_eq_some_iff.mp hx).1

theorem length_relocate' {α : Type} (old : List (Option α)) (n sz : Nat) :
    (relocate old n sz).length = min n old.length + (sz - n) := by
  unfold relocate
  rw [List.length_append, List.length_take, List.length_replicate]

theorem length_relocate {α : Type} (old : List (Option α)) (n sz : Nat) (h1 : n ≤ old.length)
    (h2 : n ≤ sz) : (relocate old n sz).length = sz := by
  rw [length_relocate']
  omega

theorem take_relocate {α : Type} (old : List (Option α)) (n sz : Nat) (h1 : n ≤ old.length) :
    (relocate old n sz).take n = old.take n := by
  unfold relocate
  rw [List.take_append_of_le_length (by rw [List.length_take]; omega)]
  rw [List.take_take, Nat.min_self]

theorem getElem?_relocate {α : Type} (old : List (Option α)) (n sz i : Nat) (h1 : n ≤ old.length)
    (hi : i < n) : (relocate old n sz)[i]? = old[i]? := by
  unfold relocate
  rw [List.getElem?_append_left (by rw [List.length_take]; omega), List.getElem?_take_of_lt hi]

theorem isInit_relocate {α : Type} (old : List (Option α)) (n sz i : Nat) (h1 : n ≤ old.length)
    (hi : i < n) : isInit (relocate old n sz) i = isInit old i := by
  unfold isInit
  rw [getElem?_relocate old n sz i h1 hi]

theorem getElem?_relocate_ge {α : Type} (old : List (Option α)) (n sz i : Nat) (h1 : n ≤ old.length)
    (hi : n ≤ i) (h2 : i < sz) : (relocate old n sz)[i]? = some none := by
  unfold relocate
  rw [List.getElem?_append_right (by rw [List.length_take]; omega), List.length_take,
    Nat.min_eq_left h1, List.getElem?_replicate]
  rw [if_pos (by omega)]

/-- The element loop of `YYCOPY`; into fresh memory it leaves what `relocate` says
(`yycopy_eq_relocate`). -/
theorem yycopy_spec {α : Type} (src : List (Option α)) :
    ∀ (n i : Nat) (dst : List (Option α)), i + n ≤ src.length → i + n ≤ dst.length →
      yycopy n i src dst = dst.take i ++ (src.drop i).take n ++ dst.drop (i + n) := by
  intro n
  induction n with
  | zero =>
    intro i dst _ _
    simp [yycopy]
  | succ n ih =>
    intro i dst h1 h2
    rw [yycopy, ih (i + 1) _ (by omega) (by rw [List.length_set]; omega)]
    have hi : i < src.length := by omega
    have hd : i < dst.length := by omega
    have hg : src.getD i none = src[i] := by
      rw [List.getD_eq_getElem?_getD, List.getElem?_eq_getElem hi]; rfl
    rw [List.drop_set_of_lt (by omega), List.take_add_one, List.getElem?_set_self hd,
      List.take_set_of_le (Nat.le_refl i), hg]
    rw [show (src.drop i).take (n + 1) = src[i] :: (src.drop (i + 1)).take n by
      rw [List.drop_eq_getElem_cons hi, List.take_succ_cons]]
    simp [Nat.add_assoc, Nat.add_comm 1 n]

theorem yycopy_eq_relocate {α : Type} (old : List (Option α)) (n sz : Nat) (h1 : n ≤ old.length)
    (h2 : n ≤ sz) : yycopy n 0 old (List.replicate sz none) = relocate old n sz := by
  rw [yycopy_spec old n 0 _ (by omega) (by rw [List.length_replicate]; omega)]
  unfold relocate
  simp

/-! ### `yyreturnlab` -/

/-- a plain load or store in the block `b` of `cap` slots -/
def plain (b : Blk) (cap : Nat) : Access → Prop
  | .storeS b' c _ => b' = b ∧ c = cap
  | .storeV b' c _ => b' = b ∧ c = cap
  | .loadS b' c _ _ => b' = b ∧ c = cap
  | .loadV b' c _ _ => b' = b ∧ c = cap
  | .garbageV b' c _ => b' = b ∧ c = cap
  | _ => False

/-- `if (b != yyssa) YYSTACK_FREE (b);` -/
def freeOf : Blk → List Access
  | .auto => []
  | .heap id => [.free (.heap id)]

/-- what `yyreturnlab` needs of the stacks: the two pointers at the same offset, inside the arrays,
and every slot up to them written (but `yyvs[0]`) -/
structure Filled (s : State V) : Prop where
  same : s.vsp = s.ssp
  top : s.ssp < s.ss.length
  capV : s.vs.length = s.ss.length
  initS : ∀ i, i ≤ s.ssp → isInit s.ss i = true
  initV : ∀ i, 1 ≤ i → i ≤ s.vsp → isInit s.vs i = true

theorem Filled.pop {s : State V} (h : Filled s) (n : Nat) (log : List Access) :
    Filled { s with ssp := s.ssp - n, vsp := s.vsp - n, log := log } :=
  { same := by show s.vsp - n = s.ssp - n; rw [h.same]
    top := by have := h.top; show s.ssp - n < s.ss.length; omega
    capV := h.capV
    initS := fun i hi => h.initS i (by have : i ≤ s.ssp - n := hi; omega)
    initV := fun i h1 hi => h.initV i h1 (by have : i ≤ s.vsp - n := hi; omega) }

theorem Filled.loadS {s : State V} (h : Filled s) (i : Nat) (hi : i ≤ s.ssp) :
    (Access.loadS s.loc s.ss.length i (isInit s.ss i)).ok ∧
      plain s.loc s.ss.length (.loadS s.loc s.ss.length i (isInit s.ss i)) :=
  ⟨⟨by have := h.top; omega, h.initS i hi⟩, rfl, rfl⟩

theorem Filled.loadV {s : State V} (h : Filled s) (h0 : s.ssp ≠ 0) :
    (Access.loadV s.loc s.vs.length s.vsp (isInit s.vs s.vsp)).ok ∧
      plain s.loc s.ss.length (.loadV s.loc s.vs.length s.vsp (isInit s.vs s.vsp)) :=
  ⟨⟨by rw [h.capV, h.same]; exact h.top, h.initV _ (by rw [h.same]; omega) (Nat.le_refl _)⟩, rfl,
    h.capV⟩

theorem cleanup_spec : ∀ (fuel : Nat) (s : State V), s.ssp ≤ fuel → Filled s →
    ∃ new, cleanup fuel s = { s with ssp := 0, vsp := 0, log := new ++ s.log } ∧
      ∀ a ∈ new, a.ok ∧ plain s.loc s.ss.length a := by
  intro fuel
  induction fuel with
  | zero =>
    intro s hf h
    refine ⟨[], ?_, by simp⟩
    have h0 : s.ssp = 0 := by omega
    have := h.same
    rw [cleanup]
    cases s
    simp_all
  | succ fuel ih =>
    intro s hf h
    rw [cleanup]
    split
    · rename_i h0
      refine ⟨[], ?_, by simp⟩
      have := h.same
      cases s
      simp_all
    · rename_i h0
      obtain ⟨new, heq, hnew⟩ := ih _ (by show s.ssp - 1 ≤ fuel; omega) (h.pop 1
        (.loadV s.loc s.vs.length s.vsp (isInit s.vs s.vsp) ::
          .loadS s.loc s.ss.length s.ssp (isInit s.ss s.ssp) :: s.log))
      refine ⟨new ++ [.loadV s.loc s.vs.length s.vsp (isInit s.vs s.vsp),
        .loadS s.loc s.ss.length s.ssp (isInit s.ss s.ssp)], ?_, ?_⟩
      · rw [heq]
        simp
      · exact List.forall_mem_append.mpr ⟨hnew, List.forall_mem_cons.mpr ⟨h.loadV h0,
          List.forall_mem_cons.mpr ⟨h.loadS _ (Nat.le_refl _), nofun⟩⟩⟩

/-- `yyreturnlab` with `yylen ≤ yyssp - yyss`: the stack is emptied with in-bounds loads of the
current block, which is released if it is not `yyssa` -/
theorem returnLab_spec (r : Result) (len : Nat) (s : State V) (hlen : len ≤ s.ssp) (h : Filled s) :
    ∃ new, returnLab r len s =
        { s with ssp := 0, vsp := 0, status := .done r, log := freeOf s.loc ++ (new ++ s.log) } ∧
      ∀ a ∈ new, a.ok ∧ plain s.loc s.ss.length a := by
  obtain ⟨new, heq, hnew⟩ := cleanup_spec (s.ssp - len) _ (Nat.le_refl _) (h.pop len s.log)
  refine ⟨new, ?_, hnew⟩
  unfold returnLab
  rw [if_neg (by omega)]
  simp only [heq]
  cases hl : s.loc <;> simp [freeOf]

theorem returnLab_status (r : Result) (len : Nat) (s : State V) (hlen : len ≤ s.ssp) (h : Filled s) :
    (returnLab r len s).status = .done r := by
  obtain ⟨new, he, _⟩ := returnLab_spec r len s hlen h
  rw [he]

/-! ### `yysetstate` -/

/-- `yystacksize *= 2; if (YYMAXDEPTH < yystacksize) yystacksize = YYMAXDEPTH;` -/
def newSize (P : Params) (sz : Nat) : Nat := if P.M < 2 * sz then P.M else 2 * sz

/-- the state behind `*yyssp = yystate;` -/
def stored (st : Nat) (s : State V) : State V :=
  { s with ss := s.ss.set s.ssp (some st), log := .storeS s.loc s.ss.length s.ssp :: s.log }

/-- the state behind the two `YYSTACK_RELOCATE`s and the release of the old block -/
def relocated (P : Params) (s : State V) : State V :=
  { s with loc := .heap s.nextId, stacksize := newSize P s.stacksize, nextId := s.nextId + 1
           ss := relocate s.ss (s.ssp + 1) (newSize P s.stacksize)
           vs := relocate s.vs (s.ssp + 1) (newSize P s.stacksize)
           ssp := s.ssp + 1 - 1, vsp := s.ssp + 1 - 1
           log := freeOf s.loc ++
             [.copyV s.loc s.vs.length (.heap s.nextId) (newSize P s.stacksize) (s.ssp + 1),
              .copyS s.loc s.ss.length (.heap s.nextId) (newSize P s.stacksize) (s.ssp + 1),
              .alloc (.heap s.nextId) (newSize P s.stacksize)] ++ s.log }

/-- the state in which `YYNOMEM` is taken after `YYSTACK_ALLOC` has failed -/
def allocFailed (P : Params) (s : State V) : State V :=
  { s with stacksize := newSize P s.stacksize
           log := .allocFail (newSize P s.stacksize) :: s.log }

theorem growStack_eq (P : Params) (ok : Bool) (s : State V) :
    growStack P ok s =
      if P.M ≤ s.stacksize then returnLab .nomem 0 s
      else if !ok then returnLab .nomem 0 (allocFailed P s)
      else if P.test (relocated P s).stacksize (relocated P s).ssp then returnLab .abort 0 (relocated P s)
      else relocated P s := by
  unfold growStack relocated
  simp only
  by_cases h1 : P.M ≤ s.stacksize
  · rw [if_pos h1, if_pos h1]
  rw [if_neg h1, if_neg h1]
  by_cases h2 : (!ok) = true
  · rw [if_pos h2, if_pos h2]
    rfl
  rw [if_neg h2, if_neg h2]
  cases s.loc <;> rfl

/-- the state behind a successful extension of the stacks in `yysetstate` -/
def grown (P : Params) (st : Nat) (s : State V) : State V := relocated P (stored st s)

/-- the state in which `yyreturnlab` is entered when `YYSTACK_ALLOC` fails in `yysetstate` -/
def failed (P : Params) (st : Nat) (s : State V) : State V := allocFailed P (stored st s)

theorem lt_newSize (P : Params) (sz : Nat) (h0 : 0 < sz) (h : sz < P.M) : sz < newSize P sz := by
  unfold newSize
  split <;> omega

theorem setState_eq (P : Params) (st : Nat) (ok : Bool) (s : State V) :
    setState P st ok s =
      if P.test s.stacksize s.ssp then growStack P ok (stored st s) else stored st s := rfl

/-- The ways through `yysetstate` with the test of grammar.c (`hP.test`): only the store; the
relocation into `newSize` slots, behind which the second test (`YYABORT`) is never taken; or
`YYNOMEM`, entered from `u`, in which `yystacksize` has already been raised if `YYSTACK_ALLOC` was
tried. -/
theorem setState_out (P : Params) (hP : P.OK) (st : Nat) (ok : Bool) (t : State V)
    (hroom : t.ssp < t.stacksize) :
    (t.ssp + 1 < t.stacksize ∧ setState P st ok t = stored st t) ∨
    (t.ssp + 1 = t.stacksize ∧ t.stacksize < P.M ∧ ok = true ∧ setState P st ok t = grown P st t) ∨
    (∃ u, t.ssp + 1 = t.stacksize ∧ (P.M ≤ t.stacksize ∨ ok = false) ∧
      (u = stored st t ∨ u = failed P st t) ∧ setState P st ok t = returnLab .nomem 0 u) := by
  have ht : ∀ a b, P.test a b = true ↔ a ≤ b + 1 := fun a b => by rw [hP.test]; exact fullTestC_iff a b
  have e : (stored st t).stacksize = t.stacksize := rfl
  rw [setState_eq, growStack_eq, e]
  rcases Nat.lt_or_ge (t.ssp + 1) t.stacksize with hlt | hge
  · exact .inl ⟨hlt, if_neg (by rw [ht]; omega)⟩
  have heq : t.ssp + 1 = t.stacksize := by omega
  rw [if_pos (by rw [ht]; omega)]
  rcases Nat.lt_or_ge t.stacksize P.M with hM | hM
  · rw [if_neg (by omega)]
    cases ok with
    | false => exact .inr (.inr ⟨_, heq, .inr rfl, .inr rfl, rfl⟩)
    | true =>
      have hlt := lt_newSize P t.stacksize (by omega) hM
      refine .inr (.inl ⟨heq, hM, rfl, ?_⟩)
      rw [if_neg (by simp), if_neg (by rw [ht]; show ¬ newSize P t.stacksize ≤ t.ssp + 1 - 1 + 1; omega)]
      rfl
  · rw [if_pos hM]
    exact .inr (.inr ⟨_, heq, .inl hM, .inl rfl, rfl⟩)

theorem freeOf_ok (b : Blk) : ∀ a ∈ freeOf b, a.ok := by
  cases b <;> simp [freeOf, Access.ok]

theorem inv_returnLab (P : Params) (r : Result) (len : Nat) (s : State V) (hlen : len ≤ s.ssp)
    (h : Filled s) (hsafe : ∀ a ∈ s.log, a.ok) (hsteps : s.nextId = 0 ∨ P.I * 2 ^ (s.nextId - 1) < P.M)
    (hwhere : s.loc = (match s.nextId with | 0 => .auto | k + 1 => .heap k)) :
    Inv P (returnLab r len s) := by
  obtain ⟨new, heq, hnew⟩ := returnLab_spec r len s hlen h
  rw [heq]
  exact {
    safe := List.forall_mem_append.mpr ⟨freeOf_ok _,
      List.forall_mem_append.mpr ⟨fun a ha => (hnew a ha).1, hsafe⟩⟩
    same := rfl
    capS := fun h => by cases h
    capV := h.capV
    spare := fun h => by cases h
    top := Nat.lt_of_le_of_lt (Nat.zero_le _) h.top
    initS := fun i hi => h.initS i (by have : i ≤ 0 := hi; omega)
    initV := fun i h1 hi => by have : i ≤ 0 := hi; omega
    size := fun h => by cases h
    steps := hsteps
    where_ := hwhere }

/-- the conditions under which `yysetstate` is entered: `yyssp` points into the block, at a slot
that may not have been written yet -/
structure Pre (P : Params) (s : State V) : Prop where
  running : s.status = .running
  safe : ∀ a ∈ s.log, a.ok
  same : s.vsp = s.ssp
  capS : s.ss.length = s.stacksize
  capV : s.vs.length = s.ss.length
  room : s.ssp < s.stacksize
  initS : ∀ i, i < s.ssp → isInit s.ss i = true
  initV : ∀ i, 1 ≤ i → i ≤ s.vsp → isInit s.vs i = true
  size : s.stacksize = min (P.I * 2 ^ s.nextId) P.M
  steps : s.nextId = 0 ∨ P.I * 2 ^ (s.nextId - 1) < P.M
  where_ : s.loc = (match s.nextId with | 0 => .auto | k + 1 => .heap k)

theorem newSize_min (P : Params) (k : Nat) (h : min (P.I * 2 ^ k) P.M < P.M) :
    newSize P (min (P.I * 2 ^ k) P.M) = min (P.I * 2 ^ (k + 1)) P.M ∧ P.I * 2 ^ k < P.M := by
  have e : P.I * 2 ^ (k + 1) = 2 * (P.I * 2 ^ k) := by rw [Nat.pow_succ]; ac_rfl
  rw [e]
  generalize P.I * 2 ^ k = a at h ⊢
  unfold newSize
  split <;> omega

theorem Pre.top {P : Params} {s : State V} (h : Pre P s) : s.ssp < s.ss.length := by
  rw [h.capS]
  exact h.room

/-- behind the store of `yysetstate` every slot up to `yyssp` is written, so `yyreturnlab` can be
entered -/
theorem Pre.filled_stored {P : Params} {s : State V} (h : Pre P s) (st : Nat) :
    Filled (stored st s) ∧ Filled (failed P st s) ∧ ∀ a ∈ (stored st s).log, a.ok := by
  have hlen : (s.ss.set s.ssp (some st)).length = s.ss.length := List.length_set ..
  have hf : Filled (stored st s) :=
    { same := h.same
      top := hlen ▸ h.top
      capV := h.capV.trans hlen.symm
      initS := fun i hi => by
        rcases Nat.lt_or_eq_of_le hi with hi | hi
        · exact (isInit_set_ne _ _ _ _ (Nat.ne_of_gt hi)).trans (h.initS i hi)
        · exact hi ▸ isInit_set_self _ _ _ h.top
      initV := h.initV }
  exact ⟨hf, ⟨hf.1, hf.2, hf.3, hf.4, hf.5⟩, List.forall_mem_cons.mpr ⟨h.top, h.safe⟩⟩

theorem Pre.filled_nomem {P : Params} {t u : State V} (h : Pre P t) (st : Nat)
    (hu : u = stored st t ∨ u = failed P st t) :
    Filled u ∧ (∀ a ∈ u.log, a.ok) ∧ u.nextId = t.nextId ∧ u.loc = t.loc := by
  obtain ⟨hf, hf', hsafe⟩ := h.filled_stored st
  rcases hu with rfl | rfl
  · exact ⟨hf, hsafe, rfl, rfl⟩
  · exact ⟨hf', List.forall_mem_cons.mpr ⟨trivial, hsafe⟩, rfl, rfl⟩

/-- behind the two `YYSTACK_RELOCATE`s nothing is lost and a slot is spare again -/
theorem inv_relocated (P : Params) (t : State V) (hf : Filled t) (hsafe : ∀ a ∈ t.log, a.ok)
    (hfull : t.ssp + 1 = t.stacksize) (hM : t.stacksize < P.M)
    (hsize : t.stacksize = min (P.I * 2 ^ t.nextId) P.M) : Inv P (relocated P t) := by
  have hlt := lt_newSize P t.stacksize (by omega) hM
  have hns := newSize_min P t.nextId (by rw [← hsize]; exact hM)
  rw [← hsize] at hns
  have hl1 : t.ssp + 1 ≤ t.ss.length := hf.top
  have hl2 : t.ssp + 1 ≤ t.vs.length := by rw [hf.capV]; exact hl1
  have hle : t.ssp + 1 ≤ newSize P t.stacksize := by omega
  have hS := length_relocate t.ss _ _ hl1 hle
  exact {
    safe := List.forall_mem_append.mpr ⟨List.forall_mem_append.mpr ⟨freeOf_ok _,
      List.forall_mem_cons.mpr ⟨⟨hl2, hle⟩, List.forall_mem_cons.mpr ⟨⟨hl1, hle⟩,
        List.forall_mem_cons.mpr ⟨⟨nofun, Nat.lt_of_lt_of_le (Nat.succ_pos _) hle⟩, nofun⟩⟩⟩⟩, hsafe⟩
    same := rfl
    capS := fun _ => hS
    capV := (length_relocate t.vs _ _ hl2 hle).trans hS.symm
    spare := fun _ => by show t.ssp + 1 - 1 + 2 ≤ newSize P t.stacksize; omega
    top := by show t.ssp + 1 - 1 < (relocate t.ss _ _).length; rw [hS]; omega
    initS := fun i hi => by
      have : i ≤ t.ssp + 1 - 1 := hi
      show isInit (relocate t.ss _ _) i = true
      rw [isInit_relocate _ _ _ _ hl1 (by omega)]
      exact hf.initS i (by omega)
    initV := fun i h1 hi => by
      have : i ≤ t.ssp + 1 - 1 := hi
      show isInit (relocate t.vs _ _) i = true
      rw [isInit_relocate _ _ _ _ hl2 (by omega)]
      exact hf.initV i h1 (by rw [hf.same]; omega)
    size := fun _ => hns.1
    steps := .inr hns.2
    where_ := rfl }

theorem setState_inv (P : Params) (hP : P.OK) (st : Nat) (ok : Bool) (s : State V) (h : Pre P s) :
    Inv P (setState P st ok s) := by
  obtain ⟨hf, -, hsafe⟩ := h.filled_stored st
  rcases setState_out P hP st ok s h.room with ⟨hlt, e⟩ | ⟨heq, hM, -, e⟩ | ⟨u, -, -, hu, e⟩ <;> rw [e]
  · exact {
      safe := hsafe
      same := hf.same
      capS := fun _ => (List.length_set ..).trans h.capS
      capV := hf.capV
      spare := fun _ => hlt
      top := hf.top
      initS := hf.initS
      initV := hf.initV
      size := fun _ => h.size
      steps := h.steps
      where_ := h.where_ }
  · exact inv_relocated P _ hf hsafe heq hM h.size
  · obtain ⟨fu, su, e1, e2⟩ := h.filled_nomem st hu
    exact inv_returnLab P .nomem 0 u (Nat.zero_le _) fu su (e1 ▸ h.steps) (by rw [e1, e2]; exact h.where_)

/-! ### the events -/

/-- `*++yyvsp = v; yyssp++;` -/
def pushed (v : V) (s : State V) : State V :=
  { s with vsp := s.vsp + 1, vs := s.vs.set (s.vsp + 1) (some v), ssp := s.ssp + 1,
           log := .storeV s.loc s.vs.length (s.vsp + 1) :: s.log }

theorem shiftStep_eq (P : Params) (st : Nat) (v : V) (ok : Bool) (s : State V) :
    shiftStep P st v ok s = setState P st ok (pushed v s) := rfl

theorem _root_.Libconfig.BisonStack.Inv.filled {P : Params} {s : State V} (h : Inv P s) : Filled s :=
  ⟨h.same, h.top, h.capV, h.initS, h.initV⟩

/-- thanks to the spare slot, the value store of a push is in bounds and `yyssp++` yields a
pointer to a slot of the block -/
theorem pre_pushed (P : Params) (v : V) (s : State V) (h : Inv P s) (hr : s.status = .running) :
    Pre P (pushed v s) := by
  have hsp := h.spare hr
  have hcS := h.capS hr
  have hcV := h.capV
  have hsame := h.same
  exact {
    running := hr
    safe := List.forall_mem_cons.mpr ⟨by show s.vsp + 1 < s.vs.length; omega, h.safe⟩
    same := by show s.vsp + 1 = s.ssp + 1; omega
    capS := hcS
    capV := (List.length_set ..).trans hcV
    room := by show s.ssp + 1 < s.stacksize; omega
    initS := fun i hi => h.initS i (by have : i < s.ssp + 1 := hi; omega)
    initV := fun i h1 hi => by
      have hi' : i ≤ s.vsp + 1 := hi
      show isInit (s.vs.set (s.vsp + 1) (some v)) i = true
      rcases Nat.lt_or_eq_of_le hi' with hlt | heq
      · rw [isInit_set_ne _ _ _ _ (by omega)]; exact h.initV i h1 (by omega)
      · rw [heq]; exact isInit_set_self _ _ _ (by omega)
    size := h.size hr
    steps := h.steps
    where_ := h.where_ }

/-- `YYPOPSTACK (n)` with `n ≤ yyssp - yyss` -/
theorem inv_pop (P : Params) (n : Nat) (new : List Access) (s : State V) (h : Inv P s)
    (hn : n ≤ s.ssp) (hnew : ∀ a ∈ new, a.ok) :
    Inv P { s with ssp := s.ssp - n, vsp := s.vsp - n, log := new ++ s.log } :=
  have hf := h.filled.pop n (new ++ s.log)
  { safe := List.forall_mem_append.mpr ⟨hnew, h.safe⟩
    same := hf.same
    capS := h.capS
    capV := hf.capV
    spare := fun hr => by have := h.spare hr; show s.ssp - n + 2 ≤ s.stacksize; omega
    top := hf.top
    initS := hf.initS
    initV := hf.initV
    size := h.size
    steps := h.steps
    where_ := h.where_ }

/-- `yyval = yyvsp[1-yylen];` -/
def preload (n : Nat) (s : State V) : Access :=
  if n = 0 then .garbageV s.loc s.vs.length (s.vsp + 1)
  else .loadV s.loc s.vs.length (s.vsp + 1 - n) (isInit s.vs (s.vsp + 1 - n))

/-- the state behind `YYPOPSTACK (yylen)` in `yyreduce` -/
def popped (n : Nat) (s : State V) : State V :=
  { s with ssp := s.ssp - n, vsp := s.vsp - n, log := [preload n s] ++ s.log }

/-- `yyreduce` is: the load of `yyvsp[1-yylen]`, the pop, then a push with the load of the
uncovered state in between -/
theorem reduceStep_eq (P : Params) (n st : Nat) (v : V) (ok : Bool) (s : State V) (hn : n ≤ s.ssp) :
    reduceStep P n st v ok s =
      setState P st ok
        { pushed v (popped n s) with
          log := .loadS s.loc s.ss.length (s.ssp - n) (isInit s.ss (s.ssp - n)) ::
            (pushed v (popped n s)).log } := by
  unfold reduceStep
  rw [if_neg (by omega)]
  rfl

/-- `yyval = yyvsp[1-yylen]` reads a written slot for `yylen ≥ 1`, and for `yylen = 0` the spare
slot above the top -/
theorem preload_ok (P : Params) (n : Nat) (s : State V) (h : Inv P s) (hr : s.status = .running)
    (hn : n ≤ s.ssp) : (preload n s).ok ∧ plain s.loc s.ss.length (preload n s) := by
  have hsp := h.spare hr
  have hcS := h.capS hr
  have hcV := h.capV
  have hsame := h.same
  unfold preload
  split
  · exact ⟨by show s.vsp + 1 < s.vs.length; omega, rfl, hcV⟩
  · exact ⟨⟨by omega, h.initV _ (by omega) (by omega)⟩, rfl, hcV⟩

theorem inv_popped (P : Params) (n : Nat) (s : State V) (h : Inv P s) (hr : s.status = .running)
    (hn : n ≤ s.ssp) : Inv P (popped n s) :=
  inv_pop P n [preload n s] s h hn
    (List.forall_mem_cons.mpr ⟨(preload_ok P n s h hr hn).1, nofun⟩)

theorem pre_reduced (P : Params) (n : Nat) (v : V) (s : State V) (h : Inv P s)
    (hr : s.status = .running) (hn : n ≤ s.ssp) :
    Pre P { pushed v (popped n s) with
      log := .loadS s.loc s.ss.length (s.ssp - n) (isInit s.ss (s.ssp - n)) ::
        (pushed v (popped n s)).log } :=
  have hp := pre_pushed P v _ (inv_popped P n s h hr hn) hr
  { hp with safe := List.forall_mem_cons.mpr ⟨(h.filled.loadS _ (Nat.sub_le _ _)).1, hp.safe⟩ }

/-- the state behind one iteration of the loop of `yyerrlab1` -/
def errPopped (s : State V) : State V :=
  { s with ssp := s.ssp - 1, vsp := s.vsp - 1,
           log := .loadS s.loc s.ss.length (s.ssp - 1) (isInit s.ss (s.ssp - 1)) ::
                  .loadV s.loc s.vs.length s.vsp (isInit s.vs s.vsp) :: s.log }

/-! ### the shape of a step

`Move s t`: from `s` to `t` nothing has happened but plain accesses to the block in use (and
changes of the two pointers and of slots).  Every step from a running state is such a move followed
by `yysetstate`, by `yyreturnlab`, or by nothing — or it is a fault (`step_shape`); an invariant
that moves keep is then shown along `yysetstate` and `yyreturnlab` only. -/

structure Move (s t : State V) : Prop where
  status : t.status = s.status
  loc : t.loc = s.loc
  cap : t.ss.length = s.ss.length
  nextId : t.nextId = s.nextId
  log : ∃ new, t.log = new ++ s.log ∧ ∀ a ∈ new, plain s.loc s.ss.length a

theorem Move.refl (s : State V) : Move s s :=
  ⟨rfl, rfl, rfl, rfl, [], rfl, fun _ h => nomatch h⟩

theorem Move.trans {s t u : State V} (h1 : Move s t) (h2 : Move t u) : Move s u := by
  obtain ⟨n1, e1, p1⟩ := h1.log
  obtain ⟨n2, e2, p2⟩ := h2.log
  rw [h1.loc, h1.cap] at p2
  exact ⟨h2.status.trans h1.status, h2.loc.trans h1.loc, h2.cap.trans h1.cap,
    h2.nextId.trans h1.nextId, n2 ++ n1, by rw [e2, e1, List.append_assoc],
    List.forall_mem_append.mpr ⟨p2, p1⟩⟩

theorem move_errPopped (P : Params) (s : State V) (h : Inv P s) (h0 : s.ssp ≠ 0) :
    Inv P (errPopped s) ∧ Move s (errPopped s) := by
  have hS := h.filled.loadS (s.ssp - 1) (Nat.sub_le _ _)
  have hV := h.filled.loadV h0
  exact ⟨inv_pop P 1 [_, _] s h (by omega)
      (List.forall_mem_cons.mpr ⟨hS.1, List.forall_mem_cons.mpr ⟨hV.1, nofun⟩⟩),
    rfl, rfl, rfl, rfl, [_, _], rfl,
    List.forall_mem_cons.mpr ⟨hS.2, List.forall_mem_cons.mpr ⟨hV.2, nofun⟩⟩⟩

/-- the error loop: `k` pops, unless it meets the bottom of the stack first and runs into `if
(yyssp == yyss) YYABORT;` -/
theorem errPop_shape (P : Params) : ∀ (k : Nat) (s : State V), Inv P s → s.status = .running →
    (∃ u, errPop k s = returnLab .abort 0 u ∧ u.status = .running ∧ Inv P u ∧ Move s u) ∨
    (k ≤ s.ssp ∧ Inv P (errPop k s) ∧ Move s (errPop k s)) := by
  intro k
  induction k with
  | zero => intro s h _; exact .inr ⟨Nat.zero_le _, h, Move.refl s⟩
  | succ k ih =>
    intro s h hr
    rw [errPop]
    split
    · exact .inl ⟨s, rfl, hr, h, Move.refl s⟩
    · rename_i h0
      obtain ⟨hi, hm⟩ := move_errPopped P s h h0
      rcases ih (errPopped s) hi hr with ⟨u, e, hu, hiu, hmu⟩ | ⟨hk, hie, hme⟩
      · exact .inl ⟨u, e, hu, hiu, hm.trans hmu⟩
      · exact .inr ⟨by have : k ≤ s.ssp - 1 := hk; omega, hie, hm.trans hme⟩

theorem errPop_status (P : Params) (k : Nat) (s : State V) (h : Inv P s) (hr : s.status = .running)
    (hk : s.ssp < k) : (errPop k s).status = .done .abort := by
  rcases errPop_shape P k s h hr with ⟨u, e, -, hu, -⟩ | ⟨hk', -⟩
  · rw [e]
    exact returnLab_status _ _ _ (Nat.zero_le _) hu.filled
  · omega

theorem step_shape (P : Params) (s : State V) (e : Event V) (h : Inv P s) :
    (s.status = .running ∧
      ((∃ st ok t, step P s e = setState P st ok t ∧ Pre P t ∧ Move s t) ∨
       (∃ r len u, step P s e = returnLab r len u ∧ len ≤ u.ssp ∧ u.status = .running ∧ Inv P u ∧
         Move s u) ∨
       step P s e = { s with status := .fault } ∨
       (Inv P (step P s e) ∧ Move s (step P s e)))) ∨
    step P s e = s := by
  unfold step
  split
  · rename_i hr
    refine .inl ⟨hr, ?_⟩
    cases e with
    | shift st v ok =>
      exact .inl ⟨st, ok, _, rfl, pre_pushed P v s h hr, rfl, rfl, rfl, rfl, [_], rfl,
        List.forall_mem_cons.mpr ⟨⟨rfl, h.capV⟩, nofun⟩⟩
    | reduce n st v ok =>
      rcases Nat.lt_or_ge s.ssp n with hn | hn
      · exact .inr (.inr (.inl (by show reduceStep P n st v ok s = _; unfold reduceStep; rw [if_pos hn])))
      · exact .inl ⟨st, ok, _, reduceStep_eq P n st v ok s hn, pre_reduced P n v s h hr hn, rfl, rfl,
          rfl, rfl, [_, _, _], rfl, List.forall_mem_cons.mpr ⟨⟨rfl, rfl⟩, List.forall_mem_cons.mpr
            ⟨⟨rfl, h.capV⟩, List.forall_mem_cons.mpr ⟨(preload_ok P n s h hr hn).2, nofun⟩⟩⟩⟩
    | errPop k =>
      rcases errPop_shape P k s h hr with ⟨u, e, hu, hiu, hmu⟩ | ⟨-, hi, hm⟩
      · exact .inr (.inl ⟨_, 0, u, e, Nat.zero_le _, hu, hiu, hmu⟩)
      · exact .inr (.inr (.inr ⟨hi, hm⟩))
    | finish r len =>
      rcases Nat.lt_or_ge s.ssp len with hn | hn
      · exact .inr (.inr (.inl (by show returnLab r len s = _; unfold returnLab; rw [if_pos hn])))
      · exact .inr (.inl ⟨r, len, s, rfl, hn, hr, h, Move.refl s⟩)
  · exact .inr rfl

theorem step_inv (P : Params) (hP : P.OK) (s : State V) (e : Event V) (h : Inv P s) :
    Inv P (step P s e) := by
  rcases step_shape P s e h with
    ⟨-, ⟨st, ok, t, e, ht, -⟩ | ⟨r, len, u, e, hlen, -, hu, -⟩ | e | ⟨hi, -⟩⟩ | e
  · rw [e]; exact setState_inv P hP st ok t ht
  · rw [e]; exact inv_returnLab P r len u hlen hu.filled hu.safe hu.steps hu.where_
  · rw [e]; exact { h with capS := nofun, spare := nofun, size := nofun }
  · exact hi
  · rw [e]; exact h

theorem run_inv (P : Params) (hP : P.OK) : ∀ (es : List (Event V)) (s : State V), Inv P s →
    Inv P (run P es s)
  | [], _, h => h
  | e :: es, s, h => run_inv P hP es (step P s e) (step_inv P hP s e h)

theorem run_append (P : Params) (es fs : List (Event V)) (s : State V) :
    run P (es ++ fs) s = run P fs (run P es s) := by
  unfold run
  rw [List.foldl_append]

theorem pre_start (P : Params) (hP : P.OK) : Pre P (start P : State V) :=
  { running := rfl
    safe := nofun
    same := rfl
    capS := List.length_replicate ..
    capV := (List.length_replicate ..).trans (List.length_replicate ..).symm
    room := hP.I
    initS := fun i hi => absurd hi (Nat.not_lt_zero i)
    initV := fun i h1 hi => absurd (Nat.le_trans h1 hi) (Nat.not_succ_le_zero 0)
    size := by
      show P.I = min (P.I * 2 ^ 0) P.M
      rw [Nat.pow_zero, Nat.mul_one, Nat.min_eq_left hP.M]
    steps := .inl rfl
    where_ := rfl }

theorem init_inv (P : Params) (hP : P.OK) (ok : Bool) : Inv P (init P ok : State V) :=
  setState_inv P hP 0 ok _ (pre_start P hP)

/-! ### how a push ends -/

/-- the number of entries a pushing event leaves on the stack (`yysize` at its `yysetstate`) -/
def entriesAfter (s : State V) : Event V → Nat
  | .shift _ _ _ => s.ssp + 2
  | .reduce n _ _ _ => s.ssp - n + 2
  | _ => 0

/-- whether the event's `YYSTACK_ALLOC`, if any, succeeds -/
def allocOk : Event V → Bool
  | .shift _ _ ok => ok
  | .reduce _ _ _ ok => ok
  | _ => true

/-- a shift, or a reduction that pops no more entries than lie above the bottom -/
def pushing (s : State V) : Event V → Prop
  | .shift _ _ _ => True
  | .reduce n _ _ _ => n ≤ s.ssp
  | _ => False

theorem pushing_eq (P : Params) (s : State V) (e : Event V) (h : Inv P s) (hr : s.status = .running)
    (he : pushing s e) : ∃ st t, step P s e = setState P st (allocOk e) t ∧ Pre P t ∧
      t.ssp + 2 = entriesAfter s e + 1 ∧ t.stacksize = s.stacksize := by
  cases e with
  | shift st v ok =>
    exact ⟨st, _, by unfold step; rw [hr]; rfl, pre_pushed P v s h hr, rfl, rfl⟩
  | reduce n st v ok =>
    exact ⟨st, _, by unfold step; rw [hr]; exact reduceStep_eq P n st v ok s he,
      pre_reduced P n v s h hr he, rfl, rfl⟩
  | errPop k => exact he.elim
  | finish r len => exact he.elim

/-- "Memory exhausted", exactly: a pushing event ends the parse with `YYNOMEM` iff it fills the last
slot while `yystacksize` is `YYMAXDEPTH` or `YYSTACK_ALLOC` fails; otherwise the parser goes on.
No other outcome (in particular not `YYABORT`). -/
theorem push_outcome (P : Params) (hP : P.OK) (s : State V) (e : Event V) (h : Inv P s)
    (hr : s.status = .running) (he : pushing s e) :
    ((step P s e).status = .running ∧
      ¬ (entriesAfter s e = s.stacksize ∧ (s.stacksize = P.M ∨ allocOk e = false))) ∨
    ((step P s e).status = .done .nomem ∧
      entriesAfter s e = s.stacksize ∧ (s.stacksize = P.M ∨ allocOk e = false)) := by
  obtain ⟨st, t, e1, ht, e2, e3⟩ := pushing_eq P s e h hr he
  have hsz : s.stacksize ≤ P.M := by rw [h.size hr]; exact Nat.min_le_right _ _
  rw [e1]
  rcases setState_out P hP st (allocOk e) t ht.room with
    ⟨hlt, e⟩ | ⟨heq, hM, hok, e⟩ | ⟨u, heq, hor, hu, e⟩ <;> rw [e]
  · exact .inl ⟨ht.running, fun hc => by omega⟩
  · exact .inl ⟨ht.running, fun hc => by rw [hok] at hc; simp at hc; omega⟩
  · exact .inr ⟨returnLab_status .nomem 0 u (Nat.zero_le _) (ht.filled_nomem st hu).1, by omega,
      hor.imp_left (by omega)⟩

end Libconfig.C03SP
