import LibconfigModel.Proofs.C11
import LibconfigModel.Proofs.C16
/-
  Property C11, names: after a read, the source file recorded on every setting
  (`config_setting_source_file`), the error file and every path an I/O event names are strings
  of the configuration's file-name vector (`config->filenames`), i.e. strings that live as long
  as the configuration.  One invariant of the parser loop, `KNames`, carries all three.
-/
namespace Libconfig.C11T

open Libconfig Libconfig.C09P Libconfig.C16P Libconfig.C11P

/-- every setting of the tree whose source file is recorded names a string of `names` -/
def FilesIn (names : List Bytes) : Node → Prop :=
  Node.All fun m => ∀ p, m.file = some p → p ∈ names

/-! ### structure of `FilesIn` -/

theorem filesIn_iff (names : List Bytes) (n : Node) :
    FilesIn names n ↔ (∀ p, n.file = some p → p ∈ names) ∧ ∀ k ∈ n.kids, FilesIn names k :=
  Node.all_iff n

theorem filesIn_mono {names names' : List Bytes} {n : Node} (hm : ∀ p ∈ names, p ∈ names')
    (h : FilesIn names n) : FilesIn names' n :=
  fun path m hmn p hp => hm p (h path m hmn p hp)

theorem filesIn_congr {names : List Bytes} {n n' : Node} (hk : n'.kids = n.kids)
    (hf : ∀ p, n'.file = some p → p ∈ names) (h : FilesIn names n) : FilesIn names n' := by
  rw [filesIn_iff] at h ⊢
  exact ⟨hf, hk ▸ h.2⟩

theorem filesIn_keep {names : List Bytes} {n n' : Node} (hk : n'.kids = n.kids)
    (hf : n'.file = n.file) (h : FilesIn names n) : FilesIn names n' :=
  filesIn_congr hk (fun p hp => ((filesIn_iff names n).mp h).1 p (hf ▸ hp)) h

theorem filesIn_setKids {names : List Bytes} (n : Node) (ks : List Node) (h : FilesIn names n)
    (hks : ∀ k ∈ ks, FilesIn names k) : FilesIn names { n with kids := ks } := by
  rw [filesIn_iff] at h ⊢
  exact ⟨h.1, hks⟩

theorem filesIn_fresh (names : List Bytes) (name : Option Bytes) (ty : Nat) :
    FilesIn names { name := name, ty := ty } := by
  rw [filesIn_iff]
  exact ⟨fun p hp => (by cases hp), fun k hk => (by cases hk)⟩

/-! ### `Node.modify` -/

theorem modify_files {names : List Bytes} (f : Node → Node) :
    ∀ (p : Path) (root : Node), FilesIn names root →
      (∀ n, root.get? p = some n → FilesIn names (f n)) → FilesIn names (root.modify f p)
  | [], root, _, hf => by
    rw [modify_nil]; exact hf root (get?_nil root)
  | i :: p, root, h, hf => by
    rw [Node.modify]
    split
    · rename_i k hk
      have hkids := ((filesIn_iff names root).mp h).2
      have ih := modify_files f p k (hkids k (List.mem_of_getElem? hk)) (fun n hn => hf n (by
        rw [Node.get?, hk]; exact hn))
      refine filesIn_setKids root _ h (fun x hx => ?_)
      rcases List.mem_or_eq_of_mem_set hx with hx | hx
      · exact hkids x hx
      · subst hx; exact ih
    · exact h

/-! ### node-level operations -/

theorem filesIn_snoc {names : List Bytes} (n : Node) (ks : List Node) (k : Node)
    (hn : FilesIn names n) (hks : ∀ x ∈ ks, x ∈ n.kids) (hk : FilesIn names k) :
    FilesIn names { n with kids := ks ++ [k] } := by
  refine filesIn_setKids n _ hn (fun x hx => ?_)
  rcases List.mem_append.mp hx with hx | hx
  · exact ((filesIn_iff names n).mp hn).2 x (hks x hx)
  · rw [List.mem_singleton.mp hx]
    exact hk

theorem add_files {names : List Bytes} (d ov : Bool) (parent n' : Node) (name : Option Bytes)
    (ty : Int) (i : Nat) (log : List Nat) (h : parent.add d ov name ty = some (n', i, log))
    (hp : FilesIn names parent) : FilesIn names n' := by
  obtain ⟨ks, nm, rfl, -, hks, -⟩ := add_some h
  refine filesIn_snoc parent ks _ hp ?_ (filesIn_fresh names _ _)
  rcases hks with ⟨rfl, -⟩ | ⟨j, old, -, -, rfl, -⟩
  · exact fun _ hk => hk
  · exact fun _ hk => List.mem_of_mem_eraseIdx hk

theorem filesIn_set {f : Node → Option Node} (hf : ScalarSetter f) {names : List Bytes}
    {n n' : Node} (h : f n = some n') (hn : FilesIn names n) : FilesIn names n' :=
  filesIn_keep (hf.update h).kids (hf.update h).file hn

theorem setKid_files {names : List Bytes} (n k' : Node) (i : Nat) (hn : FilesIn names n)
    (hk : FilesIn names k') : FilesIn names { n with kids := n.kids.set i k' } := by
  refine filesIn_setKids n _ hn (fun x hx => ?_)
  rcases List.mem_or_eq_of_mem_set hx with hx | hx
  · exact ((filesIn_iff names n).mp hn).2 x hx
  · subst hx; exact hk

theorem setElem_files {names : List Bytes} {setter : Node → Option Node} (hs : ScalarSetter setter)
    (ty : Nat) (n n' : Node) (idx : Int) (i : Nat) (h : n.setElem setter ty idx = some (n', i))
    (hn : FilesIn names n) : FilesIn names n' := by
  obtain ⟨-, -, ⟨-, -, e', he, rfl, -⟩ | ⟨-, e, e', hk, he, rfl, -⟩⟩ := setElem_some h
  · exact filesIn_snoc n n.kids e' hn (fun _ hx => hx)
      (filesIn_set hs he (filesIn_fresh names none ty))
  · exact setKid_files n e' _ hn
      (filesIn_set hs he (((filesIn_iff names n).mp hn).2 e (List.mem_of_getElem? hk)))

/-! ### the semantic actions -/

def CtxOk (names : List Bytes) (c : ParseCtx) : Prop := FilesIn names c.cfg.root

/-- a file name handed to `CAPTURE_PARSE_POS` is recorded -/
def FileOk (names : List Bytes) (file : Option Bytes) : Prop := ∀ p, file = some p → p ∈ names

theorem ok_yyerror {names : List Bytes} (c : ParseCtx) (line : Nat) (text : Bytes)
    (h : CtxOk names c) : CtxOk names (c.yyerror line text) := by
  unfold ParseCtx.yyerror
  split
  · exact h
  · exact h

theorem ok_modify_at {names : List Bytes} (c : ParseCtx) (p : Path) (n' : Node)
    (h : CtxOk names c) (h' : FilesIn names n') : CtxOk names (c.modify p (fun _ => n')) :=
  modify_files _ p c.cfg.root h (fun _ _ => h')

theorem ok_modify_all {names : List Bytes} (c : ParseCtx) (p : Path) (f : Node → Node)
    (h : CtxOk names c) (hf : ∀ n, FilesIn names n → FilesIn names (f n)) :
    CtxOk names (c.modify p f) :=
  modify_files f p c.cfg.root h (fun n hn => hf n (Node.All.get h hn))

theorem actClosed_CtxOk {names : List Bytes} {file : Option Bytes} (hfile : FileOk names file) :
    ActClosed (fun c c' => CtxOk names c → CtxOk names c') file where
  trans := fun h1 h2 h => h2 (h1 h)
  fields := fun c c' hc _ h => by unfold CtxOk; rw [hc]; exact h
  yyerror := ok_yyerror
  edit := fun c p f hf h =>
    ok_modify_all c p f h fun n hn => filesIn_keep (hf n).1 (hf n).2.2 hn
  capture := fun c p _ h => ok_modify_all c p _ h (fun n hn => filesIn_congr (n := n) rfl hfile hn)
  added := fun c pp pn pn' _ _ i log _ _ hn hadd h =>
    ok_modify_at c pp pn' h (add_files _ _ pn pn' _ _ i log hadd (Node.All.get h hn))
  elem := fun c pp pn pn' _ ty idx i hs hn hse h =>
    ok_modify_at c pp pn' h (setElem_files hs ty pn pn' idx i hse (Node.All.get h hn))

/-! ### the joint invariant through the parser loop -/

def KNames (s : ScanState) (c : ParseCtx) : Prop :=
  Names s ∧ (∀ p, c.cfg.errFile = some p → p ∈ s.filenames) ∧ FilesIn s.filenames c.cfg.root

theorem joint_KNames (E : ParserEnv) : Joint E KNames where
  yyerror := fun s c line text h => ⟨h.1,
    fun p hp => h.2.1 p ((yyerror_frame (texts := [text]) c line (.head _)).errFile ▸ hp),
    ok_yyerror c line text h.2.2⟩
  act := fun s c a v h => ⟨h.1, fun p hp => h.2.1 p ((runAction_frame a c v _ _).errFile ▸ hp),
    (actClosed_CtxOk fun p hp => currentFilename_mem h.1 p hp).runAction a c v _ h.2.2⟩
  lex := fun s c h => by
    have hp := yylex_names E.T E.sacts E.w E.ic E.lexFuel s h.1
    generalize yylex E.T E.sacts E.w E.ic E.lexFuel s = r at hp
    rcases r with ⟨s', o⟩
    have hk : KNames s' c := ⟨hp.names, fun p hq => hp.mono p (h.2.1 p hq), filesIn_mono hp.mono h.2.2⟩
    cases o with
    | includeError t text file line =>
      refine ⟨hp.names, fun p hq => ?_, hk.2.2⟩
      have := hp.errFile t text file line rfl
      simp only at hq this
      rw [this] at hq
      exact currentFilename_mem hp.names p hq
    | tok t v => exact hk
    | eof => exact hk
    | echo b => exact hk
    | outOfFuel => exact hk

theorem start_files (c : Config) (filename : Option Bytes) (inp : Bytes) :
    FilesIn (scan0 filename inp).filenames (start c filename).root := by
  rw [filesIn_iff]
  refine ⟨fun p hp => ?_, fun k hk => by cases hk⟩
  have : filename = some p := hp
  subst this
  exact List.mem_singleton.mpr rfl

theorem parseOf_KNames (w : World) (c : Config) (filename : Option Bytes) (inp : Bytes) (fuel : Nat) :
    KNames (parseOf w (start c filename) filename inp fuel).1
      (parseOf w (start c filename) filename inp fuel).2.1 :=
  yyparseLoop_joint (joint_KNames _) fuel _ _ _ _
    ⟨scan0_names filename inp, nofun, start_files c filename inp⟩

/-! ### reads -/

/-- After `__config_read`, every source file recorded in the tree is an element of the
configuration's file-name vector. -/
theorem readCore_files_named (w : World) (c : Config) (filename : Option Bytes) (inp : Bytes)
    (fuel : Nat) :
    FilesIn (readCore w c filename inp fuel).cfg.filenames (readCore w c filename inp fuel).cfg.root := by
  rw [readCore_cfg, finish_filenames, finish_root]
  exact (parseOf_KNames w c filename inp fuel).2.2

end Libconfig.C11T

/-! ### the paths of the events and the error file name -/

namespace Libconfig.C11P
open Libconfig Libconfig.C09P Libconfig.C11T

theorem readCore_events_named (w : World) (c : Config) (filename : Option Bytes) (inp : Bytes) (fuel : Nat) :
    ∀ e ∈ (readCore w c filename inp fuel).events, ∀ p, e.path = some p →
      p ∈ (readCore w c filename inp fuel).cfg.filenames := by
  have hk := (parseOf_KNames w c filename inp fuel).1
  intro e he p hp
  rw [readCore_cfg, finish_filenames]
  rw [readCore_events] at he
  rcases List.mem_append.mp he with he | he
  · exact hk.events e he p hp
  · rw [List.mem_flatMap] at he
    obtain ⟨f, hf, he⟩ := he
    rcases List.mem_append.mp he with he | he
    · unfold closeEv at he
      split at he
      · rename_i q hq
        simp only [List.mem_singleton] at he
        subst he
        simp only [IOEvent.path, Option.some.injEq] at hp
        subst hp
        exact hk.frames f hf _ (List.mem_of_getElem? hq)
      · cases he
    · simp only [List.mem_singleton] at he
      subst he
      cases hp

theorem readCore_errFile_named (w : World) (c : Config) (filename : Option Bytes) (inp : Bytes) (fuel : Nat) :
    ∀ p, (readCore w c filename inp fuel).cfg.errFile = some p →
      p ∈ (readCore w c filename inp fuel).cfg.filenames := by
  have hk := parseOf_KNames w c filename inp fuel
  intro p hp
  rw [readCore_cfg] at hp ⊢
  rw [finish_filenames]
  by_cases hr : (parseOf w (start c filename) filename inp fuel).2.2 = .accept
  · have : (finish (parseOf w (start c filename) filename inp fuel)).errFile =
        (parseOf w (start c filename) filename inp fuel).2.1.cfg.errFile := by
      unfold finish; simp [hr]
    rw [this] at hp
    exact hk.2.1 p hp
  · rw [finish_errFile _ hr] at hp
    exact currentFilename_mem hk.1 p hp

end Libconfig.C11P
