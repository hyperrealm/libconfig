import LibconfigModel.Proofs.C01IdemSciOK
/-
  C01 idempotence (scientific notation) — two facts about doubles:
   * two doubles of different magnitude are at least a relative `2^-53` apart (`spacing`);
   * a finite double is determined by its sign and magnitude as far as `printf` is concerned
     (`fmt_congr`).
-/
namespace Libconfig.C01I
open Libconfig F64 C01P C01L C08P
open Libconfig.F64R

/-! ### the spacing of doubles -/

/-- a magnitude `S = M·2^k`, `M ≤ 2^53`, is at least a relative `2^-53` away from any other that
lies on the grid of spacing `2^k`, or below the binade when `M` is not at its bottom -/
theorem gap_of_grid {S S' M k : Nat} (hS : S = M * 2 ^ k) (hM : M ≤ 2 ^ 53) (hne : S' ≠ S)
    (h : (∃ j, S' = j * 2 ^ k) ∨ (2 ^ 52 < M ∧ S' < 2 ^ 52 * 2 ^ k)) : S ≤ dist S' S * 2 ^ 53 := by
  have h1 : S ≤ 2 ^ k * 2 ^ 53 := by rw [hS, Nat.mul_comm]; exact Nat.mul_le_mul_left _ hM
  refine Nat.le_trans h1 (Nat.mul_le_mul_right _ ?_)
  rw [hS] at hne ⊢
  rcases h with ⟨j, rfl⟩ | ⟨hM1, hb⟩
  · exact dist_grid j M _ (fun e => hne (by rw [e]))
  · have := Nat.mul_le_mul_right (2 ^ k) hM1
    rw [Nat.succ_mul] at this
    exact le_dist_of_add_le (by omega)

/-- two doubles of different magnitude are at least a relative `2^-53` apart: at the bottom of a
binade the spacing below, `2^(k-1)`, counts, with the mantissa read as `2^53` -/
theorem spacing (b b' : Nat) (hne : sMag b' ≠ sMag b) : sMag b ≤ dist (sMag b') (sMag b) * 2 ^ 53 := by
  have hm := mant_lt b
  have hden := expo_denormal b
  have hge := expo_ge b
  generalize hk : (expo b + 1074).toNat = k at *
  have hS : sMag b = mant b * 2 ^ k := by unfold sMag; rw [hk]
  by_cases hM2 : mant b = 2 ^ 52 ∧ 1 ≤ k
  · obtain ⟨k', rfl⟩ : ∃ k', k = k' + 1 := ⟨k - 1, by omega⟩
    exact gap_of_grid (M := 2 ^ 53) (by rw [hS, hM2.1]; exact pow_mul_pow_eq 2 (by omega))
      (Nat.le_refl _) hne ((sMag_grid b' k').imp id (fun h => ⟨by decide, h.2⟩))
  · exact gap_of_grid hS (Nat.le_of_lt hm) hne
      ((sMag_grid b' k).imp id (fun h => ⟨by have := h.1; omega, h.2⟩))

/-! ### sign and magnitude determine the rendering -/

/-- mantissa and exponent of a magnitude `M·2^k`, `M < 2^53`, are determined when `M ≥ 2^52`
unless `k = 0`: the larger exponent belongs to the larger magnitude -/
theorem expo_le_of_sMag {M M' k k' : Nat} (hM : M < 2 ^ 53) (hn' : M' < 2 ^ 52 → k' = 0)
    (h : M' * 2 ^ k' = M * 2 ^ k) : k' ≤ k := by
  false_or_by_contra
  rename_i hlt
  have hM' : 2 ^ 52 ≤ M' := by false_or_by_contra; have := hn' (by omega); omega
  have : M * 2 ^ k < M' * 2 ^ k' :=
    calc M * 2 ^ k < 2 ^ 53 * 2 ^ k := Nat.mul_lt_mul_of_pos_right hM (Nat.two_pow_pos _)
      _ = 2 ^ 52 * 2 ^ (k + 1) := pow_mul_pow_eq 2 (by omega)
      _ ≤ 2 ^ 52 * 2 ^ k' := Nat.mul_le_mul_left _ (Nat.pow_le_pow_right (by decide) (by omega))
      _ ≤ M' * 2 ^ k' := Nat.mul_le_mul_right _ hM'
  omega

theorem fields_of_sMag (b b' : Nat) (h : sMag b' = sMag b) : mant b' = mant b ∧ expo b' = expo b := by
  have h1 := expo_ge b
  have h1' := expo_ge b'
  have hk : (expo b' + 1074).toNat = (expo b + 1074).toNat :=
    Nat.le_antisymm
      (expo_le_of_sMag (mant_lt b) (fun hs => by rw [expo_denormal b' hs]; rfl) h)
      (expo_le_of_sMag (mant_lt b') (fun hs => by rw [expo_denormal b hs]; rfl) h.symm)
  unfold sMag at h
  rw [hk] at h
  exact ⟨Nat.eq_of_mul_eq_mul_right (Nat.two_pow_pos _) h, by omega⟩

/-- `%.{q}g` and the whole of `libconfig_format_double` depend on a finite double only through
its sign and magnitude -/
theorem fmt_congr (b b' : Nat) (hf : isFinite b = true) (hf' : isFinite b' = true)
    (hs : signBit b' = signBit b) (hm : sMag b' = sMag b) (bufLen q : Nat) (sci : Bool) :
    fmtG b' q = fmtG b q ∧ formatDouble bufLen b' q sci = formatDouble bufLen b q sci := by
  obtain ⟨h1, h2⟩ := fields_of_sMag b b' hm
  have hG : ∀ q, fmtG b' q = fmtG b q := by
    intro q
    unfold fmtG
    simp only [hf, hf', hs, h1, h2, Bool.not_true, Bool.false_eq_true, if_false]
  have hF : fmtF b' q = fmtF b q := by
    unfold fmtF scaledRound
    simp only [hf, hf', hs, h1, h2, Bool.not_true, Bool.false_eq_true, if_false]
  refine ⟨hG q, ?_⟩
  rw [formatDouble_eq, formatDouble_eq]
  unfold rawText
  rw [hG q, hG 17, hF, hf, hf']

end Libconfig.C01I

