import LibconfigModel.Proofs.C02
import LibconfigModel.Proofs.C03Parse
import LibconfigModel.Proofs.C03TermStatic
/-
  C03T, dynamic part: along every run of `yyparseLoop` (as the iteration of `C03P.yystep`)

  * the state stack is a path of certificate edges from state 0 (`StackPath`, `reach_path` of
    Proofs/C02Path.lean), hence a reduction never pops more entries than the stack holds above
    its bottom (`no_underflow`);
  * every iteration that continues either consumes the lookahead token (`Shifts`) or lowers
    the rank of the top state (`step_dichotomy`), hence at most `R` consecutive iterations do
    not consume a token (`quiet_bound`).
  The fuel bound that follows is in Proofs/C03TermFuel.lean.
-/
namespace Libconfig.C03T
open Libconfig C03P

/-! ### one iteration, with what happens to the lookahead -/

/-- `yybackup` makes sure there is a lookahead: the one it has, or the next token of the
scanner (`0` for the end of input, the error token for a failing `@include`).  `s'` is the
scanner state afterwards. -/
inductive Fetched (E : ParserEnv) (la : Lookahead) (s : ScanState) : Nat → TokVal → ScanState → Prop where
  | have (t : Nat) (v : TokVal) : la = some (t, v) → Fetched E la s t v s
  | tok (s' : ScanState) (t : Nat) (v : TokVal) : la = none →
      yylex E.T E.sacts E.w E.ic E.lexFuel s = (s', .tok t v) → Fetched E la s t v s'
  | eof (s' : ScanState) : la = none →
      yylex E.T E.sacts E.w E.ic E.lexFuel s = (s', .eof) → Fetched E la s 0 {} s'
  | incl (s' : ScanState) (t : Nat) (text : Bytes) (file : Option Bytes) (line : Nat) : la = none →
      yylex E.T E.sacts E.w E.ic E.lexFuel s = (s', .includeError t text file line) →
      Fetched E la s t {} s'

theorem Fetched.of_look {E : ParserEnv} {X : PState} {t : Nat} {v : TokVal} {s1 : ScanState}
    {c1 : ParseCtx} (h : Look E X (some (t, v)) s1 c1) : Fetched E X.la X.s t v s1 := by
  generalize hla : some (t, v) = la1 at h
  cases h with
  | keep => exact .have t v hla.symm
  | tok h0 hy => cases hla; exact .tok _ _ _ h0 hy
  | eof h0 hy => cases hla; exact .eof _ h0 hy
  | incl h0 hy => cases hla; exact .incl _ _ _ _ _ h0 hy

theorem Fetched.or_kept {E : ParserEnv} {X : PState} {la1 : Lookahead} {s1 : ScanState} {c1 : ParseCtx}
    (h : Look E X la1 s1 c1) :
    (la1 = X.la ∧ s1 = X.s) ∨ ∃ t v, Fetched E X.la X.s t v s1 ∧ la1 = some (t, v) := by
  cases h with
  | keep => exact .inl ⟨rfl, rfl⟩
  | tok h0 hy => exact .inr ⟨_, _, .tok _ _ _ h0 hy, rfl⟩
  | eof h0 hy => exact .inr ⟨_, _, .eof _ h0 hy, rfl⟩
  | incl h0 hy => exact .inr ⟨_, _, .incl _ _ _ _ _ h0 hy, rfl⟩

/-- the iteration from `X` to `Y` consumed the token `(t, v)`: it was the lookahead (fetched
from the scanner if there was none), the action table has a shift `a` for its kind in the top
state, and `Y` is `X` with the target state pushed and no lookahead -/
def Shifts (E : ParserEnv) (X Y : PState) : Prop :=
  ∃ t v a, Fetched E X.la X.s t v Y.s ∧ Action E.P (topState X.stack) (translateTok E.P t) a ∧
    0 < a ∧ Y.stack = (a.toNat, v) :: X.stack ∧ Y.la = none

/-- the iteration from `X` to `Y` reduced by `rule`: the tables call for it in the top state,
`yyr2[rule]` entries are dropped, the goto of the uncovered state is pushed; the lookahead and
the scanner state are unchanged, or the lookahead was fetched in this iteration -/
def Reduces (E : ParserEnv) (X Y : PState) (rule : Nat) : Prop :=
  ReduceBy E.P (topState X.stack) rule ∧
  (∃ yyval, Y.stack =
    (gotoTarget E.P rule (topState (X.stack.drop (E.P.r2.get rule).toNat)), yyval) ::
      X.stack.drop (E.P.r2.get rule).toNat) ∧
  ((Y.la = X.la ∧ Y.s = X.s) ∨ ∃ t v, Fetched E X.la X.s t v Y.s ∧ Y.la = some (t, v))

/-- every iteration that continues is a shift or a reduction, is made below the stack limit
and with a top state other than the final one -/
theorem yystep_inr (E : ParserEnv) (X Y : PState) (h : yystep E X = .inr Y) :
    X.stack ≠ [] ∧ X.stack.length < E.P.maxDepth ∧ topState X.stack ≠ E.P.final ∧
    (Shifts E X Y ∨ ∃ rule, Reduces E X Y rule) := by
  have hs := yystep_spec E X
  rw [h] at hs
  cases hs with
  | reduce hl hk hrule => exact ⟨hl.ne, hl.lt, hl.notFinal, .inr ⟨_, hrule, ⟨_, rfl⟩, Fetched.or_kept hk⟩⟩
  | shift hl hk hact hpos =>
    exact ⟨hl.ne, hl.lt, hl.notFinal, .inl ⟨_, _, _, Fetched.of_look hk, hact, hpos, rfl, rfl⟩⟩

/-- in the final state the loop ends -/
theorem yystep_final (E : ParserEnv) (X : PState) (hne : X.stack ≠ [])
    (h : topState X.stack = E.P.final) :
    yystep E X = .inl (X.s, X.ctx.yyerror X.s.buf.lineno Generated.ERR_EXHAUSTED, .exhausted) ∨
    yystep E X = .inl (X.s, X.ctx, .accept) := by
  have hs := yystep_spec E X
  generalize yystep E X = o at hs ⊢
  cases hs with
  | empty h0 => exact absurd h0 hne
  | exhausted => exact .inl rfl
  | accept => exact .inr rfl
  | echo hl | fuel hl | syntaxError hl | abort hl | crash hl | reduce hl | shift hl =>
    exact absurd h hl.notFinal

/-! ### what a pop uncovers -/

/-- whatever a pop of `n` entries uncovers satisfies what holds at the end of every backward
path of `n` certificate edges -/
theorem pop_back {ed : List (Nat × Nat)} {k : Nat → Bool} :
    ∀ (n s : Nat) (v : TokVal) (rest : List (Nat × TokVal)) (p : Nat) (v' : TokVal)
      (rest' : List (Nat × TokVal)),
      StackPath ed ((s, v) :: rest) → backAll ed k n s = true →
      ((s, v) :: rest).drop n = (p, v') :: rest' → k p = true := by
  intro n
  induction n with
  | zero =>
    intro s v rest p v' rest' _ hb hd
    rw [List.drop_zero] at hd
    cases hd
    exact hb
  | succ n ih =>
    intro s v rest p v' rest' hp hb hd
    rw [backAll] at hb
    cases hp with
    | base => simp at hd
    | push p0 _ v0 _ rest0 h0 he =>
      have hb' := C02P.all_pred hb he
      exact ih p0 v0 rest0 p v' rest' h0 hb' (by simpa using hd)

/-! ### from the dynamic description of an action to the static checks -/

theorem gotoTarget_eq (P : LalrTables) (rule top : Nat) :
    gotoTarget P rule top = C02P.gotoTo P top (P.r1.get rule).toNat := rfl

/-- a reduction the loop makes is covered by the ranking check -/
theorem reduceBy_rankOK {P : LalrTables} {ed : List (Nat × Nat)} {rk : List Nat} {R : Nat}
    (F : C02P.Facts P ed) (RF : RankFacts P ed rk R) {s rule : Nat}
    (hs : s < P.nstates) (hne : s ≠ P.final) (h : ReduceBy P s rule) :
    redRankOK P ed rk s rule = true := by
  have hst := RF.st s hs hne
  unfold stateRankOK at hst
  simp only [Bool.and_eq_true, Bool.or_eq_true] at hst
  rcases h with ⟨rfl, h0⟩ | ⟨t, a, hact, hle, hn, rfl⟩
  · rcases hst.1 with h1 | h1
    · exact absurd (Nat.eq_of_beq_eq_true h1) h0
    · exact h1
  · have hent := C02P.allBelow_spec hst.2 _ (C02P.translateTok_lt F t)
    unfold entryRankOK at hent
    rw [C02P.actAt_of_action hact] at hent
    simp only at hent
    rw [if_pos hle] at hent
    simp only [Bool.or_eq_true] at hent
    rcases hent with h1 | h1
    · exact absurd (by simpa using h1) hn
    · exact h1


/-! ### no underflow -/

/-- **No underflow.**  When the stack is a certificate path and the tables call for a reduction
by `rule` in its top state (not the final one), the stack holds MORE than `yyr2[rule]` entries:
the pop uncovers a real entry `(p, v')`, the rest is again a certificate path, and the goto of
`p` is a certificate edge into a state other than the final one. -/
theorem no_underflow {P : LalrTables} {ed : List (Nat × Nat)} (F : C02P.Facts P ed)
    {stack : List (Nat × TokVal)} (hp : StackPath ed stack) (hne : topState stack ≠ P.final) {rule : Nat}
    (h : ReduceBy P (topState stack) rule) :
    (P.r2.get rule).toNat < stack.length ∧
    ∃ p v' rest', stack.drop (P.r2.get rule).toNat = (p, v') :: rest' ∧ StackPath ed ((p, v') :: rest') ∧
      (p, gotoTarget P rule p) ∈ ed ∧ gotoTarget P rule p ≠ P.final := by
  obtain ⟨p, v', rest', hd, hpath, hedge, _, hnf⟩ := (hp.reduce F hne h).below
  refine ⟨?_, p, v', rest', hd, hpath, hedge, hnf⟩
  apply Classical.byContradiction
  intro hge
  rw [List.drop_eq_nil_of_le (Nat.le_of_not_lt hge)] at hd
  cases hd


/-! ### every iteration consumes a token or lowers the rank -/

/-- a reduction lowers the rank of the top state -/
theorem reduce_rank {P : LalrTables} {ed : List (Nat × Nat)} {rk : List Nat} {R : Nat}
    (F : C02P.Facts P ed) (RF : RankFacts P ed rk R)
    {stack : List (Nat × TokVal)} (hp : StackPath ed stack) (hne : topState stack ≠ P.final) {rule : Nat}
    (h : ReduceBy P (topState stack) rule) :
    rkOf rk (gotoTarget P rule (topState (stack.drop (P.r2.get rule).toNat))) <
      rkOf rk (topState stack) := by
  obtain ⟨_, p, v', rest', hd, _, _, _⟩ := no_underflow F hp hne h
  have hr := reduceBy_rankOK F RF (hp.top_lt F) hne h
  unfold redRankOK at hr
  rcases stack with _ | ⟨⟨s, v⟩, rest⟩
  · exact absurd rfl hp.ne_nil
  have := pop_back _ _ _ _ _ _ _ hp hr hd
  rw [hd]
  exact Nat.le_of_ble_eq_true this

/-- **Dichotomy.**  From a certificate path, an iteration that continues either consumes the
lookahead token or lowers the rank of the top state. -/
theorem step_dichotomy {E : ParserEnv} {ed : List (Nat × Nat)} {rk : List Nat} {R : Nat}
    (F : C02P.Facts E.P ed) (RF : RankFacts E.P ed rk R) {X Y : PState}
    (hp : StackPath ed X.stack) (h : yystep E X = .inr Y) :
    Shifts E X Y ∨ rkOf rk (topState Y.stack) < rkOf rk (topState X.stack) := by
  obtain ⟨_, _, hnf, hsh | ⟨rule, hrule, ⟨yyval, hst⟩, _⟩⟩ := yystep_inr E X Y h
  · exact .inl hsh
  · right
    rw [hst]
    exact reduce_rank F RF hp hnf hrule

/-- `k` consecutive iterations from `X` to `Y`, none of which consumes a token -/
inductive Quiet (E : ParserEnv) (X : PState) : Nat → PState → Prop where
  | refl : Quiet E X 0 X
  | step {k : Nat} {Y Z : PState} : Quiet E X k Y → yystep E Y = .inr Z → ¬ Shifts E Y Z →
      Quiet E X (k + 1) Z

theorem quiet_path {E : ParserEnv} {ed : List (Nat × Nat)} (F : C02P.Facts E.P ed) {X Y : PState}
    {k : Nat} (hp : StackPath ed X.stack) (h : Quiet E X k Y) : StackPath ed Y.stack := by
  induction h with
  | refl => exact hp
  | step _ hs _ ih => exact step_path F ih hs

/-- a run of `k` iterations that consume no token lowers the rank of the top state by at
least `k` -/
theorem quiet_rank {E : ParserEnv} {ed : List (Nat × Nat)} {rk : List Nat} {R : Nat}
    (F : C02P.Facts E.P ed) (RF : RankFacts E.P ed rk R) {X Y : PState} {k : Nat}
    (hp : StackPath ed X.stack) (h : Quiet E X k Y) :
    k + rkOf rk (topState Y.stack) ≤ rkOf rk (topState X.stack) := by
  induction h with
  | refl => omega
  | step hq hs hns ih =>
    rcases step_dichotomy F RF (quiet_path F hp hq) hs with h1 | h1
    · exact absurd h1 hns
    · omega

/-- hence there are at most `R` of them in a row -/
theorem quiet_bound {E : ParserEnv} {ed : List (Nat × Nat)} {rk : List Nat} {R : Nat}
    (F : C02P.Facts E.P ed) (RF : RankFacts E.P ed rk R) {X Y : PState} {k : Nat}
    (hp : StackPath ed X.stack) (h : Quiet E X k Y) : k ≤ R := by
  have h1 := quiet_rank F RF hp h
  have h2 := RF.le _ (hp.top_lt F)
  omega

end Libconfig.C03T
