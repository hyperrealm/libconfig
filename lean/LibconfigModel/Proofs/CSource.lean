import LibconfigModel.Generated.CSource
import LibconfigModel.Proofs.TwosComplement
/-
  Rules for running the translated C bodies of `Generated/CSource.lean`
  symbolically (`Properties/CSource.lean`): two's-complement arithmetic of the
  value cells, `switch` as "run the body from the label on", one equation per
  statement and expression form, and what a store to a member of
  `setting->value` does to the C view `Rep` of a setting.

  A theorem about a function is then a chain of these rules along each path
  through its body, closed by `rfl` where nothing but computation is left.
-/
namespace Libconfig.CSrc

/-! ### two's complement -/

/-- the signed members of the cell are read as `wrap32` / `wrap64` of what it holds -/
theorem sint32_eq (u : Nat) : sint32 u = wrap32 u := by
  unfold sint32 wrap32
  simp only [Int.natCast_emod, ge_iff_le, ← Int.ofNat_le]
  rfl
theorem sint64_eq (u : Nat) : sint64 u = wrap64 u := by
  unfold sint64 wrap64
  simp only [Int.natCast_emod, ge_iff_le, ← Int.ofNat_le]
  rfl

theorem wrap32_small (k : Nat) (h : k < 65536) : wrap32 (k : Int) = k :=
  wrap32_of_fits ((fits32_iff _).2 ⟨by omega, by omega⟩)

theorem u16_small (k : Nat) (h : k < 65536) : u16 (k : Int) = k := by unfold u16; omega
theorem u32_lt (v : Int) : u32 v < 4294967296 := by unfold u32; omega
theorem u32_sint32 (x : Nat) (h : x < 4294967296) : u32 (sint32 x) = x := by
  have hx : (x : Int) % 4294967296 = x := Int.emod_eq_of_lt (Int.natCast_nonneg x) (Int.ofNat_lt.2 h)
  rw [sint32_eq, u32, (wrap32_emod x).1, hx, Int.toNat_natCast]
/-- a value that fits is read back, whatever the upper half of the cell holds -/
theorem sint32_store (raw : Nat) (v : Int) (h : fits32 v = true) :
    sint32 (raw / 4294967296 * 4294967296 + u32 v) = v := by
  rw [sint32_eq, ← wrap32_emod_arg, Int.natCast_add, Int.natCast_mul,
    show ((4294967296 : Nat) : Int) = 4294967296 from rfl, Int.add_comm, Int.add_mul_emod_self_right, u32,
    Int.toNat_of_nonneg (Int.emod_nonneg _ (by decide)), wrap32_emod_arg, wrap32_emod_arg, wrap32_of_fits h]
theorem sint32_u32 (v : Int) (h : fits32 v = true) : sint32 (u32 v) = v := by
  have := sint32_store 0 v h
  rwa [Nat.zero_div, Nat.zero_mul, Nat.zero_add] at this
theorem sint64_u64 (v : Int) (h : fits64 v = true) : sint64 (u64 v) = v := by
  rw [sint64_eq, u64, Int.toNat_of_nonneg (Int.emod_nonneg _ (by decide)), wrap64_emod_arg, wrap64_of_fits h]
theorem fits32_sint32 (x : Nat) : fits32 (sint32 x) = true :=
  sint32_eq x ▸ (wrap32_emod x).2
theorem sint32_eq_iff {a : Nat} {v : Int} (ha : a < 4294967296) (hv : fits32 v = true) :
    sint32 a = v ↔ a = u32 v :=
  ⟨fun h => by rw [← h, u32_sint32 a ha], fun h => by rw [h, sint32_u32 v hv]⟩

theorem xor_mask32 (x : Nat) (h : x < 4294967296) : 4294967295 ^^^ x = 4294967295 - x := by
  apply Nat.eq_of_testBit_eq
  intro i
  have e1 : (4294967295 : Nat) = 2 ^ 32 - 1 := by decide
  have e2 : 4294967295 - x = 2 ^ 32 - (x + 1) := by omega
  rw [Nat.testBit_xor, e2, Nat.testBit_two_pow_sub_succ (by omega), e1, Nat.testBit_two_pow_sub_one]
  by_cases hi : i < 32
  · simp [hi]
  · have : x.testBit i = false :=
      Nat.testBit_lt_two_pow (Nat.lt_of_lt_of_le h (Nat.pow_le_pow_right (n := 2) (by decide) (by omega : 32 ≤ i)))
    simp [hi, this]

theorem cast32_fits (b : Nat) : fits32 (if floatCastOk32 b = true then F64.trunc b else INT_MIN) = true := by
  by_cases hc : floatCastOk32 b = true
  · rw [if_pos hc]
    unfold floatCastOk32 at hc
    exact (Bool.and_eq_true _ _ ▸ hc).2
  · rw [if_neg hc]; decide
theorem cast64_fits (b : Nat) : fits64 (if floatCastOk64 b = true then F64.trunc b else LLONG_MIN) = true := by
  by_cases hc : floatCastOk64 b = true
  · rw [if_pos hc]
    unfold floatCastOk64 at hc
    exact (Bool.and_eq_true _ _ ▸ hc).2
  · rw [if_neg hc]; decide

/-! ### `switch`: run the body from the label on -/

/-- the statements of a `switch` body from `case k:` on (`none`: from `default:`) -/
def slice (l : Option Int) : Stmt → Option Stmt
  | .seq a b => match slice l a with
    | some a' => some (.seq a' b)
    | none => slice l b
  | .case k s => if l = some k then some s else slice l s
  | .dflt s => if l = none then some s else slice l s
  | _ => none

theorem seek_eq_slice (k : Int) (st : St) : ∀ s, seek k s st = (slice (some k) s).map (exec · st) := by
  intro s
  induction s generalizing st with
  | seq a b iha ihb =>
    rw [seek, slice, iha, ihb]
    cases slice (some k) a with
    | none => rfl
    | some a' => simp only [Option.map, exec]; cases exec a' st <;> rfl
  | case k' s ih =>
    rw [seek, slice, ih]
    by_cases hk : k = k'
    · rw [if_pos hk, if_pos (congrArg some hk)]; rfl
    · rw [if_neg hk, if_neg (fun e => hk (Option.some.inj e))]
  | dflt s ih => rw [seek, slice, ih, if_neg nofun]
  | _ => rfl

theorem seekDflt_eq_slice (st : St) : ∀ s, seekDflt s st = (slice none s).map (exec · st) := by
  intro s
  induction s generalizing st with
  | seq a b iha ihb =>
    rw [seekDflt, slice, iha, ihb]
    cases slice none a with
    | none => rfl
    | some a' => simp only [Option.map, exec]; cases exec a' st <;> rfl
  | case k' s ih => rw [seekDflt, slice, ih, if_neg nofun]
  | dflt s ih => rw [seekDflt, slice, if_pos rfl]; rfl
  | _ => rfl

/-- the `case` labels of a `switch` body -/
def labels : Stmt → List Int
  | .seq a b => labels a ++ labels b
  | .case k s => k :: labels s
  | .dflt s => labels s
  | _ => []

variable {st st' : St} {e c x y : Expr} {a b s body : Stmt} {k : Int}

theorem slice_none : ∀ {s : Stmt}, k ∉ labels s → slice (some k) s = none := by
  intro s
  induction s with
  | seq a b iha ihb =>
    intro h; rw [labels, List.mem_append, not_or] at h
    rw [slice, iha h.1, ihb h.2]
  | case k' s ih =>
    intro h; rw [labels, List.mem_cons, not_or] at h
    rw [slice, if_neg (fun e => h.1 (Option.some.inj e)), ih h.2]
  | dflt s ih => intro h; rw [slice, if_neg nofun, ih h]
  | _ => intro _; rfl

/-- The scrutinee is a type code and the labels are type codes: the list is given in `Nat`. -/
theorem slice_none_of_nat {t : Nat} {ls : List Nat} (hl : labels s = ls.map Nat.cast) (ht : t ∉ ls) :
    slice (some (t : Int)) s = none :=
  slice_none fun hm => by
    rw [hl, List.mem_map] at hm
    obtain ⟨l, hm, e⟩ := hm
    exact ht (Int.ofNat_inj.1 e ▸ hm)

theorem exec_switch (he : eval st e = .i k) (hs : slice (some k) body = some s) :
    exec (.switch e body) st = (exec s st).unbreak := by
  simp only [exec, he, seek_eq_slice, hs, Option.map]

theorem exec_switch_default (he : eval st e = .i k) (hk : slice (some k) body = none)
    (hs : slice none body = some s) : exec (.switch e body) st = (exec s st).unbreak := by
  simp only [exec, he, seek_eq_slice, seekDflt_eq_slice, hk, hs, Option.map]

/-! ### statements -/

theorem exec_assign {lv : LV} {t : Ty} {v : Val} (he : eval st e = v)
    (hs : storeLV st lv v = some st') (hv : v ≠ .bad := by nofun) :
    exec (.assign lv t e) st = .normal st' := by
  simp only [exec, he]
  cases v with
  | bad => exact absurd rfl hv
  | _ => simp only [hs]

theorem exec_assign_seq {lv : LV} {t : Ty} {v : Val} (he : eval st e = v)
    (hs : storeLV st lv v = some st') (hv : v ≠ .bad := by nofun) :
    exec (.seq (.assign lv t e) b) st = exec b st' := by
  rw [exec, exec_assign he hs hv]

theorem exec_ite {v : Int} (hc : eval st c = .i v) :
    exec (.ite c a b) st = if v != 0 then exec a st else exec b st := by
  simp only [exec, hc]

theorem exec_ret {v : Int} (he : eval st e = .i v) : exec (.ret e) st = retI v st := by
  simp only [exec, he]

theorem exec_case_seq : exec (.seq (.case k a) b) st = exec (.seq a b) st := by
  simp only [exec]

theorem exec_skip_seq : exec (.seq .skip b) st = exec b st := by
  simp only [exec]

theorem exec_seq_assoc : exec (.seq (.seq a b) s) st = exec (.seq a (.seq b s)) st := by
  simp only [exec]; cases exec a st <;> rfl

theorem exec_ite_seq {p : Bool} (hc : eval st c = b2i p) :
    exec (.seq (.ite c a b) s) st = if p then exec (.seq a s) st else exec (.seq b s) st := by
  simp only [exec, hc, b2i]; cases p <;> rfl

/-! ### expressions -/

theorem eval_var {i : Nat} {t : Ty} {v : Val} (h : st.vars i = v) : eval st (.load (.var i) t) = v := h

theorem eval_bin {op : BinOp} {t : Ty} {u v : Val} (hx : eval st x = u) (hy : eval st y = v) :
    eval st (.bin op t x y) = evalBin op t u v := by
  rw [eval, hx, hy]

theorem eval_un {op : UnOp} {t : Ty} {v : Val} (hx : eval st x = v) :
    eval st (.un op t x) = evalUn op t v := by
  rw [eval, hx]

theorem eval_cast {kd : Cast} {t : Ty} {v : Val} (hx : eval st x = v) :
    eval st (.cast kd t x) = evalCast kd t v := by
  rw [eval, hx]

theorem eval_cast_i32 {v : Int} (hx : eval st x = .i v) (hv : fits32 v = true) :
    eval st (.cast .integral .i32 x) = .i v :=
  (eval_cast hx).trans (congrArg Val.i (wrap32_of_fits hv))

theorem eval_cast_i64 {v : Int} (hx : eval st x = .i v) (hv : fits64 v = true) :
    eval st (.cast .integral .i64 x) = .i v :=
  (eval_cast hx).trans (congrArg Val.i (wrap64_of_fits hv))

theorem eval_cast_u16 {t : Nat} (hx : eval st x = .i t) (ht : t < 65536) :
    eval st (.cast .integral .u16 x) = .i t :=
  (eval_cast hx).trans (congrArg Val.i (Int.emod_eq_of_lt (Int.natCast_nonneg t) (Int.ofNat_lt.2 ht)))

theorem eval_cond {p : Bool} (hc : eval st c = b2i p) :
    eval st (.cond c x y) = if p then eval st x else eval st y := by
  simp only [eval, hc, b2i]; cases p <;> rfl

/-- `c ? 1 : 0` -/
theorem eval_cond_01 {p : Bool} (hc : eval st c = b2i p) : eval st (.cond c (.lit 1) (.lit 0)) = b2i p := by
  rw [eval_cond hc]; cases p <;> rfl

theorem eval_lnot {t : Ty} {p : Bool} (hx : eval st x = b2i p) : eval st (.un .lnot t x) = b2i !p := by
  rw [eval, hx]; cases p <;> rfl

theorem eval_land {t : Ty} {p q : Bool} (hx : eval st x = b2i p) (hy : eval st y = b2i q) :
    eval st (.bin .land t x y) = b2i (p && q) := by
  rw [eval_bin hx hy]; cases p <;> cases q <;> rfl

theorem eval_lor {t : Ty} {p q : Bool} (hx : eval st x = b2i p) (hy : eval st y = b2i q) :
    eval st (.bin .lor t x y) = b2i (p || q) := by
  rw [eval_bin hx hy]; cases p <;> cases q <;> rfl

theorem eval_promote {lv : LV} {u t : Nat} (hl : loadLV st lv = .i u) (hu : u = t) (ht : t < 65536) :
    eval st (.cast .integral .i32 (.load lv .u16)) = .i t := by
  simp only [eval, hl, hu, evalCast, wrapTy, wrap32_small t ht]

theorem natCast_beq (t l : Nat) : ((t : Int) == (l : Int)) = (t == l) := by
  rw [Bool.eq_iff_iff, beq_iff_eq, beq_iff_eq, Int.ofNat_inj]

theorem eval_eq_nat {ty : Ty} {t : Nat} (l : Nat) (hx : eval st x = .i t) :
    eval st (.bin .eq ty x (.lit (OfNat.ofNat l))) = b2i (t == l) :=
  (eval_bin hx rfl).trans (congrArg b2i (natCast_beq t l))

theorem eval_ne_nat {ty : Ty} {t : Nat} (l : Nat) (hx : eval st x = .i t) :
    eval st (.bin .ne ty x (.lit (OfNat.ofNat l))) = b2i (t != l) :=
  (eval_bin hx rfl).trans (congrArg (fun p => b2i !p) (natCast_beq t l))

/-- behind the NULL test `setting->value.list` may be dereferenced -/
theorem eval_listLen {t : Ty} {l : List Nat} (hk : st.kids = some l) :
    eval st (.load .listLen t) = .i l.length := by
  rw [eval, loadLV, hk]

/-- behind the length test `elements[0]` exists -/
theorem eval_elemType {t : Ty} {k : Nat} {l : List Nat} (hk : st.kids = some (k :: l)) :
    eval st (.load (.elemType 0) t) = .i k := by
  rw [eval, loadLV, hk]; rfl

/-- the range test `v >= INT_MIN && v <= INT_MAX` in front of a narrowing to `int` -/
theorem eval_fits32 {v : Int} (hx : eval st x = .i v) :
    eval st (.bin .land .i32
      (.bin .ge .i32 x (.cast .integral .i64 (.bin .sub .i32 (.un .neg .i32 (.lit 2147483647)) (.lit 1))))
      (.bin .le .i32 x (.cast .integral .i64 (.lit 2147483647)))) = b2i (fits32 v) :=
  eval_land (eval_bin hx rfl) (eval_bin hx rfl)

/-! ### the C view of a setting -/

variable {n : Node} {cfg : Config}

theorem Rep.eval_type {t : Nat} (h : Rep n cfg st) (ht : n.ty = t) :
    eval st (.cast .integral .i32 (.load (.sf .type) .u16)) = .i (t : Int) :=
  eval_promote rfl (h.ty.trans ht) (ht ▸ h.tyRange)

/-- `switch (setting->type)` for a type code that has a label -/
theorem Rep.switch {t : Nat} (h : Rep n cfg st) (ht : n.ty = t) (hs : slice (some (t : Int)) body = some s) :
    exec (.switch (.cast .integral .i32 (.load (.sf .type) .u16)) body) st = (exec s st).unbreak :=
  exec_switch (h.eval_type ht) hs

/-- `switch (setting->type)` for a type code that has none -/
theorem Rep.switch_default {ls : List Nat} (h : Rep n cfg st) (hl : labels body = ls.map Nat.cast)
    (ht : n.ty ∉ ls) (hs : slice none body = some s) :
    exec (.switch (.cast .integral .i32 (.load (.sf .type) .u16)) body) st = (exec s st).unbreak :=
  exec_switch_default (h.eval_type rfl) (slice_none_of_nat hl ht) hs

/-- `config_get_option(setting->config, CONFIG_OPTION_AUTOCONVERT)` -/
theorem Rep.eval_auto (h : Rep n cfg st) :
    eval st (.call .getOption (.lit 1)) = b2i (cfg.opt OPT_AUTOCONVERT) :=
  show _ = b2i (optGet cfg.options 1) from h.opts ▸ rfl

theorem Rep.set_ival {t s r : Nat} {v : Int} (h : Rep n cfg st) (hs : s = t) (ht : t = T_INT ∨ t = T_BOOL)
    (hv : sint32 r = v) : Rep { n with ty := t, ival := v } cfg { st with sty := s, raw := r } := by
  refine ⟨hs, ?_, h.fmt, h.opts, h.optsRange, h.dfmt, fun _ => hv, ?_, ?_⟩
  · show t < 65536; rcases ht with rfl | rfl <;> decide
  all_goals rcases ht with rfl | rfl <;> nofun

theorem Rep.set_llval {s r : Nat} {v : Int} (h : Rep n cfg st) (hs : s = T_INT64) (hv : sint64 r = v) :
    Rep { n with ty := T_INT64, ival := v } cfg { st with sty := s, raw := r } :=
  ⟨hs, (by decide : T_INT64 < 65536), h.fmt, h.opts, h.optsRange, h.dfmt, nofun, fun _ => hv, nofun⟩

theorem Rep.set_fval {s r : Nat} (h : Rep n cfg st) (hs : s = T_FLOAT) :
    Rep { n with ty := T_FLOAT, fval := r } cfg { st with sty := s, raw := r } :=
  ⟨hs, (by decide : T_FLOAT < 65536), h.fmt, h.opts, h.optsRange, h.dfmt, nofun, nofun, fun _ => rfl⟩

theorem Rep.set_format {f f' : Nat} (h : Rep n cfg st) (hf : f' = f) :
    Rep { n with fmt := f } cfg { st with sfmt := f' } :=
  ⟨h.ty, h.tyRange, hf, h.opts, h.optsRange, h.dfmt, h.int32, h.int64, h.float⟩

theorem Frame.sf {s f r : Nat} : Frame st { st with sty := s, sfmt := f, raw := r } :=
  ⟨rfl, rfl, rfl, rfl, rfl, rfl⟩

end Libconfig.CSrc
