import LibconfigModel.Basic
/-
  Where `takeWhile`/`dropWhile` cut a text (`span_append`): what every reader of digits, names,
  blanks and lines uses.  Then the digits `natToBase` produces: they are digits of the base, there
  is at least one, no leading zero for a positive number, and `digitsVal` reads the number back.
  For any base 2..16 this is proved of the accumulating `natToBaseAux` (`digitsVal_aux`, `aux_all`,
  `aux_head`) and, of `natToBase` itself, that it is not empty; the other three facts are stated
  for the two bases in use, `natToDec` (C01's integers, C06's indices) and `natToHexUpper` (no
  leading-zero lemma there).
-/
namespace Libconfig

/-! ### reading a maximal run of elements satisfying `p` off the front of a list -/

/-- `l` satisfies `p` throughout and what follows does not begin with a `p`:
`takeWhile`/`dropWhile` cut `l ++ r` exactly there. -/
theorem span_append {α} {p : α → Bool} {l r : List α} (hl : ∀ a ∈ l, p a = true)
    (hr : ∀ c, r.head? = some c → p c = false) :
    (l ++ r).takeWhile p = l ∧ (l ++ r).dropWhile p = r := by
  rw [List.takeWhile_append_of_pos hl, List.dropWhile_append_of_pos hl]
  cases r with
  | nil => exact ⟨List.append_nil l, rfl⟩
  | cons c t =>
    have hc := Bool.eq_false_iff.mp (hr c rfl)
    rw [List.takeWhile_cons_of_neg hc, List.dropWhile_cons_of_neg hc, List.append_nil]
    exact ⟨rfl, rfl⟩

theorem span_cons {α} {p : α → Bool} {l : List α} {x : α} (tl : List α)
    (hl : ∀ a ∈ l, p a = true) (hx : p x = false) :
    (l ++ x :: tl).takeWhile p = l ∧ (l ++ x :: tl).dropWhile p = x :: tl :=
  span_append hl fun _ h => Option.some.inj h ▸ hx

theorem span_all {α} {p : α → Bool} {l : List α} (hl : ∀ a ∈ l, p a = true) :
    l.takeWhile p = l ∧ l.dropWhile p = [] := by
  simpa using span_append (r := []) hl (fun _ h => nomatch h)

end Libconfig

namespace Libconfig.Digits

theorem natToBaseAux_append (b : Nat) : ∀ (fuel n : Nat) (acc : Bytes),
    natToBaseAux b fuel n acc = natToBaseAux b fuel n [] ++ acc := by
  intro fuel
  induction fuel with
  | zero => intro n acc; simp [natToBaseAux]
  | succ fuel ih =>
    intro n acc
    simp only [natToBaseAux]
    split
    · simp
    · rw [ih (n / b) (_ :: acc), ih (n / b) [_]]
      simp

theorem digitsVal_snoc (b : Nat) (xs : Bytes) (d : Nat) :
    digitsVal b (xs ++ [d]) = digitsVal b xs * b + hexVal d := by
  simp [digitsVal, List.foldl_append]

theorem isDigit_digitChar (d : Nat) (h : d < 10) : isDigit (digitChar d) = true := by
  simp only [digitChar, if_pos h, isDigit, Bool.and_eq_true, decide_eq_true_eq]
  omega

theorem isHexDigit_digitChar (d : Nat) (h : d < 16) : isHexDigit (digitChar d) = true := by
  unfold digitChar isHexDigit isDigit
  by_cases h10 : d < 10
  · simp [h10]; omega
  · simp [h10]; omega

theorem hexVal_digitChar (d : Nat) (h : d < 16) : hexVal (digitChar d) = d := by
  simp only [hexVal, digitChar, isDigit, isUpper]
  by_cases h10 : d < 10
  · have h1 : (decide (48 ≤ 48 + d) && decide (48 + d ≤ 57)) = true := by
      simp only [Bool.and_eq_true, decide_eq_true_eq]; omega
    simp only [if_pos h10, h1, if_true]
    omega
  · have h1 : (decide (48 ≤ 55 + d) && decide (55 + d ≤ 57)) = false := by
      simp only [Bool.and_eq_false_iff, decide_eq_false_iff_not]; omega
    have h2 : (decide (65 ≤ 55 + d) && decide (55 + d ≤ 90)) = true := by
      simp only [Bool.and_eq_true, decide_eq_true_eq]; omega
    simp only [if_neg h10, h1, h2, if_true, Bool.false_eq_true, if_false]
    omega

theorem digitChar_ne_zero (d : Nat) (h : d ≠ 0) : digitChar d ≠ 48 := by
  simp only [digitChar]
  split <;> omega

theorem digitsVal_aux (b : Nat) (hb2 : 2 ≤ b) (hb16 : b ≤ 16) :
    ∀ (fuel n : Nat), n ≤ fuel → digitsVal b (natToBaseAux b fuel n []) = n := by
  intro fuel
  induction fuel with
  | zero =>
    intro n h
    have : n = 0 := by omega
    subst this; simp [natToBaseAux, digitsVal]
  | succ fuel ih =>
    intro n h
    simp only [natToBaseAux]
    split
    · rename_i h0; subst h0; simp [digitsVal]
    · rename_i h0
      have hlt : n / b < n := Nat.div_lt_self (by omega) (by omega)
      have hm : n % b < 16 := Nat.lt_of_lt_of_le (Nat.mod_lt _ (by omega)) hb16
      rw [natToBaseAux_append, digitsVal_snoc, ih (n / b) (by omega), hexVal_digitChar _ hm,
        Nat.mul_comm]
      exact Nat.div_add_mod n b

theorem aux_all (b : Nat) (P : Nat → Prop) (hP : ∀ d, d < b → P (digitChar d)) (hb : 0 < b) :
    ∀ (fuel n : Nat), ∀ c ∈ natToBaseAux b fuel n [], P c := by
  intro fuel
  induction fuel with
  | zero => intro n c hc; simp [natToBaseAux] at hc
  | succ fuel ih =>
    intro n c hc
    simp only [natToBaseAux] at hc
    split at hc
    · simp at hc
    · rw [natToBaseAux_append] at hc
      simp only [List.mem_append, List.mem_singleton] at hc
      rcases hc with hc | rfl
      · exact ih _ _ hc
      · exact hP _ (Nat.mod_lt _ hb)

theorem aux_head (b : Nat) (hb2 : 2 ≤ b) :
    ∀ (fuel n : Nat), n ≠ 0 → n ≤ fuel → ∃ c t, natToBaseAux b fuel n [] = c :: t ∧ c ≠ 48 := by
  intro fuel
  induction fuel with
  | zero => intro n h0 h; omega
  | succ fuel ih =>
    intro n h0 h
    simp only [natToBaseAux, if_neg h0]
    rw [natToBaseAux_append]
    have hlt : n / b < n := Nat.div_lt_self (by omega) (by omega)
    by_cases hq : n / b = 0
    · rw [hq]
      refine ⟨digitChar (n % b), [], ?_, ?_⟩
      · cases fuel <;> simp [natToBaseAux]
      · apply digitChar_ne_zero
        have := Nat.div_add_mod n b
        rw [hq] at this
        simp at this
        omega
    · obtain ⟨c, t, he, hc⟩ := ih (n / b) hq (by omega)
      exact ⟨c, t ++ [digitChar (n % b)], by rw [he]; rfl, hc⟩

theorem natToDec_digits (i : Nat) : ∀ c ∈ natToDec i, isDigit c = true := by
  intro c hc
  simp only [natToDec, natToBase] at hc
  split at hc
  · simp only [List.mem_singleton] at hc; subst hc; decide
  · exact aux_all 10 (fun c => isDigit c = true) isDigit_digitChar (by decide) _ _ _ hc

theorem natToBase_ne_nil (b : Nat) (i : Nat) : natToBase b i ≠ [] := by
  simp only [natToBase]
  split
  · simp
  · rename_i h
    cases i with
    | zero => exact absurd rfl h
    | succ i =>
      simp only [natToBaseAux, if_neg h]
      rw [natToBaseAux_append]
      simp

theorem natToDec_ne_nil (i : Nat) : natToDec i ≠ [] := natToBase_ne_nil 10 i

theorem digitsVal_natToDec (i : Nat) : digitsVal 10 (natToDec i) = i := by
  simp only [natToDec, natToBase]
  split
  · rename_i h; subst h; decide
  · exact digitsVal_aux 10 (by decide) (by decide) _ _ (Nat.le_refl _)

theorem natToDec_head (i : Nat) (h : i ≠ 0) : (natToDec i).head? ≠ some 48 := by
  simp only [natToDec, natToBase, if_neg h]
  obtain ⟨c, t, he, hc⟩ := aux_head 10 (by decide) i i h (Nat.le_refl _)
  rw [he]
  simpa using hc

theorem natToHex_digits (i : Nat) : ∀ c ∈ natToHexUpper i, isHexDigit c = true := by
  intro c hc
  simp only [natToHexUpper, natToBase] at hc
  split at hc
  · simp only [List.mem_singleton] at hc; subst hc; decide
  · exact aux_all 16 (fun c => isHexDigit c = true) isHexDigit_digitChar (by decide) _ _ _ hc

theorem natToHex_ne_nil (i : Nat) : natToHexUpper i ≠ [] := natToBase_ne_nil 16 i

theorem digitsVal_natToHex (i : Nat) : digitsVal 16 (natToHexUpper i) = i := by
  simp only [natToHexUpper, natToBase]
  split
  · rename_i h; subst h; decide
  · exact digitsVal_aux 16 (by decide) (by decide) _ _ (Nat.le_refl _)

end Libconfig.Digits
