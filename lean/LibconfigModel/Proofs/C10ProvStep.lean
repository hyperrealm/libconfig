import LibconfigModel.Proofs.C09LineStep
import LibconfigModel.DenoteProv
/-
  C10P (provenance of the tree), machinery: a reduction whose semantic action succeeds, WITH the
  scan state in which the action runs (`C02D.preduceAt`, specialised).  The action of a state that
  reduces without consulting the lookahead runs in the present scan state; the action of a state
  that consults it runs in the scan state right after the next token (which state does which:
  `nn_*`, `ninf_1`, Proofs/C09LineStep.lean).
-/
namespace Libconfig.C10Prov
open Libconfig C02P C05P C02C C01PP C02D C09L

/-- the source position a grammar action records when it runs in the scan state `s`
(`CAPTURE_PARSE_POS`: the line counter of the current buffer, the current file name) -/
def stampOf (s : ScanState) : Denote.Stamp := (s.buf.lineno, s.currentFilename)

section
variable {E : ParserEnv} {pos : Nat → ScanState}

/-- `C02D.preduceAt` without include errors, for an action that succeeds wherever it runs,
carrying the invariant along -/
theorem preduceP {o : Denote.Options} (hE : Compiled E)
    {stk pushed : List (Nat × TokVal)} {p : Nat}
    {vp : TokVal} {rest : List (Nat × TokVal)} {s : Nat} {v0 : TokVal}
    {rest0 : List (Nat × TokVal)} {la : Lookahead} {sc : ScanState} {ctx : ParseCtx} {t : Nat}
    {v : TokVal} {ks : List (Nat × TokVal)} {r lhs len q' : Nat} {act : ParseAct}
    {Post : ScanState → ParseCtx → Prop}
    (hstk : stk = pushed ++ (p, vp) :: rest) (htop : stk = (s, v0) :: rest0)
    (hdepth : stk.length < 10000) (hfin : s ≠ 6)
    (hred : redOK P s (translateTok P t) r = true)
    (hrule : RuleIs r lhs len act) (hlen : len = pushed.length)
    (hgoto : gotoTo P p lhs = q')
    (hinp : InpQ E pos la sc ((t, v) :: ks)) (hinv : Inv true o ctx)
    (hact : ∀ ctx₁ (sa : ScanState), Same true ctx ctx₁ →
      ∃ ctx₂, runAction act ctx₁ v0 sa.buf.lineno sa.currentFilename = .ok ctx₂ ∧ Post sa ctx₂) :
    ∃ la' sc' ctx' vv, Reaches E ⟨stk, la, sc, ctx⟩ ⟨(q', vv) :: (p, vp) :: rest, la', sc', ctx'⟩ ∧
      InpQ E pos la' sc' ((t, v) :: ks) ∧ Post sc' ctx' ∧ Inv true o ctx' ∧
      sc' = (if (P.pact.get s == P.pactNinf) = true then sc else pos ks.length) := by
  obtain ⟨la', ctx', vv, hR, hI, hP, hinv'⟩ := preduceAt hE
    (Post := fun c => Post _ c ∧ Inv true o c) hstk htop hdepth hfin hred hrule hlen hgoto
    (inpQ_iff.mp hinp) rfl (fun ctx₁ hs => by
      obtain ⟨ctx₂, ha, hp⟩ := hact ctx₁ _ hs
      exact ⟨ctx₂, ha, hp, (hinv.of_same hs).of_ok ha⟩)
  exact ⟨la', _, ctx', vv, hR, inpQ_iff.mpr hI, hP, hinv', rfl⟩

end

end Libconfig.C10Prov
