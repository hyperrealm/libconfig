import LibconfigModel.Proofs.C01LexFloatOK
/-
  C01 idempotence — the float lemma of "writing is idempotent": with scientific notation off, the
  text `libconfig_format_double` writes for a finite double `b` is a fixed point of
  `text ↦ strtod ↦ format`:

      formatDouble 341 (strtod (formatDouble 341 b p false)) p false = formatDouble 341 b p false.

  `N = round-half-even(|b|·10^p)` is the integer that `%.{p}f` prints, on the decimal grid `1/10^p`;
  the double `b'` read back is nearest to `N / 10^p`, hence at least as close to it as `b` is, and so
  rounds to `N` on that grid again (`reread_round` of Proofs/F64Grid.lean).
-/
namespace Libconfig.C01I
open Libconfig F64 C01P C01L
open Libconfig.F64R

/-- what is read back for the text of a finite double: a finite double of the same sign that
`%.{p}f` rounds to the same integer -/
theorem readback (b p : Nat) (h : isFinite b = true) (hp : p ≤ 26) :
    isFinite (strtod (formatDouble 341 b p false)) = true ∧
      signBit (strtod (formatDouble 341 b p false)) = signBit b ∧
      scaledRound (strtod (formatDouble 341 b p false)) p = scaledRound b p := by
  have hinf := fixed_no_overflow b p h hp
  obtain ⟨ip, fq, htext, hne, hip, hfq, -, hlen, hflen, hval⟩ := fixed_text b p h hp
  rw [htext, strtod_form' _ ip fq hne hip hfq hlen hflen] at hinf ⊢
  -- the grid `1/10^p`
  have hg : ∀ c, scaledRound c p = divRoundEven (sMag c * 10 ^ p) (T74 * 1) := fun c => by
    rw [scaledRound_eq, Nat.mul_one, T74_def]
  rw [hg b, ← Nat.mul_one (divRoundEven _ _)] at hval
  obtain ⟨f1, f2, -, -⟩ := reread _ _ _ _ 1 (10 ^ p) (pow10_pos _) Nat.one_pos hval hinf
  exact ⟨f1, f2, by rw [hg, hg]; exact reread_round _ _ _ 1 (10 ^ p) b (pow10_pos _) Nat.one_pos hval hinf⟩

/-- `%.{p}f` depends on the double only through finiteness, sign and `scaledRound` -/
theorem fmtF_congr (b b' p : Nat) (h : isFinite b = true) (h' : isFinite b' = true)
    (hs : signBit b' = signBit b) (hr : scaledRound b' p = scaledRound b p) : fmtF b' p = fmtF b p := by
  unfold fmtF
  simp only [h, h', hs, hr, Bool.not_true, Bool.false_eq_true, if_false]

/-- the written text depends on the double only through finiteness, sign and `scaledRound` -/
theorem formatDouble_congr (bufLen b b' p : Nat) (h : isFinite b = true) (h' : isFinite b' = true)
    (hs : signBit b' = signBit b) (hr : scaledRound b' p = scaledRound b p) :
    formatDouble bufLen b' p false = formatDouble bufLen b p false := by
  have e : ∀ x, rawText bufLen x p false = fmtF x p := by intro x; simp [rawText]
  rw [formatDouble_eq, formatDouble_eq, e, e, fmtF_congr b b' p h h' hs hr]

/-- **the float lemma**: the written text is a fixed point of read-then-write -/
theorem formatDouble_idem (b p : Nat) (h : isFinite b = true) (hp : p ≤ 26) :
    formatDouble 341 (strtod (formatDouble 341 b p false)) p false = formatDouble 341 b p false := by
  obtain ⟨h1, h2, h3⟩ := readback b p h hp
  exact formatDouble_congr 341 b _ p h h1 h2 h3

end Libconfig.C01I

