import LibconfigModel.Proofs.C02DenoteStatic
import LibconfigModel.Proofs.C02DenoteSpec
/-
  C02D, semantic side: what the grammar actions do to the tree under construction in the
  situations an arbitrary text can produce — beyond those of Proofs/C01ParseSem.lean (whose
  `Hole` / `View` / `Slot` vocabulary is reused, and where `$@1` for a name that may be taken
  already is): adjacent strings, array elements of the wrong type; and the invariant that a
  successful action leaves the error text and the options alone.
-/
namespace Libconfig.C02D
open Libconfig C02P C05P C02C C01PP C04 C04R Denote

/-! ### the invariant on the parse context -/

/-- the options are those the interpreter was given; when no include error occurs, no error
text has been recorded yet -/
structure Inv (plain : Bool) (o : Options) (ctx : ParseCtx) : Prop where
  ov : ctx.cfg.opt OPT_ALLOW_OVERRIDES = o.allowOverrides
  err : plain = true → ctx.cfg.errText = none

theorem Inv.of_same {plain : Bool} {o : Options} {a b : ParseCtx} (h : Inv plain o a)
    (hs : Same plain a b) : Inv plain o b := by
  have hopt : b.cfg.options = a.cfg.options := congrArg (·.1) hs.attrs
  refine ⟨?_, fun hp => (hs.err hp).trans (h.err hp)⟩
  rw [← h.ov]
  unfold Config.opt
  rw [hopt]

theorem runAction_ok_err {act : ParseAct} {ctx ctx₂ : ParseCtx} {v : TokVal} {l : Nat}
    {f : Option Bytes} (h : runAction act ctx v l f = .ok ctx₂) :
    ctx₂.cfg.errText = ctx.cfg.errText := by
  have he := runAction_effect ctx v l f act
  rw [h] at he
  cases he <;> rfl

theorem Inv.of_ok {plain : Bool} {o : Options} {act : ParseAct} {ctx ctx₂ : ParseCtx} {v : TokVal}
    {l : Nat} {f : Option Bytes} (h : Inv plain o ctx) (ha : runAction act ctx v l f = .ok ctx₂) :
    Inv plain o ctx₂ := by
  have hat := runAction_attrs act ctx v l f
  rw [ha] at hat
  have hopt : ctx₂.cfg.options = ctx.cfg.options := congrArg (·.1) hat
  refine ⟨?_, fun hp => (runAction_ok_err ha).trans (h.err hp)⟩
  rw [← h.ov]
  unfold Config.opt
  rw [hopt]

/-! ### `stripPos` -/

theorem stripPosList_snoc (ks : List Node) (k : Node) :
    stripPosList (ks ++ [k]) = stripPosList ks ++ [stripPos k] := by
  rw [stripPosList_append]
  rfl

/-- `enter` only looks at the names -/
theorem enter_map (o : Options) (f : Node → Node) (hf : ∀ k, (f k).name = k.name)
    (kids : List Node) (nm : Bytes) :
    enter o (kids.map f) nm = (enter o kids nm).map (List.map f) := by
  unfold enter
  rw [List.findIdx?_map]
  have : ((fun k : Node => k.name == some nm) ∘ f) = (fun k : Node => k.name == some nm) := by
    funext k
    show ((f k).name == some nm) = _
    rw [hf]
  rw [this]
  cases List.findIdx? (fun k : Node => k.name == some nm) kids with
  | none => rfl
  | some i =>
    simp only
    split
    · simp [map_eraseIdx]
    · rfl

theorem enter_strip (o : Options) (kids : List Node) (nm : Bytes) :
    enter o (stripPosList kids) nm = (enter o kids nm).map stripPosList := by
  rw [stripPosList_map, enter_map o _ fun k => by rw [stripPos_eq]]
  cases enter o kids nm <;> simp [stripPosList_map]

/-! ### adjacent strings -/

theorem act_stringNext {ctx : ParseCtx} {K : Node → Node} {pp : Path} {pn : Node}
    {st : Option Path} {s : Bytes} (hV : View ctx K pp pn (some s) st) (v : TokVal) (l : Nat)
    (f : Option Bytes) :
    ∃ ctx₂, runAction .stringNext ctx v l f = .ok ctx₂ ∧ View ctx₂ K pp pn (some (s ++ v.sval)) st := by
  refine ⟨_, runAction_piece (.inr rfl), hV.hole, hV.root, hV.parent, ?_, hV.setting⟩
  show some (ctx.str.getD [] ++ v.sval) = some (s ++ v.sval)
  rw [hV.str]
  rfl

section
variable {ctx : ParseCtx} {K : Node → Node} {pp : Path} {pn : Node} {st : Option Path}
  {pre : List Node} {nm : Option Bytes}

/-! ### an array element of the wrong type -/

theorem setElem_mismatch {setter : Node → Option Node} {ty : Nat} {pn : Node}
    (hck : checkType pn ty = false) : pn.setElem setter ty (-1) = none := by
  unfold Node.setElem
  split
  · rfl
  · rw [if_pos (by decide), hck]
    rfl

/-- a scalar whose type is not the array's: the parse is aborted with "mismatched element type
in array" -/
theorem act_mismatch {str : Option Bytes} {act : ParseAct} {v : TokVal} {σ : ValueSpec}
    (hσ : valueSpec ctx v act = some σ) (hV : View ctx K pp pn str st) (hpa : pn.ty = T_ARRAY)
    (hck : checkType pn σ.ty = false) (l : Nat) (f : Option Bytes) :
    runAction act ctx v l f =
      .abort ((ctx.taken act).yyerror l Generated.ERR_ARRAY_ELEM_TYPE) :=
  (runAction_value ctx v l f hσ).trans
    (actValue_mismatch (ctx := ctx.taken act) (hV.inAggregate (.inr hpa)) hV.parent hV.get
      (setElem_mismatch hck))

end

end Libconfig.C02D
