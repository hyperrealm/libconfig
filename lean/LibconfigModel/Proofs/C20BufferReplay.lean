import LibconfigModel.Proofs.C20BufferSeeded
/-
  C20B, the scenario of `Properties/C20Buffer.lean` at the constants of scanner.c
  (`YY_BUF_SIZE` 16384, `YY_READ_BUF_SIZE` 8192): reads of 8192 bytes while a token of 16383
  bytes arrives, the growth to 32768, the token handed to its action, and the same reads with
  the seeded growth test.  The sizes are computed on the integer shadow of the buffer
  (`run_shadow`) and the contents follow from the sizes (`contents_of_sizes`): no step looks
  at the 36385 bytes.
-/
namespace Libconfig.C20BP

open Libconfig Libconfig.FlexBuffer

theorem longTok_length : longTok.length = 36385 := by
  unfold longTok
  simp only [List.length_append, List.length_replicate]
  rfl

theorem shadow_longTok (P : Params) (hT : ∀ n : Int, P.test n = true → n ≤ 0) (hB : 0 < P.B)
    (es : List Event) :
    shadow (run P es (create P longTok)) = Shadow.run P es ⟨P.B, 0, 0, 0, 36385, .new⟩ := by
  rw [run_shadow P hT es _ hB, shadow_create, longTok_length]

theorem sizes_longTok (es : List Event) :
    sizes (run scannerParams es (create scannerParams longTok)) =
      (Shadow.run scannerParams es ⟨16384, 0, 0, 0, 36385, .new⟩).sizes :=
  sizes_of_shadow (shadow_longTok scannerParams (test_le rfl) (by decide) es)

/-- first read: `num_to_read = 16384 - 0 - 1`, clamped to 8192 -/
theorem replay_read1 :
    sizes (run scannerParams [.eob 8192] (create scannerParams longTok)) =
      (16384, 8192, 0, 0, 28193) :=
  (sizes_longTok _).trans (by decide)

/-- second read: 8192 bytes are kept, `num_to_read = 16384 - 8192 - 1 = 8191`; the buffer is
now full: `yy_n_chars = YY_BUF_SIZE - 1` -/
theorem replay_read2 :
    sizes (run scannerParams [.eob 8192, .eob 8192] (create scannerParams longTok)) =
      (16384, 16383, 0, 8192, 20002) :=
  (sizes_longTok _).trans (by decide)

/-- third read: the token in progress fills the buffer, `num_to_read = 0`, the buffer is
doubled to 32768, `num_to_read = 32768 - 16383 - 1 = 16384`, clamped to 8192 -/
theorem replay_read3 :
    sizes (run scannerParams [.eob 8192, .eob 8192, .eob 8192] (create scannerParams longTok)) =
      (32768, 24575, 0, 16383, 11810) :=
  (sizes_longTok _).trans (by decide)

/-- The same three reads with `while ( num_to_read < 0 )`: the third `YY_INPUT` is asked for
0 bytes (`fread` returns 0, which the scanner takes for end of input): `EOB_ACT_LAST_MATCH`
although the stream still holds 20002 bytes and offered 8192. -/
theorem replay_seeded :
    (eobStep seededParams 8192
      (run seededParams [.eob 8192, .eob 8192] (create seededParams longTok))).1.log.any zeroRead = true ∧
    (eobStep seededParams 8192
      (run seededParams [.eob 8192, .eob 8192] (create seededParams longTok))).2 = .lastMatch ∧
    sizes (eobStep seededParams 8192
      (run seededParams [.eob 8192, .eob 8192] (create seededParams longTok))).1 =
      (16384, 16383, 0, 16383, 20002) :=
  -- after two reads the token in progress fills the buffer
  have h2 : shadow (run seededParams [.eob 8192, .eob 8192] (create seededParams longTok)) =
      ⟨16384, 16383, 0, 8192, 20002, .normal⟩ :=
    (shadow_longTok seededParams (seeded_test_le rfl) (by decide) _).trans (by decide)
  seeded_full_buffer seededParams rfl 8192 _ h2 rfl (by decide) (by decide)

theorem replay_reach (es : List Event) :
    Reach scannerParams longTok (run scannerParams es (create scannerParams longTok)) :=
  reach scannerParams ⟨by decide, by decide, rfl⟩ longTok es

/-- after the three reads of `replay_read3` the window is the first 24575 bytes of the
stream, in order: the 8192 + 8191 bytes that were there before the `yyrealloc`, then the
8192 new ones -/
theorem replay_window3 :
    window (run scannerParams [.eob 8192, .eob 8192, .eob 8192] (create scannerParams longTok)) =
      List.replicate 16382 97 ++ [98, 99, 100] ++ List.replicate 8190 101 :=
  (contents_of_sizes (replay_reach _) replay_read3 [] _ (List.replicate 11810 101)
    (by simp only [longTok, List.nil_append, List.append_assoc,
      List.replicate_append_replicate, Nat.reduceAdd])
    (by simp only [List.length_append, List.length_replicate]; rfl)
    List.length_replicate).2.1

/-- `tok 16383` after the three reads, then a fourth read: `number_to_move = 24575 - 16383 =
8192`, `num_to_read = 32768 - 8192 - 1`, clamped to 8192; the window now starts with `c`, `d`,
`e`; the action saw exactly the 16383 bytes of the token -/
theorem replay_token :
    sizes (run scannerParams [.eob 8192, .eob 8192, .eob 8192, .tok 16383, .eob 8192]
      (create scannerParams longTok)) = (32768, 16384, 0, 8192, 3618) ∧
    (window (run scannerParams [.eob 8192, .eob 8192, .eob 8192, .tok 16383, .eob 8192]
      (create scannerParams longTok))).take 3 = [99, 100, 101] ∧
    beqBytes (run scannerParams [.eob 8192, .eob 8192, .eob 8192, .tok 16383, .eob 8192]
      (create scannerParams longTok)).tokens.flatten (List.replicate 16382 97 ++ [98]) = true := by
  have hz : sizes (run scannerParams [.eob 8192, .eob 8192, .eob 8192, .tok 16383, .eob 8192]
      (create scannerParams longTok)) = (32768, 16384, 0, 8192, 3618) :=
    (sizes_longTok _).trans (by decide)
  obtain ⟨ht, hw, _⟩ := contents_of_sizes (replay_reach _) hz (List.replicate 16382 97 ++ [98])
    ([99, 100] ++ List.replicate 16382 101) (List.replicate 3618 101)
    (by simp only [longTok, List.append_assoc, List.cons_append, List.nil_append,
      List.replicate_append_replicate, Nat.reduceAdd])
    (by simp only [List.length_append, List.length_replicate]; rfl)
    List.length_replicate
  exact ⟨hz, by rw [hw]; rfl, by rw [ht]; exact beqBytes_self _⟩

end Libconfig.C20BP
