import LibconfigModel.Proofs.C20BufferRun
import LibconfigModel.Properties.C20
import LibconfigModel.Proofs.FlexRun
/-
  C20B helpers (B4): the table-driven matcher of `Flex.lean` plugged into the
  buffer model.  `lexBuf` is the matching part of one iteration of `yylex` run on the
  buffer: scan the window from `yytext_ptr`; if the automaton jams, that is the match; if
  it reaches the sentinel, do the end-of-buffer action and, depending on its result, go on
  scanning, take the last match, or report end of file.  `lexBuf_spec`: the result is
  `Flex.next` on the idealised text `pending s`, and the new state's idealised text is the
  old one without the token — which is how `Scanner.yylex` advances its `rest`.
-/
namespace Libconfig.C20BP

open Libconfig Libconfig.FlexBuffer Libconfig.Flex Libconfig.C20

/-- result of the matching part of one `yylex` iteration -/
inductive LexRes where
  /-- `EOB_ACT_END_OF_FILE`: the `<<EOF>>` action runs -/
  | eof
  /-- `yy_find_action`: the rule and `yyleng` (`none`: "no action found") -/
  | rule (r : Option (Nat × Nat))
  /-- the list of read sizes given to `lexBuf` is used up (not a behaviour of the scanner) -/
  | starved
deriving Repr, DecidableEq

/-- `YY_DO_BEFORE_ACTION`, the action, and the start of the next iteration -/
def applyRule : Option (Nat × Nat) → State → State
  | some (_, len), s => tokStep len s
  | none, s => s

/-- The matching loop on the buffer.  `oracle` lists how many bytes the stream offers to the
successive reads.  After `EOB_ACT_CONTINUE_SCAN` flex recomputes the automaton state over the
moved text (`yy_get_previous_state`) and goes on; rescanning the window from its start is the
same computation. -/
def lexBuf (T : FlexTables) (sc : Nat) (bol : Bool) (P : Params) : List Nat → State → State × LexRes
  | oracle, s =>
    match scanPartial T (startState sc bol) (window s) 0 none with
    | .done r => (applyRule r s, .rule r)                   -- the automaton jammed inside the window
    | .more _ _ _ =>                                         -- it reached `yy_ch_buf[yy_n_chars]`
      match oracle with
      | [] => (s, .starved)
      | k :: ks =>
        let r := eobStep P k s
        match r.2 with
        | .continueScan => lexBuf T sc bol P ks r.1
        | .lastMatch =>
          -- yy_c_buf_p = &yy_ch_buf[yy_n_chars]; yy_get_previous_state(); goto yy_find_action
          let m := finish T (scanPartial T (startState sc bol) (window r.1) 0 none)
          (applyRule m r.1, .rule m)
        | .endOfFile => (r.1, .eof)
        | .fatal => (r.1, .starved)

/-! ### the match never extends beyond what was scanned -/

def BoundedBy (m : Nat) (o : Option (Nat × Nat)) : Prop := ∀ r n, o = some (r, n) → n ≤ m

/-- the match on a window, completed or not, ends inside the window -/
theorem scanWindow_bounded (T : FlexTables) (st : Nat) (w : Bytes) :
    BoundedBy w.length (finish T (scanPartial T st w 0 none)) := by
  intro r n h
  rw [← scan_eq_finish] at h
  rcases scan_spec T _ _ _ _ _ _ h with h | h
  · cases h
  · omega

/-! ### the specification -/

theorem applyRule_rest (m : Option (Nat × Nat)) (s : State) : (applyRule m s).rest = s.rest := by
  cases m with
  | none => rfl
  | some rl => exact (tokStep_fixed rl.2 s).2.2

/-- what a match does to the idealised text: `some (rule, len)` hands the first `len` bytes to
the action and removes them; `none` changes nothing -/
def Consumed (m : Option (Nat × Nat)) (s s' : State) : Prop :=
  (∀ r len, m = some (r, len) →
    s'.tokens = s.tokens ++ [(pending s).take len] ∧ pending s' = (pending s).drop len) ∧
  (m = none → s'.tokens = s.tokens ∧ pending s' = pending s)

/-- what `applyRule` does to a state whose window is at least as long as the match -/
theorem applyRule_spec (P : Params) (m : Option (Nat × Nat)) (s : State) (h : Inv P s) (he : EofOK s)
    (hb : BoundedBy (window s).length m) :
    Inv P (applyRule m s) ∧ EofOK (applyRule m s) ∧ Consumed m s (applyRule m s) := by
  cases m with
  | none => exact ⟨h, he, fun _ _ hc => by simp at hc, fun _ => ⟨rfl, rfl⟩⟩
  | some rl =>
    obtain ⟨r, len⟩ := rl
    have hlen : len ≤ s.nChars - s.textPtr := by
      rw [← length_window P s h]; exact hb r len rfl
    have hv : s.textPtr + len ≤ s.nChars := by
      have := h.text; have := h.cur; omega
    obtain ⟨h1, _, h3⟩ := tokStep_pending P len s h hv
    refine ⟨tokStep_inv P len s h, tokStep_eofOK len s he, ?_, fun hc => by simp at hc⟩
    intro r' len' hm
    simp only [Option.some.injEq, Prod.mk.injEq] at hm
    obtain ⟨_, rfl⟩ := hm
    exact ⟨h1, h3⟩

/-- what the idealised matcher says about a text whose prefix `w` was scanned -/
theorem next_of_done (T : FlexTables) (sc : Nat) (bol : Bool) (w rest : Bytes) (r : Option (Nat × Nat))
    (h : scanPartial T (startState sc bol) w 0 none = .done r) : next T sc bol (w ++ rest) = r := by
  unfold next
  rw [scan_eq_finish, scanPartial_append, h]
  rfl

/-- what `lexBuf` returns and leaves, in terms of the idealised text -/
structure LexSpec (T : FlexTables) (sc : Nat) (bol : Bool) (P : Params) (s : State)
    (out : State × LexRes) : Prop where
  inv : Inv P out.1
  eofOK : EofOK out.1
  /-- nothing is pushed back into the stream -/
  rest : out.1.rest.length ≤ s.rest.length
  /-- the list of read sizes was long enough -/
  fed : out.2 ≠ .starved
  /-- end of file exactly when nothing is left -/
  eof : pending s = [] → out.2 = .eof ∧ out.1.tokens = s.tokens ∧ pending out.1 = []
  /-- otherwise the rule and length that `Flex.next` computes on the idealised text; the
  token handed to the action is that prefix, and it is removed -/
  rule : pending s ≠ [] → out.2 = .rule (next T sc bol (pending s)) ∧
    Consumed (next T sc bol (pending s)) s out.1

theorem lexBuf_spec (T : FlexTables) (sc : Nat) (bol : Bool) (P : Params) (hP : P.OK) :
    ∀ (oracle : List Nat) (s : State), Inv P s → EofOK s → (∀ k ∈ oracle, 1 ≤ k) →
      s.rest.length + 1 ≤ oracle.length → LexSpec T sc bol P s (lexBuf T sc bol P oracle s) := by
  intro oracle
  induction oracle with
  | nil => intro s _ _ _ hl; simp at hl
  | cons k ks ih =>
    intro s h he hk hl
    have hk1 : 1 ≤ k := hk k (by simp)
    have hbd := scanWindow_bounded T (startState sc bol) (window s)
    unfold lexBuf
    cases hsp : scanPartial T (startState sc bol) (window s) 0 none with
    | done r =>
      -- the automaton jammed inside the window
      simp only
      have hwne : window s ≠ [] := by
        intro hw
        rw [hw] at hsp
        simp [scanPartial] at hsp
      have hpne : pending s ≠ [] := by
        unfold pending
        intro hc
        exact hwne (List.append_eq_nil_iff.mp hc).1
      have hnext : next T sc bol (pending s) = r := next_of_done T sc bol _ _ r hsp
      rw [hsp] at hbd
      obtain ⟨a1, a2, a3⟩ := applyRule_spec P r s h he hbd
      exact {
        inv := a1, eofOK := a2
        rest := by rw [applyRule_rest]; exact Nat.le_refl _
        fed := by simp
        eof := fun h0 => absurd h0 hpne
        rule := fun _ => by rw [hnext]; exact ⟨rfl, a3⟩ }
    | more st pos last =>
      simp only
      obtain ⟨data, H⟩ := eobStep_progress P hP k s h
      have hinv' := eobStep_inv P hP k s h
      have heof' := eobStep_eofOK P hP k hk1 s h he
      obtain ⟨hpend, htoks⟩ := eobStep_pending P hP k s h
      generalize eobStep P k s = r at H hinv' heof' hpend htoks
      have hrl : r.1.rest.length ≤ s.rest.length := by
        rw [H.stream, List.length_append]; omega
      rcases H.result with ⟨hr, hd⟩ | ⟨hr, hd, hw, _⟩ | ⟨hr, hd, hw, _⟩
      · -- EOB_ACT_CONTINUE_SCAN
        rw [hr]
        simp only
        have hlen : r.1.rest.length + 1 ≤ ks.length := by
          have h1 : s.rest.length = data.length + r.1.rest.length := by
            rw [H.stream, List.length_append]
          have h2 : 0 < data.length := List.length_pos_iff.mpr hd
          simp only [List.length_cons] at hl
          omega
        have I := ih r.1 hinv' heof' (fun k' hk' => hk k' (by simp [hk'])) hlen
        exact {
          inv := I.inv, eofOK := I.eofOK
          rest := Nat.le_trans I.rest hrl
          fed := I.fed
          eof := fun h0 => by
            have := I.eof (by rw [hpend]; exact h0)
            rw [htoks] at this
            exact this
          rule := fun h0 => by
            have := I.rule (by rw [hpend]; exact h0)
            unfold Consumed at this ⊢
            rw [hpend, htoks] at this
            exact this }
      · -- EOB_ACT_LAST_MATCH
        rw [hr]
        simp only
        have hrest := H.exhausted he hk1 (by rw [hr]; decide)
        have hwin : window r.1 = window s := by rw [H.window, hd, List.append_nil]
        have hps : pending s = window s := by unfold pending; rw [hrest, List.append_nil]
        have hpne : pending s ≠ [] := by rw [hps]; exact hw
        have hnext : next T sc bol (pending s) =
            finish T (scanPartial T (startState sc bol) (window r.1) 0 none) := by
          rw [hps, hwin]; exact scan_eq_finish T _ _ 0 none
        have hb := scanWindow_bounded T (startState sc bol) (window r.1)
        obtain ⟨a1, a2, a3⟩ := applyRule_spec P _ r.1 hinv' heof' hb
        unfold Consumed at a3
        rw [hpend, htoks, ← hnext] at a3
        exact {
          inv := a1, eofOK := a2
          rest := by rw [applyRule_rest]; exact hrl
          fed := by simp
          eof := fun h0 => absurd h0 hpne
          rule := fun _ => by
            rw [← hnext]
            exact ⟨rfl, a3⟩ }
      · -- EOB_ACT_END_OF_FILE
        rw [hr]
        simp only
        have hrest := H.exhausted he hk1 (by rw [hr]; decide)
        have hp0 : pending s = [] := by unfold pending; rw [hw, hrest]; rfl
        exact {
          inv := hinv', eofOK := heof'
          rest := hrl
          fed := by simp
          eof := fun _ => ⟨rfl, htoks, by rw [hpend]; exact hp0⟩
          rule := fun h0 => absurd hp0 h0 }


/-! ### several calls -/

/-- several calls of the matching loop on the buffer, each with its start condition, its
beginning-of-line flag and the read sizes offered during it -/
def lexMany (T : FlexTables) (P : Params) : List (Nat × Bool × List Nat) → State → State × List LexRes
  | [], s => (s, [])
  | (sc, bol, oracle) :: cs, s =>
    let r := lexBuf T sc bol P oracle s
    let q := lexMany T P cs r.1
    (q.1, r.2 :: q.2)

/-- one call on the idealised text: what `Scanner.yylex` does with `Flex.next` -/
def nextIdeal (T : FlexTables) (sc : Nat) (bol : Bool) (inp : Bytes) : Bytes × LexRes :=
  if inp = [] then (inp, .eof)
  else match next T sc bol inp with
    | some (r, len) => (inp.drop len, .rule (some (r, len)))
    | none => (inp, .rule none)

/-- the same calls on the idealised text -/
def nextMany (T : FlexTables) : List (Nat × Bool × List Nat) → Bytes → Bytes × List LexRes
  | [], inp => (inp, [])
  | (sc, bol, _) :: cs, inp =>
    let r := nextIdeal T sc bol inp
    let q := nextMany T cs r.1
    (q.1, r.2 :: q.2)

theorem lexBuf_ideal (T : FlexTables) (sc : Nat) (bol : Bool) (P : Params) (s : State)
    (out : State × LexRes) (L : LexSpec T sc bol P s out) :
    (pending out.1, out.2) = nextIdeal T sc bol (pending s) := by
  unfold nextIdeal
  by_cases h0 : pending s = []
  · obtain ⟨h1, _, h3⟩ := L.eof h0
    rw [if_pos h0, h1, h3, h0]
  · obtain ⟨h1, h2, h3⟩ := L.rule h0
    rw [if_neg h0, h1]
    cases hn : next T sc bol (pending s) with
    | none => simp only; rw [(h3 hn).2]
    | some rl =>
      obtain ⟨r, len⟩ := rl
      simp only
      rw [(h2 r len hn).2]

theorem lexMany_spec (T : FlexTables) (P : Params) (hP : P.OK) :
    ∀ (calls : List (Nat × Bool × List Nat)) (s : State), Inv P s → EofOK s →
      (∀ c ∈ calls, (∀ k ∈ c.2.2, 1 ≤ k) ∧ s.rest.length + 1 ≤ c.2.2.length) →
      (pending (lexMany T P calls s).1, (lexMany T P calls s).2) = nextMany T calls (pending s) ∧
      Inv P (lexMany T P calls s).1 := by
  intro calls
  induction calls with
  | nil => intro s h _ _; exact ⟨rfl, h⟩
  | cons c cs ih =>
    intro s h he hc
    obtain ⟨sc, bol, oracle⟩ := c
    have hc0 := hc (sc, bol, oracle) (by simp)
    have L := lexBuf_spec T sc bol P hP oracle s h he hc0.1 hc0.2
    have hid := lexBuf_ideal T sc bol P s _ L
    have I := ih (lexBuf T sc bol P oracle s).1 L.inv L.eofOK (fun c' hc' => by
      have := hc c' (by simp [hc'])
      exact ⟨this.1, by have := L.rest; omega⟩)
    simp only [lexMany, nextMany]
    rw [← hid]
    simp only
    have I1 := I.1
    rw [Prod.mk.injEq] at I1
    exact ⟨by rw [I1.1, I1.2], I.2⟩

end Libconfig.C20BP
