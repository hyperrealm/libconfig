import LibconfigModel.Proofs.C01LexTree
import LibconfigModel.Proofs.F64Grid
/-
  C01L — the float side conditions of `LexOK` hold for every finite double when scientific
  notation is off (the default) and the precision is at most 26: the `%.{p}f` rendering has at
  most 311 + p ≤ 337 characters (it is not cut by the `snprintf` limit of FLOAT_BUF_SIZE = 341),
  and the written text does not read back as an infinity.  On the way, and used by the
  idempotence proofs as well: the value of a digit string under padding with and stripping of
  zeros (`dv_*`), and `strtod` as `parseDecimal` followed by `strtodCore` (`strtod_eq`,
  `strtodCore_val`, namespace `C01I`).
-/
namespace Libconfig.C01L
open F64 C01P

/-! ### the magnitude of `%.{p}f` -/

/-- the integer `round(|x|·10^p)` printed by `%.{p}f` stays below the overflow threshold of
`strtod` (scaled by `10^p`): the grid `1/10^p` -/
theorem scaledRound_lt (b p : Nat) (h : isFinite b = true) :
    scaledRound b p * 2 ^ 1074 < F64R.thr * 10 ^ p := by
  refine C01I.lt_thr_of_half (A := 1) (B := 10 ^ p) (C01I.pow10_pos p) (by rw [Nat.mul_one]) ?_
    (C01I.sMag_le_max b h) C01I.two_thr (C01I.unit_grid _ (C01I.pow10_pos p))
  rw [C01I.scaledRound_eq, Nat.mul_one]
  exact (F64R.dre_half _ _ (Nat.two_pow_pos 1074)).1

theorem thr_le : F64R.thr ≤ 10 ^ 309 * 2 ^ 1074 := by decide +kernel

theorem scaledRound_digits (b p : Nat) (h : isFinite b = true) : scaledRound b p < 10 ^ (309 + p) := by
  have h1 := scaledRound_lt b p h
  have key : ∀ X : Nat, F64R.thr ≤ X → F64R.thr * 10 ^ p ≤ X * 10 ^ p :=
    fun X hX => Nat.mul_le_mul_right _ hX
  have h2 : F64R.thr * 10 ^ p ≤ 10 ^ 309 * 2 ^ 1074 * 10 ^ p := key (10 ^ 309 * 2 ^ 1074) thr_le
  have h3 : scaledRound b p * 2 ^ 1074 < 10 ^ (309 + p) * 2 ^ 1074 := by
    calc scaledRound b p * 2 ^ 1074 < 10 ^ 309 * 2 ^ 1074 * 10 ^ p := Nat.lt_of_lt_of_le h1 h2
      _ = 10 ^ (309 + p) * 2 ^ 1074 := by rw [Nat.pow_add]; exact Nat.mul_right_comm _ _ _
  exact Nat.lt_of_mul_lt_mul_right h3

/-! ### the number of digits -/

theorem aux_length : ∀ (fuel n : Nat) (acc : Bytes) (k : Nat), n < 10 ^ k →
    (natToBaseAux 10 fuel n acc).length ≤ acc.length + k := by
  intro fuel
  induction fuel with
  | zero => intro n acc k _; simp only [natToBaseAux]; omega
  | succ fuel ih =>
    intro n acc k h
    simp only [natToBaseAux]
    split
    · omega
    · rename_i hn
      cases k with
      | zero => simp at h; omega
      | succ k =>
        have : n / 10 < 10 ^ k := by
          rw [Nat.pow_succ] at h
          exact Nat.div_lt_of_lt_mul (by rw [Nat.mul_comm]; exact h)
        have := ih (n / 10) (digitChar (n % 10) :: acc) k this
        simp only [List.length_cons] at this
        omega

theorem natToDec_length (n k : Nat) (h : n < 10 ^ k) (hk : 1 ≤ k) : (natToDec n).length ≤ k := by
  unfold natToDec natToBase
  split
  · simpa using hk
  · have := aux_length n n [] k h
    simpa using this

/-- the digit string of `%.{p}f` has at most `309 + p` digits -/
theorem fmtF_digits_length (b p : Nat) (h : isFinite b = true) :
    (pad0 (p + 1) (natToDec (scaledRound b p))).length ≤ 309 + p := by
  have := natToDec_length _ _ (scaledRound_digits b p h) (by omega)
  unfold pad0
  simp only [List.length_append, List.length_replicate]
  omega

theorem optFrac_length (fd : Bytes) : (optFrac fd).length ≤ fd.length + 1 := by
  unfold optFrac
  split
  · exact Nat.zero_le _
  · exact Nat.le_refl _

theorem fmtF_length (b p : Nat) (h : isFinite b = true) : (fmtF b p).length ≤ 311 + p := by
  rw [fmtF_eq b p h]
  have hds := fmtF_digits_length b p h
  generalize pad0 (p + 1) (natToDec (scaledRound b p)) = D at hds ⊢
  have hsg : (signBytes (signBit b)).length ≤ 1 := by cases signBit b <;> decide
  have := optFrac_length (D.drop (D.length - p))
  simp only [List.length_append, List.length_take, List.length_drop] at this ⊢
  omega

/-- with scientific notation off, a precision of at most 26 and the buffer of
`__config_write_value` (FLOAT_BUF_SIZE = 341) the rendering is never cut -/
theorem rawText_fits (b p : Nat) (h : isFinite b = true) (hp : p ≤ 26) :
    (rawText 341 b p false).length ≤ 341 - 4 := by
  rw [show rawText 341 b p false = fmtF b p from rfl]
  have := fmtF_length b p h
  omega

/-! ### values of digit strings -/

theorem foldl_dv : ∀ (y : Bytes) (acc : Nat),
    y.foldl (fun a c => a * 10 + hexVal c) acc = acc * 10 ^ y.length + digitsVal 10 y := by
  intro y
  induction y with
  | nil => intro acc; simp [digitsVal]
  | cons c t ih =>
    intro acc
    simp only [List.foldl_cons, List.length_cons, digitsVal]
    rw [ih (acc * 10 + hexVal c), ih (0 * 10 + hexVal c)]
    simp only [digitsVal, Nat.zero_mul, Nat.zero_add, Nat.pow_succ, Nat.add_mul, Nat.mul_assoc,
      Nat.mul_comm 10, Nat.add_assoc]

theorem dv_append (x y : Bytes) :
    digitsVal 10 (x ++ y) = digitsVal 10 x * 10 ^ y.length + digitsVal 10 y := by
  show (x ++ y).foldl _ 0 = _
  rw [List.foldl_append]
  exact foldl_dv y _

theorem dv_zeros (z : Nat) : digitsVal 10 (List.replicate z 48) = 0 := by
  induction z with
  | zero => rfl
  | succ z ih =>
    rw [List.replicate_succ, show (48 :: List.replicate z 48) = [48] ++ List.replicate z 48 from rfl,
      dv_append, ih, show digitsVal 10 [48] = 0 from by decide, Nat.zero_mul]

theorem dv_lead_zeros (z : Nat) (x : Bytes) : digitsVal 10 (List.replicate z 48 ++ x) = digitsVal 10 x := by
  rw [dv_append, dv_zeros, Nat.zero_mul, Nat.zero_add]

theorem dv_trail_zeros (x : Bytes) (z : Nat) :
    digitsVal 10 (x ++ List.replicate z 48) = digitsVal 10 x * 10 ^ z := by
  rw [dv_append, dv_zeros, List.length_replicate, Nat.add_zero]

theorem dv_dropWhile : ∀ (x : Bytes), digitsVal 10 (x.dropWhile (· == 48)) = digitsVal 10 x := by
  intro x
  induction x with
  | nil => rfl
  | cons c t ih =>
    by_cases hc : c = 48
    · subst hc
      rw [List.dropWhile_cons_of_pos (by simp), ih,
        show (48 :: t) = List.replicate 1 48 ++ t from rfl, dv_lead_zeros]
    · rw [List.dropWhile_cons_of_neg (by simpa using hc)]

theorem dv_pad0 (k n : Nat) : digitsVal 10 (pad0 k (natToDec n)) = n := by
  unfold pad0
  rw [dv_lead_zeros, digitsVal_natToDec]

theorem stripZeros_spec (ds : Bytes) : ∃ z, ds = stripZeros ds ++ List.replicate z 48 := by
  refine ⟨(ds.reverse.takeWhile (· == 48)).length, ?_⟩
  have h1 : ds.reverse = ds.reverse.takeWhile (· == 48) ++ ds.reverse.dropWhile (· == 48) :=
    List.takeWhile_append_dropWhile.symm
  have h2 : ds.reverse.takeWhile (· == 48) = List.replicate (ds.reverse.takeWhile (· == 48)).length 48 := by
    rw [List.eq_replicate_iff]
    refine ⟨rfl, fun b hb => ?_⟩
    have hall := List.all_takeWhile (l := ds.reverse) (p := (· == 48))
    rw [List.all_eq_true] at hall
    simpa using hall b hb
  have h3 : ds = (ds.reverse.dropWhile (· == 48)).reverse ++ (ds.reverse.takeWhile (· == 48)).reverse := by
    rw [← List.reverse_append, ← h1, List.reverse_reverse]
  unfold stripZeros
  rw [h2, List.reverse_replicate] at h3
  exact h3

end Libconfig.C01L

namespace Libconfig.C01I
open Libconfig F64 C01P C01L
open Libconfig.F64R

/-! ### `strtod` = `parseDecimal`, then `strtodCore` -/

/-- the exponent part of `parseDecimal` -/
def parseExp (s : Bytes) : Int :=
  match s with
  | c :: r =>
    if c == 101 || c == 69 then
      let (eneg, r) := match r with
        | 45 :: r' => (true, r')
        | 43 :: r' => (false, r')
        | _ => (false, r)
      let ds := r.takeWhile isDigit
      if ds.isEmpty then 0 else
      let v : Int := digitsVal 10 ds
      if eneg then -v else v
    else 0
  | [] => 0

/-- the fraction part of `parseDecimal`: digits, rest -/
def parseFrac (s : Bytes) : Bytes × Bytes :=
  match s with
  | 46 :: r => (r.takeWhile isDigit, r.dropWhile isDigit)
  | _ => ([], s)

/-- `parseDecimal` after the sign -/
def parseTail (s : Bytes) : Bytes × Bytes × Int :=
  (s.takeWhile isDigit, (parseFrac (s.dropWhile isDigit)).1,
    parseExp (parseFrac (s.dropWhile isDigit)).2)

theorem parseDecimal_signed (neg : Bool) (d : Nat) (r : Bytes) (hd : isDigit d = true) :
    parseDecimal (signBytes neg ++ d :: r) = (neg, parseTail (d :: r)) := by
  have hd45 : d ≠ 45 := by intro e; subst e; revert hd; decide
  have hd43 : d ≠ 43 := by intro e; subst e; revert hd; decide
  cases neg
  · simp only [signBytes, Bool.false_eq_true, if_false, List.nil_append]
    unfold parseDecimal
    simp only []
    split
    · rename_i r' h; simp only [List.cons.injEq] at h; exact absurd h.1 hd45
    · rename_i r' h; simp only [List.cons.injEq] at h; exact absurd h.1 hd43
    · rfl
  · simp only [signBytes, if_true, List.cons_append, List.nil_append]
    rfl

theorem parseTail_point (ip fq : Bytes) (hip : AllDigits ip) (hfq : AllDigits fq) :
    parseTail (ip ++ 46 :: fq) = (ip, fq, 0) := by
  have hsp := span_cons (p := isDigit) (x := 46) fq hip (by decide)
  have hfa := span_all (p := isDigit) hfq
  unfold parseTail parseFrac
  simp only [hsp.1, hsp.2, hfa.1, hfa.2]
  rfl

/-- the part of `strtod` after the literal has been split -/
def strtodCore (neg : Bool) (ip fp : Bytes) (ex : Int) : Nat :=
  if ip.isEmpty && fp.isEmpty then 0 else
  let ds := (ip ++ fp).dropWhile (· == 48)
  let d := digitsVal 10 ds
  if d = 0 then mkBits neg 0 0 else
  let k : Int := ex - fp.length
  let mag : Int := k + ds.length
  if mag > 400 then mkBits neg 2047 0
  else if mag < -400 then mkBits neg 0 0
  else if k ≥ 0 then ofRat neg (d * 10^k.toNat) 1
  else ofRat neg d (10^((-k).toNat))

theorem strtod_eq (s : Bytes) :
    strtod s = strtodCore (parseDecimal s).1 (parseDecimal s).2.1 (parseDecimal s).2.2.1
      (parseDecimal s).2.2.2 := rfl

/-- the value of a literal with at least one integer digit, when the magnitude guards of the
model's `strtod` do not apply (digits that are all zero: `ofRat_zero`) -/
theorem strtodCore_val (neg : Bool) (ip fp : Bytes) (ex : Int) (hne : ip ≠ [])
    (h1 : ex + ip.length ≤ 400) (h2 : -400 ≤ ex - fp.length) :
    strtodCore neg ip fp ex =
      ofRat neg (digitsVal 10 (ip ++ fp) * 10 ^ (ex - fp.length).toNat)
        (10 ^ (-(ex - (fp.length : Int))).toNat) := by
  unfold strtodCore
  have he : (ip.isEmpty && fp.isEmpty) = false := by
    cases ip with
    | nil => exact absurd rfl hne
    | cons _ _ => rfl
  rw [he]
  simp only [Bool.false_eq_true, if_false, dv_dropWhile]
  by_cases h0 : digitsVal 10 (ip ++ fp) = 0
  · rw [if_pos h0, h0, Nat.zero_mul, ofRat_zero]
  · have hdl : ((ip ++ fp).dropWhile (· == 48)).length ≤ ip.length + fp.length := by
      have := (List.dropWhile_sublist (l := ip ++ fp) (· == 48)).length_le
      simpa using this
    rw [if_neg h0, if_neg (by omega), if_neg (by omega)]
    by_cases hk : ex - (fp.length : Int) ≥ 0
    · rw [if_pos hk, show (-(ex - (fp.length : Int))).toNat = 0 by omega, Nat.pow_zero]
    · rw [if_neg hk, show (ex - (fp.length : Int)).toNat = 0 by omega, Nat.pow_zero, Nat.mul_one]

theorem strtod_point (neg : Bool) (ip fq : Bytes) (hne : ip ≠ []) (hip : AllDigits ip)
    (hfq : AllDigits fq) :
    strtod (signBytes neg ++ ip ++ 46 :: fq) = strtodCore neg ip fq 0 := by
  cases ip with
  | nil => exact absurd rfl hne
  | cons d r =>
    rw [strtod_eq, List.append_assoc, List.cons_append,
      parseDecimal_signed neg d _ (hip d (List.mem_cons_self ..)), ← List.cons_append,
      parseTail_point _ _ hip hfq]

/-- `strtod` on `-?digits.digits`, exactly -/
theorem strtod_form' (neg : Bool) (ip fq : Bytes) (hne : ip ≠ []) (hip : AllDigits ip)
    (hfq : AllDigits fq) (hlen : ip.length ≤ 400) (hflen : fq.length ≤ 400) :
    strtod (signBytes neg ++ ip ++ 46 :: fq) = ofRat neg (digitsVal 10 (ip ++ fq)) (10 ^ fq.length) := by
  rw [strtod_point neg ip fq hne hip hfq, strtodCore_val neg ip fq 0 hne (by omega) (by omega),
    show ((0 : Int) - fq.length).toNat = 0 by omega, show (-((0 : Int) - fq.length)).toNat = fq.length by omega,
    Nat.pow_zero, Nat.mul_one]

end Libconfig.C01I

namespace Libconfig.C01L
open F64 C01P

/-! ### the post-processing of a fixed-point rendering -/

/-- `libconfig_format_double` on `-?digits(.digits)?`: a missing fraction becomes `.0`, trailing
zeros of a fraction go, except the first digit; the digit string keeps its value up to a power
of ten -/
theorem postProc_fix (neg : Bool) (ip F : Bytes) (hip : AllDigits ip) (hF : AllDigits F) :
    ∃ F' z y, postProc (signBytes neg ++ ip ++ optFrac F) = signBytes neg ++ ip ++ 46 :: F' ∧
      AllDigits F' ∧ F' ≠ [] ∧
      digitsVal 10 (ip ++ F') * 10 ^ z = digitsVal 10 (ip ++ F) * 10 ^ y ∧
      F'.length + z = F.length + y ∧ y ≤ 1 := by
  cases F with
  | nil =>
    refine ⟨[48], 0, 1, ?_, fun _ h => List.mem_singleton.mp h ▸ rfl, List.cons_ne_nil _ _, ?_, rfl,
      Nat.le_refl _⟩
    · rw [show optFrac [] = [] from rfl, List.append_nil, postProc_nopoint neg ip hip]
    · rw [List.append_nil, dv_append, show digitsVal 10 [48] = 0 by decide]
      exact Nat.mul_one _
  | cons f0 fr =>
    obtain ⟨z, hz⟩ := stripZeros_spec fr
    refine ⟨f0 :: stripZeros fr, z, 0, postProc_point neg ip f0 fr hip hF, fun c hc => ?_,
      List.cons_ne_nil _ _, ?_, ?_, Nat.zero_le _⟩
    · exact (List.mem_cons.mp hc).elim (fun e => e ▸ hF _ (List.mem_cons_self ..))
        fun h => hF c (List.mem_cons_of_mem _ (mem_stripZeros h))
    · rw [Nat.pow_zero, Nat.mul_one, ← dv_trail_zeros, List.append_assoc, List.cons_append, ← hz]
    · have := congrArg List.length hz
      simp only [List.length_cons, List.length_append, List.length_replicate] at this ⊢
      omega

/-! ### the written text and its value -/

/-- the text written for a finite double with scientific notation off: sign, integer digits,
point, fraction digits; it denotes `round(|x|·10^p) / 10^p` -/
theorem fixed_text (b p : Nat) (h : isFinite b = true) (hp : p ≤ 26) :
    ∃ ip fq, formatDouble 341 b p false = signBytes (signBit b) ++ ip ++ 46 :: fq ∧
      ip ≠ [] ∧ AllDigits ip ∧ AllDigits fq ∧ fq ≠ [] ∧ ip.length ≤ 400 ∧ fq.length ≤ 400 ∧
      digitsVal 10 (ip ++ fq) * 10 ^ p = scaledRound b p * 10 ^ fq.length := by
  rw [formatDouble_eq, List.take_of_length_le (rawText_fits b p h hp),
    show rawText 341 b p false = fmtF b p from rfl, fmtF_eq b p h]
  obtain ⟨hds, hne, hfl⟩ := digits_cut (p + 1) (scaledRound b p) p (Nat.lt_succ_self p)
  have hle := fmtF_digits_length b p h
  have hval := dv_pad0 (p + 1) (scaledRound b p)
  generalize pad0 (p + 1) (natToDec (scaledRound b p)) = D at hds hne hfl hle hval ⊢
  obtain ⟨F', z, y, ht, hF', hne', hv, hl, hy⟩ :=
    postProc_fix (signBit b) _ _ (allDigits_take (D.length - p) hds) (allDigits_drop (D.length - p) hds)
  rw [List.take_append_drop, hval] at hv
  exact ⟨_, F', ht, hne, allDigits_take _ hds, hF', hne', by rw [List.length_take]; omega, by omega,
    C01I.cross_pow _ _ z y p _ hv (by omega)⟩

/-- **no overflow on the way back** (scientific notation off, precision ≤ 26): the text
written for a finite double never reads back as an infinity -/
theorem fixed_no_overflow (b p : Nat) (h : isFinite b = true) (hp : p ≤ 26) :
    isInf (strtod (formatDouble 341 b p false)) = false := by
  obtain ⟨ip, fq, htext, hne, hip, hfq, -, hlen, hflen, hval⟩ := fixed_text b p h hp
  rw [htext, C01I.strtod_form' _ ip fq hne hip hfq hlen hflen]
  refine F64R.isInf_ofRat_lt _ _ _ (C01I.pow10_pos _)
    (C01I.lt_thr_of_half (A := 1) (C01I.pow10_pos _) (by rw [Nat.mul_one]; exact hval)
      ?_ (C01I.sMag_le_max b h) C01I.two_thr (C01I.unit_grid _ (C01I.pow10_pos p)))
  rw [C01I.scaledRound_eq, Nat.mul_one]
  exact (F64R.dre_half _ _ (Nat.two_pow_pos 1074)).1

/-- **the float conditions of `LexOK` for the default settings**: with scientific notation off,
a precision of at most 26 and the library's buffer size 341, every finite double satisfies
`floatOK` -/
theorem floatOK_fixed (c : Config) (b : Nat) (hfin : isFinite b = true)
    (hsci : c.opt OPT_SCIENTIFIC = false) (hp : c.floatPrecision ≤ 26) : floatOK 341 c b = true := by
  unfold floatOK
  rw [hsci, hfin, fixed_no_overflow b _ hfin hp]
  simp only [Bool.true_and, Bool.not_false, Bool.and_true, decide_eq_true_eq]
  exact rawText_fits b _ hfin hp

/-! ### `LexOK` with the float condition reduced to finiteness -/

/-- `scalarOK` with `floatOK` replaced by `F64.isFinite` -/
def scalarFin (ty : Nat) (ival : Int) (fval : Nat) (sval : Option Bytes) : Bool :=
  if ty == T_BOOL then true
  else if ty == T_INT then fits32 ival
  else if ty == T_INT64 then fits64 ival
  else if ty == T_FLOAT then F64.isFinite fval
  else if ty == T_STRING then (sval.getD []).all (fun b => decide (1 ≤ b) && decide (b < 256))
  else false

mutual
def nodeFin : Node → Bool
  | .mk name ty _ ival fval sval kids _ _ _ =>
    nameOK name &&
    (if ty == T_LIST then nodesFin kids
     else if ty == T_ARRAY then nodesFin kids
     else if ty == T_GROUP then nodesFin kids
     else scalarFin ty ival fval sval)
def nodesFin : List Node → Bool
  | [] => true
  | k :: ks => nodeFin k && nodesFin ks
end

/-- `LexOK` for the default float settings: names, integer ranges, NUL-free strings, finite
floats -/
def LexOKfin (c : Config) : Bool := nodeFin c.root

end Libconfig.C01L

namespace Libconfig.C01I
open Libconfig F64 C01L

/-- `scalarFin` and `scalarOK` differ in the float case only -/
theorem scalarFin_ok' (c : Config) (H : ∀ b, isFinite b = true → floatOK 341 c b = true)
    (ty : Nat) (ival : Int) (fval : Nat) (sval : Option Bytes) (h : scalarFin ty ival fval sval = true) :
    scalarOK 341 c ty ival fval sval = true := by
  unfold scalarFin at h
  unfold scalarOK
  by_cases h4 : ty = T_FLOAT
  · subst h4
    exact H fval h
  · have e4 : (ty == T_FLOAT) = false := by simpa using h4
    rw [e4] at h ⊢
    exact h

theorem ite_imp {p : Prop} [Decidable p] {a b a' b' : Bool} (ha : a = true → a' = true)
    (hb : b = true → b' = true) (h : (if p then a else b) = true) : (if p then a' else b') = true := by
  split at h
  · rw [if_pos ‹p›]; exact ha h
  · rw [if_neg ‹¬ p›]; exact hb h

mutual
theorem nodeFin_ok' (c : Config) (H : ∀ b, isFinite b = true → floatOK 341 c b = true) :
    (n : Node) → nodeFin n = true → nodeOK 341 c n = true
  | .mk name ty fmt ival fval sval kids hook line file => by
    intro h
    unfold nodeFin at h
    unfold nodeOK
    rw [Bool.and_eq_true] at h ⊢
    have hk := nodesFin_ok' c H kids
    exact ⟨h.1, ite_imp hk (ite_imp hk (ite_imp hk (scalarFin_ok' c H ty ival fval sval))) h.2⟩
theorem nodesFin_ok' (c : Config) (H : ∀ b, isFinite b = true → floatOK 341 c b = true) :
    (ks : List Node) → nodesFin ks = true → nodesOK 341 c ks = true
  | [] => fun _ => by rw [nodesOK]
  | k :: ks => by
    intro h
    unfold nodesFin at h
    unfold nodesOK
    simp only [Bool.and_eq_true] at h ⊢
    exact ⟨nodeFin_ok' c H k h.1, nodesFin_ok' c H ks h.2⟩
end

end Libconfig.C01I

namespace Libconfig.C01L
open F64 C01P

theorem nodesFin_ok (c : Config) (hsci : c.opt OPT_SCIENTIFIC = false) (hp : c.floatPrecision ≤ 26) :
    (ks : List Node) → nodesFin ks = true → nodesOK 341 c ks = true :=
  C01I.nodesFin_ok' c fun b hb => floatOK_fixed c b hb hsci hp

theorem lexOK_of_fin (c : Config) (hsci : c.opt OPT_SCIENTIFIC = false) (hp : c.floatPrecision ≤ 26)
    (h : LexOKfin c = true) : LexOK 341 c = true :=
  C01I.nodeFin_ok' c (fun b hb => floatOK_fixed c b hb hsci hp) c.root h

end Libconfig.C01L
