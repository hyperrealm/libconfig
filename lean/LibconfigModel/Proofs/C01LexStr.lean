import LibconfigModel.Proofs.C01LexYy
/-
  C01L, strings — the scanner reads a string literal of the writer in several
  steps: the opening quote switches to the STRING start condition, every maximal run of
  verbatim bytes and every escape sequence is appended to the accumulator, the closing quote
  returns the token.
-/
namespace Libconfig.C01L
open Flex C01P

section
variable (w : World) (ic : IncludeCfg)

/-- inside a string literal: `acc` has been accumulated, `rest` remains in the buffer -/
structure InStr (K : Ctx) (s : ScanState) (acc rest : Bytes) : Prop where
  sc : s.sc = 3
  str : s.str = acc
  stack : s.stack = []
  rest : s.buf.rest = rest
  ctx : (s.topFile, s.filenames, s.events) = K

variable {K : Ctx}

/-- a piece has been read and `x` appended to the accumulator -/
theorem InStr.adv {s : ScanState} {acc pre rest : Bytes} (h : InStr K s acc (pre ++ rest)) (rule : Nat)
    (x : Bytes) : InStr K { advance T s rule pre.length with str := s.str ++ x } (acc ++ x) rest :=
  ⟨h.sc, by rw [h.str], h.stack, by simp only [advance, h.rest, List.drop_left], h.ctx⟩

theorem followOK_true (rest : Bytes) (h : ∀ b ∈ rest, b < 256) : FollowOK (fun _ => true) rest := by
  intro c hc
  cases rest with
  | nil => cases hc
  | cons d t =>
    simp only [List.head?_cons, Option.some.injEq] at hc
    subst hc
    exact ⟨h _ (List.mem_cons_self ..), rfl⟩

/-- the opening quote (in INITIAL): rule 8, `BEGIN STRING` -/
theorem yylex_open (rest : Bytes) (hfo : FollowOK (fun _ => true) rest) (s : ScanState)
    (hs : Ready K s ([34] ++ rest)) :
    ∃ s', InStr K s' [] rest ∧ ∀ f, yylex T acts w ic (f + 1) s = yylex T acts w ic f s' :=
  ⟨{ advance T s 8 1 with sc := 3 }, ⟨rfl, hs.str, hs.stack, (hs.adv 8).rest, hs.ctx⟩,
    yylex_lexeme w ic lex_quote hfo hs.sc hs.rest (o := none) rfl⟩

/-- the closing quote: rule 21, the token is returned -/
theorem yylex_close (acc rest : Bytes) (hfo : FollowOK (fun _ => true) rest) (s : ScanState)
    (hs : InStr K s acc ([34] ++ rest)) :
    ∃ s', Ready K s' rest ∧
      ∀ f, yylex T acts w ic (f + 1) s = (s', .tok Generated.tokens.string { sval := cstr acc }) :=
  ⟨{ advance T s 21 1 with str := [], sc := Generated.SC_INITIAL },
    ⟨rfl, rfl, hs.stack, (hs.adv 21 []).rest, hs.ctx⟩,
    fun f => hs.str ▸ yylex_lexeme w ic slex_quote hfo hs.sc hs.rest (o := some (_, _)) rfl f⟩

/-- the pending run of verbatim bytes, if there is one: rule 9, appended as it is -/
theorem yylex_chunk (p acc rest : Bytes) (hp : ∀ b ∈ p, rawByte b = true ∧ b < 256)
    (hf : FollowOK chunkFollow rest) (s : ScanState) (hs : InStr K s acc (p ++ rest)) :
    ∃ j, j ≤ p.length ∧ ∃ s', InStr K s' (acc ++ p) rest ∧
      ∀ f, yylex T acts w ic (f + j) s = yylex T acts w ic f s' := by
  by_cases hne : p = []
  · subst hne
    exact ⟨0, Nat.le_refl _, s, by rw [List.append_nil]; exact hs, fun _ => rfl⟩
  · have hl := slex_chunk p hne fun b hb =>
      ⟨(rawByte_spec (hp b hb).1).2.1, (rawByte_spec (hp b hb).1).2.2, (hp b hb).2⟩
    have ha : actOut (acts.getD 9 .unknown) (advance T s 9 p.length) p =
        some ({ advance T s 9 p.length with str := s.str ++ cstr p }, none) := rfl
    rw [cstr_of_ne_zero (t := p) fun b hb => Nat.ne_of_gt (Nat.lt_of_lt_of_le (by decide) (rawByte_spec (hp b hb).1).1)] at ha
    exact ⟨1, List.length_pos_iff.mpr hne, _, hs.adv 9 p, yylex_lexeme w ic hl hf hs.sc hs.rest (o := none) ha⟩

theorem hexPair (c : Nat) (h : c < 256) :
    digitsVal 16 [digitChar (c / 16), digitChar (c % 16)] % 256 = c := by
  have hq : c / 16 < 16 := by omega
  have hr : c % 16 < 16 := by omega
  simp only [digitsVal, List.foldl, hexVal_digitChar _ hq, hexVal_digitChar _ hr]
  omega

/-- an escape sequence of the writer: one rule, the byte it stands for is appended -/
theorem yylex_escByte (c : Nat) (hc : c < 256) (hraw : rawByte c = false) (acc rest : Bytes)
    (hfo : FollowOK (fun _ => true) rest) (s : ScanState) (hs : InStr K s acc (escByte c ++ rest)) :
    ∃ s', InStr K s' (acc ++ [c]) rest ∧ ∀ f, yylex T acts w ic (f + 1) s = yylex T acts w ic f s' := by
  rcases escByte_cases c with ⟨h, _⟩ | ⟨_, x, r, hx, e⟩ | ⟨_, hlt, e⟩
  · rw [h] at hraw; cases hraw
  · rw [e] at hs
    have ha : actOut (acts.getD r .unknown) (advance T s r 2) [92, x] =
        some ({ advance T s r 2 with str := s.str ++ [c] }, none) := by
      rw [(by decide : ∀ e ∈ escTable, acts.getD e.2.2 .unknown = .appendChar e.1) _ hx]
      rfl
    exact ⟨_, hs.adv r [c], yylex_lexeme w ic (slex_esc hx) hfo hs.sc hs.rest (o := none) ha⟩
  · rw [e] at hs
    have hq : c / 16 < 16 := by omega
    have hr : c % 16 < 16 := by omega
    have hl := slex_hex _ _ (isHexDigit_digitChar _ hq) (isHexDigit_digitChar _ hr)
    have ha : actOut (acts.getD 19 .unknown) (advance T s 19 4) [92, 120, digitChar (c / 16), digitChar (c % 16)] =
        some ({ advance T s 19 4 with str := s.str ++
          [digitsVal 16 [digitChar (c / 16), digitChar (c % 16)] % 256] }, none) := rfl
    rw [hexPair c hc] at ha
    exact ⟨_, hs.adv 19 [c], yylex_lexeme w ic hl hfo hs.sc hs.rest (o := none) ha⟩

/-- what follows inside a literal starts with a byte below 256: the closing quote, `\`, or a
byte that is copied -/
theorem esc_follow (x rest : Bytes) (hx : ∀ b ∈ x, b < 256) :
    FollowOK (fun _ => true) (escapeString x ++ [34] ++ rest) := by
  intro c hc
  cases x with
  | nil => cases hc; exact ⟨by decide, rfl⟩
  | cons d t =>
    rw [escapeString_cons] at hc
    cases hr : rawByte d
    · obtain ⟨tl, he⟩ := escByte_esc hr
      rw [he] at hc
      cases hc
      exact ⟨by decide, rfl⟩
    · rw [escByte_raw hr] at hc
      exact Option.some.inj hc ▸ ⟨hx d (List.mem_cons_self ..), rfl⟩

/-- **the body of a string literal.**  From inside the literal, with `acc` accumulated and a run
`p` of verbatim bytes still at the head of the buffer, the scanner reads `p`, `escapeString x`,
the closing quote, and returns the string token with `acc ++ p ++ x` (cut at the first NUL, as
`strdup` would), in at most one step per byte. -/
theorem yylex_body : ∀ (x p acc rest : Bytes), (∀ b ∈ x, 1 ≤ b ∧ b < 256) →
    (∀ b ∈ p, rawByte b = true ∧ b < 256) → FollowOK (fun _ => true) rest → ∀ (s : ScanState),
    InStr K s acc (p ++ (escapeString x ++ [34] ++ rest)) →
    ∃ k, 1 ≤ k ∧ k ≤ p.length + (escapeString x).length + 1 ∧ ∃ s', Ready K s' rest ∧
      ∀ f, yylex T acts w ic (f + k) s =
        (s', .tok Generated.tokens.string { sval := cstr (acc ++ p ++ x) })
  | [], p, acc, rest, _, hp, hfo, s, hs => by
    obtain ⟨j, hj, s₁, hs₁, hy₁⟩ := yylex_chunk w ic p acc _ hp
      (fun c hc => by cases hc; exact ⟨by decide, rfl⟩) s hs
    obtain ⟨s', hr, hy⟩ := yylex_close w ic (acc ++ p) rest hfo s₁ hs₁
    exact ⟨1 + j, Nat.le_add_right .., by rw [Nat.add_comm 1]; exact Nat.add_le_add_right hj _, s', hr,
      fun f => by rw [← Nat.add_assoc, hy₁, hy, List.append_nil]⟩
  | c :: t, p, acc, rest, hx, hp, hfo, s, hs => by
    have hc := hx c (List.mem_cons_self ..)
    have ht : ∀ b ∈ t, 1 ≤ b ∧ b < 256 := fun b hb => hx b (List.mem_cons_of_mem _ hb)
    rw [escapeString_cons] at hs ⊢
    rw [List.length_append]
    by_cases hraw : rawByte c = true
    · -- a copied byte joins the run
      rw [escByte_raw hraw] at hs ⊢
      obtain ⟨k, hk1, hk2, s', hr, hy⟩ := yylex_body t (p ++ [c]) acc rest ht
        (fun b hb => (List.mem_append.mp hb).elim (hp b)
          fun h => List.mem_singleton.mp h ▸ ⟨hraw, hc.2⟩) hfo s
        (by simpa only [List.append_assoc] using hs)
      refine ⟨k, hk1, ?_, s', hr, fun f => ?_⟩
      · simp only [List.length_append, List.length_cons, List.length_nil] at hk2 ⊢
        omega
      · rw [hy]; simp only [List.append_assoc, List.cons_append, List.nil_append]
    · -- an escape sequence ends the run
      have hraw : rawByte c = false := Bool.eq_false_iff.mpr hraw
      obtain ⟨j, hj, s₁, hs₁, hy₁⟩ := yylex_chunk w ic p acc _ hp (by
        obtain ⟨tl, he⟩ := escByte_esc hraw
        rw [he]
        exact fun d hd => by cases hd; exact ⟨by decide, rfl⟩) s hs
      rw [List.append_assoc, List.append_assoc] at hs₁
      obtain ⟨s₂, hs₂, hy₂⟩ := yylex_escByte w ic c hc.2 hraw (acc ++ p) _
        (List.append_assoc .. ▸ esc_follow t rest fun b hb => (ht b hb).2)
        s₁ hs₁
      obtain ⟨k, hk1, hk2, s', hr, hy⟩ := yylex_body t [] (acc ++ p ++ [c]) rest ht
        (fun _ hb => nomatch hb) hfo s₂ (by simpa only [List.nil_append, List.append_assoc] using hs₂)
      refine ⟨k + 1 + j, by omega, ?_, s', hr, fun f => ?_⟩
      · have := escByte_length_pos c
        simp only [List.length_nil, Nat.zero_add] at hk2
        omega
      · rw [← Nat.add_assoc, hy₁, ← Nat.add_assoc, hy₂, hy]
        simp only [List.append_assoc, List.cons_append, List.nil_append, List.append_nil]

/-- **a whole string literal**: quote, escaped bytes, quote -/
theorem yylex_str (x rest : Bytes) (hx : ∀ b ∈ x, 1 ≤ b ∧ b < 256)
    (hfo : FollowOK (fun _ => true) rest) (s : ScanState)
    (hs : Ready K s ((WTok.str x).bytes ++ rest)) :
    ∃ k, 1 ≤ k ∧ k ≤ (WTok.str x).bytes.length ∧ ∃ s', Ready K s' rest ∧
      ∀ f, yylex T acts w ic (f + k) s = (s', .tok Generated.tokens.string { sval := x }) := by
  have e : (WTok.str x).bytes ++ rest = [34] ++ (escapeString x ++ [34] ++ rest) := by
    simp only [WTok.bytes, List.append_assoc]
  rw [e] at hs
  obtain ⟨s₁, hs₁, hy₁⟩ := yylex_open w ic _
    (esc_follow x rest fun b hb => (hx b hb).2) s hs
  obtain ⟨k, hk1, hk2, s', hr', hy'⟩ := yylex_body w ic x [] [] rest hx (fun _ hb => nomatch hb) hfo s₁ hs₁
  refine ⟨k + 1, by omega, ?_, s', hr', fun f => ?_⟩
  · simp only [WTok.bytes, List.length_append, List.length_cons, List.length_nil] at hk2 ⊢; omega
  · rw [← Nat.add_assoc, hy₁, hy', List.nil_append, List.nil_append,
      cstr_of_ne_zero (t := x) fun b hb => Nat.ne_of_gt (hx b hb).1]

end
end Libconfig.C01L
