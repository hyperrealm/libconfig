import LibconfigModel.Parser
import LibconfigModel.Proofs.ScannerStep
/-
  `yyparseLoop` (Parser.lean) as the iteration of a one-step function, in two readings that agree
  (`bodyK_eq`).  `bodyK` is the body with the recursive calls abstracted: a proof that drives the
  loop forwards along known input rewrites with it.  `yystep` returns the exit taken, and `Step`
  lists the exits with what is known at each (`yystep_spec`): an invariant is a case analysis of
  it (`yyparseLoop_ind`; `Joint`, `LoopRel` for invariants of scanner state and context; `Reach`,
  the states passed through, for those of the stack).  `Step` does not determine the exit, nor
  the value a reduction pushes.
-/
namespace Libconfig.C05P

open Libconfig

abbrev POut := ScanState × ParseCtx × ParseResult
abbrev PRec := List (Nat × TokVal) → Lookahead → ScanState → ParseCtx → POut

/-- `yyreduce` of one iteration of `yyparseLoop`, with the recursive call abstracted -/
def reduceK (E : ParserEnv) (rec : PRec) (stack : List (Nat × TokVal)) (rule : Nat)
    (la : Lookahead) (s : ScanState) (ctx : ParseCtx) : POut :=
  let P := E.P
  let len := (P.r2.get rule).toNat
  let v := (stack.headD (0, {})).2
  match runAction (E.acts.getD rule .unknown) ctx v s.buf.lineno s.currentFilename with
  | .abort ctx' => (s, ctx', ParseResult.abort)
  | .crash ctx' => (s, ctx', ParseResult.crash)
  | .ok ctx' =>
    let stack' := stack.drop len
    let top := (stack'.headD (0, {})).1
    let lhs := (P.r1.get rule).toNat - P.ntokens
    let yyi := P.pgoto.get lhs + top
    let st' : Nat :=
      if 0 ≤ yyi && yyi ≤ P.last && P.check.get yyi.toNat == top then (P.table.get yyi.toNat).toNat
      else (P.defgoto.get lhs).toNat
    let yyval := if len == 0 then v else ((stack.drop (len - 1)).headD (0, {})).2
    rec ((st', yyval) :: stack') la s ctx'

def syntaxErrorK (s : ScanState) (ctx : ParseCtx) : POut :=
  (s, ctx.yyerror s.buf.lineno Generated.ERR_SYNTAX, ParseResult.abort)

def dfltK (E : ParserEnv) (rec : PRec) (stack : List (Nat × TokVal)) (state : Nat)
    (la : Lookahead) (s : ScanState) (ctx : ParseCtx) : POut :=
  let r := (E.P.defact.get state).toNat
  if r == 0 then syntaxErrorK s ctx else reduceK E rec stack r la s ctx

def fetchK (E : ParserEnv) (la : Lookahead) (s : ScanState) (ctx : ParseCtx) :
    ScanState × Option (Nat × TokVal) × Option ParseResult × ParseCtx :=
  match la with
  | some l => (s, some l, none, ctx)
  | none =>
    match yylex E.T E.sacts E.w E.ic E.lexFuel s with
    | (s', .tok t v) => (s', some (t, v), none, ctx)
    | (s', .eof) => (s', some (0, {}), none, ctx)
    | (s', .includeError t text file line) =>
      (s', some (t, {}), none,
       { ctx with cfg := { ctx.cfg with errText := some text, errFile := file, errLine := line } })
    | (s', .echo b) => (s', none, some (.echo b), ctx)
    | (s', .outOfFuel) => (s', none, some .outOfFuel, ctx)

def bodyK (E : ParserEnv) (rec : PRec) (stack : List (Nat × TokVal)) (la : Lookahead)
    (s : ScanState) (ctx : ParseCtx) : POut :=
  let P := E.P
  match stack with
  | [] => (s, ctx, .crash)
  | (state, _) :: _ =>
  if stack.length ≥ P.maxDepth then
    (s, ctx.yyerror s.buf.lineno Generated.ERR_EXHAUSTED, .exhausted)
  else if state == P.final then (s, ctx, .accept)
  else
    let yyn := P.pact.get state
    if yyn == P.pactNinf then dfltK E rec stack state la s ctx
    else
      match fetchK E la s ctx with
      | (s, _, some r, ctx) => (s, ctx, r)
      | (s, none, none, ctx) => (s, ctx, .crash)
      | (s, some (t, v), none, ctx) =>
        let tok := translateTok P t
        let idx := yyn + tok
        if idx < 0 || idx > P.last || P.check.get idx.toNat != tok then
          dfltK E rec stack state (some (t, v)) s ctx
        else
          let a := P.table.get idx.toNat
          if a ≤ 0 then
            if a == P.tableNinf then syntaxErrorK s ctx
            else reduceK E rec stack (-a).toNat (some (t, v)) s ctx
          else
            rec ((a.toNat, v) :: stack) none s ctx

theorem yyparseLoop_succ (E : ParserEnv) (fuel : Nat) (stack : List (Nat × TokVal)) (la : Lookahead)
    (s : ScanState) (ctx : ParseCtx) :
    yyparseLoop E (fuel + 1) stack la s ctx = bodyK E (yyparseLoop E fuel) stack la s ctx := by
  rfl

end Libconfig.C05P

namespace Libconfig.C03P

open Libconfig

/-- the arguments of one iteration of `yyparseLoop` -/
structure PState where
  stack : List (Nat × TokVal)
  la : Lookahead
  s : ScanState
  ctx : ParseCtx

/-- One iteration of `yyparseLoop`: either the parse ends (`.inl`) or the loop continues
with new arguments (`.inr`).  The body is the body of `yyparseLoop` with each recursive call
replaced by `.inr`. -/
def yystep (E : ParserEnv) (X : PState) : Sum (ScanState × ParseCtx × ParseResult) PState :=
  match X with
  | ⟨stack, la, s, ctx⟩ =>
    let P := E.P
    match stack with
    | [] => .inl (s, ctx, .crash)
    | (state, _) :: _ =>
    -- yysetstate: stack limit
    if stack.length ≥ P.maxDepth then
      .inl (s, ctx.yyerror s.buf.lineno Generated.ERR_EXHAUSTED, .exhausted)
    else if state == P.final then .inl (s, ctx, .accept)
    else
      let reduce (rule : Nat) (la : Lookahead) (s : ScanState) (ctx : ParseCtx) :
          Sum (ScanState × ParseCtx × ParseResult) PState :=
        let len := (P.r2.get rule).toNat
        let v := (stack.headD (0, {})).2
        match runAction (E.acts.getD rule .unknown) ctx v s.buf.lineno s.currentFilename with
        | .abort ctx' => .inl (s, ctx', ParseResult.abort)
        | .crash ctx' => .inl (s, ctx', ParseResult.crash)
        | .ok ctx' =>
          let stack' := stack.drop len
          let top := (stack'.headD (0, {})).1
          let lhs := (P.r1.get rule).toNat - P.ntokens
          let yyi := P.pgoto.get lhs + top
          let st' : Nat :=
            if 0 ≤ yyi && yyi ≤ P.last && P.check.get yyi.toNat == top then (P.table.get yyi.toNat).toNat
            else (P.defgoto.get lhs).toNat
          -- `$$ = $1`: the value of the first right-hand-side symbol (garbage for empty rules)
          let yyval := if len == 0 then v else ((stack.drop (len - 1)).headD (0, {})).2
          .inr ⟨(st', yyval) :: stack', la, s, ctx'⟩
      let syntaxError (s : ScanState) (ctx : ParseCtx) :
          Sum (ScanState × ParseCtx × ParseResult) PState :=
        .inl (s, ctx.yyerror s.buf.lineno Generated.ERR_SYNTAX, ParseResult.abort)
      let dflt (la : Lookahead) (s : ScanState) (ctx : ParseCtx) :=
        let r := (P.defact.get state).toNat
        if r == 0 then syntaxError s ctx else reduce r la s ctx
      let yyn := P.pact.get state
      if yyn == P.pactNinf then dflt la s ctx
      else
        -- need a lookahead
        let fetched : ScanState × Option (Nat × TokVal) × Option ParseResult × ParseCtx :=
          match la with
          | some l => (s, some l, none, ctx)
          | none =>
            match yylex E.T E.sacts E.w E.ic E.lexFuel s with
            | (s', .tok t v) => (s', some (t, v), none, ctx)
            | (s', .eof) => (s', some (0, {}), none, ctx)
            | (s', .includeError t text file line) =>
              (s', some (t, {}), none,
               { ctx with cfg := { ctx.cfg with errText := some text, errFile := file, errLine := line } })
            | (s', .echo b) => (s', none, some (.echo b), ctx)
            | (s', .outOfFuel) => (s', none, some .outOfFuel, ctx)
        match fetched with
        | (s, _, some r, ctx) => .inl (s, ctx, r)
        | (s, none, none, ctx) => .inl (s, ctx, .crash)
        | (s, some (t, v), none, ctx) =>
          let tok := translateTok P t
          let idx := yyn + tok
          if idx < 0 || idx > P.last || P.check.get idx.toNat != tok then dflt (some (t, v)) s ctx
          else
            let a := P.table.get idx.toNat
            if a ≤ 0 then
              if a == P.tableNinf then syntaxError s ctx
              else reduce (-a).toNat (some (t, v)) s ctx
            else
              .inr ⟨(a.toNat, v) :: stack, none, s, ctx⟩

theorem elim_ite {α β γ : Type} (f : α → γ) (g : β → γ) {c : Prop} [Decidable c] {a b : γ} {a' b' : Sum α β}
    (ht : c → a = a'.elim f g) (he : ¬ c → b = b'.elim f g) :
    (if c then a else b) = (if c then a' else b').elim f g := by
  by_cases h : c
  · rw [if_pos h, if_pos h]; exact ht h
  · rw [if_neg h, if_neg h]; exact he h

theorem bodyK_eq (E : ParserEnv) (rec : C05P.PRec) (stack : List (Nat × TokVal)) (la : Lookahead)
    (s : ScanState) (ctx : ParseCtx) :
    C05P.bodyK E rec stack la s ctx =
      (yystep E ⟨stack, la, s, ctx⟩).elim id fun Y => rec Y.stack Y.la Y.s Y.ctx := by
  unfold C05P.bodyK yystep
  dsimp -zeta only
  extract_lets P v reduce syn src fetched
  have hfetch : C05P.fetchK E la s ctx = fetched := rfl
  have hsyn : ∀ s c, C05P.syntaxErrorK s c = (syn s c).elim id fun Y => rec Y.stack Y.la Y.s Y.ctx :=
    fun _ _ => rfl
  have hred : ∀ rule la s c, C05P.reduceK E rec stack rule la s c =
      (reduce rule la s c).elim id fun Y => rec Y.stack Y.la Y.s Y.ctx := by
    intro rule la s c
    simp only [C05P.reduceK, reduce]
    generalize runAction _ _ _ _ _ = out
    cases out <;> rfl
  clear_value syn reduce fetched
  rw [hfetch]
  rcases stack with _ | ⟨⟨state, v0⟩, tail⟩
  · rfl
  dsimp -zeta only
  -- both sides branch on the same tests; `split` on a goal of this size is slow
  refine elim_ite _ _ (fun _ => rfl) fun _ => elim_ite _ _ (fun _ => rfl) fun _ => ?_
  extract_lets yyn r dflt
  have hdflt : ∀ la s c, C05P.dfltK E rec ((state, v0) :: tail) state la s c =
      (dflt la s c).elim id fun Y => rec Y.stack Y.la Y.s Y.ctx :=
    fun _ _ _ => elim_ite _ _ (fun _ => hsyn _ _) fun _ => hred _ _ _ _
  clear_value dflt
  refine elim_ite _ _ (fun _ => hdflt _ _ _) fun _ => ?_
  rcases fetched with ⟨s1, _ | ⟨t, v⟩, _ | r1, c1⟩
  · rfl
  · rfl
  · dsimp -zeta only
    extract_lets tok idx a
    exact elim_ite _ _ (fun _ => hdflt _ _ _) fun _ =>
      elim_ite _ _ (fun _ => elim_ite _ _ (fun _ => hsyn _ _) fun _ => hred _ _ _ _) fun _ => rfl
  · rfl

theorem yyparseLoop_succ (E : ParserEnv) (fuel : Nat) (X : PState) :
    yyparseLoop E (fuel + 1) X.stack X.la X.s X.ctx =
      match yystep E X with
      | .inl r => r
      | .inr Y => yyparseLoop E fuel Y.stack Y.la Y.s Y.ctx := by
  rw [C05P.yyparseLoop_succ, bodyK_eq]
  cases yystep E X <;> rfl

/-- the states the loop passes through, starting from `X` -/
inductive Reach (E : ParserEnv) (X : PState) : PState → Prop where
  | refl : Reach E X X
  | step {Y Z : PState} : Reach E X Y → yystep E Y = .inr Z → Reach E X Z

/-- the state `yyparse` starts from -/
def initial (s : ScanState) (ctx : ParseCtx) : PState := ⟨[(0, {})], none, s, ctx⟩

theorem Reach.trans {E : ParserEnv} {X Y Z : PState} (h1 : Reach E X Y) (h2 : Reach E Y Z) :
    Reach E X Z := by
  induction h2 with
  | refl => exact h1
  | step _ hs ih => exact .step ih hs

theorem yyparseLoop_final (E : ParserEnv) :
    ∀ (fuel : Nat) (X : PState),
      ∃ Y, Reach E X Y ∧ (yystep E Y = .inl (yyparseLoop E fuel X.stack X.la X.s X.ctx) ∨
        -- the loop's own fuel ran out at `Y`
        yyparseLoop E fuel X.stack X.la X.s X.ctx = (Y.s, Y.ctx, ParseResult.outOfFuel)) := by
  intro fuel
  induction fuel with
  | zero => intro X; exact ⟨X, .refl, .inr (by rw [yyparseLoop.eq_def])⟩
  | succ fuel ih =>
    intro X
    rw [yyparseLoop_succ]
    generalize hs : yystep E X = o
    cases o with
    | inl r => exact ⟨X, .refl, .inl hs⟩
    | inr Z =>
      obtain ⟨Y, hr, h⟩ := ih Z
      exact ⟨Y, Reach.trans (.step .refl hs) hr, h⟩

/-! ### more fuel

A run that does not end `.outOfFuel` returns the same with more fuel, for the loop and for the
scanner at once (`read` hands its one `fuel` to both). -/

/-- the scanner's fuel reaches an iteration only through the result of its `yylex` call -/
theorem yystep_lexFuel (E : ParserEnv) (f' : Nat) (X : PState)
    (h : yylex E.T E.sacts E.w E.ic f' X.s = yylex E.T E.sacts E.w E.ic E.lexFuel X.s) :
    yystep { E with lexFuel := f' } X = yystep E X := by
  rcases X with ⟨stack, la, s, ctx⟩
  unfold yystep
  dsimp only at h ⊢
  rw [h]

theorem or_ite {α : Type} {Q : α → Prop} {c : Prop} [Decidable c] {a a' b b' : α}
    (ht : c → a' = a ∨ Q a) (he : ¬ c → b' = b ∨ Q b) :
    (if c then a' else b') = (if c then a else b) ∨ Q (if c then a else b) := by
  by_cases h : c
  · rw [if_pos h, if_pos h]; exact ht h
  · rw [if_neg h, if_neg h]; exact he h

/-- the exit of an iteration that reports the scanner's `.outOfFuel` -/
def FuelExit (o : Sum (ScanState × ParseCtx × ParseResult) PState) : Prop :=
  ∃ s c, o = .inl (s, c, .outOfFuel)

theorem yystep_mono (E : ParserEnv) {f' : Nat} (hf : E.lexFuel ≤ f') (X : PState) :
    yystep { E with lexFuel := f' } X = yystep E X ∨ FuelExit (yystep E X) := by
  by_cases h : (yylex E.T E.sacts E.w E.ic E.lexFuel X.s).2 = .outOfFuel
  · -- the call runs out: the iteration does not make it (no lookahead needed), or reports it
    rcases X with ⟨stack, la, s, ctx⟩
    rcases stack with _ | ⟨⟨state, v0⟩, tail⟩
    · exact .inl rfl
    cases la with
    | some l => exact .inl rfl
    | none =>
      rcases hy : yylex E.T E.sacts E.w E.ic E.lexFuel s with ⟨s', o⟩
      rw [hy] at h
      dsimp only at h
      subst h
      unfold yystep
      dsimp -zeta only
      rw [hy]
      refine or_ite (Q := FuelExit) (fun _ => .inl rfl) fun _ =>
        or_ite (Q := FuelExit) (fun _ => .inl rfl) fun _ => ?_
      dsimp only
      exact or_ite (Q := FuelExit) (fun _ => .inl rfl) fun _ => .inr ⟨_, _, rfl⟩
  · exact .inl (yystep_lexFuel E f' X (yylex_mono_le h hf))

theorem yyparseLoop_mono (E : ParserEnv) {f' : Nat} (hf : E.lexFuel ≤ f') :
    ∀ (fuel : Nat) (X : PState), (yyparseLoop E fuel X.stack X.la X.s X.ctx).2.2 ≠ .outOfFuel →
      ∀ fuel', fuel ≤ fuel' →
        yyparseLoop { E with lexFuel := f' } fuel' X.stack X.la X.s X.ctx =
          yyparseLoop E fuel X.stack X.la X.s X.ctx := by
  intro fuel
  induction fuel with
  | zero => intro X h; rw [yyparseLoop] at h; exact absurd rfl h
  | succ fuel ih =>
    intro X h fuel' hle
    obtain ⟨k, rfl⟩ : ∃ k, fuel' = k + 1 := ⟨fuel' - 1, by omega⟩
    rw [yyparseLoop_succ] at h ⊢
    rw [yyparseLoop_succ]
    -- an iteration on which the two runs differ would have ended the first one `.outOfFuel`
    rcases yystep_mono E hf X with he | ⟨s, c, he⟩
    · rw [he]
      generalize yystep E X = o at h ⊢
      cases o with
      | inl r => rfl
      | inr Y => exact ih Y h k (by omega)
    · rw [he] at h; exact absurd rfl h

/-- the parser state on top of the stack (`0` for the empty stack, as `headD` has it) -/
def topState (stack : List (Nat × TokVal)) : Nat := (stack.headD (0, {})).1

/-- the state `yyreduce` pushes after reducing by `rule` when `top` is uncovered: the `st'` of
`yystep`/`yyparseLoop` -/
def gotoTarget (P : LalrTables) (rule top : Nat) : Nat :=
  let lhs := (P.r1.get rule).toNat - P.ntokens
  let yyi := P.pgoto.get lhs + top
  if 0 ≤ yyi && yyi ≤ P.last && P.check.get yyi.toNat == top then (P.table.get yyi.toNat).toNat
  else (P.defgoto.get lhs).toNat

/-- `YYTRANSLATE` yields a token kind as soon as the entries of the table and the kind 2 used
for out-of-range token numbers are kinds -/
theorem translateTok_lt_of {P : LalrTables} (h2 : 2 < P.ntokens)
    (htr : ∀ i, i ≤ P.maxutok → (P.translate.get i).toNat < P.ntokens) (t : Nat) :
    translateTok P t < P.ntokens := by
  unfold translateTok
  split
  · omega
  · split
    · rename_i hle; exact htr t hle
    · exact h2

/-- `yybackup` found the explicit action `a` for token kind `tok` in state `state`:
`yypact[state]` is not the default marker, `yypact[state] + tok` is in `0 … YYLAST`,
`yycheck` confirms the entry and `a` is the `yytable` entry. -/
def Action (P : LalrTables) (state tok : Nat) (a : Int) : Prop :=
  P.pact.get state ≠ P.pactNinf ∧ 0 ≤ P.pact.get state + tok ∧ P.pact.get state + tok ≤ P.last ∧
    P.check.get (P.pact.get state + tok).toNat = tok ∧ a = P.table.get (P.pact.get state + tok).toNat

/-- the two ways `yystep` comes to reduce by `rule` in state `state`: the default reduction
(`yydefact[state]`, not `0`) or a non-positive explicit action that is not the error marker -/
def ReduceBy (P : LalrTables) (state rule : Nat) : Prop :=
  (rule = (P.defact.get state).toNat ∧ rule ≠ 0) ∨
    ∃ t a, Action P state (translateTok P t) a ∧ a ≤ 0 ∧ a ≠ P.tableNinf ∧ rule = (-a).toNat

/-! ### the exits of one step -/

/-- the iteration from `X` gets as far as `yybackup` -/
structure Live (E : ParserEnv) (X : PState) : Prop where
  ne : X.stack ≠ []
  lt : X.stack.length < E.P.maxDepth
  notFinal : topState X.stack ≠ E.P.final

/-- The lookahead, scanner state and context `yybackup` decides on: those of `X` (no token is
needed, or one is there), or those after a call of `yylex` that delivered a token, the end of
input or the error token of a failing `@include`. -/
inductive Look (E : ParserEnv) (X : PState) : Lookahead → ScanState → ParseCtx → Prop where
  | keep : Look E X X.la X.s X.ctx
  | tok {s' : ScanState} {t : Nat} {v : TokVal} : X.la = none →
      yylex E.T E.sacts E.w E.ic E.lexFuel X.s = (s', .tok t v) → Look E X (some (t, v)) s' X.ctx
  | eof {s' : ScanState} : X.la = none →
      yylex E.T E.sacts E.w E.ic E.lexFuel X.s = (s', .eof) → Look E X (some (0, {})) s' X.ctx
  | incl {s' : ScanState} {t : Nat} {text : Bytes} {file : Option Bytes} {line : Nat} : X.la = none →
      yylex E.T E.sacts E.w E.ic E.lexFuel X.s = (s', .includeError t text file line) →
      Look E X (some (t, {})) s'
        { X.ctx with cfg := { X.ctx.cfg with errText := some text, errFile := file, errLine := line } }

/-- `Step E X o`: `o` is an exit of the iteration from `X`, with what is known at that exit.
`yystep_spec` says that `yystep E X` is one of them; with `yystep E X = .inr Y` or
`= .inl (s, ctx, r)` at hand, `cases` leaves the exits of that form. -/
inductive Step (E : ParserEnv) (X : PState) :
    Sum (ScanState × ParseCtx × ParseResult) PState → Prop where
  | empty : X.stack = [] → Step E X (.inl (X.s, X.ctx, .crash))
  | exhausted : X.stack ≠ [] → E.P.maxDepth ≤ X.stack.length →
      Step E X (.inl (X.s, X.ctx.yyerror X.s.buf.lineno Generated.ERR_EXHAUSTED, .exhausted))
  | accept : X.stack ≠ [] → X.stack.length < E.P.maxDepth → topState X.stack = E.P.final →
      Step E X (.inl (X.s, X.ctx, .accept))
  | echo {s' : ScanState} {b : Nat} : Live E X → X.la = none →
      yylex E.T E.sacts E.w E.ic E.lexFuel X.s = (s', .echo b) → Step E X (.inl (s', X.ctx, .echo b))
  | fuel {s' : ScanState} : Live E X → X.la = none →
      yylex E.T E.sacts E.w E.ic E.lexFuel X.s = (s', .outOfFuel) →
      Step E X (.inl (s', X.ctx, .outOfFuel))
  | syntaxError {la1 : Lookahead} {s1 : ScanState} {c1 : ParseCtx} : Live E X → Look E X la1 s1 c1 →
      Step E X (.inl (s1, c1.yyerror s1.buf.lineno Generated.ERR_SYNTAX, .abort))
  | abort {rule : Nat} {la1 : Lookahead} {s1 : ScanState} {c1 c' : ParseCtx} : Live E X →
      Look E X la1 s1 c1 → ReduceBy E.P (topState X.stack) rule →
      runAction (E.acts.getD rule .unknown) c1 (X.stack.headD (0, {})).2 s1.buf.lineno
        s1.currentFilename = .abort c' →
      Step E X (.inl (s1, c', .abort))
  | crash {rule : Nat} {la1 : Lookahead} {s1 : ScanState} {c1 c' : ParseCtx} : Live E X →
      Look E X la1 s1 c1 → ReduceBy E.P (topState X.stack) rule →
      runAction (E.acts.getD rule .unknown) c1 (X.stack.headD (0, {})).2 s1.buf.lineno
        s1.currentFilename = .crash c' →
      Step E X (.inl (s1, c', .crash))
  | reduce {rule : Nat} {yyval : TokVal} {la1 : Lookahead} {s1 : ScanState} {c1 c' : ParseCtx} :
      Live E X → Look E X la1 s1 c1 → ReduceBy E.P (topState X.stack) rule →
      runAction (E.acts.getD rule .unknown) c1 (X.stack.headD (0, {})).2 s1.buf.lineno
        s1.currentFilename = .ok c' →
      Step E X (.inr ⟨(gotoTarget E.P rule (topState (X.stack.drop (E.P.r2.get rule).toNat)), yyval) ::
        X.stack.drop (E.P.r2.get rule).toNat, la1, s1, c'⟩)
  | shift {t : Nat} {a : Int} {v : TokVal} {s1 : ScanState} {c1 : ParseCtx} : Live E X →
      Look E X (some (t, v)) s1 c1 → Action E.P (topState X.stack) (translateTok E.P t) a → 0 < a →
      Step E X (.inr ⟨(a.toNat, v) :: X.stack, none, s1, c1⟩)

theorem yystep_spec (E : ParserEnv) (X : PState) : Step E X (yystep E X) := by
  rcases X with ⟨stack, la, s, ctx⟩
  rcases stack with _ | ⟨⟨state, v0⟩, tail⟩
  · exact .empty rfl
  have hne : (state, v0) :: tail ≠ [] := List.cons_ne_nil _ _
  unfold yystep
  dsimp -zeta only
  extract_lets P v reduce syn r dflt yyn src fetched
  -- `by_cases` and `rw [if_pos _]` throughout: `split` on a goal of this size is slow
  by_cases hge : ((state, v0) :: tail).length ≥ P.maxDepth
  · rw [if_pos hge]; exact .exhausted hne hge
  rw [if_neg hge]
  by_cases hfin : (state == P.final) = true
  · rw [if_pos hfin]; exact .accept hne (Nat.lt_of_not_le hge) (eq_of_beq hfin)
  rw [if_neg hfin]
  have hl : Live E ⟨(state, v0) :: tail, la, s, ctx⟩ :=
    ⟨hne, Nat.lt_of_not_le hge, fun h => hfin (beq_iff_eq.mpr h)⟩
  have hsyn : ∀ la1 s1 c1, Look E ⟨(state, v0) :: tail, la, s, ctx⟩ la1 s1 c1 →
      Step E ⟨(state, v0) :: tail, la, s, ctx⟩ (syn s1 c1) := fun _ _ _ hk => .syntaxError hl hk
  have hred : ∀ rule la1 s1 c1, Look E ⟨(state, v0) :: tail, la, s, ctx⟩ la1 s1 c1 →
      ReduceBy E.P state rule → Step E ⟨(state, v0) :: tail, la, s, ctx⟩ (reduce rule la1 s1 c1) := by
    intro rule la1 s1 c1 hk hrule
    simp only [reduce]
    split
    · rename_i heq; exact .abort hl hk hrule heq
    · rename_i heq; exact .crash hl hk hrule heq
    · rename_i heq; exact .reduce hl hk hrule heq
  have hdflt : ∀ la1 s1 c1, Look E ⟨(state, v0) :: tail, la, s, ctx⟩ la1 s1 c1 →
      Step E ⟨(state, v0) :: tail, la, s, ctx⟩ (dflt la1 s1 c1) := by
    intro la1 s1 c1 hk
    simp only [dflt]
    split
    · exact hsyn _ _ _ hk
    · rename_i hr0
      exact hred _ _ _ _ hk (.inl ⟨rfl, by simpa using hr0⟩)
  -- what `fetched` holds: a token to decide on, or the scanner's reason to stop
  have hfetch : (∀ tv, fetched.2.1 = some tv → fetched.2.2.1 = none →
        Look E ⟨(state, v0) :: tail, la, s, ctx⟩ (some tv) fetched.1 fetched.2.2.2) ∧
      (∀ r, fetched.2.2.1 = some r →
        Step E ⟨(state, v0) :: tail, la, s, ctx⟩ (.inl (fetched.1, fetched.2.2.2, r))) ∧
      (fetched.2.1 = none → fetched.2.2.1 ≠ none) := by
    simp only [fetched]
    split
    · exact ⟨fun _ h _ => by cases h; exact .keep, nofun, nofun⟩
    · split
      · rename_i heq; exact ⟨fun _ h _ => by cases h; exact .tok rfl heq, nofun, nofun⟩
      · rename_i heq; exact ⟨fun _ h _ => by cases h; exact .eof rfl heq, nofun, nofun⟩
      · rename_i heq; exact ⟨fun _ h _ => by cases h; exact .incl rfl heq, nofun, nofun⟩
      · rename_i heq; exact ⟨nofun, fun _ h => by cases h; exact .echo hl rfl heq, nofun⟩
      · rename_i heq; exact ⟨nofun, fun _ h => by cases h; exact .fuel hl rfl heq, nofun⟩
  clear_value fetched dflt syn reduce
  by_cases hpact : (yyn == P.pactNinf) = true
  · rw [if_pos hpact]; exact hdflt _ _ _ .keep
  rw [if_neg hpact]
  rcases fetched with ⟨s1, _ | ⟨t, v⟩, _ | r1, c1⟩
  · exact (hfetch.2.2 rfl rfl).elim
  · exact hfetch.2.1 r1 rfl
  · have hk := hfetch.1 (t, v) rfl rfl
    dsimp -zeta only
    extract_lets tok idx a
    by_cases hguard : (idx < 0 || idx > P.last || P.check.get idx.toNat != tok) = true
    · rw [if_pos hguard]; exact hdflt _ _ _ hk
    rw [if_neg hguard]
    have hact : Action E.P state (translateTok E.P t) a := by
      simp only [Bool.or_eq_true, decide_eq_true_eq, bne_iff_ne, ne_eq, not_or, Int.not_lt,
        Decidable.not_not] at hguard
      exact ⟨by simpa [yyn, P] using hpact, hguard.1.1, hguard.1.2, hguard.2, rfl⟩
    by_cases hle : a ≤ 0
    · rw [if_pos hle]
      by_cases hninf : (a == P.tableNinf) = true
      · rw [if_pos hninf]; exact hsyn _ _ _ hk
      · rw [if_neg hninf]
        exact hred _ _ _ _ hk (.inr ⟨t, a, hact, hle, by simpa using hninf, rfl⟩)
    · rw [if_neg hle]; exact .shift hl hk hact (Int.not_le.mp hle)
  · exact hfetch.2.1 r1 rfl

/-! ### invariants through the loop -/

theorem yyparseLoop_ind {E : ParserEnv} {K : PState → Prop}
    {Q : ScanState × ParseCtx × ParseResult → Prop}
    (hstep : ∀ X, K X → (yystep E X).elim Q K)
    (hfuel : ∀ X, K X → Q (X.s, X.ctx, .outOfFuel)) :
    ∀ (fuel : Nat) (X : PState), K X → Q (yyparseLoop E fuel X.stack X.la X.s X.ctx) := by
  intro fuel
  induction fuel with
  | zero => intro X hX; rw [yyparseLoop]; exact hfuel X hX
  | succ fuel ih =>
    intro X hX
    rw [yyparseLoop_succ]
    have := hstep X hX
    generalize yystep E X = o at this
    cases o with
    | inl r => exact this
    | inr Y => exact ih Y this

end Libconfig.C03P

namespace Libconfig

open C03P

def actCtx : ActOut → ParseCtx
  | .ok c => c
  | .abort c => c
  | .crash c => c

/-- `K` on scanner state and parse context is kept by everything an iteration does to them:
`yyerror`, a semantic action whatever its outcome, a call of `yylex` -/
structure Joint (E : ParserEnv) (K : ScanState → ParseCtx → Prop) : Prop where
  yyerror : ∀ s c line text, K s c → K s (c.yyerror line text)
  act : ∀ s c a v, K s c → K s (actCtx (runAction a c v s.buf.lineno s.currentFilename))
  lex : ∀ s c, K s c →
    match yylex E.T E.sacts E.w E.ic E.lexFuel s with
    | (s', .includeError _ text file line) =>
      K s' { c with cfg := { c.cfg with errText := some text, errFile := file, errLine := line } }
    | (s', _) => K s' c

theorem Joint.look {E : ParserEnv} {K : ScanState → ParseCtx → Prop} (hK : Joint E K) {X : PState}
    {la1 : Lookahead} {s1 : ScanState} {c1 : ParseCtx} (h : K X.s X.ctx) (hk : Look E X la1 s1 c1) :
    K s1 c1 := by
  have hl := hK.lex _ _ h
  cases hk with
  | keep => exact h
  | tok _ hy => rw [hy] at hl; exact hl
  | eof _ hy => rw [hy] at hl; exact hl
  | incl _ hy => rw [hy] at hl; exact hl

theorem Joint.step {E : ParserEnv} {K : ScanState → ParseCtx → Prop} (hK : Joint E K) (X : PState)
    (h : K X.s X.ctx) : (yystep E X).elim (fun r => K r.1 r.2.1) (fun Y => K Y.s Y.ctx) := by
  have hs := yystep_spec E X
  have hl := hK.lex _ _ h
  have hact : ∀ {rule : Nat} {la1 : Lookahead} {s1 : ScanState} {c1 : ParseCtx}, Look E X la1 s1 c1 →
      K s1 (actCtx (runAction (E.acts.getD rule .unknown) c1 (X.stack.headD (0, {})).2 s1.buf.lineno
        s1.currentFilename)) := fun hk => hK.act _ _ _ _ (hK.look h hk)
  generalize yystep E X = o at hs
  cases hs with
  | empty => exact h
  | exhausted => exact hK.yyerror _ _ _ _ h
  | accept => exact h
  | echo _ _ hy => rw [hy] at hl; exact hl
  | fuel _ _ hy => rw [hy] at hl; exact hl
  | syntaxError _ hk => exact hK.yyerror _ _ _ _ (hK.look h hk)
  | @abort rule _ _ _ _ _ hk _ ha => have := hact (rule := rule) hk; rw [ha] at this; exact this
  | @crash rule _ _ _ _ _ hk _ ha => have := hact (rule := rule) hk; rw [ha] at this; exact this
  | @reduce rule _ _ _ _ _ _ hk _ ha => have := hact (rule := rule) hk; rw [ha] at this; exact this
  | shift _ hk => exact hK.look h hk

theorem yyparseLoop_joint {E : ParserEnv} {K : ScanState → ParseCtx → Prop} (hK : Joint E K)
    (fuel : Nat) (stack : List (Nat × TokVal)) (la : Lookahead) (s : ScanState) (ctx : ParseCtx)
    (h : K s ctx) :
    K (yyparseLoop E fuel stack la s ctx).1 (yyparseLoop E fuel stack la s ctx).2.1 :=
  yyparseLoop_ind (K := fun X => K X.s X.ctx) (Q := fun r => K r.1 r.2.1) hK.step (fun _ h => h)
    fuel ⟨stack, la, s, ctx⟩ h

theorem Joint.ofScan {E : ParserEnv} {I : ScanState → Prop}
    (hI : ∀ s, I s → I (yylex E.T E.sacts E.w E.ic E.lexFuel s).1) : Joint E fun s _ => I s where
  yyerror := fun _ _ _ _ h => h
  act := fun _ _ _ _ h => h
  lex := fun s _ h => by
    have := hI s h
    split <;> (rename_i heq; rw [heq] at this; exact this)

theorem yyparseLoop_scan (E : ParserEnv) (I : ScanState → Prop)
    (hI : ∀ s, I s → I (yylex E.T E.sacts E.w E.ic E.lexFuel s).1)
    (fuel : Nat) (stack : List (Nat × TokVal)) (la : Lookahead) (s : ScanState) (ctx : ParseCtx) :
    I s → I (yyparseLoop E fuel stack la s ctx).1 :=
  yyparseLoop_joint (Joint.ofScan hI) fuel stack la s ctx

/-- a reflexive and transitive relation on parse contexts that every write of the loop respects -/
structure LoopRel (R : ParseCtx → ParseCtx → Prop) : Prop where
  refl : ∀ c, R c c
  trans : ∀ {a b c}, R a b → R b c → R a c
  yyerror : ∀ c line text, R c (c.yyerror line text)
  act : ∀ act c v line file, R c (actCtx (runAction act c v line file))
  incl : ∀ (c : ParseCtx) text file line,
    R c { c with cfg := { c.cfg with errText := some text, errFile := file, errLine := line } }

theorem LoopRel.joint {R : ParseCtx → ParseCtx → Prop} (hR : LoopRel R) (E : ParserEnv)
    (c₀ : ParseCtx) : Joint E (fun _ c => R c₀ c) where
  yyerror := fun _ c line text h => hR.trans h (hR.yyerror c line text)
  act := fun _ c a v h => hR.trans h (hR.act a c v _ _)
  lex := fun _ c h => by
    split
    · exact hR.trans h (hR.incl c _ _ _)
    · exact h

theorem yyparseLoop_rel {R : ParseCtx → ParseCtx → Prop} (hR : LoopRel R) (E : ParserEnv)
    (fuel : Nat) (stack : List (Nat × TokVal)) (la : Lookahead) (s : ScanState) (ctx : ParseCtx) :
    R ctx (yyparseLoop E fuel stack la s ctx).2.1 :=
  yyparseLoop_joint (hR.joint E ctx) fuel stack la s ctx (hR.refl ctx)

end Libconfig
