import LibconfigModel.DenoteProv
import LibconfigModel.Proofs.Actions
import LibconfigModel.Proofs.ReadCore
/-
  Re-stamping a tree: `restamp g` applies `g` to the source position (line, file) of every node.
  Nothing the parser's semantic actions do looks at a position, so all of them are natural in
  `g`: running an action on the re-stamped context, with the re-stamped current position, yields
  the re-stamped outcome (`runAction_restamp`).  Two parser runs whose contexts agree after
  re-stamping therefore stay so as long as their scanners deliver the same tokens
  (`yyparseLoop_sim`; `readCore_sim` for a whole read).  Forgetting file names
  (Proofs/C20File.lean) and forgetting positions altogether (Proofs/C10SpliceParse.lean) are the
  instances `g p = (p.1, none)` and `g _ = (0, none)`.
-/
namespace Libconfig.C10Prov
open Libconfig Denote

mutual
/-- apply `g` to the source position of every node of a tree -/
def restamp (g : Stamp → Stamp) : Node → Node
  | .mk name ty fmt ival fval sval kids hook line file =>
    .mk name ty fmt ival fval sval (restampList g kids) hook (g (line, file)).1 (g (line, file)).2
def restampList (g : Stamp → Stamp) : List Node → List Node
  | [] => []
  | k :: ks => restamp g k :: restampList g ks
end

theorem restamp_eq (g : Stamp → Stamp) (n : Node) :
    restamp g n = { n with kids := restampList g n.kids, line := (g (n.line, n.file)).1,
                           file := (g (n.line, n.file)).2 } := by
  cases n; rw [restamp]

theorem restampList_map (g : Stamp → Stamp) (l : List Node) :
    restampList g l = l.map (restamp g) := by
  induction l with
  | nil => simp [restampList]
  | cons x xs ih => simp [restampList, ih]

theorem restampList_append (g : Stamp → Stamp) (a b : List Node) :
    restampList g (a ++ b) = restampList g a ++ restampList g b := by
  rw [restampList_map, restampList_map, restampList_map, List.map_append]

theorem restampList_snoc (g : Stamp → Stamp) (a : List Node) (x : Node) :
    restampList g (a ++ [x]) = restampList g a ++ [restamp g x] := by
  rw [restampList_append]
  rfl

theorem restamp_name (g : Stamp → Stamp) (n : Node) : (restamp g n).name = n.name := by
  rw [restamp_eq]

theorem restamp_ty (g : Stamp → Stamp) (n : Node) : (restamp g n).ty = n.ty := by
  rw [restamp_eq]

theorem restamp_stamped (g : Stamp → Stamp) (n : Node) (p : Stamp) :
    restamp g (stamped n p) = stamped { n with kids := restampList g n.kids } (g p) := by
  cases n; rfl

theorem restamp_stamped_leaf (g : Stamp → Stamp) (n : Node) (p : Stamp) (h : n.kids = []) :
    restamp g (stamped n p) = stamped n (g p) := by
  rw [restamp_stamped, h]
  cases n
  simp only at h
  subst h
  rfl

mutual
theorem restamp_id : ∀ n : Node, restamp (fun p => p) n = n
  | .mk name ty fmt ival fval sval kids hook line file => by
    rw [restamp, restampList_id kids]
theorem restampList_id : ∀ l : List Node, restampList (fun p => p) l = l
  | [] => by rw [restampList]
  | k :: ks => by rw [restampList, restamp_id k, restampList_id ks]
end

mutual
theorem restamp_comp (g h : Stamp → Stamp) : ∀ n : Node,
    restamp g (restamp h n) = restamp (fun p => g (h p)) n
  | .mk name ty fmt ival fval sval kids hook line file => by
    rw [restamp, restamp, restamp, restampList_comp g h kids]
theorem restampList_comp (g h : Stamp → Stamp) : ∀ l : List Node,
    restampList g (restampList h l) = restampList (fun p => g (h p)) l
  | [] => by rw [restampList, restampList, restampList]
  | k :: ks => by
    rw [restampList, restampList, restampList, restamp_comp g h k, restampList_comp g h ks]
end

theorem get?_restamp (g : Stamp → Stamp) : ∀ (p : Path) (t : Node),
    (restamp g t).get? p = (t.get? p).map (restamp g)
  | [], t => by rw [get?_nil, get?_nil]; rfl
  | i :: p, t => by
    rw [get?_cons, get?_cons]
    have : (restamp g t).kids = t.kids.map (restamp g) := by
      rw [restamp_eq, ← restampList_map]
    rw [this, List.getElem?_map]
    cases t.kids[i]? with
    | none => rfl
    | some k => exact get?_restamp g p k

section
variable (g : Stamp → Stamp)

theorem restamp_mk (name : Option Bytes) (ty fmt : Nat) (ival : Int) (fval : Nat)
    (sval : Option Bytes) (kids : List Node) (hook line : Nat) (file : Option Bytes) :
    restamp g ⟨name, ty, fmt, ival, fval, sval, kids, hook, line, file⟩ =
      ⟨name, ty, fmt, ival, fval, sval, kids.map (restamp g), hook, (g (line, file)).1,
        (g (line, file)).2⟩ := by
  rw [restamp, restampList_map]

theorem restamp_kids (n : Node) : (restamp g n).kids = n.kids.map (restamp g) := by
  rw [restamp_eq, restampList_map]

theorem restamp_isAggregate (n : Node) : (restamp g n).isAggregate = n.isAggregate :=
  congrArg isAggregateTy (restamp_ty g n)

theorem modify_restamp {f f' : Node → Node} (hf : ∀ m, restamp g (f m) = f' (restamp g m)) :
    ∀ (p : Path) (n : Node), restamp g (n.modify f p) = (restamp g n).modify f' p
  | [], n => by rw [Node.modify, Node.modify]; exact hf n
  | i :: p, n => by
    rw [Node.modify, Node.modify, restamp_kids, List.getElem?_map]
    cases h : n.kids[i]? with
    | none => rfl
    | some k =>
      simp only [Option.map_some]
      rw [← modify_restamp hf p k]
      cases n
      simp only [restamp_mk, List.map_set]

theorem getElem_restamp (n : Node) (idx : Nat) :
    getElem (restamp g n) idx = (getElem n idx).map (restamp g) := by
  rw [getElem, getElem, restamp_isAggregate, restamp_kids, List.getElem?_map]
  split <;> rfl

mutual
theorem destroyLog_restamp (d : Bool) : ∀ n : Node, destroyLog d (restamp g n) = destroyLog d n
  | .mk _ _ _ _ _ _ kids hook _ _ => by
    rw [restamp, destroyLog, destroyLog, destroyLogList_restamp d kids]
theorem destroyLogList_restamp (d : Bool) :
    ∀ ks : List Node, destroyLogList d (restampList g ks) = destroyLogList d ks
  | [] => by rw [restampList]
  | k :: ks => by
    rw [restampList, destroyLogList, destroyLogList, destroyLog_restamp d k,
      destroyLogList_restamp d ks]
end

theorem checkType_restamp (n : Node) (ty : Nat) :
    checkType (restamp g n) ty = checkType n ty := by
  rw [checkType, checkType, restamp_kids, restamp_ty]
  cases n.kids with
  | nil => rfl
  | cons k ks => rw [List.map_cons]; simp only [restamp_ty]

def restampFst {α : Type} (r : Node × α) : Node × α := (restamp g r.1, r.2)

theorem memberIdx_restamp (ks : List Node) (nm : Bytes) :
    Spec.memberIdx (ks.map (restamp g)) nm = Spec.memberIdx ks nm := by
  unfold Spec.memberIdx
  rw [List.findIdx?_map]
  congr 1
  funext k
  simp only [Function.comp, restamp_name]

theorem restamp_withKids (n : Node) (ks : List Node) :
    restamp g { n with kids := ks } = { restamp g n with kids := ks.map (restamp g) } := by
  cases n; simp only [restamp_mk]

end

section
variable {g : Stamp → Stamp} (hg : g (0, none) = (0, none))
include hg

theorem create_restamp (parent : Node) (name : Option Bytes) (ty : Nat) :
    (restamp g parent).create name ty = (parent.create name ty).map (restamp g) := by
  rw [Node.create, Node.create, restamp_isAggregate]
  split
  · rfl
  · cases parent
    simp only [Option.map_some, restamp_mk, List.map_append, List.map_cons, List.map_nil, hg]

theorem restamp_fresh (name : Option Bytes) (ty : Nat) :
    restamp g { name := name, ty := ty } = { name := name, ty := ty } := by
  simp only [restamp_mk, List.map_nil, hg]

theorem add_restamp (d ov : Bool) (parent : Node) (name : Option Bytes) (ty : Int) :
    (restamp g parent).add d ov name ty = (parent.add d ov name ty).map (restampFst g) := by
  -- through the specification: `Spec.add` looks at types and names only and appends a fresh node
  have snoc : ∀ (ks : List Node) (nm : Option Bytes),
      restamp g { parent with kids := ks ++ [{ name := nm, ty := ty.toNat }] } =
        { restamp g parent with kids := ks.map (restamp g) ++ [{ name := nm, ty := ty.toNat }] } :=
    fun ks nm => by rw [restamp_withKids, List.map_append, List.map_singleton, restamp_fresh hg]
  rw [add_refines, add_refines]
  unfold Spec.add
  simp only [restamp_ty, restamp_isAggregate, restamp_kids, memberIdx_restamp, List.length_map,
    ← map_eraseIdx, List.getElem?_map]
  -- both sides now branch on the same conditions; `split` on a goal of this size is slow to check
  by_cases h1 : (decide (ty < 0) || decide (ty > 8)) = true
  · rw [if_pos h1, if_pos h1]; rfl
  rw [if_neg h1, if_neg h1]
  by_cases h2 : (!parent.isAggregate) = true
  · rw [if_pos h2, if_pos h2]; rfl
  rw [if_neg h2, if_neg h2]
  by_cases hgr : (parent.ty == T_GROUP) = true
  · rw [if_pos hgr, if_pos hgr]
    cases name with
    | none => rfl
    | some nm =>
      simp only
      by_cases hv : (!validName nm) = true
      · rw [if_pos hv, if_pos hv]; rfl
      rw [if_neg hv, if_neg hv]
      cases Spec.memberIdx parent.kids nm with
      | none => simp only [Option.map_some, restampFst, snoc, restamp_ty]
      | some i =>
        simp only
        by_cases ho : (!ov) = true
        · rw [if_pos ho, if_pos ho]; rfl
        rw [if_neg ho, if_neg ho]
        cases parent.kids[i]? <;>
          simp only [Option.map_some, Option.map_none, restampFst, snoc, restamp_ty, destroyLog_restamp]
  rw [if_neg hgr, if_neg hgr]
  by_cases ha : (parent.ty == T_ARRAY) = true
  · rw [if_pos ha, if_pos ha]
    by_cases hs : (!isScalarTy ty) = true
    · rw [if_pos hs, if_pos hs]; rfl
    rw [if_neg hs, if_neg hs]
    cases parent.kids with
    | nil =>
      simp only [List.map_nil, Bool.false_eq_true, if_false, Option.map_some, restampFst, snoc,
        restamp_ty]
    | cons k ks =>
      simp only [List.map_cons, restamp_ty]
      by_cases hk : (k.ty != ty.toNat) = true
      · rw [if_pos hk, if_pos hk]; rfl
      · rw [if_neg hk, if_neg hk]
        simp only [Option.map_some, restampFst, snoc, restamp_ty, List.map_cons]
  · rw [if_neg ha, if_neg ha]
    simp only [Option.map_some, restampFst, snoc, restamp_ty]

end

/-! ### scalar setters -/

/-- a setter that never looks at the position -/
def Commutes (g : Stamp → Stamp) (f : Node → Option Node) : Prop :=
  ∀ e, f (restamp g e) = (f e).map (restamp g)

theorem commutes_of_scalarSetter (g : Stamp → Stamp) {f : Node → Option Node}
    (hf : ScalarSetter f) : Commutes g f := by
  intro n
  rw [restamp_eq, hf.frame]
  cases h : f n with
  | none => rfl
  | some n' =>
    have u := hf.update h
    simp only [Option.map_some, restamp_eq, u.name, u.kids, u.hook, u.line, u.file]

theorem Commutes.getD {g : Stamp → Stamp} {f : Node → Option Node} (hf : Commutes g f) (n : Node) :
    restamp g ((f n).getD n) = (f (restamp g n)).getD (restamp g n) := by
  rw [hf n]
  cases f n <;> rfl

theorem setFmtF_restamp (g : Stamp → Stamp) (fmt : Option Nat) (n : Node) :
    restamp g (C04R.setFmtF fmt n) = C04R.setFmtF fmt (restamp g n) := by
  cases fmt with
  | none => rfl
  | some f => exact (commutes_of_scalarSetter g (scalar_setFormat f)).getD n

theorem setElem_restamp {g : Stamp → Stamp} (hg : g (0, none) = (0, none))
    {setter : Node → Option Node} (hs : Commutes g setter) (ty : Nat) (n : Node) (idx : Int) :
    (restamp g n).setElem setter ty idx = (n.setElem setter ty idx).map (restampFst g) := by
  unfold Node.setElem
  simp only [restamp_ty, checkType_restamp, create_restamp hg, getElem_restamp]
  split
  · rfl
  split
  · split
    · rfl
    cases n.create none ty with
    | none => rfl
    | some n' =>
      simp only [Option.map_some, restamp_kids, List.length_map, List.getElem?_map]
      cases n'.kids[n'.kids.length - 1]? with
      | none => rfl
      | some e =>
        simp only [Option.map_some, hs e]
        cases setter e with
        | none => rfl
        | some e' => simp only [Option.map_some, restampFst, restamp_withKids, List.map_set]
  · cases getElem n idx.toNat with
    | none => rfl
    | some e =>
      simp only [Option.map_some, hs e]
      cases setter e with
      | none => rfl
      | some e' =>
        simp only [Option.map_some, restampFst, restamp_withKids, List.map_set, restamp_kids, restamp_ty]

/-! ### parse contexts -/

/-- re-stamp the tree with `g` and the line of the error record with `e`; the file names the
configuration records beside the tree are forgotten -/
def restampCfg (g : Stamp → Stamp) (e : Int → Int) (c : Config) : Config :=
  { c with root := restamp g c.root, errFile := none, errLine := e c.errLine, filenames := [] }

def restampCtx (g : Stamp → Stamp) (e : Int → Int) (c : ParseCtx) : ParseCtx :=
  { c with cfg := restampCfg g e c.cfg }

def mapAct (f : ParseCtx → ParseCtx) : ActOut → ActOut
  | .ok c => .ok (f c)
  | .abort c => .abort (f c)
  | .crash c => .crash (f c)

section
variable (g : Stamp → Stamp) (e : Int → Int)

@[simp] theorem restampCtx_parent (c : ParseCtx) : (restampCtx g e c).parent = c.parent := rfl
@[simp] theorem restampCtx_setting (c : ParseCtx) : (restampCtx g e c).setting = c.setting := rfl
@[simp] theorem restampCtx_str (c : ParseCtx) : (restampCtx g e c).str = c.str := rfl
@[simp] theorem restampCtx_log (c : ParseCtx) : (restampCtx g e c).log = c.log := rfl
@[simp] theorem restampCtx_root (c : ParseCtx) :
    (restampCtx g e c).cfg.root = restamp g c.cfg.root := rfl
@[simp] theorem restampCtx_destructor (c : ParseCtx) :
    (restampCtx g e c).cfg.destructor = c.cfg.destructor := rfl
@[simp] theorem restampCtx_opt (c : ParseCtx) (o : Nat) :
    (restampCtx g e c).cfg.opt o = c.cfg.opt o := rfl
@[simp] theorem restampCtx_errText (c : ParseCtx) :
    (restampCtx g e c).cfg.errText = c.cfg.errText := rfl

theorem restampCtx_mk (cfg : Config) (par set : Option Path) (str : Option Bytes) (log : List Nat) :
    restampCtx g e ⟨cfg, par, set, str, log⟩ = ⟨restampCfg g e cfg, par, set, str, log⟩ := rfl

theorem nodeAt_restamp (c : ParseCtx) (p : Option Path) :
    (restampCtx g e c).nodeAt p = (c.nodeAt p).map (restamp g) := by
  cases p with
  | none => rfl
  | some q => exact get?_restamp g q c.cfg.root

theorem inTy_restamp (c : ParseCtx) (ty : Nat) : (restampCtx g e c).inTy ty = c.inTy ty := by
  rw [ParseCtx.inTy, ParseCtx.inTy, nodeAt_restamp, restampCtx_parent]
  cases c.nodeAt c.parent with
  | none => rfl
  | some n => simp only [Option.map_some, restamp_ty]

theorem get?_isSome_restamp (n : Node) (p : Path) :
    ((restamp g n).get? p).isSome = (n.get? p).isSome := by
  rw [get?_restamp, Option.isSome_map]

variable {g}

theorem restampCtx_modify {f f' : Node → Node} (hf : ∀ m, restamp g (f m) = f' (restamp g m))
    (c : ParseCtx) (p : Path) : restampCtx g e (c.modify p f) = (restampCtx g e c).modify p f' := by
  simp only [restampCtx, ParseCtx.modify, restampCfg, modify_restamp g hf]

theorem restampCfg_modify {f f' : Node → Node} (hf : ∀ m, restamp g (f m) = f' (restamp g m))
    (c : ParseCtx) (p : Path) :
    restampCfg g e (c.modify p f).cfg = ((restampCtx g e c).modify p f').cfg :=
  congrArg ParseCtx.cfg (restampCtx_modify e hf c p)

end

/-! ### the semantic actions

`(line, file)` is the current position of the run, `(line', file')` that of the re-stamped run. -/

section
variable {g : Stamp → Stamp} {e : Int → Int} {line line' : Nat} {file file' : Option Bytes}

theorem restampCtx_capture (hp : g (line, file) = (line', file')) (c : ParseCtx) (p : Path) :
    restampCtx g e (c.capture p line file) = (restampCtx g e c).capture p line' file' := by
  unfold ParseCtx.capture
  apply restampCtx_modify
  intro m
  cases m
  simp only [restamp_mk, hp]

theorem restampCtx_yyerror (he : e line = line') (c : ParseCtx) (text : Bytes) :
    restampCtx g e (c.yyerror line text) = (restampCtx g e c).yyerror line' text := by
  unfold ParseCtx.yyerror
  rw [restampCtx_errText, ← he]
  split <;> rfl

theorem restamp_setTy (g : Stamp → Stamp) (ty : Nat) (m : Node) :
    restamp g { m with ty := ty } = { restamp g m with ty := ty } := by
  cases m; simp only [restamp_mk]

variable (hg : g (0, none) = (0, none)) (hp : g (line, file) = (line', file'))
include hg hp

theorem actAggStart_restamp (c : ParseCtx) (ty : Nat) :
    actAggStart (restampCtx g e c) ty line' file' =
      mapAct (restampCtx g e) (actAggStart c ty line file) := by
  unfold actAggStart
  simp only [inTy_restamp, restampCtx_parent, nodeAt_restamp, restampCtx_setting, restampCtx_root,
    get?_isSome_restamp, restampCtx_destructor, restampCtx_opt, restampCtx_log]
  split
  · cases c.parent with
    | none => rfl
    | some pp =>
      cases c.nodeAt (some pp) with
      | none => rfl
      | some pn =>
        simp only [Option.map_some, add_restamp hg]
        cases pn.add c.cfg.destructor (c.cfg.opt OPT_ALLOW_OVERRIDES) none ty with
        | none => rfl
        | some r =>
          simp only [Option.map_some, restampFst, mapAct, restampCtx_capture hp, restampCtx_mk,
            restampCfg_modify e (f := fun _ => r.1) (f' := fun _ => restamp g r.1) (fun _ => rfl)]
          rfl
  · cases c.setting with
    | none => rfl
    | some sp =>
      simp only
      split
      · simp only [mapAct, restampCtx_mk, restampCfg_modify e (f := fun n => { n with ty := ty })
          (f' := fun n => { n with ty := ty }) (restamp_setTy g ty)]
        rfl
      · rfl

variable (he : e line = line')
include he

theorem actValue_restamp (c : ParseCtx) {setter : Node → Option Node} (hs : ScalarSetter setter)
    (ty : Nat) (fmt : Option Nat) (err : Bytes) :
    actValue (restampCtx g e c) setter ty fmt line' file' err =
      mapAct (restampCtx g e) (actValue c setter ty fmt line file err) := by
  have hs := commutes_of_scalarSetter g hs
  rw [actValue_eq, actValue_eq]
  simp only [inTy_restamp, restampCtx_parent, nodeAt_restamp, restampCtx_setting, restampCtx_root,
    get?_isSome_restamp]
  split
  · cases c.parent with
    | none => rfl
    | some pp =>
      cases c.nodeAt (some pp) with
      | none => rfl
      | some pn =>
        simp only [Option.map_some, setElem_restamp hg hs]
        cases pn.setElem setter ty (-1) with
        | none => simp only [Option.map_none, mapAct, restampCtx_yyerror he]
        | some r =>
          simp only [Option.map_some, restampFst, mapAct, restampCtx_capture hp]
          rw [restampCtx_modify e (setFmtF_restamp g fmt),
            restampCtx_modify e (f' := fun _ => restamp g r.1) (fun _ => rfl)]
  · cases c.setting with
    | none => rfl
    | some sp =>
      simp only
      split
      · simp only [mapAct]
        rw [restampCtx_modify e (f' := fun n => C04R.setFmtF fmt ((setter n).getD n))]
        intro m
        rw [setFmtF_restamp, hs.getD]
      · rfl

/-- **Naturality of the semantic actions**: an action run on the re-stamped context at the
re-stamped position yields the re-stamped outcome.  `g` has to keep the null position, which
`config_setting_create` gives a new setting before its position is captured. -/
theorem runAction_restamp (act : ParseAct) (c : ParseCtx) (v : TokVal) :
    runAction act (restampCtx g e c) v line' file' =
      mapAct (restampCtx g e) (runAction act c v line file) := by
  cases hσ : valueSpec c v act with
  | some σ =>
    rw [runAction_value c v line file hσ, runAction_value (restampCtx g e c) v line' file' (hσ :)]
    exact actValue_restamp hg hp he (c.taken act) (valueSpec_scalar hσ).1 _ _ _
  | none =>
    cases hty : aggTy act with
    | some ty =>
      rw [runAction_agg _ _ _ _ hty, runAction_agg _ _ _ _ hty]
      exact actAggStart_restamp hg hp _ _
    | none =>
      cases act
      case none | unknown | stringFirst | stringNext => rfl
      case aggEnd =>
        rw [runAction_aggEnd, runAction_aggEnd]
        rfl
      case settingName =>
        simp only [runAction, restampCtx_opt, restampCtx_parent, nodeAt_restamp, restampCtx_destructor,
          restampCtx_log]
        have habort : ∀ (par : Option Path),
            ActOut.abort ((⟨(restampCtx g e c).cfg, par, none, c.str, c.log⟩ : ParseCtx).yyerror line'
              Generated.ERR_DUPLICATE_SETTING) =
            mapAct (restampCtx g e) (ActOut.abort ((⟨c.cfg, par, none, c.str, c.log⟩ : ParseCtx).yyerror
              line Generated.ERR_DUPLICATE_SETTING)) := fun par =>
          congrArg ActOut.abort (restampCtx_yyerror he ⟨c.cfg, par, none, c.str, c.log⟩ _).symm
        cases c.parent with
        | none => exact habort _
        | some pp =>
          cases c.nodeAt (some pp) with
          | none => exact habort _
          | some pn =>
            simp only [Option.map_some, add_restamp hg]
            cases pn.add c.cfg.destructor (c.cfg.opt OPT_ALLOW_OVERRIDES) (some v.sval) T_NONE with
            | none => exact habort _
            | some r =>
              simp only [Option.map_some, restampFst, mapAct, restampCtx_capture hp, restampCtx_mk,
                restampCfg_modify e (f := fun _ => r.1) (f' := fun _ => restamp g r.1) (fun _ => rfl)]
              rfl
      all_goals first | (cases hσ; done) | (cases hty; done)

end

/-! ### what `readCore` leaves, in terms of `parseOf` -/

open C09P in
theorem restampCfg_finish (g : Stamp → Stamp) (e : Int → Int) (p : C05P.POut) :
    restampCfg g e (finish p) =
      if p.2.2 != .accept then { restampCfg g e p.2.1.cfg with errType := ERR_PARSE }
      else restampCfg g e p.2.1.cfg := by
  unfold finish
  simp only
  split <;> rfl

/-! ### two parser runs

Two runs of the parser loop whose scanner states are related by `R` and whose contexts agree after
re-stamping end in contexts that agree after re-stamping, with the same result, provided `g` keeps
the null position (`hg`), `e` is `g` on lines (`hge`), related scanner states are at positions `g`
identifies (`hpos`) and their `yylex` calls return the same up to the file an include error names,
in related states (`hlex`).
`P` restricts the claim to some results of the first run: all of them, or those with enough
fuel; accordingly `hlex` is owed only for a first call that does not run out of fuel, unless
`P .outOfFuel`. -/

section
open C05P
variable (g : Stamp → Stamp) (e : Int → Int)

def CtxSim (c₁ c₂ : ParseCtx) : Prop := restampCtx g e c₁ = restampCtx g e c₂

theorem CtxSim.includeError {g : Stamp → Stamp} {e : Int → Int} {c₁ c₂ : ParseCtx}
    (h : CtxSim g e c₁ c₂) (text : Bytes) (f₁ f₂ : Option Bytes) (line : Int) :
    CtxSim g e
      { c₁ with cfg := { c₁.cfg with errText := some text, errFile := f₁, errLine := line } }
      { c₂ with cfg := { c₂.cfg with errText := some text, errFile := f₂, errLine := line } } := by
  unfold CtxSim at *
  exact congrArg (fun c : ParseCtx =>
    { c with cfg := { c.cfg with errText := some text, errLine := e line } }) h

/-- forget the file reported by an include error: what the parser does with a scanner outcome
does not depend on it, up to `CtxSim` -/
def eraseOut : LexOut → LexOut
  | .includeError t text _ line => .includeError t text none line
  | o => o

variable (P : ParseResult → Prop)

def POutSim (r₁ r₂ : POut) : Prop := P r₁.2.2 → CtxSim g e r₁.2.1 r₂.2.1 ∧ r₁.2.2 = r₂.2.2

theorem POutSim.ite {g : Stamp → Stamp} {e : Int → Int} {P : ParseResult → Prop} {c : Prop}
    [Decidable c] {a₁ a₂ b₁ b₂ : POut} (ha : POutSim g e P a₁ a₂) (hb : POutSim g e P b₁ b₂) :
    POutSim g e P (if c then a₁ else b₁) (if c then a₂ else b₂) := by
  split
  · exact ha
  · exact hb

-- `e` acts on `Config.errLine : Int`, `g` on a stamp's line in `Nat`; `hge` makes `e` the line
-- component of `g` on the lines a run can report
variable {g e P} {R : ScanState → ScanState → Prop} {E : ParserEnv}
  (hg : g (0, none) = (0, none)) (hge : ∀ l f, e (l : Nat) = (g (l, f)).1)
  (hpos : ∀ {s₁ s₂}, R s₁ s₂ →
    g (s₁.buf.lineno, s₁.currentFilename) = g (s₂.buf.lineno, s₂.currentFilename))
  (hlex : ∀ {s₁ s₂}, R s₁ s₂ →
    ((yylex E.T E.sacts E.w E.ic E.lexFuel s₁).2 = .outOfFuel → P .outOfFuel) →
    R (yylex E.T E.sacts E.w E.ic E.lexFuel s₁).1 (yylex E.T E.sacts E.w E.ic E.lexFuel s₂).1 ∧
    eraseOut (yylex E.T E.sacts E.w E.ic E.lexFuel s₁).2 =
      eraseOut (yylex E.T E.sacts E.w E.ic E.lexFuel s₂).2)

include hge in
theorem ctxSim_yyerror {c₁ c₂ : ParseCtx} (h : CtxSim g e c₁ c₂) {l₁ l₂ : Nat}
    {f₁ f₂ : Option Bytes} (hp : g (l₁, f₁) = g (l₂, f₂)) (text : Bytes) :
    CtxSim g e (c₁.yyerror l₁ text) (c₂.yyerror l₂ text) := by
  unfold CtxSim at *
  rw [restampCtx_yyerror (hge l₁ f₁), restampCtx_yyerror (hge l₂ f₂), h, hp]

include hg hge in
theorem runAction_sim (act : ParseAct) {c₁ c₂ : ParseCtx} (h : CtxSim g e c₁ c₂) (v : TokVal)
    {l₁ l₂ : Nat} {f₁ f₂ : Option Bytes} (hp : g (l₁, f₁) = g (l₂, f₂)) :
    mapAct (restampCtx g e) (runAction act c₁ v l₁ f₁) =
      mapAct (restampCtx g e) (runAction act c₂ v l₂ f₂) := by
  rw [← runAction_restamp hg (rfl : g (l₁, f₁) = ((g (l₁, f₁)).1, (g (l₁, f₁)).2)) (hge l₁ f₁),
    ← runAction_restamp hg (rfl : g (l₂, f₂) = ((g (l₂, f₂)).1, (g (l₂, f₂)).2)) (hge l₂ f₂),
    h, hp]

variable (P R) in
def RecSim (g : Stamp → Stamp) (e : Int → Int) (rec : PRec) : Prop :=
  ∀ stack la s₁ s₂ c₁ c₂, R s₁ s₂ → CtxSim g e c₁ c₂ →
    POutSim g e P (rec stack la s₁ c₁) (rec stack la s₂ c₂)

include hge hpos

theorem syntaxErrorK_sim {s₁ s₂ : ScanState} {c₁ c₂ : ParseCtx} (hs : R s₁ s₂)
    (hc : CtxSim g e c₁ c₂) : POutSim g e P (syntaxErrorK s₁ c₁) (syntaxErrorK s₂ c₂) :=
  fun _ => ⟨ctxSim_yyerror hge hc (hpos hs) _, rfl⟩

include hg

theorem reduceK_sim {rec : PRec} (hrec : RecSim P R g e rec) (stack : List (Nat × TokVal))
    (rule : Nat) (la : Lookahead) {s₁ s₂ : ScanState} {c₁ c₂ : ParseCtx} (hs : R s₁ s₂)
    (hc : CtxSim g e c₁ c₂) :
    POutSim g e P (reduceK E rec stack rule la s₁ c₁) (reduceK E rec stack rule la s₂ c₂) := by
  unfold reduceK
  simp only
  have ha := runAction_sim hg hge (E.acts.getD rule .unknown) hc (stack.headD (0, {})).2 (hpos hs)
  generalize runAction (E.acts.getD rule .unknown) c₁ (stack.headD (0, {})).2 s₁.buf.lineno
    s₁.currentFilename = a₁ at ha ⊢
  generalize runAction (E.acts.getD rule .unknown) c₂ (stack.headD (0, {})).2 s₂.buf.lineno
    s₂.currentFilename = a₂ at ha ⊢
  cases a₁ <;> cases a₂ <;> simp only [mapAct, ActOut.ok.injEq, ActOut.abort.injEq,
    ActOut.crash.injEq, reduceCtorEq] at ha
  · exact hrec _ _ _ _ _ _ hs ha
  · exact fun _ => ⟨ha, rfl⟩
  · exact fun _ => ⟨ha, rfl⟩

theorem dfltK_sim {rec : PRec} (hrec : RecSim P R g e rec) (stack : List (Nat × TokVal))
    (state : Nat) (la : Lookahead) {s₁ s₂ : ScanState} {c₁ c₂ : ParseCtx} (hs : R s₁ s₂)
    (hc : CtxSim g e c₁ c₂) :
    POutSim g e P (dfltK E rec stack state la s₁ c₁) (dfltK E rec stack state la s₂ c₂) :=
  POutSim.ite (syntaxErrorK_sim hge hpos hs hc) (reduceK_sim hg hge hpos hrec _ _ _ hs hc)

include hlex

omit hg hge hpos in
theorem fetchK_sim (la : Lookahead) {s₁ s₂ : ScanState} {c₁ c₂ : ParseCtx} (hs : R s₁ s₂)
    (hc : CtxSim g e c₁ c₂) (hP : ∀ r, (fetchK E la s₁ c₁).2.2.1 = some r → P r) :
    R (fetchK E la s₁ c₁).1 (fetchK E la s₂ c₂).1 ∧
    (fetchK E la s₁ c₁).2.1 = (fetchK E la s₂ c₂).2.1 ∧
    (fetchK E la s₁ c₁).2.2.1 = (fetchK E la s₂ c₂).2.2.1 ∧
    CtxSim g e (fetchK E la s₁ c₁).2.2.2 (fetchK E la s₂ c₂).2.2.2 := by
  unfold fetchK at hP ⊢
  cases la with
  | some l => exact ⟨hs, rfl, rfl, hc⟩
  | none =>
    simp only at hP ⊢
    have hl := hlex hs
    generalize yylex E.T E.sacts E.w E.ic E.lexFuel s₁ = r₁ at hl hP ⊢
    generalize yylex E.T E.sacts E.w E.ic E.lexFuel s₂ = r₂ at hl ⊢
    obtain ⟨s₁', o₁⟩ := r₁
    obtain ⟨s₂', o₂⟩ := r₂
    obtain ⟨hs', ho⟩ := hl (fun h => by subst h; exact hP _ rfl)
    simp only at hs' ho
    cases o₁ <;> cases o₂ <;> simp only [eraseOut, LexOut.tok.injEq, LexOut.includeError.injEq,
      LexOut.echo.injEq, reduceCtorEq] at ho
    · obtain ⟨rfl, rfl⟩ := ho; exact ⟨hs', rfl, rfl, hc⟩
    · exact ⟨hs', rfl, rfl, hc⟩
    · obtain ⟨rfl, rfl, -, rfl⟩ := ho
      exact ⟨hs', rfl, rfl, hc.includeError _ _ _ _⟩
    · subst ho; exact ⟨hs', rfl, rfl, hc⟩
    · exact ⟨hs', rfl, rfl, hc⟩

theorem bodyK_sim {rec : PRec} (hrec : RecSim P R g e rec) (stack : List (Nat × TokVal))
    (la : Lookahead) {s₁ s₂ : ScanState} {c₁ c₂ : ParseCtx} (hs : R s₁ s₂)
    (hc : CtxSim g e c₁ c₂) :
    POutSim g e P (bodyK E rec stack la s₁ c₁) (bodyK E rec stack la s₂ c₂) := by
  cases stack with
  | nil => exact fun _ => ⟨hc, rfl⟩
  | cons top stack =>
    unfold bodyK
    simp only
    refine POutSim.ite (fun _ => ⟨ctxSim_yyerror hge hc (hpos hs) _, rfl⟩) ?_
    refine POutSim.ite (fun _ => ⟨hc, rfl⟩) ?_
    refine POutSim.ite (dfltK_sim hg hge hpos hrec _ _ _ hs hc) ?_
    have hf := fetchK_sim hlex la hs hc
    generalize fetchK E la s₁ c₁ = r₁ at hf ⊢
    generalize fetchK E la s₂ c₂ = r₂ at hf ⊢
    obtain ⟨s₁', l₁, p₁, c₁'⟩ := r₁
    obtain ⟨s₂', l₂, p₂, c₂'⟩ := r₂
    cases p₁ with
    | some r =>
      intro hP
      obtain ⟨-, -, rfl, hc'⟩ := hf (fun _ h => Option.some.inj h ▸ hP)
      exact ⟨hc', rfl⟩
    | none =>
      obtain ⟨hs', rfl, rfl, hc'⟩ := hf (fun _ h => nomatch h)
      cases l₁ with
      | none => exact fun _ => ⟨hc', rfl⟩
      | some tv =>
        exact POutSim.ite (dfltK_sim hg hge hpos hrec _ _ _ hs' hc')
          (POutSim.ite
            (POutSim.ite (syntaxErrorK_sim hge hpos hs' hc')
              (reduceK_sim hg hge hpos hrec _ _ _ hs' hc'))
            (hrec _ _ _ _ _ _ hs' hc'))

/-- under all four of `hg`, `hge`, `hpos`, `hlex` -/
theorem yyparseLoop_sim : ∀ fuel, RecSim P R g e (yyparseLoop E fuel) := by
  intro fuel
  induction fuel with
  | zero => intro stack la s₁ s₂ c₁ c₂ _ hc _; exact ⟨hc, rfl⟩
  | succ fuel ih =>
    intro stack la s₁ s₂ c₁ c₂ hs hc
    rw [yyparseLoop_succ, yyparseLoop_succ]
    exact bodyK_sim hg hge hpos hlex ih _ _ hs hc

/-! ### `readCore` -/

open C09P

include hg hge hpos hlex in
/-- `readCore` of two inputs under two file names that `g` identifies on every line (`hf`), under
`hg`, `hge`, `hpos`, `hlex` for the environment `E` of the read.  `hE` names `f₁` only: `theEnv`
takes the include function and directory from the configuration, and `start c f₁`, `start c f₂`
differ in the root's file. -/
theorem readCore_sim (w : World) (c : Config) (fuel : Nat) (f₁ f₂ : Option Bytes)
    (inp₁ inp₂ : Bytes) (hE : E = theEnv w (start c f₁) fuel)
    (hs : R (scan0 f₁ inp₁) (scan0 f₂ inp₂)) (hf : ∀ l, g (l, f₁) = g (l, f₂))
    (hP : P (readCore w c f₁ inp₁ fuel).result) :
    (readCore w c f₁ inp₁ fuel).ok = (readCore w c f₂ inp₂ fuel).ok ∧
    (readCore w c f₁ inp₁ fuel).result = (readCore w c f₂ inp₂ fuel).result ∧
    restampCfg g e (readCore w c f₁ inp₁ fuel).cfg =
      restampCfg g e (readCore w c f₂ inp₂ fuel).cfg ∧
    (readCore w c f₁ inp₁ fuel).dtorLog = (readCore w c f₂ inp₂ fuel).dtorLog := by
  have hc : CtxSim g e { cfg := start c f₁ } { cfg := start c f₂ } := by
    simp only [CtxSim, restampCtx, restampCfg, start, restamp_mk, hf]
  have h : POutSim g e P (parseOf w (start c f₁) f₁ inp₁ fuel)
      (parseOf w (start c f₂) f₂ inp₂ fuel) := by
    subst hE
    exact yyparseLoop_sim hg hge hpos hlex fuel _ _ _ _ _ _ hs hc
  rw [readCore_result] at hP
  obtain ⟨hctx, hres⟩ := h hP
  have hcfg : restampCfg g e (parseOf w (start c f₁) f₁ inp₁ fuel).2.1.cfg =
      restampCfg g e (parseOf w (start c f₂) f₂ inp₂ fuel).2.1.cfg := congrArg ParseCtx.cfg hctx
  have hlog := congrArg ParseCtx.log hctx
  rw [restampCtx_log, restampCtx_log] at hlog
  refine ⟨?_, ?_, ?_, ?_⟩
  · rw [readCore_ok, readCore_ok, hres]
  · rw [readCore_result, readCore_result, hres]
  · rw [readCore_cfg, readCore_cfg, restampCfg_finish, restampCfg_finish, hcfg, hres]
  · rw [readCore_dtorLog, readCore_dtorLog, hlog]

end

end Libconfig.C10Prov
