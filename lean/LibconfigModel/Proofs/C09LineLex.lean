import LibconfigModel.Proofs.C09LineMain
import LibconfigModel.Proofs.C09
/-
  C09L, from the core statement to the statement about a scanner run: the positional lexing
  relation `LexesToPos` (the tokens of a run, each with the scan state right after it was
  returned), the scan state `stateAfter … i` right after the token with index `i`, how such a run
  gives the position function `pos` of Proofs/C09LineStep.lean, the arithmetic that turns
  "the items not yet read" into token indices (`offence`, `reportIndex` of DenotePos.lean), and
  that no call of `yylex` touches the top-level file name (`stateAfter_topFile`).
-/
namespace Libconfig.C09L
open Libconfig C02P C05P C02C C01PP C04 C04R Denote C02D

/-! ### vocabulary -/

/-- `C02Denote.LexesToPlain` with positions: calling `yylex` repeatedly from `s` returns the
tokens of `ptoks` — each recorded with the scan state right after it was returned: the line
counter of the current buffer, the include stack, hence the current file — and then end of input,
ending in `s'`; no include error occurs.  (Files that are included successfully are read INSIDE a
call of `yylex`: the token returned may come from another file than the one before.) -/
inductive LexesToPos (E : ParserEnv) :
    ScanState → List ((Nat × TokVal) × ScanState) → ScanState → Prop where
  | eof (s s' : ScanState) : yylex E.T E.sacts E.w E.ic E.lexFuel s = (s', .eof) →
      LexesToPos E s [] s'
  | tok (s s₁ s' : ScanState) (t : Nat) (v : TokVal) (rest : List ((Nat × TokVal) × ScanState)) :
      yylex E.T E.sacts E.w E.ic E.lexFuel s = (s₁, .tok t v) → LexesToPos E s₁ rest s' →
      LexesToPos E s (((t, v), s₁) :: rest) s'

def tokensOf (ptoks : List ((Nat × TokVal) × ScanState)) : List (Nat × TokVal) :=
  ptoks.map (·.1)

/-- the scan state right after the token with index `i` was returned; for the end-of-input
pseudo token (`i = ptoks.length`, or beyond): the state `sEnd` in which the scanner has reported
the end of the input -/
def stateAfter (ptoks : List ((Nat × TokVal) × ScanState)) (sEnd : ScanState) (i : Nat) :
    ScanState :=
  match ptoks[i]? with
  | some p => p.2
  | none => sEnd

theorem tokensOf_length (ptoks : List ((Nat × TokVal) × ScanState)) :
    (tokensOf ptoks).length = ptoks.length := List.length_map _

/-! ### from a run to the position function -/

/-- the scan state in which `n` tokens (the end marker included) are still to come -/
def posOf (s₀ : ScanState) (ptoks : List ((Nat × TokVal) × ScanState)) (sEnd : ScanState)
    (n : Nat) : ScanState :=
  if n = ptoks.length + 1 then s₀ else stateAfter ptoks sEnd (ptoks.length - n)

theorem lexQ_of_pos {E : ParserEnv} {s s' : ScanState} {ptoks : List ((Nat × TokVal) × ScanState)}
    (h : LexesToPos E s ptoks s') : ∀ pos : Nat → ScanState, pos (ptoks.length + 1) = s →
    (∀ j, j ≤ ptoks.length → pos (ptoks.length - j) = stateAfter ptoks s' j) →
    LexQ E pos (tokensOf ptoks ++ [tEOF]) := by
  induction h with
  | eof s s' hy =>
    intro pos h1 h2
    have h0 : pos 0 = s' := h2 0 (Nat.le_refl _)
    refine LexQ.eof ?_
    rw [h0]
    simp only [List.length_nil, Nat.zero_add] at h1
    rw [h1]
    exact hy
  | tok s s₁ s' t v rest hy _ ih =>
    intro pos h1 h2
    have hs1 : pos (rest.length + 1) = s₁ := h2 0 (Nat.zero_le _)
    have hlen : (tokensOf rest ++ [tEOF]).length = rest.length + 1 := by
      rw [List.length_append, tokensOf_length]; rfl
    refine LexQ.tok t v (tokensOf rest ++ [tEOF]) ?_ (ih pos hs1 ?_)
    · rw [hlen, hs1]
      simp only [List.length_cons] at h1
      rw [h1]
      exact hy
    · intro j hj
      have := h2 (j + 1) (by simp only [List.length_cons]; omega)
      simp only [List.length_cons, Nat.add_sub_add_right] at this
      rw [this]
      unfold stateAfter
      simp only [List.getElem?_cons_succ]

theorem lexQ_posOf {E : ParserEnv} {s₀ s' : ScanState} {ptoks : List ((Nat × TokVal) × ScanState)}
    (h : LexesToPos E s₀ ptoks s') : LexQ E (posOf s₀ ptoks s') (tokensOf ptoks ++ [tEOF]) := by
  refine lexQ_of_pos h _ ?_ ?_
  · unfold posOf
    rw [if_pos rfl]
  · intro j hj
    unfold posOf
    rw [if_neg (by omega)]
    congr 1
    omega

theorem posOf_start (s₀ s₁ : ScanState) (ptoks : List ((Nat × TokVal) × ScanState)) :
    posOf s₀ ptoks s₁ ((tokensOf ptoks).length + 1) = s₀ := by
  unfold posOf
  rw [tokensOf_length, if_pos rfl]

theorem posOf_le {s₀ s' : ScanState} {ptoks : List ((Nat × TokVal) × ScanState)} {n : Nat}
    (h : n ≤ ptoks.length) : posOf s₀ ptoks s' n = stateAfter ptoks s' (ptoks.length - n) := by
  unfold posOf
  rw [if_neg (by omega)]

/-! ### items and indices -/

theorem itemOf_string (t : Nat) (v : TokVal) :
    (∃ s, itemOf (t, v) = .string s) ↔ t = Generated.tokens.string := by
  refine ⟨?_, fun h => ⟨v.sval, by subst h; rfl⟩⟩
  rw [itemOf_eq]
  -- branch by branch: only the seventh yields a string literal
  let p : Denote.Item → Prop := fun it => (∃ s, it = .string s) → t = Generated.tokens.string
  iterate 6 refine ite_ind (p := p) (fun _ ⟨_, h⟩ => nomatch h) fun _ => ?_
  refine ite_ind (p := p) (fun h _ => h) fun _ => ?_
  iterate 10 refine ite_ind (p := p) (fun _ ⟨_, h⟩ => nomatch h) fun _ => ?_
  exact fun ⟨_, h⟩ => nomatch h

/-- the token at an index is a string literal iff the item behind it is one -/
theorem isStringAt_iff (toks : List (Nat × TokVal)) (i : Nat) :
    isStringAt toks i = true ↔ ∃ s, (toks.map itemOf)[i]? = some (.string s) := by
  unfold isStringAt
  rw [List.getElem?_map]
  cases h : toks[i]? with
  | none => simp
  | some tv =>
    obtain ⟨t, v⟩ := tv
    simp only [beq_iff_eq, Option.map_some, Option.some.injEq]
    exact (itemOf_string t v).symm

theorem getElem?_suffix {α : Type} {w l : List α} (h : w <:+ l) :
    l[l.length - w.length]? = w.head? := by
  obtain ⟨pre, rfl⟩ := h
  rw [List.length_append, Nat.add_sub_cancel, List.getElem?_append_right (Nat.le_refl _),
    Nat.sub_self]
  cases w <;> rfl

theorem isStringAt_suffix {toks : List (Nat × TokVal)} {w : List Denote.Item}
    (hw : w <:+ toks.map itemOf) :
    isStringAt toks (toks.length - w.length) = true ↔ ∃ s r, w = .string s :: r := by
  have hget := getElem?_suffix hw
  rw [List.length_map] at hget
  rw [isStringAt_iff, hget]
  cases w with
  | nil =>
    constructor
    · intro ⟨s, hs⟩; cases hs
    · intro ⟨s, r, h⟩; cases h
  | cons it tl =>
    constructor
    · intro ⟨s, hs⟩
      injection hs with hs
      exact ⟨s, tl, by rw [hs]⟩
    · intro ⟨s, r, h⟩
      injection h with h1 _
      exact ⟨s, by rw [h1]; rfl⟩

/-- **`reportIndex` is `reportAt` in terms of indices**: if the items not yet read at the
offence are `w`, the index of the token whose position is reported is the number of tokens in
front of `reportAt k w` -/
theorem reportIndex_eq {toks : List (Nat × TokVal)} {k : ErrKind} {w : List Denote.Item}
    (hw : w <:+ toks.map itemOf) :
    reportIndex toks (k, toks.length - w.length) = toks.length - (reportAt k w).length := by
  have hlen : w.length ≤ toks.length := by
    have := hw.length_le
    rw [List.length_map] at this
    exact this
  unfold reportIndex reportedLate
  simp only
  cases k
  case arrayElemType =>
    simp only [Bool.true_and]
    by_cases hstr : ∃ s r, w = .string s :: r
    · rw [(isStringAt_suffix hw).mpr hstr]
      obtain ⟨s, r, rfl⟩ := hstr
      simp only [if_true]
      show _ = toks.length - r.length
      simp only [List.length_cons] at hlen ⊢
      omega
    · have hf : isStringAt toks (toks.length - w.length) = false := by
        cases hi : isStringAt toks (toks.length - w.length) with
        | false => rfl
        | true => exact absurd ((isStringAt_suffix hw).mp hi) hstr
      rw [hf]
      have : reportAt .arrayElemType w = w := by
        cases w with
        | nil => rfl
        | cons it tl =>
          cases it
          case string s => exact absurd ⟨s, tl, rfl⟩ hstr
          all_goals rfl
      rw [this]
      rfl
  all_goals
    simp only [Bool.false_and]
    first | (rw [reportAt_syntax]; rfl) | (rw [reportAt_dup]; rfl)

theorem reportAt_length_le (k : ErrKind) (w : List Denote.Item) :
    (reportAt k w).length ≤ w.length := by
  cases k
  case arrayElemType =>
    cases w with
    | nil => exact Nat.le_refl _
    | cons it tl =>
      cases it
      case string s => exact Nat.le_succ _
      all_goals exact Nat.le_refl _
  all_goals
    first | (rw [reportAt_syntax]; exact Nat.le_refl _) | (rw [reportAt_dup]; exact Nat.le_refl _)

/-! ### the core statement, in terms of a run and of indices -/

/-- `offence_core` for a run with positions: the scan state in which `yyparse` returns, and the
line it records, are those right after the token with index `reportIndex …` -/
theorem position_core {E : ParserEnv} {o : Options} (hE : Compiled E)
    (ptoks : List ((Nat × TokVal) × ScanState)) (hraw : RawOK (tokensOf ptoks))
    (hnest : nesting (tokensOf ptoks) ≤ 1665) {fuel : Nat} {s₀ s₁ s' : ScanState}
    {ctx₀ ctx' : ParseCtx} {r : ParseResult} (hlex : LexesToPos E s₀ ptoks s₁)
    (hroot : stripPos ctx₀.cfg.root = { ty := T_GROUP }) (hpar : ctx₀.parent = some [])
    (hstr : ctx₀.str = none) (hinv : Inv true o ctx₀)
    (h : yyparse E fuel s₀ ctx₀ = (s', ctx', r)) (hr : r ≠ .outOfFuel)
    {k : ErrKind} {i : Nat} (hd : offence o (tokensOf ptoks) = some (k, i)) :
    r = .abort ∧ ctx'.cfg.errText = some k.text ∧
      ctx'.cfg.errLine =
        (stateAfter ptoks s₁ (reportIndex (tokensOf ptoks) (k, i))).buf.lineno ∧
      s' = stateAfter ptoks s₁ (reportIndex (tokensOf ptoks) (k, i)) := by
  unfold offence at hd
  cases hoa : offenceAt o (tokensOf ptoks) with
  | none => rw [hoa] at hd; cases hd
  | some p =>
    obtain ⟨k', w⟩ := p
    rw [hoa] at hd
    simp only [Option.map_some, Option.some.injEq, Prod.mk.injEq] at hd
    obtain ⟨rfl, rfl⟩ := hd
    have hw := offenceAt_suffix hoa
    have hwl : w.length ≤ ptoks.length := by
      have := hw.length_le
      rw [List.length_map, tokensOf_length] at this
      exact this
    have hrl : (reportAt k' w).length ≤ ptoks.length :=
      Nat.le_trans (reportAt_length_le k' w) hwl
    rw [← posOf_start s₀ s₁ ptoks] at h
    have hc := offence_core (pos := posOf s₀ ptoks s₁) hE (tokensOf ptoks) hraw (nest_of hnest)
      (lexQ_posOf hlex) hroot hpar hstr hinv h hr hoa
    rw [posOf_le hrl] at hc
    rw [reportIndex_eq hw, tokensOf_length]
    exact hc

/-! ### the top-level file name is never touched -/

theorem yylex_topFile (T : FlexTables) (acts : List ScanAct) (w : World) (ic : IncludeCfg)
    (K : Option Bytes) (fuel : Nat) (s : ScanState) (h : s.topFile = K) :
    (yylex T acts w ic fuel s).1.topFile = K := by
  refine yylex_walk (T := T) (acts := acts) (w := w) (ic := ic) (·.topFile = K)
    (fun {s r} he hs => ?_) fuel s h
  cases he with
  | eof | skip => exact hs
  | act _ ha => rw [actOut_frame ha]; exact hs
  | inclErr _ _ hm => subst hm; exact hs
  | next _ _ hf | stuck _ _ hf | pop _ _ hf => rw [nextIncludeFile_frame hf]; exact hs
  | push _ _ hm _ _ _ hf => subst hm; rw [nextIncludeFile_frame hf]; exact hs
  | pushFail _ _ hm _ _ _ hf h3 => subst hm h3; rw [nextIncludeFile_frame hf]; exact hs

/-- every scan state of a run has the top-level file name of the first -/
theorem stateAfter_topFile {E : ParserEnv} {s s' : ScanState}
    {ptoks : List ((Nat × TokVal) × ScanState)} (h : LexesToPos E s ptoks s') (i : Nat) :
    (stateAfter ptoks s' i).topFile = s.topFile := by
  induction h generalizing i with
  | eof s s' hy =>
    have := yylex_topFile E.T E.sacts E.w E.ic s.topFile E.lexFuel s rfl
    rw [hy] at this
    exact this
  | tok s s₁ s' t v rest hy _ ih =>
    have h1 := yylex_topFile E.T E.sacts E.w E.ic s.topFile E.lexFuel s rfl
    rw [hy] at h1
    cases i with
    | zero => exact h1
    | succ j =>
      have := ih j
      unfold stateAfter at this ⊢
      simp only [List.getElem?_cons_succ]
      rw [this]
      exact h1

/-- outside included files the current file is the top-level file -/
theorem currentFilename_top {s : ScanState} (h : s.stack = []) : s.currentFilename = s.topFile := by
  unfold ScanState.currentFilename
  rw [h]

end Libconfig.C09L
