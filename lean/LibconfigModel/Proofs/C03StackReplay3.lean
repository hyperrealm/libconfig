import LibconfigModel.Proofs.C03StackSim
import LibconfigModel.Proofs.C03StackReplay
/-
  C03S: the parser of `Parser.lean` on real bytes, driving the memory model at the
  constants of grammar.c through the first extension of the stacks (kernel-evaluated).

  The text is `a=` followed by 100 opening parentheses.  Every `(` costs two stack entries (the
  token and the mid-rule nonterminal `$@3`) on top of the four of `NAME $@1 =` and the bottom:
  after 198 iterations of the loop the stack has 199 entries, after 199 iterations 200 — the
  `$@3` of the 98th parenthesis — and that push fills `yyssa[199]`: the stacks move to a heap
  block of 400 slots.
-/
namespace Libconfig.C03SP

open Libconfig Libconfig.BisonStack Libconfig.C03P

/-- `a=((((…`, `n` parentheses -/
def deepText (n : Nat) : Bytes := [97, 61] ++ List.replicate n 40

def deepEnv : ParserEnv := theEnv {} Config.init 1000

def deepStart (n : Nat) : PState :=
  initial { buf := { rest := deepText n } } { cfg := Config.init }

/-- what the replays show of a run: the number of entries of the parser's list, the states of
its four newest entries, whether the idealised machine fed with the pushes arrives at that list,
and the integers of the memory model fed with the same pushes -/
def deepView (r : List (Push TokVal) × PState) : Nat × List Nat × Bool × Ctl :=
  (r.2.stack.length, (r.2.stack.map (·.1)).take 4,
   decide (ideal 10000 r.1 [(0, {})] = .stack r.2.stack),
   Ctl.run parserParams (r.1.map Push.toEvent) (Ctl.init parserParams true))

theorem pushesRun_succ (E : ParserEnv) : ∀ (k : Nat) (X : PState),
    pushesRun E (k + 1) X =
      (pushesRun E k X).bind fun r => (pushesRun E 1 r.2).map fun r' => (r.1 ++ r'.1, r'.2) := by
  intro k
  induction k with
  | zero =>
    intro X
    show _ = (pushesRun E 1 X).map fun r' => ([] ++ r'.1, r'.2)
    cases pushesRun E 1 X <;> rfl
  | succ k ih =>
    intro X
    rw [pushesRun, pushesRun]
    cases yystep E X with
    | inl _ => rfl
    | inr Y =>
      simp only [ih Y]
      cases pushesRun E k Y with
      | none => rfl
      | some r => cases h : pushesRun E 1 r.2 <;> simp [h]

/-- 198 iterations and then the 199th, in one statement: so the kernel runs the first 198 once -/
theorem deep_replay :
    ((pushesRun deepEnv 198 (deepStart 100)).bind fun r =>
      (pushesRun deepEnv 1 r.2).map fun r' => (deepView r, deepView (r.1 ++ r'.1, r'.2))) =
    some ((199, [17, 26, 17, 26], true,
        { loc := .auto, stacksize := 200, capS := 200, capV := 200, ssp := 198, vsp := 198,
          status := .running, nextId := 0, sizes := [] }),
      (200, [26, 17, 26, 17], true,
        { loc := .heap 0, stacksize := 400, capS := 400, capV := 400, ssp := 199, vsp := 199,
          status := .running, nextId := 1, sizes := [400] })) := by decide +kernel

/-- 198 iterations: 199 entries, still in the automatic arrays -/
theorem deep_replay_198 : (pushesRun deepEnv 198 (deepStart 100)).map deepView =
    some (199, [17, 26, 17, 26], true,
      { loc := .auto, stacksize := 200, capS := 200, capV := 200, ssp := 198, vsp := 198,
        status := .running, nextId := 0, sizes := [] }) := by
  obtain ⟨r, hr, h⟩ := Option.bind_eq_some_iff.mp deep_replay
  obtain ⟨r', -, h⟩ := Option.map_eq_some_iff.mp h
  rw [hr]
  exact congrArg some (congrArg Prod.fst h)

/-- the 199th iteration (the reduction of the empty rule `$@3` behind the 98th parenthesis)
pushes the 200th entry: 200 → 400 -/
theorem deep_replay_199 : (pushesRun deepEnv 199 (deepStart 100)).map deepView =
    some (200, [26, 17, 26, 17], true,
      { loc := .heap 0, stacksize := 400, capS := 400, capV := 400, ssp := 199, vsp := 199,
        status := .running, nextId := 1, sizes := [400] }) := by
  obtain ⟨r, hr, h⟩ := Option.bind_eq_some_iff.mp deep_replay
  obtain ⟨r', hr', h⟩ := Option.map_eq_some_iff.mp h
  rw [pushesRun_succ, hr, Option.bind_some, hr']
  exact congrArg some (congrArg Prod.snd h)

end Libconfig.C03SP
