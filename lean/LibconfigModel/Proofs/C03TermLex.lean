import LibconfigModel.Proofs.C03Lex
import LibconfigModel.Proofs.C02
/-
  C03T, scanner side of the termination argument: in a world without readable files, started
  with an empty include stack and more fuel than bytes left, every `yylex` call returns the end
  of input or consumes at least one byte and returns a token or an include error
  (`LexStep`; `yylex_strict` of C03Lex proves it, here it is the hypothesis `hstep`).  Hence the
  scanner delivers at most as many tokens as there are bytes and then the end of input: the
  hypothesis `C02.LexesTo` of `yyparse_fuel`.
-/
namespace Libconfig.C03T
open Libconfig C03P

/-- **The scanner delivers finitely many tokens**: at most one per byte left, then the end of
input. -/
theorem lexes_exists (E : ParserEnv)
    (hstep : ∀ s, ScanOK s → s.stack = [] → s.buf.rest.length < E.lexFuel →
      LexStep s (yylex E.T E.sacts E.w E.ic E.lexFuel s)) :
    ∀ (n : Nat) (s : ScanState), ScanOK s → s.stack = [] → s.buf.rest.length ≤ n → n < E.lexFuel →
      ∃ toks s', C02.LexesTo E s toks s' ∧ toks.length ≤ s.buf.rest.length := by
  intro n
  induction n with
  | zero =>
    intro s hs hst hn hf
    have h := hstep s hs hst (by omega)
    rcases hy : yylex E.T E.sacts E.w E.ic E.lexFuel s with ⟨s1, o⟩
    rw [hy] at h
    rcases h.lt with h1 | h1
    · have h1 : o = .eof := h1
      subst h1
      exact ⟨[], s1, .eof _ _ hy, Nat.zero_le _⟩
    · have : s1.buf.rest.length < s.buf.rest.length := h1
      omega
  | succ n ih =>
    intro s hs hst hn hf
    have h := hstep s hs hst (by omega)
    rcases hy : yylex E.T E.sacts E.w E.ic E.lexFuel s with ⟨s1, o⟩
    rw [hy] at h
    have hok : ScanOK s1 := h.ok
    have hst1 : s1.stack = [] := h.stack
    cases o with
    | eof => exact ⟨[], s1, .eof _ _ hy, Nat.zero_le _⟩
    | outOfFuel => exact absurd rfl h.fuel
    | echo b => exact absurd rfl (h.echo b)
    | tok t v =>
      have hlt : s1.buf.rest.length < s.buf.rest.length := h.lt.resolve_left nofun
      obtain ⟨toks, s', hl, hlen⟩ := ih s1 hok hst1 (by omega) (by omega)
      exact ⟨(t, v) :: toks, s', .tok _ _ _ _ _ _ hy hl, by simp only [List.length_cons]; omega⟩
    | includeError t text file line =>
      have hlt : s1.buf.rest.length < s.buf.rest.length := h.lt.resolve_left nofun
      obtain ⟨toks, s', hl, hlen⟩ := ih s1 hok hst1 (by omega) (by omega)
      exact ⟨(t, {}) :: toks, s', .incl _ _ _ _ _ _ _ _ hy hl, by simp only [List.length_cons]; omega⟩

end Libconfig.C03T
