import LibconfigModel.Read
import LibconfigModel.Proofs.C05
/-
  Helper definitions and lemmas for property C10 (@include is equivalent to textual
  inlining, with provenance and a depth limit).
-/
namespace Libconfig.C10P

open Libconfig

/-- The scanner state after the matched text (`rule`, `len`) has been consumed and
`ctx->string` has been taken: what the `<INCLUDE>\"` action of lib/scanner.l starts from.
(The state `yylex` builds before it looks at the action, `advance` of Proofs/ScannerStep.lean, with the
accumulator cleared, which `yylex` does first thing in the directive branch.) -/
def consumed (T : FlexTables) (s : ScanState) (rule len : Nat) : ScanState :=
  let text := s.buf.rest.take len
  let lineno := if T.canMatchEol.getN rule != 0 then s.buf.lineno + countNl text else s.buf.lineno
  let bol := match text.getLast? with
    | some c => c == 10
    | none => s.buf.bol
  { s with buf := { rest := s.buf.rest.drop len, bol := bol, lineno := lineno }, str := [] }

theorem consumed_eq (T : FlexTables) (s : ScanState) (rule len : Nat) :
    consumed T s rule len = { advance T s rule len with str := [] } := rfl

/-- the scanner is about to run the include action: the next match is rule `rule` of
length `len`, and that rule's action is the directive action -/
def AtDirective (T : FlexTables) (acts : List ScanAct) (s : ScanState) (rule len errTok : Nat) : Prop :=
  Flex.next T s.sc s.buf.bol s.buf.rest = some (rule, len) ∧
  acts.getD rule .unknown = .includeDirective errTok

theorem consumed_stack (T : FlexTables) (s : ScanState) (rule len : Nat) :
    (consumed T s rule len).stack = s.stack := rfl

theorem consumed_currentFilename (T : FlexTables) (s : ScanState) (rule len : Nat) :
    (consumed T s rule len).currentFilename = s.currentFilename := rfl

/-- the include action runs on the closing quote: a one-byte match that is not a newline
leaves the line number alone -/
theorem consumed_lineno (T : FlexTables) (s : ScanState) (rule len : Nat)
    (h : countNl (s.buf.rest.take len) = 0) : (consumed T s rule len).buf.lineno = s.buf.lineno := by
  simp only [consumed]
  split <;> simp [h]

/-! ### `config_setting_add` appends -/

theorem add_last {dtor ov : Bool} {parent n' : Node} {name : Option Bytes} {ty : Int} {i : Nat}
    {log : List Nat} (h : parent.add dtor ov name ty = some (n', i, log)) :
    ∃ k, n'.kids[i]? = some k := by
  obtain ⟨ks, nm, rfl, rfl, -, -⟩ := add_some h
  exact ⟨{ name := nm, ty := ty.toNat }, by simp⟩

end Libconfig.C10P
