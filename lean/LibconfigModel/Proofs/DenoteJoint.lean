import LibconfigModel.DenotePos
import LibconfigModel.DenoteProv
/-
  The joint reading: the reference interpreter of Denote.lean once more, with BOTH additions at
  once — every node stamped as in DenoteProv.lean and, where the text is rejected, the items not
  yet read as in DenotePos.lean.  `valueP` is `valueJ` forgetting where, `valueAt` is `valueJ`
  forgetting the stamps (`joint_erase`, `joint_at`, Proofs/C10ProvSpec.lean); the simulation
  (Proofs/C10ProvSim*.lean) follows this one interpreter, whatever the outcome.
-/
namespace Libconfig.Denote
open Libconfig

def ResAt.map {α β : Type} (f : α → β) : ResAt α → ResAt β
  | .ok a rest => .ok (f a) rest
  | .error k w => .error k w

def arrayRestJ (σ : Nat → Stamp) (ty : Nat) : Nat → List Node → List Item → ResAt (List Node)
  | 0, _, items => .error .syntax items
  | _ + 1, acc, .arrayEnd :: rest => .ok acc rest
  | fuel + 1, acc, .comma :: rest =>
    match scalarP σ none none rest with
    | none => arrayRestJ σ ty fuel acc rest
    | some (x, rest') =>
      if x.ty ≠ ty then .error .arrayElemType (lastLiteral rest)
      else arrayRestJ σ ty fuel (acc ++ [x]) rest'
  | _ + 1, _, items => .error .syntax items

mutual
def valueJ (σ : Nat → Stamp) (o : Options) :
    Nat → Option Bytes → Option Nat → List Item → ResAt Node
  | 0, _, _, items => .error .syntax items
  | fuel + 1, nm, mk, .arrayStart :: rest =>
    match rest with
    | .arrayEnd :: rest' =>
      .ok (stamped { name := nm, ty := T_ARRAY } (σ (keyOf mk (.arrayStart :: rest)))) rest'
    | _ =>
      match scalarP σ none none rest with
      | none => .error .syntax rest
      | some (x, rest') =>
        match arrayRestJ σ x.ty fuel [x] rest' with
        | .error k w => .error k w
        | .ok elems rest'' =>
          .ok (stamped { name := nm, ty := T_ARRAY, kids := elems }
            (σ (keyOf mk (.arrayStart :: rest)))) rest''
  | fuel + 1, nm, mk, .listStart :: rest =>
    match rest with
    | .listEnd :: rest' =>
      .ok (stamped { name := nm, ty := T_LIST } (σ (keyOf mk (.listStart :: rest)))) rest'
    | _ =>
      match valueJ σ o fuel none none rest with
      | .error k w => .error k w
      | .ok x rest' =>
        match listRestJ σ o fuel [x] rest' with
        | .error k w => .error k w
        | .ok elems rest'' =>
          .ok (stamped { name := nm, ty := T_LIST, kids := elems }
            (σ (keyOf mk (.listStart :: rest)))) rest''
  | fuel + 1, nm, mk, .groupStart :: rest =>
    match settingsJ σ o fuel [] rest with
    | .error k w => .error k w
    | .ok members (.groupEnd :: rest') =>
      .ok (stamped { name := nm, ty := T_GROUP, kids := members }
        (σ (keyOf mk (.groupStart :: rest)))) rest'
    | .ok _ rest' => .error .syntax rest'
  | _ + 1, nm, mk, items =>
    match scalarP σ nm mk items with
    | some (x, rest) => .ok x rest
    | none => .error .syntax items
def listRestJ (σ : Nat → Stamp) (o : Options) : Nat → List Node → List Item → ResAt (List Node)
  | 0, _, items => .error .syntax items
  | _ + 1, acc, .listEnd :: rest => .ok acc rest
  | fuel + 1, acc, .comma :: rest =>
    match rest with
    | .comma :: _ => listRestJ σ o fuel acc rest
    | .listEnd :: _ => listRestJ σ o fuel acc rest
    | _ =>
      match valueJ σ o fuel none none rest with
      | .error k w => .error k w
      | .ok x rest' => listRestJ σ o fuel (acc ++ [x]) rest'
  | _ + 1, _, items => .error .syntax items
def settingsJ (σ : Nat → Stamp) (o : Options) : Nat → List Node → List Item → ResAt (List Node)
  | 0, _, items => .error .syntax items
  | fuel + 1, members, .name nm :: rest =>
    match enter o members nm with
    | none => .error .duplicateName (.name nm :: rest)
    | some members' =>
      match rest with
      | .assign :: rest' =>
        match valueJ σ o fuel (some nm) (some (rest.length + 1)) rest' with
        | .error k w => .error k w
        | .ok x rest'' => settingsJ σ o fuel (members' ++ [x]) (skipTerminator rest'')
      | _ => .error .syntax rest
  | _ + 1, members, items => .ok members items
end


/-! ### unfolding, where a clause has side conditions -/

section
variable (σ : Nat → Stamp) (o : Options)

theorem arrayRestJ_other (ty fuel : Nat) (acc : List Node) (items : List Item)
    (h1 : ∀ r, items ≠ .arrayEnd :: r) (h2 : ∀ r, items ≠ .comma :: r) :
    arrayRestJ σ ty (fuel + 1) acc items = .error .syntax items := by
  rw [arrayRestJ]
  · exact h1
  · exact h2

theorem valueJ_arr (fuel : Nat) (nm : Option Bytes) (mk : Option Nat) (rest : List Item)
    (h : ∀ r, rest ≠ .arrayEnd :: r) :
    valueJ σ o (fuel + 1) nm mk (.arrayStart :: rest) =
      match scalarP σ none none rest with
      | none => .error .syntax rest
      | some (x, rest') =>
        match arrayRestJ σ x.ty fuel [x] rest' with
        | .error k w => .error k w
        | .ok elems rest'' =>
          .ok (stamped { name := nm, ty := T_ARRAY, kids := elems }
            (σ (keyOf mk (.arrayStart :: rest)))) rest'' := by
  rw [valueJ]
  · exact h

theorem valueJ_lst (fuel : Nat) (nm : Option Bytes) (mk : Option Nat) (rest : List Item)
    (h : ∀ r, rest ≠ .listEnd :: r) :
    valueJ σ o (fuel + 1) nm mk (.listStart :: rest) =
      match valueJ σ o fuel none none rest with
      | .error k w => .error k w
      | .ok x rest' =>
        match listRestJ σ o fuel [x] rest' with
        | .error k w => .error k w
        | .ok elems rest'' =>
          .ok (stamped { name := nm, ty := T_LIST, kids := elems }
            (σ (keyOf mk (.listStart :: rest)))) rest'' := by
  rw [valueJ]
  · exact h

theorem valueJ_other (fuel : Nat) (nm : Option Bytes) (mk : Option Nat) (items : List Item)
    (h1 : ∀ r, items ≠ .arrayStart :: r) (h2 : ∀ r, items ≠ .listStart :: r)
    (h3 : ∀ r, items ≠ .groupStart :: r) :
    valueJ σ o (fuel + 1) nm mk items =
      match scalarP σ nm mk items with
      | some (x, rest) => .ok x rest
      | none => .error .syntax items := by
  rw [valueJ]
  · exact h1
  · exact h2
  · exact h3

theorem listRestJ_skip (fuel : Nat) (acc : List Node) (rest : List Item)
    (h : (∃ r, rest = .comma :: r) ∨ (∃ r, rest = .listEnd :: r)) :
    listRestJ σ o (fuel + 1) acc (.comma :: rest) = listRestJ σ o fuel acc rest := by
  rcases h with ⟨r, rfl⟩ | ⟨r, rfl⟩ <;> rw [listRestJ]

theorem listRestJ_value (fuel : Nat) (acc : List Node) (rest : List Item)
    (h1 : ∀ r, rest ≠ .listEnd :: r) (h2 : ∀ r, rest ≠ .comma :: r) :
    listRestJ σ o (fuel + 1) acc (.comma :: rest) =
      match valueJ σ o fuel none none rest with
      | .error k w => .error k w
      | .ok x rest' => listRestJ σ o fuel (acc ++ [x]) rest' := by
  rw [listRestJ]
  · exact h2
  · exact h1

theorem listRestJ_other (fuel : Nat) (acc : List Node) (items : List Item)
    (h1 : ∀ r, items ≠ .listEnd :: r) (h2 : ∀ r, items ≠ .comma :: r) :
    listRestJ σ o (fuel + 1) acc items = .error .syntax items := by
  rw [listRestJ]
  · exact h1
  · exact h2

theorem settingsJ_noAssign (fuel : Nat) (members : List Node) (nm : Bytes) (rest : List Item)
    (h : ∀ r, rest ≠ .assign :: r) :
    settingsJ σ o (fuel + 1) members (.name nm :: rest) =
      match enter o members nm with
      | none => .error .duplicateName (.name nm :: rest)
      | some _ => .error .syntax rest := by
  rw [settingsJ]
  cases enter o members nm with
  | none => rfl
  | some m' =>
    cases rest with
    | nil => rfl
    | cons it tl =>
      cases it
      case assign => exact absurd rfl (h _)
      all_goals rfl

theorem settingsJ_other (fuel : Nat) (members : List Node) (items : List Item)
    (h : ∀ nm r, items ≠ .name nm :: r) :
    settingsJ σ o (fuel + 1) members items = .ok members items := by
  rw [settingsJ]
  exact h

end

end Libconfig.Denote
