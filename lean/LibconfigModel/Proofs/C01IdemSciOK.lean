import LibconfigModel.Proofs.C01IdemSciVal
/-
  C01 idempotence (scientific notation) — the float side conditions of `LexOK` hold for every finite
  double also when `CONFIG_OPTION_ALLOW_SCIENTIFIC_NOTATION` is on (precision ≤ 70): `LexOK`
  reduces to `LexOKfin` for either notation.
-/
namespace Libconfig.C01I
open Libconfig F64 C01P C01L

/-- the float conditions of `LexOK`, scientific notation allowed -/
theorem floatOK_sci (c : Config) (b : Nat) (hfin : isFinite b = true)
    (hsci : c.opt OPT_SCIENTIFIC = true) (hp : c.floatPrecision ≤ 70) : floatOK 341 c b = true := by
  unfold floatOK
  rw [hsci, hfin, sci_no_overflow b _ hfin hp]
  simp only [Bool.true_and, Bool.not_false, Bool.and_true, decide_eq_true_eq]
  exact rawText_sci_fits b _ hfin (by omega)

/-- … for either notation (the fixed notation needs precision ≤ 26: `%.{p}f` of DBL_MAX has
311 + p characters) -/
theorem floatOK_any (c : Config) (b : Nat) (hfin : isFinite b = true)
    (hp : c.floatPrecision ≤ 26 ∨ (c.opt OPT_SCIENTIFIC = true ∧ c.floatPrecision ≤ 70)) :
    floatOK 341 c b = true := by
  cases hsci : c.opt OPT_SCIENTIFIC
  · rcases hp with h | h
    · exact floatOK_fixed c b hfin hsci h
    · rw [hsci] at h; cases h.1
  · exact floatOK_sci c b hfin hsci (by rcases hp with h | h <;> omega)

/-- `LexOK` from `LexOKfin`, either notation -/
theorem lexOK_of_fin_any (c : Config)
    (hp : c.floatPrecision ≤ 26 ∨ (c.opt OPT_SCIENTIFIC = true ∧ c.floatPrecision ≤ 70))
    (h : LexOKfin c = true) : LexOK 341 c = true :=
  nodeFin_ok' c (fun b hb => floatOK_any c b hb hp) c.root h

end Libconfig.C01I

