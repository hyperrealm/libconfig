import LibconfigModel.Scanner
import LibconfigModel.Proofs.F64Arith
import LibconfigModel.Proofs.TwosComplement
import LibconfigModel.Proofs.Digits
/-
  Helper lemmas for property C08 (numeric literals are stored exactly or rejected), and
  `C08.signed`, which the statements of Properties/C08.lean share with them.
-/
namespace Libconfig.C08

def signed (neg : Bool) (a : Nat) : Int := if neg then -(a : Int) else (a : Int)

end Libconfig.C08

namespace Libconfig.C08P

open Libconfig

/-! ### character classes -/

theorem isDigit_bounds {c : Nat} (h : isDigit c = true) : 48 ≤ c ∧ c ≤ 57 := by
  simpa [isDigit] using h

/-- `takeWhile p` of a list that contains a failing element stops strictly inside it. -/
theorem takeWhile_split (p : Nat → Bool) (ds : List Nat) (h : ds.all p = false) :
    ∃ c q, ds = ds.takeWhile p ++ c :: q ∧ p c = false := by
  induction ds with
  | nil => simp at h
  | cons a t ih =>
    by_cases ha : p a = true
    · have ht : t.all p = false := by
        simpa [List.all_cons, ha] using h
      obtain ⟨c, q, hq, hc⟩ := ih ht
      refine ⟨c, q, ?_, hc⟩
      rw [List.takeWhile_cons_of_pos ha, List.cons_append, ← hq]
    · have ha' : p a = false := by simpa using ha
      exact ⟨a, t, by rw [List.takeWhile_cons_of_neg ha]; rfl, ha'⟩

/-! ### `parseInteger` -/

theorem stripLL_suf (suf : Bytes) (h : suf = [] ∨ suf = [76] ∨ suf = [76, 76]) : stripLL suf = [] := by
  rcases h with h | h | h <;> subst h <;> rfl

theorem stripLL_digit (c : Nat) (r : Bytes) (h : isDigit c = true) : stripLL (c :: r) = c :: r := by
  have := isDigit_bounds h
  unfold stripLL
  split
  · next heq => injection heq with h1; omega
  · next heq => injection heq with h1; omega
  · rfl

theorem suf_head (p : Nat → Bool) (h76 : p 76 = false) (suf : Bytes)
    (h : suf = [] ∨ suf = [76] ∨ suf = [76, 76]) : ∀ c, suf.head? = some c → p c = false := by
  rcases h with rfl | rfl | rfl <;> intro c hc <;> cases hc <;> exact h76

def isOctHead (r : Bytes) : Bool := match r with | 48 :: _ => true | _ => false

/-- body of `parseInteger` after the sign has been split off and the base chosen -/
def pIntBody (neg : Bool) (r : Bytes) (oct : Bool) : Option Int :=
  let ds := if oct then r.takeWhile isOctDigit else r.takeWhile isDigit
  if ds.isEmpty then none else
  let rest := stripLL (r.drop ds.length)
  if !rest.isEmpty then none else
  let v := C08.signed neg (digitsVal (if oct then 8 else 10) ds)
  if fits64 v then some v else none

theorem parseInteger_unfold (s : Bytes) (neg : Bool) (r : Bytes) (hs : splitSign s = (neg, r)) :
    parseInteger s = pIntBody neg r (isOctHead r) := by
  unfold parseInteger
  rw [hs]
  rfl

theorem isOctHead_zero (t : Bytes) : isOctHead (48 :: t) = true := rfl

theorem isOctHead_ne (c : Nat) (t : Bytes) (hc : c ≠ 48) : isOctHead (c :: t) = false := by
  unfold isOctHead
  split
  · next heq => injection heq with h1; exact absurd h1 hc
  · rfl

theorem parseInteger_core (s : Bytes) (neg : Bool) (ds suf : Bytes) (hne : ds ≠ [])
    (hd : ∀ c ∈ ds, isDigit c = true) (hsuf : suf = [] ∨ suf = [76] ∨ suf = [76, 76])
    (hs : splitSign s = (neg, ds ++ suf)) :
    parseInteger s =
      (if ds.head? = some 48 then
        (if ds.all isOctDigit then some (C08.signed neg (digitsVal 8 ds)) else none)
       else some (C08.signed neg (digitsVal 10 ds))).bind fun v =>
        if fits64 v then some v else none := by
  rw [parseInteger_unfold s neg _ hs]
  obtain ⟨c, t, rfl⟩ : ∃ c t, ds = c :: t := by
    cases ds with
    | nil => exact absurd rfl hne
    | cons c t => exact ⟨c, t, rfl⟩
  by_cases hc : c = 48
  · subst hc
    rw [List.cons_append, isOctHead_zero, ← List.cons_append]
    unfold pIntBody
    simp only [List.head?_cons, if_true]
    by_cases hall : (48 :: t).all isOctDigit = true
    · rw [(span_append (List.all_eq_true.mp hall) (suf_head _ (by decide) suf hsuf)).1,
        List.drop_left, stripLL_suf suf hsuf]
      simp [hall]
    · have hall' : (48 :: t).all isOctDigit = false := by simpa using hall
      obtain ⟨c, q, hq, hcq⟩ := takeWhile_split isOctDigit (48 :: t) hall'
      have hcd : isDigit c = true := hd c (by rw [hq]; simp)
      have hne' : ((48 :: t).takeWhile isOctDigit).isEmpty = false := by
        rw [List.takeWhile_cons_of_pos (by decide)]; rfl
      -- the octal digits stop at `c`, inside the digit string
      have hcut : 48 :: t ++ suf = (48 :: t).takeWhile isOctDigit ++ c :: (q ++ suf) := by
        rw [← List.cons_append (a := c), ← List.append_assoc, ← hq]
      have htw := (span_append (p := isOctDigit) (l := (48 :: t).takeWhile isOctDigit)
        (r := c :: (q ++ suf)) (List.all_eq_true.mp List.all_takeWhile)
        (fun _ h => Option.some.inj h ▸ hcq)).1
      rw [← hcut] at htw
      rw [htw, hcut, List.drop_left, stripLL_digit c _ hcd]
      simp [hall', hne']
  · rw [List.cons_append, isOctHead_ne c _ hc, ← List.cons_append]
    unfold pIntBody
    simp only [Bool.false_eq_true, if_false, (span_append hd (suf_head _ (by decide) suf hsuf)).1]
    rw [List.drop_left, stripLL_suf suf hsuf]
    simp [hc]

theorem splitSign_digit (r : Bytes) (h : r.head?.all isDigit = true) (hne : r ≠ []) :
    splitSign r = (false, r) := by
  cases r with
  | nil => exact absurd rfl hne
  | cons c t =>
    have := isDigit_bounds (by simpa using h : isDigit c = true)
    unfold splitSign
    split
    · next heq => injection heq with h1; omega
    · next heq => injection heq with h1; omega
    · rfl

theorem splitSign_minus (r : Bytes) : splitSign (45 :: r) = (true, r) := rfl
theorem splitSign_plus (r : Bytes) : splitSign (43 :: r) = (false, r) := rfl

/-! ### `parseHex64` -/

theorem parseHex64_core (x : Nat) (ds suf : Bytes) (hd : ∀ c ∈ ds, isHexDigit c = true)
    (hsuf : suf = [] ∨ suf = [76] ∨ suf = [76, 76]) :
    parseHex64 ([48, x] ++ ds ++ suf) =
      if digitsVal 16 ds < 18446744073709551616 then some (digitsVal 16 ds) else none := by
  unfold parseHex64
  have h1 : ([48, x] ++ ds ++ suf).drop 2 = ds ++ suf := by simp
  rw [h1, (span_append hd (suf_head _ (by decide) suf hsuf)).1]

/-! ### two's-complement wrapping -/

theorem wrap32_pattern (v : Nat) (h : v < 4294967296) :
    wrap32 v % 4294967296 = v ∧ fits32 (wrap32 v) = true := by
  have hv : (v : Int) % 4294967296 = v := Int.emod_eq_of_lt (Int.natCast_nonneg v) (Int.ofNat_lt.2 h)
  have := wrap32_emod v
  rwa [hv] at this

theorem wrap64_pattern (v : Nat) (h : v < 18446744073709551616) :
    wrap64 v % 18446744073709551616 = v ∧ fits64 (wrap64 v) = true := by
  have hv : (v : Int) % 18446744073709551616 = v :=
    Int.emod_eq_of_lt (Int.natCast_nonneg v) (Int.ofNat_lt.2 h)
  have := wrap64_emod v
  rwa [hv] at this

/-! ### `F64.ofRat` step by step; it never produces a NaN -/

open F64 F64R

/-- sign, exponent and fraction for a mantissa `m < 2^53` whose unit is `2^-s` -/
def pack (neg : Bool) (m : Nat) (s : Int) : Nat :=
  if m < 2^52 then mkBits neg 0 m
  else
    let ef : Int := -s + 1075
    if ef ≥ 2047 then mkBits neg 2047 0 else mkBits neg ef.toNat (m - 2^52)

/-- the last step of `ofRat`: a mantissa that rounding has taken to `2^53` is halved first -/
def finish (neg : Bool) (m : Nat) (s : Int) : Nat :=
  let (m, s) := if m ≥ 2^53 then (m / 2, s - 1) else (m, s)
  pack neg m s

theorem finish_lt (neg : Bool) (m : Nat) (s : Int) (h : m < 2 ^ 53) :
    finish neg m s = pack neg m s := by
  unfold finish
  rw [if_neg (Nat.not_le_of_lt h)]

theorem finish_carry (neg : Bool) (m : Nat) (s : Int) (h : 2 ^ 53 ≤ m) :
    finish neg m s = pack neg (m / 2) (s - 1) := by
  unfold finish
  rw [if_pos h]

theorem pack_denormal (neg : Bool) (m : Nat) (s : Int) (h : m < 2 ^ 52) :
    pack neg m s = mkBits neg 0 m := by
  unfold pack
  rw [if_pos h]

theorem pack_normal (neg : Bool) (m : Nat) (s : Int) (h : 2 ^ 52 ≤ m) (hs : -s + 1075 < 2047) :
    pack neg m s = mkBits neg (-s + 1075).toNat (m - 2 ^ 52) := by
  unfold pack
  rw [if_neg (Nat.not_lt_of_le h)]
  exact if_neg (Int.not_le.mpr hs)

theorem pack_inf (neg : Bool) (m : Nat) (s : Int) (h : 2 ^ 52 ≤ m) (hs : 2047 ≤ -s + 1075) :
    pack neg m s = mkBits neg 2047 0 := by
  unfold pack
  rw [if_neg (Nat.not_lt_of_le h)]
  exact if_pos hs

theorem mkBits_fields (neg : Bool) (e f : Nat) (he : e < 2048) (hf : f < 4503599627370496) :
    expField (mkBits neg e f) = e ∧ fracField (mkBits neg e f) = f ∧ mkBits neg e f < 2 ^ 64 ∧
      signBit (mkBits neg e f) = neg := by
  unfold expField fracField mkBits signBit
  cases neg <;> simp <;> omega

theorem mkBits_ok (neg : Bool) (e f : Nat) (he : e < 2048) (hf : f < 4503599627370496)
    (h : e = 2047 → f = 0) :
    isNaN (mkBits neg e f) = false ∧ mkBits neg e f < 2 ^ 64 := by
  obtain ⟨h1, h2, h3, -⟩ := mkBits_fields neg e f he hf
  refine ⟨?_, h3⟩
  unfold isNaN
  rw [h1, h2]
  by_cases h47 : e = 2047
  · simp [h47, h h47]
  · simp [h47]

theorem pack_ok (neg : Bool) (m : Nat) (s : Int) (hm : m < 2 ^ 53) :
    isNaN (pack neg m s) = false ∧ pack neg m s < 2 ^ 64 := by
  unfold pack
  simp only [Nat.reducePow] at hm ⊢
  split
  · exact mkBits_ok _ _ _ (by omega) (by omega) (by omega)
  · split
    · exact mkBits_ok _ _ _ (by omega) (by omega) (by omega)
    · exact mkBits_ok _ _ _ (by omega) (by omega) (by omega)

theorem finish_ok (neg : Bool) (m : Nat) (s : Int) (hm : m < 2 ^ 54) :
    isNaN (finish neg m s) = false ∧ finish neg m s < 2 ^ 64 := by
  by_cases h : m < 2 ^ 53
  · rw [finish_lt neg m s h]; exact pack_ok neg m s h
  · rw [finish_carry neg m s (Nat.le_of_not_lt h)]; exact pack_ok neg _ _ (by omega)

def scale (num den : Nat) (s : Int) : Nat × Nat :=
  if s ≥ 0 then (num * 2^s.toNat, den) else (num, den * 2^((-s).toNat))

def s0Of (num den : Nat) : Int := 53 - ((bitLen num : Int) - (bitLen den : Int))

def s1Of (num den : Nat) : Int :=
  let s0 := s0Of num den
  let q0 := (scale num den s0).1 / (scale num den s0).2
  if q0 ≥ 2^53 then s0 - 1 else if q0 < 2^52 then s0 + 1 else s0

def chooseS (num den : Nat) : Int :=
  if s1Of num den > 1074 then 1074 else s1Of num den

/-- `2^max(s,0)` and `2^max(-s,0)` -/
def up (s : Int) : Nat := 2 ^ s.toNat
def dn (s : Int) : Nat := 2 ^ (-s).toNat

theorem up_pos (s : Int) : 0 < up s := Nat.pow_pos (by decide)
theorem dn_pos (s : Int) : 0 < dn s := Nat.pow_pos (by decide)

theorem scale_eq (num den : Nat) (s : Int) : scale num den s = (num * up s, den * dn s) := by
  unfold scale up dn
  split
  · next h => rw [show (-s).toNat = 0 by omega]; simp
  · next h => rw [show s.toNat = 0 by omega]; simp

/-- `2^s = 2^t · 2^j` for `s = t + j`, written without negative exponents -/
theorem up_dn_rel (t : Int) (j : Nat) : up (t + j) * dn t = up t * (2 ^ j * dn (t + j)) := by
  unfold up dn
  rw [← Nat.pow_add, ← Nat.pow_add, ← Nat.pow_add]
  congr 1
  omega

/-- `Q s k` : `num·2^s / den < 2^k` -/
def Q (num den : Nat) (s : Int) (k : Nat) : Prop := num * up s < 2 ^ k * (den * dn s)

theorem Q_shift (num den : Nat) (t : Int) (j k : Nat) : Q num den (t + j) (k + j) ↔ Q num den t k := by
  unfold Q
  have e : 2 ^ (k + j) * (den * dn (t + j)) = 2 ^ k * den * (2 ^ j * dn (t + j)) := by
    rw [Nat.pow_add]; ac_rfl
  rw [e, ← Nat.mul_assoc (2 ^ k) den (dn t)]
  exact lt_iff_of_ratio (Nat.mul_pos (Nat.two_pow_pos j) (dn_pos _)) (dn_pos t) (up_dn_rel t j) ..

theorem Q_mono_k (num den : Nat) (s : Int) (k k' : Nat) (hk : k ≤ k') (h : Q num den s k) :
    Q num den s k' := by
  unfold Q at *
  exact Nat.lt_of_lt_of_le h (Nat.mul_le_mul_right _ (Nat.pow_le_pow_right (by decide) hk))

theorem Q_mono_s (num den : Nat) (s t : Int) (k : Nat) (hts : t ≤ s) (h : Q num den s k) :
    Q num den t k := by
  have hs : s = t + ((s - t).toNat : Nat) := by omega
  rw [hs] at h
  exact (Q_shift num den t _ k).mp (Q_mono_k _ _ _ _ _ (Nat.le_add_right _ _) h)

theorem Q_iff_div (num den : Nat) (hd : 0 < den) (s : Int) (k : Nat) :
    (scale num den s).1 / (scale num den s).2 < 2 ^ k ↔ Q num den s k := by
  rw [scale_eq]
  exact Nat.div_lt_iff_lt_mul (Nat.mul_pos hd (dn_pos s))

theorem Q_s0 (num den : Nat) (hd : 0 < den) : Q num den (s0Of num den) 54 := by
  unfold Q
  have h1 := lt_pow_bitLen num
  have h2 := pow_bitLen_le den hd
  have hrel : 2 ^ bitLen num * up (s0Of num den) = 2 ^ 53 * 2 ^ bitLen den * dn (s0Of num den) := by
    unfold up dn s0Of
    simp only [← Nat.pow_add]
    congr 1
    omega
  calc num * up (s0Of num den) < 2 ^ bitLen num * up (s0Of num den) :=
        Nat.mul_lt_mul_of_pos_right h1 (up_pos _)
    _ = 2 ^ 53 * 2 ^ bitLen den * dn (s0Of num den) := hrel
    _ ≤ 2 ^ 53 * (2 * den) * dn (s0Of num den) :=
        Nat.mul_le_mul_right _ (Nat.mul_le_mul_left _ h2)
    _ = 2 ^ 54 * (den * dn (s0Of num den)) := by
        rw [show (2:Nat) ^ 54 = 2 ^ 53 * 2 from rfl]; ac_rfl

theorem Q_s1 (num den : Nat) (hd : 0 < den) : Q num den (s1Of num den) 53 := by
  unfold s1Of
  simp only []
  split
  · have := Q_s0 num den hd
    rw [show s0Of num den = (s0Of num den - 1) + ((1 : Nat) : Int) by omega] at this
    exact (Q_shift num den _ 1 53).mp this
  · next h53 =>
    have h53' : (scale num den (s0Of num den)).1 / (scale num den (s0Of num den)).2 < 2 ^ 53 := by omega
    split
    · next h52 =>
      exact (Q_shift num den _ 1 52).mpr ((Q_iff_div num den hd _ 52).mp h52)
    · exact (Q_iff_div num den hd _ 53).mp h53'

theorem Q_chooseS (num den : Nat) (hd : 0 < den) : Q num den (chooseS num den) 53 := by
  refine Q_mono_s num den (s1Of num den) _ 53 ?_ (Q_s1 num den hd)
  unfold chooseS
  split <;> omega

theorem m_bound (num den : Nat) (hd : 0 < den) :
    divRoundEven (scale num den (chooseS num den)).1 (scale num den (chooseS num den)).2 < 2 ^ 54 := by
  have h := (Q_iff_div num den hd _ 53).mpr (Q_chooseS num den hd)
  have := dre_le (scale num den (chooseS num den)).1 (scale num den (chooseS num den)).2
  simp only [Nat.reducePow] at h ⊢
  omega

/-- `ofRat` restated with the named pieces above -/
theorem ofRat_eq (neg : Bool) (num den : Nat) :
    ofRat neg num den =
      if num = 0 then mkBits neg 0 0 else
        finish neg (divRoundEven (scale num den (chooseS num den)).1 (scale num den (chooseS num den)).2)
          (chooseS num den) := by
  unfold ofRat
  rfl

theorem ofRat_ok (neg : Bool) (num den : Nat) (hd : den > 0) :
    isNaN (ofRat neg num den) = false ∧ ofRat neg num den < 2 ^ 64 := by
  rw [ofRat_eq]
  split
  · exact mkBits_ok neg 0 0 (by decide) (by decide) (by intro h; cases h)
  · exact finish_ok neg _ _ (m_bound num den hd)

end Libconfig.C08P
