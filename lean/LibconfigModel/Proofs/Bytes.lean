import LibconfigModel.Basic
/-
  What `bytesOfString` computes: the UTF-8 encodings of the characters, one after the other.
  `ByteArray_toList_loop` and `bytesOfString_eq` go through core's `ByteArray.toList.loop` and the
  representation of `String` as a `ByteArray` with a validity proof: they depend on the toolchain.
-/
namespace Libconfig

theorem ByteArray_toList_loop (l : List UInt8) (i : Nat) (r : List UInt8) (h : i ≤ l.length) :
    ByteArray.toList.loop ⟨⟨l⟩⟩ i r = r.reverse ++ l.drop i := by
  induction hk : l.length - i generalizing i r with
  | zero =>
    rw [ByteArray.toList.loop, if_neg (by show ¬ i < l.length; omega),
      List.drop_eq_nil_of_le (by omega), List.append_nil]
  | succ k ih =>
    have hi : i < l.length := by omega
    rw [ByteArray.toList.loop, if_pos (by show i < l.length; omega), ih _ _ (by omega) (by omega),
      List.drop_eq_getElem_cons hi]
    have : (ByteArray.mk ⟨l⟩).get! i = l[i] := by
      show (Array.mk l)[i]! = l[i]
      rw [getElem!_pos _ _ (by exact hi)]; rfl
    rw [this, List.reverse_cons, List.append_assoc]; rfl

theorem bytesOfString_eq (s : String) : bytesOfString s = s.toUTF8.data.toList.map UInt8.toNat := by
  obtain ⟨⟨⟨l⟩⟩, _⟩ := s
  exact congrArg _ (ByteArray_toList_loop l 0 [] (Nat.zero_le _))

theorem bytesOfString_append (a b : String) :
    bytesOfString (a ++ b) = bytesOfString a ++ bytesOfString b := by
  simp [bytesOfString_eq]

/-- A string literal is `String.ofList` of its characters, and `rw` sees it so.  Left to itself the
kernel turns such a literal into bytes through `ByteArray.push`, each an append at the end of a list,
which is quadratic in the length of the text; the right-hand side is linear.  Hence the
`rw [bytesOfString_ofList]` in front of kernel evaluations that mention a text as
`bytesOfString "…"`. -/
theorem bytesOfString_ofList (cs : List Char) :
    bytesOfString (String.ofList cs) =
      cs.flatMap fun c => (String.utf8EncodeChar c).map UInt8.toNat := by
  rw [bytesOfString_eq]
  show List.map _ (List.toByteArray _).data.toList = _
  rw [List.data_toByteArray, List.map_flatMap]

end Libconfig
