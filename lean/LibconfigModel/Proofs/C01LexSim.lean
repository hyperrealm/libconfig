import LibconfigModel.Proofs.C01LexAuto
import LibconfigModel.Proofs.FlexRun
/-
  C01L — what the certificate `cert_ok` means: the simulation lemmas, the run of the compiled
  automaton along a described path (`run_abs`) and, by scan locality (`Flex.next_of_run`), the
  statement about `Flex.next` (`next_abs`).
-/
namespace Libconfig.C01L
open Flex

theorem absOf_lt {q : Nat} (h : absOf q ≠ .top) : q < 108 := by
  apply Nat.lt_of_not_le
  intro hle
  apply h
  unfold absOf
  have hlen : absTab.length = 108 := rfl
  rw [List.getD_eq_getElem?_getD, List.getElem?_eq_none (by omega)]
  rfl

theorem live_ne_top {a : A} (h : a.live = true) : a ≠ .top := by
  intro e; subst e; cases h

theorem live_ne_jam {a : A} (h : a.live = true) : a ≠ .jam := by
  intro e; subst e; cases h

theorem isTop_eq : ∀ {a : A}, a.isTop = true → a = .top
  | .top, _ => rfl

theorem okState_of {q : Nat} (h : absOf q ≠ .top) : okState q = true :=
  okStates_iff.mp cert_ok q (absOf_lt h)

/-- a flex state standing for a described, live abstract state: same accept entry, and every
byte leads to a flex state standing for the abstract successor -/
theorem sim {q : Nat} {a : A} (hq : absOf q = a) (hl : a.live = true) :
    T.accept.getN q = aacc a ∧
    ∀ b, b < 256 → astep a b = .top ∨ absOf (step T q b) = astep a b := by
  have hs := okState_of (hq ▸ live_ne_top hl)
  unfold okState at hs
  rw [hq, hl, if_pos rfl, Bool.and_eq_true] at hs
  refine ⟨Nat.eq_of_beq_eq_true hs.1, fun b hb => ?_⟩
  have hb' := okBytes_iff.mp hs.2 b hb
  unfold okByte at hb'
  rw [Bool.or_eq_true] at hb'
  exact hb'.imp isTop_eq A.beq_eq

theorem jam_of_abs {q : Nat} (h : absOf q = .jam) : q = T.jamState := by
  have hs := okState_of (q := q) (by rw [h]; exact A.noConfusion)
  unfold okState at hs
  rw [h] at hs
  exact Nat.eq_of_beq_eq_true hs

theorem abs_jam : absOf T.jamState = .jam := by decide +kernel

theorem live_not_jam {q : Nat} (h : (absOf q).live = true) : q ≠ T.jamState := by
  intro e; rw [e, abs_jam] at h; cases h

/-! ### paths of the abstract automaton -/

def arun : A → Bytes → A
  | a, [] => a
  | a, b :: bs => arun (astep a b) bs

/-- every state reached along `bs` (after at least one byte) is described and alive -/
def alive : A → Bytes → Bool
  | _, [] => true
  | a, b :: bs => (astep a b).live && alive (astep a b) bs

theorem arun_append (a : A) (x y : Bytes) : arun a (x ++ y) = arun (arun a x) y := by
  induction x generalizing a with
  | nil => rfl
  | cons b bs ih => exact ih _

theorem alive_append (a : A) (x y : Bytes) :
    alive a (x ++ y) = (alive a x && alive (arun a x) y) := by
  induction x generalizing a with
  | nil => exact (Bool.true_and _).symm
  | cons b bs ih => simp only [List.cons_append, alive, arun, ih, Bool.and_assoc]

/-- the byte after the lexeme stops the match: the input ends, or the next byte jams -/
def Stops (a : A) (rest : Bytes) : Prop :=
  ∀ c, rest.head? = some c → c < 256 ∧ astep a c = .jam

/-- **the compiled automaton follows a described path**: from a flex state standing for the
live state `a`, while the abstract automaton stays alive over `pre`, so does `Flex.run`, into a
state standing for `arun a pre` -/
theorem run_abs : ∀ (pre : Bytes) (q : Nat) (a : A), absOf q = a → a.live = true →
    (∀ b ∈ pre, b < 256) → alive a pre = true →
    ∃ q', run T q pre = some q' ∧ absOf q' = arun a pre ∧ (arun a pre).live = true
  | [], q, _, hq, hl, _, _ => ⟨q, rfl, hq, hl⟩
  | b :: bs, q, a, hq, hl, hb, hal => by
    simp only [alive, Bool.and_eq_true] at hal
    have hnext : absOf (step T q b) = astep a b :=
      ((sim hq hl).2 b (hb b (List.mem_cons_self ..))).resolve_left (live_ne_top hal.1)
    rw [run_cons T bs (live_not_jam (hnext ▸ hal.1))]
    exact run_abs bs _ _ hnext hal.1 (fun x hx => hb x (List.mem_cons_of_mem _ hx)) hal.2

theorem abs_start (bol : Bool) : absOf (startState 0 bol) = .start bol := by
  cases bol <;> decide +kernel

theorem abs_sstart (bol : Bool) : absOf (startState 3 bol) = .sstart := by
  cases bol <;> decide +kernel

/-- **the matcher on a described path**: if the abstract automaton, from the state `a` that the
start state stands for, stays alive over `pre`, ends accepting rule `r ≠ 0` and stops there,
`Flex.next` returns `(r, pre.length)` -/
theorem next_abs {sc : Nat} {bol : Bool} {a : A} (ha : absOf (startState sc bol) = a)
    (hl : a.live = true) (pre rest : Bytes) (hb : ∀ b ∈ pre, b < 256) (hal : alive a pre = true)
    (hacc : aacc (arun a pre) ≠ 0) (hstop : Stops (arun a pre) rest) :
    next T sc bol (pre ++ rest) = some (aacc (arun a pre), pre.length) := by
  obtain ⟨q, hrun, hq, hlq⟩ := run_abs pre _ a ha hl hb hal
  obtain ⟨hacc', hstep⟩ := sim hq hlq
  rw [← hacc'] at hacc ⊢
  refine next_of_run T sc bol pre rest q hrun hacc fun c hc => ?_
  obtain ⟨hc256, hj⟩ := hstop c hc
  exact jam_of_abs (((hstep c hc256).resolve_left (by rw [hj]; exact A.noConfusion)).trans hj)

end Libconfig.C01L
