import LibconfigModel.Proofs.C03StackReplay
/-
  C03S: the seeded change `if (yyss + yystacksize - 1 < yyssp)` (off by one: `<`
  for `<=`, in both places) is refuted.  With it the stacks are extended one push too late:
  after `YYINITDEPTH - 1` shifts the automatic arrays are full (`yyssp` at their LAST slot — a
  state the real code never is in, `Inv.spare`), nothing has been allocated, and the next
  shift stores its value to `yyvsa[YYINITDEPTH]` and its state to `yyssa[YYINITDEPTH]`.
-/
namespace Libconfig.C03SP

open Libconfig Libconfig.BisonStack

variable {V : Type}

/-- while the seeded parser fills the automatic arrays, up to their last slot -/
theorem seeded_shifts (P : Params) (hT : P.test = fullTestSeeded) (st : Nat) (v : V) (ok : Bool)
    (n : Nat) (hn : n + 1 ≤ P.I) :
    Ctl.run P (List.replicate n (Event.shift st v ok)) (Ctl.init P ok) = Ctl.block P 0 n := by
  have ht : ∀ off, off ≤ 0 + n → P.test P.I off = false := fun off h => by
    rw [hT]
    exact Bool.eq_false_iff.mpr (mt (fullTestSeeded_iff _ _).mp (by omega))
  have hi : Ctl.init P ok = Ctl.block P 0 0 := by
    unfold Ctl.init Ctl.setState
    rw [ht 0 (Nat.zero_le _)]
    rfl
  rw [hi, Ctl.run_shifts P st v ok n _ rfl ht]
  show Ctl.block P 0 (0 + n) = _
  rw [Nat.zero_add]

/-- `yyreturnlab` allocates nothing, and the log only grows (whatever state it is entered in) -/
theorem cleanup_frame : ∀ (fuel : Nat) (s : State V),
    (cleanup fuel s).nextId = s.nextId ∧ ∃ new, (cleanup fuel s).log = new ++ s.log := by
  intro fuel
  induction fuel with
  | zero => intro s; exact ⟨rfl, [], rfl⟩
  | succ fuel ih =>
    intro s
    rw [cleanup]
    split
    · exact ⟨rfl, [], rfl⟩
    · obtain ⟨hn, new, h⟩ := ih
        { s with ssp := s.ssp - 1, vsp := s.vsp - 1,
                 log := .loadV s.loc s.vs.length s.vsp (isInit s.vs s.vsp) ::
                        .loadS s.loc s.ss.length s.ssp (isInit s.ss s.ssp) :: s.log }
      exact ⟨hn, new ++ [.loadV s.loc s.vs.length s.vsp (isInit s.vs s.vsp),
        .loadS s.loc s.ss.length s.ssp (isInit s.ss s.ssp)], by rw [h]; simp⟩

theorem returnLab_frame (r : Result) (len : Nat) (s : State V) :
    (returnLab r len s).nextId = s.nextId ∧ ∃ new, (returnLab r len s).log = new ++ s.log := by
  rw [returnLab_eq]
  split
  · exact ⟨rfl, [], rfl⟩
  · obtain ⟨hn, new, h⟩ := cleanup_frame (s.ssp - len) { s with ssp := s.ssp - len, vsp := s.vsp - len }
    unfold finishFree
    split
    · exact ⟨hn, new, h⟩
    · rename_i id _
      exact ⟨hn, .free (.heap id) :: new, by show _ :: _ = _; rw [h]; rfl⟩

theorem setState_log (P : Params) (st : Nat) (ok : Bool) (s : State V) :
    ∃ new, (setState P st ok s).log = new ++ s.log := by
  rw [setState_eq]
  split
  · rw [growStack_eq]
    split
    · obtain ⟨new, h⟩ := (returnLab_frame .nomem 0 (stored st s)).2
      exact ⟨new ++ [.storeS s.loc s.ss.length s.ssp], by rw [h]; simp [stored]⟩
    · split
      · obtain ⟨new, h⟩ := (returnLab_frame .nomem 0 (allocFailed P (stored st s))).2
        exact ⟨new ++ [.allocFail (newSize P s.stacksize), .storeS s.loc s.ss.length s.ssp], by
          rw [h]; simp [stored, allocFailed]⟩
      · have hrel : ∃ new, (relocated P (stored st s)).log = new ++ s.log :=
          ⟨freeOf s.loc ++
            [.copyV s.loc s.vs.length (.heap s.nextId) (newSize P s.stacksize) (s.ssp + 1),
             .copyS s.loc (s.ss.set s.ssp (some st)).length (.heap s.nextId) (newSize P s.stacksize)
               (s.ssp + 1),
             .alloc (.heap s.nextId) (newSize P s.stacksize), .storeS s.loc s.ss.length s.ssp], by
            simp [relocated, stored]⟩
        split
        · obtain ⟨new, h⟩ := (returnLab_frame .abort 0 (relocated P (stored st s))).2
          obtain ⟨new2, h2⟩ := hrel
          exact ⟨new ++ new2, by rw [h, h2]; simp⟩
        · exact hrel
  · exact ⟨[.storeS s.loc s.ss.length s.ssp], rfl⟩

/-- **The seeded change breaks `C03S_in_bounds`**, for all constants: with `<` in the test of
`yysetstate`, `YYINITDEPTH` shifts from the start of `yyparse` make the parser store a value to
slot `YYINITDEPTH` of the automatic array `yyvsa[YYINITDEPTH]`, one past its end. -/
theorem seeded_oob_store (P : Params) (hI : 0 < P.I) (hT : P.test = fullTestSeeded) (st : Nat) (v : V)
    (ok : Bool) :
    Access.storeV .auto P.I P.I ∈
      (run P (List.replicate P.I (Event.shift st v ok)) (init P ok : State V)).log := by
  obtain ⟨n, hn⟩ : ∃ n, P.I = n + 1 := ⟨P.I - 1, by omega⟩
  have hc : ctlOf (run P (List.replicate n (Event.shift st v ok)) (init P ok : State V)) =
      Ctl.block P 0 n := by
    rw [ctl_run, ctl_init, seeded_shifts P hT st v ok n (by omega)]
  rw [hn, List.replicate_succ', run_append, ← hn]
  generalize run P (List.replicate n (Event.shift st v ok)) (init P ok : State V) = s at hc
  have h1 : s.loc = .auto := congrArg Ctl.loc hc
  have h2 : s.vs.length = P.I := congrArg Ctl.capV hc
  have h3 : s.vsp = n := congrArg Ctl.vsp hc
  have h4 : s.status = .running := congrArg Ctl.status hc
  show _ ∈ (step P s (Event.shift st v ok)).log
  have hstep : step P s (Event.shift st v ok) = setState P st ok (pushed v s) := by
    unfold step
    rw [h4]
    rfl
  rw [hstep]
  obtain ⟨new, hnew⟩ := setState_log P st ok (pushed v s)
  rw [hnew]
  apply List.mem_append_right
  show _ ∈ Access.storeV s.loc s.vs.length (s.vsp + 1) :: s.log
  rw [h1, h2, h3, ← hn]
  exact List.mem_cons_self

theorem seeded_breaks (P : Params) (hI : 0 < P.I) (hT : P.test = fullTestSeeded) (st : Nat) (v : V)
    (ok : Bool) :
    ¬ ∀ a ∈ (run P (List.replicate P.I (Event.shift st v ok)) (init P ok : State V)).log, a.ok := by
  intro h
  have := h _ (seeded_oob_store P hI hT st v ok)
  exact absurd this (Nat.lt_irrefl _)

end Libconfig.C03SP
