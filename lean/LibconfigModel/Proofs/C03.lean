import LibconfigModel.Containers
import LibconfigModel.Writer
import LibconfigModel.Flex
import LibconfigModel.Parser
/-
  Helper lemmas for property C03: container arithmetic (`Containers.lean`) and the
  length bound of `formatDouble`.
-/
namespace Libconfig.C03P

open Libconfig Libconfig.Containers

/-! ### rounding up to a multiple of the block size -/

theorem le_roundUp {B : Nat} (hB : 0 < B) (n : Nat) : n ≤ roundUp B n := by
  unfold roundUp
  have h1 := Nat.div_add_mod (n + (B - 1)) B
  have h2 := Nat.mod_lt (n + (B - 1)) hB
  rw [Nat.mul_comm ((n + (B - 1)) / B) B]
  omega

theorem roundUp_lt {B : Nat} (hB : 0 < B) (n : Nat) : roundUp B n < n + B := by
  unfold roundUp
  have h1 := Nat.div_add_mod (n + (B - 1)) B
  rw [Nat.mul_comm ((n + (B - 1)) / B) B]
  omega

theorem roundUp_mono {B a b : Nat} (h : a ≤ b) : roundUp B a ≤ roundUp B b := by
  unfold roundUp
  exact Nat.mul_le_mul_right _ (Nat.div_le_div_right (by omega))

/-- a multiple of `B` is its own rounding -/
theorem roundUp_of_dvd {B : Nat} (hB : 0 < B) {n : Nat} (h : B ∣ n) : roundUp B n = n := by
  obtain ⟨k, rfl⟩ := h
  unfold roundUp
  have : (B * k + (B - 1)) / B = k := by
    rw [Nat.div_eq_iff hB, Nat.mul_comm k B]; omega
  rw [this, Nat.mul_comm]

/-- the next multiple after a multiple -/
theorem roundUp_succ_of_dvd {B : Nat} (hB : 0 < B) {n : Nat} (h : B ∣ n) :
    roundUp B (n + 1) = n + B := by
  obtain ⟨k, rfl⟩ := h
  unfold roundUp
  have : (B * k + 1 + (B - 1)) / B = k + 1 := by
    rw [Nat.div_eq_iff hB, Nat.add_mul, Nat.mul_comm k B]; omega
  rw [this, Nat.add_mul, Nat.mul_comm k B]; omega

/-- inside a block the rounding does not move -/
theorem roundUp_succ_of_not_dvd {B : Nat} (hB : 0 < B) {n : Nat} (h : n % B ≠ 0) :
    roundUp B (n + 1) = roundUp B n := by
  unfold roundUp
  have h1 := Nat.div_add_mod n B
  have h2 := Nat.mod_lt n hB
  have e1 : (n + 1 + (B - 1)) / B = n / B + 1 := by
    rw [Nat.div_eq_iff hB, Nat.add_mul, Nat.mul_comm (n / B) B]; omega
  have e2 : (n + (B - 1)) / B = n / B + 1 := by
    rw [Nat.div_eq_iff hB, Nat.add_mul, Nat.mul_comm (n / B) B]; omega
  rw [e1, e2]

/-- For the block size 64 of strbuf.c the arithmetic rounding is the mask expression of the
source, `(newlen + 63) & ~(size_t)63`, as long as the sum does not wrap (`size_t` = 64 bits;
`~63 = 2^64 - 64`). -/
theorem roundUp_eq_mask (n : Nat) (h : n + 63 < 2 ^ 64) :
    roundUp 64 n = (n + 63) &&& (2 ^ 64 - 64) := by
  unfold roundUp
  show (n + 63) / 64 * 64 = (n + 63) &&& (2 ^ 64 - 64)
  generalize n + 63 = x at h
  have hm : (2 ^ 64 - 64 : Nat) = (2 ^ 58 - 1) <<< 6 := by decide
  have hl : x / 64 * 64 = (x >>> 6) <<< 6 := by
    rw [Nat.shiftLeft_eq, Nat.shiftRight_eq_div_pow]
  rw [hm, hl]
  apply Nat.eq_of_testBit_eq
  intro i
  rw [Nat.testBit_and, Nat.testBit_shiftLeft, Nat.testBit_shiftLeft, Nat.testBit_shiftRight,
    Nat.testBit_two_pow_sub_one]
  by_cases h6 : i ≥ 6
  · have e : 6 + (i - 6) = i := by omega
    rw [e]
    by_cases h64 : i < 64
    · have : i - 6 < 58 := by omega
      simp [h6, this]
    · have hx : x.testBit i = false :=
        Nat.testBit_lt_two_pow (Nat.lt_of_lt_of_le h (Nat.pow_le_pow_right (by decide) (by omega)))
      simp [hx]
  · simp [h6]

/-! ### strbuf -/

theorem StrBuf.ensure_length (B : Nat) (b : StrBuf) (len : Nat) : (b.ensure B len).length = b.length := by
  unfold StrBuf.ensure; extract_lets newlen; split <;> rfl

/-- after `ensure_capacity(buf, len)` there is room for `len` characters and a NUL -/
theorem StrBuf.ensure_room {B : Nat} (hB : 0 < B) (b : StrBuf) (len : Nat) :
    b.length + len + 1 ≤ (b.ensure B len).capacity := by
  unfold StrBuf.ensure; extract_lets newlen
  split
  · exact le_roundUp hB _
  · simp only [newlen] at *; omega

/-- `ensure_capacity` never shrinks the buffer -/
theorem StrBuf.ensure_mono {B : Nat} (hB : 0 < B) (b : StrBuf) (len : Nat) :
    b.capacity ≤ (b.ensure B len).capacity := by
  unfold StrBuf.ensure; extract_lets newlen
  split
  · rename_i h; exact Nat.le_trans (Nat.le_of_lt h) (le_roundUp hB _)
  · exact Nat.le_refl _

theorem StrBuf.ensure_blocks {B : Nat} (b : StrBuf) (len : Nat) (h : B ∣ b.capacity) :
    B ∣ (b.ensure B len).capacity := by
  unfold StrBuf.ensure; extract_lets newlen
  split
  · exact Nat.dvd_mul_left _ _
  · exact h

/-- `ensure_capacity` allocates less than one block more than needed -/
theorem StrBuf.ensure_tight {B : Nat} (hB : 0 < B) (b : StrBuf) (len : Nat) :
    (b.ensure B len).capacity = b.capacity ∨ (b.ensure B len).capacity < b.length + len + 1 + B := by
  unfold StrBuf.ensure; extract_lets newlen
  split
  · exact .inr (roundUp_lt hB _)
  · exact .inl rfl

theorem StrBuf.grown_length (B : Nat) (b : StrBuf) (op : StrBufOp) : (b.grown B op).length = b.length := by
  cases op <;> simp only [StrBuf.grown, StrBuf.ensure_length]

/-- every store of an append lies inside the allocation -/
theorem StrBuf.stores_in_bounds {B : Nat} (hB : 0 < B) (b : StrBuf) (op : StrBufOp)
    (hinv : StrBuf.Inv B b) : b.length + op.stores ≤ (b.grown B op).capacity := by
  cases op with
  | appendString len => exact StrBuf.ensure_room hB b len
  | appendChar => exact StrBuf.ensure_room hB b 1
  | release =>
    simp only [StrBufOp.stores, StrBuf.grown]
    rcases hinv.nul with h | h <;> omega

theorem StrBuf.inv_init (B : Nat) : StrBuf.Inv B {} := ⟨.inl ⟨rfl, rfl⟩, Nat.dvd_zero _⟩

theorem StrBuf.inv_step {B : Nat} (hB : 0 < B) (b : StrBuf) (op : StrBufOp) (h : StrBuf.Inv B b) :
    StrBuf.Inv B (b.step B op) := by
  cases op with
  | appendString len =>
    refine ⟨.inr ?_, StrBuf.ensure_blocks b len h.blocks⟩
    exact StrBuf.ensure_room hB b len
  | appendChar =>
    refine ⟨.inr ?_, StrBuf.ensure_blocks b 1 h.blocks⟩
    exact StrBuf.ensure_room hB b 1
  | release => exact StrBuf.inv_init B

theorem foldl_inv {σ α : Type} (I : σ → Prop) (f : σ → α → σ) (hstep : ∀ s a, I s → I (f s a)) :
    ∀ (ops : List α) (s : σ), I s → I (ops.foldl f s)
  | [], _, h => h
  | a :: as, s, h => foldl_inv I f hstep as (f s a) (hstep s a h)

theorem StrBuf.inv_run {B : Nat} (hB : 0 < B) (ops : List StrBufOp) : StrBuf.Inv B (StrBuf.run B ops) :=
  foldl_inv _ _ (fun s a => StrBuf.inv_step hB s a) ops {} (StrBuf.inv_init B)

/-! ### strvec -/

theorem StrVec.inv_init : StrVec.Inv {} := ⟨Nat.le_refl _, rfl, .inl ⟨rfl, rfl⟩⟩

/-- after the reallocation branch the store at `end` is inside the allocation, `end` points at
slot `length`, and one more slot (for the final NULL of `release`) remains -/
theorem StrVec.grown_spec {C : Nat} (hC : 0 < C) (v : StrVec) (h : StrVec.Inv v) :
    (v.grown C).endIdx = v.length ∧ (v.grown C).length = v.length ∧
    v.length < (v.grown C).capacity ∧ (v.grown C).slots = (v.grown C).capacity + 1 := by
  unfold StrVec.grown
  split
  · rename_i heq
    have : v.length = v.capacity := by simpa using heq
    refine ⟨rfl, rfl, ?_, rfl⟩
    show v.length < v.capacity + C
    omega
  · rename_i hne
    have hne' : v.length ≠ v.capacity := by simpa using hne
    have hlt : v.length < v.capacity := Nat.lt_of_le_of_ne h.le hne'
    refine ⟨h.endAt, rfl, hlt, ?_⟩
    rcases h.alloc with ⟨_, h0⟩ | h1
    · omega
    · exact h1

theorem StrVec.inv_step {C : Nat} (hC : 0 < C) (v : StrVec) (op : StrVecOp) (h : StrVec.Inv v) :
    StrVec.Inv (v.step C op) := by
  cases op with
  | release => exact StrVec.inv_init
  | append =>
    obtain ⟨h1, h2, h3, h4⟩ := StrVec.grown_spec hC v h
    refine ⟨?_, ?_, .inr ?_⟩
    · show (v.grown C).length + 1 ≤ (v.grown C).capacity
      omega
    · show (v.grown C).endIdx + 1 = (v.grown C).length + 1
      omega
    · exact h4

theorem StrVec.inv_run {C : Nat} (hC : 0 < C) (ops : List StrVecOp) : StrVec.Inv (StrVec.run C ops) :=
  foldl_inv _ _ (fun s a => StrVec.inv_step hC s a) ops {} StrVec.inv_init

/-! ### child vectors -/

theorem ChildVec.inv_init (C : Nat) : ChildVec.Inv C {} := by
  show roundUp C 0 ≤ 0
  unfold roundUp
  by_cases hC : C = 0
  · subst hC; simp
  · have : (0 + (C - 1)) / C = 0 := by
      rw [Nat.div_eq_iff (by omega)]; omega
    rw [this]; simp

/-- the allocation `__config_list_add` stores into covers `length + 1` rounded up -/
theorem ChildVec.grown_spec {C : Nat} (hC : 0 < C) (v : ChildVec) (h : ChildVec.Inv C v) :
    roundUp C (v.length + 1) ≤ (v.grown C).alloc := by
  unfold ChildVec.grown
  split
  · rename_i heq
    have hd : C ∣ v.length := Nat.dvd_of_mod_eq_zero (by simpa using heq)
    rw [roundUp_succ_of_dvd hC hd]
    exact Nat.le_refl _
  · rename_i hne
    have : v.length % C ≠ 0 := by simpa using hne
    rw [roundUp_succ_of_not_dvd hC this]
    exact h

/-- the store `elements[length] = setting` is inside the allocation -/
theorem ChildVec.add_in_bounds {C : Nat} (hC : 0 < C) (v : ChildVec) (h : ChildVec.Inv C v) :
    v.length < (v.grown C).alloc :=
  Nat.lt_of_lt_of_le (Nat.lt_of_lt_of_le (Nat.lt_succ_self _) (le_roundUp hC _)) (ChildVec.grown_spec hC v h)

/-- all `length` elements (what `memmove` in `__config_list_remove` and every index loop
touch) are inside the allocation -/
theorem ChildVec.length_le_alloc {C : Nat} (hC : 0 < C) (v : ChildVec) (h : ChildVec.Inv C v) :
    v.length ≤ v.alloc := Nat.le_trans (le_roundUp hC _) h

theorem ChildVec.inv_step {C : Nat} (hC : 0 < C) (v : ChildVec) (op : ChildOp) (h : ChildVec.Inv C v) :
    ChildVec.Inv C (v.step C op) := by
  cases op with
  | add => exact ChildVec.grown_spec hC v h
  | remove idx =>
    show ChildVec.Inv C (v.remove idx)
    unfold ChildVec.remove
    split
    · exact Nat.le_trans (roundUp_mono (Nat.sub_le _ _)) h
    · exact h

theorem ChildVec.inv_run {C : Nat} (hC : 0 < C) (ops : List ChildOp) : ChildVec.Inv C (ChildVec.run C ops) :=
  foldl_inv _ _ (fun s a => ChildVec.inv_step hC s a) ops {} (ChildVec.inv_init C)

/-! ### `libconfig_format_double` -/

theorem length_stripZeros_le (ds : Bytes) : (F64.stripZeros ds).length ≤ ds.length := by
  unfold F64.stripZeros
  rw [List.length_reverse]
  have h := (List.dropWhile_sublist (fun x => x == 48) (l := ds.reverse)).length_le
  rw [List.length_reverse] at h
  exact h

/-- the text produced is never longer than what `snprintf(buf, buflen - 3, …)` may store plus
the two characters `.0` that `strcat` may add -/
theorem formatDouble_length (bufLen b p : Nat) (sci : Bool) :
    (formatDouble bufLen b p sci).length ≤ bufLen - 4 + 2 := by
  unfold formatDouble
  extract_lets raw0 raw s ip fp
  have hs : s.length ≤ bufLen - 4 := List.length_take_le _ _
  clear_value s
  split
  · omega
  · split
    · rw [List.length_append]; simp only [List.length_cons, List.length_nil]; omega
    · have hsplit : ip.length + (s.dropWhile (· != 46)).length = s.length := by
        have := congrArg List.length (List.takeWhile_append_dropWhile (p := (· != 46)) (l := s))
        rw [List.length_append] at this
        exact this
      have hfp : fp.length ≤ (s.dropWhile (· != 46)).length - 1 := by
        simp only [fp, List.length_drop]; omega
      clear_value fp ip
      cases fp with
      | nil => simp only; omega
      | cons d ds =>
        have h3 := length_stripZeros_le ds
        simp only [List.length_append, List.length_cons, List.length_nil] at hfp ⊢
        omega

end Libconfig.C03P
