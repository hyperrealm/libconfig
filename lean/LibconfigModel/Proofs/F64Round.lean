import LibconfigModel.Proofs.C08
/-
  `F64.ofRat` is correctly rounded (round to nearest, ties to even): helper lemmas for
  `F64.ofRat_nearest` (Properties/C08Float.lean).  Core Lean only.

  `ofRat_scaled` reduces `ofRat neg num den` to `finish neg (divRoundEven n d) (1074 − k)` for a
  ratio `n/d = num/den · 2^(1074−k)` that lies in `[2^52, 2^53)` unless `k = 0`; `finish_finite`
  and `finish_inf` say what `finish` makes of the rounded quotient.
-/
namespace Libconfig.F64R

open Libconfig Libconfig.F64 Libconfig.C08P

/-! ### the chosen shift normalises the quotient into `[2^52, 2^53)` unless clamped -/

theorem notQ_s0 (num den : Nat) (hn : 0 < num) : ¬ Q num den (s0Of num den) 52 := by
  unfold Q
  have h1 := pow_pred_bitLen_le num hn
  have h2 := lt_pow_bitLen den
  have hb := bitLen_pos num hn
  have hrel : 2 ^ 52 * (2 ^ bitLen den * dn (s0Of num den)) =
      2 ^ (bitLen num - 1) * up (s0Of num den) := by
    unfold up dn s0Of
    simp only [← Nat.pow_add]
    congr 1
    omega
  have a1 : 2 ^ 52 * (den * dn (s0Of num den)) ≤ 2 ^ 52 * (2 ^ bitLen den * dn (s0Of num den)) :=
    Nat.mul_le_mul_left _ (Nat.mul_le_mul_right _ (Nat.le_of_lt h2))
  have a2 : 2 ^ (bitLen num - 1) * up (s0Of num den) ≤ num * up (s0Of num den) :=
    Nat.mul_le_mul_right _ h1
  omega

theorem notQ_s1 (num den : Nat) (hn : 0 < num) (hd : 0 < den) : ¬ Q num den (s1Of num den) 52 := by
  have h0 := notQ_s0 num den hn
  unfold s1Of
  simp only []
  split
  · next h53 =>
    intro hq
    have h1 : Q num den (s0Of num den - 1 + ((1 : Nat) : Int)) (52 + 1) := (Q_shift num den _ 1 52).mpr hq
    rw [show s0Of num den - 1 + ((1 : Nat) : Int) = s0Of num den by omega] at h1
    have := (Q_iff_div num den hd _ 53).mpr h1
    omega
  · split
    · next h52 => exact absurd ((Q_iff_div num den hd _ 52).mp h52) h0
    · exact h0

/-- the facts about the shift chosen by `ofRat` that the rounding proof needs -/
theorem chooseS_spec (num den : Nat) (hn : 0 < num) (hd : 0 < den) :
    chooseS num den ≤ 1074 ∧ Q num den (chooseS num den) 53 ∧
      (chooseS num den < 1074 → ¬ Q num den (chooseS num den) 52) := by
  refine ⟨?_, Q_chooseS num den hd, ?_⟩
  · unfold chooseS; split <;> omega
  · have := notQ_s1 num den hn hd
    unfold chooseS
    split
    · omega
    · intro _; exact this

/-! ### the magnitudes of doubles -/

/-- the magnitude of a finite double scaled by 2^1074 (`F64.scaledMag` of Properties/C08Float.lean) -/
def sMag (b : Nat) : Nat := mant b * 2 ^ (expo b + 1074).toNat

theorem mant_lt (b : Nat) : mant b < 2 ^ 53 := by
  have hf : fracField b < 2 ^ 52 := Nat.mod_lt _ (by decide)
  unfold mant; split <;> omega

theorem expo_ge (b : Nat) : -1074 ≤ expo b := by
  unfold expo
  split
  · omega
  · next h =>
    have : expField b ≠ 0 := by simpa using h
    omega

theorem expo_le (b : Nat) (h : isFinite b = true) : expo b ≤ 971 := by
  have h1 : expField b < 2048 := Nat.mod_lt _ (by decide)
  have h2 : expField b ≠ 2047 := by simpa [isFinite] using h
  unfold expo
  split <;> omega

/-- a mantissa without the leading bit belongs to a denormal -/
theorem expo_denormal (b : Nat) (h : mant b < 2 ^ 52) : expo b = -1074 := by
  unfold mant at h
  unfold expo
  split at h
  · next h0 => rw [if_pos h0]
  · omega

theorem sMag_pos_iff (b : Nat) : 0 < sMag b ↔ mant b ≠ 0 := by
  unfold sMag
  rw [Nat.mul_pos_iff_of_pos_right (Nat.two_pow_pos _), Nat.pos_iff_ne_zero]

theorem normal_sMag (b : Nat) (hn : expField b ≠ 0) : 2 ^ 52 ≤ sMag b := by
  unfold sMag mant
  rw [if_neg (by simpa using hn)]
  exact Nat.le_trans (by omega) (Nat.le_mul_of_pos_right _ (Nat.two_pow_pos _))

/-- relative to the grid of spacing `2^k`: a double's magnitude is on the grid, or it lies below
the bottom `2^52·2^k` of the binade (and then `k ≥ 1`) -/
theorem sMag_grid (b k : Nat) : (∃ j, sMag b = j * 2 ^ k) ∨ (1 ≤ k ∧ sMag b < 2 ^ 52 * 2 ^ k) := by
  have hM := mant_lt b
  unfold sMag
  generalize (expo b + 1074).toNat = k'
  by_cases hkk : k ≤ k'
  · left
    exact ⟨mant b * 2 ^ (k' - k), by rw [Nat.mul_assoc, ← Nat.pow_add, Nat.sub_add_cancel hkk]⟩
  · right
    refine ⟨by omega, ?_⟩
    calc mant b * 2 ^ k' < 2 ^ 53 * 2 ^ k' := Nat.mul_lt_mul_of_pos_right hM (Nat.two_pow_pos _)
      _ = 2 ^ 52 * 2 ^ (k' + 1) := pow_mul_pow_eq 2 (by omega)
      _ ≤ 2 ^ 52 * 2 ^ k := Nat.mul_le_mul_left _ (Nat.pow_le_pow_right (by decide) (by omega))

/-! ### the last step of `ofRat` -/

theorem mkBits_inf (neg : Bool) :
    signBit (mkBits neg 2047 0) = neg ∧ isFinite (mkBits neg 2047 0) = false ∧
      isInf (mkBits neg 2047 0) = true := by
  cases neg <;> decide

/-- the readings of an assembled finite bit pattern -/
theorem mkBits_finite (neg : Bool) (e f : Nat) (he : e < 2047) (hf : f < 4503599627370496) :
    signBit (mkBits neg e f) = neg ∧ isFinite (mkBits neg e f) = true ∧
      isInf (mkBits neg e f) = false ∧
      mant (mkBits neg e f) = (if e = 0 then f else f + 4503599627370496) ∧
      (expo (mkBits neg e f) + 1074).toNat = e - 1 := by
  obtain ⟨hE, hF, -, hS⟩ := mkBits_fields neg e f (by omega) hf
  refine ⟨hS, ?_, ?_, ?_, ?_⟩
  · unfold isFinite; rw [hE]; simp; omega
  · unfold isInf; rw [hE]; simp; omega
  · unfold mant; rw [hE, hF]; simp
  · unfold expo; rw [hE]
    by_cases h0 : e = 0
    · simp [h0]
    · simp [h0]; omega

/-- `ofRat` of a zero numerator is the signed zero: `strtod`'s test `d = 0` is no special case -/
theorem ofRat_zero (neg : Bool) (den : Nat) : ofRat neg 0 den = mkBits neg 0 0 := by
  unfold ofRat
  exact if_pos rfl

theorem sMag_zero (neg : Bool) : sMag (mkBits neg 0 0) = 0 := by
  obtain ⟨-, -, -, a4, -⟩ := mkBits_finite neg 0 0 (by omega) (by omega)
  unfold sMag
  rw [a4, if_pos rfl, Nat.zero_mul]

/-- a mantissa below `2^53` with unit `2^(k−1074)`, denormal only for `k = 0`, is packed as it is -/
theorem pack_finite (neg : Bool) (m k : Nat) (hm : m < 2 ^ 53) (hden : m < 2 ^ 52 → k = 0)
    (hk : k ≤ 2045) :
    signBit (pack neg m (1074 - k)) = neg ∧ isFinite (pack neg m (1074 - k)) = true ∧
      isInf (pack neg m (1074 - k)) = false ∧ sMag (pack neg m (1074 - k)) = m * 2 ^ k ∧
      mant (pack neg m (1074 - k)) = m := by
  unfold sMag
  by_cases h52 : m < 2 ^ 52
  · obtain ⟨a1, a2, a3, a4, a5⟩ := mkBits_finite neg 0 m (by omega) h52
    rw [pack_denormal neg m _ h52, a4, a5, hden h52]
    exact ⟨a1, a2, a3, rfl, rfl⟩
  · obtain ⟨a1, a2, a3, a4, a5⟩ := mkBits_finite neg (k + 1) (m - 2 ^ 52) (by omega) (by omega)
    rw [pack_normal neg m _ (by omega) (by omega), show (-(1074 - (k : Int)) + 1075).toNat = k + 1 by omega,
      a4, a5, if_neg (by omega), Nat.sub_add_cancel (by omega)]
    exact ⟨a1, a2, a3, rfl, rfl⟩

theorem finish_finite (neg : Bool) (m k : Nat) (hm : m ≤ 2 ^ 53) (hden : m < 2 ^ 52 → k = 0)
    (hfin : (m < 2 ^ 53 ∧ k ≤ 2045) ∨ k ≤ 2044) :
    signBit (finish neg m (1074 - k)) = neg ∧ isFinite (finish neg m (1074 - k)) = true ∧
      isInf (finish neg m (1074 - k)) = false ∧ sMag (finish neg m (1074 - k)) = m * 2 ^ k ∧
      (mant (finish neg m (1074 - k)) = m ∨ mant (finish neg m (1074 - k)) = 2 ^ 52) := by
  by_cases h53 : m < 2 ^ 53
  · obtain ⟨a1, a2, a3, a4, a5⟩ := pack_finite neg m k h53 hden (by omega)
    rw [finish_lt neg m _ h53]
    exact ⟨a1, a2, a3, a4, .inl a5⟩
  · -- the carry: `2^53` with unit `2^(k−1074)` is `2^52` with unit `2^(k+1−1074)`
    obtain rfl : m = 2 ^ 53 := by omega
    obtain ⟨a1, a2, a3, a4, a5⟩ := pack_finite neg (2 ^ 52) (k + 1) (by decide)
      (fun h => absurd h (Nat.lt_irrefl _)) (by omega)
    rw [finish_carry neg _ _ (Nat.le_refl _), show (1074 : Int) - k - 1 = 1074 - ((k + 1 : Nat) : Int) by omega,
      show 2 ^ 53 / 2 = 2 ^ 52 from rfl]
    exact ⟨a1, a2, a3, by rw [a4, Nat.pow_succ]; omega, .inr a5⟩

theorem finish_inf (neg : Bool) (m k : Nat) (hm1 : 2 ^ 52 ≤ m)
    (hinf : 2046 ≤ k ∨ (m = 2 ^ 53 ∧ k = 2045)) : finish neg m (1074 - k) = mkBits neg 2047 0 := by
  by_cases h53 : m < 2 ^ 53
  · rw [finish_lt neg m _ h53, pack_inf neg m _ hm1 (by omega)]
  · rw [finish_carry neg m _ (by omega), pack_inf neg _ _ (by omega) (by omega)]

/-! ### nearest on a grid -/

/-- on the grid of spacing `K` (and against everything below the binade when the quotient is
    normalised), `divRoundEven n d · K` is nearest to `n·K/d`, and a tie implies an even quotient -/
theorem nearest_core (n d K S : Nat) (hd : 0 < d) (hK : 0 < K)
    (hS : (∃ j, S = j * K) ∨ (2 ^ 52 * d ≤ n ∧ S < 2 ^ 52 * K)) :
    dist (n * K) (divRoundEven n d * K * d) ≤ dist (n * K) (S * d) ∧
    (dist (n * K) (divRoundEven n d * K * d) = dist (n * K) (S * d) →
      S ≠ divRoundEven n d * K → divRoundEven n d % 2 = 0) := by
  have key : ∀ j, dist (n * K) (j * K * d) = dist n (j * d) * K := by
    intro j; rw [dist_mul_right, Nat.mul_right_comm]
  rcases hS with ⟨j, rfl⟩ | ⟨h1, h2⟩
  · rw [key, key]
    refine ⟨Nat.mul_le_mul_right K (dre_nearest n d hd j), fun h hne => ?_⟩
    exact dre_tie n d hd j (fun e => hne (by rw [e])) (Nat.eq_of_mul_eq_mul_right hK h)
  · -- `S·d` lies below `2^52·K·d ≤ n·K`, and `2^52·K·d` is a grid point
    have hA := Nat.mul_le_mul_right K (dre_nearest n d hd (2 ^ 52))
    rw [← key, ← key] at hA
    have hB : S * d < 2 ^ 52 * K * d := Nat.mul_lt_mul_of_pos_right h2 hd
    have hC : 2 ^ 52 * K * d ≤ n * K := by
      rw [Nat.mul_right_comm]; exact Nat.mul_le_mul_right K h1
    rw [dist_of_le hC] at hA
    rw [dist_of_le (Nat.le_trans (Nat.le_of_lt hB) hC)]
    exact ⟨by omega, fun h => by omega⟩

/-! ### overflow -/

/-- with the quotient `n/d` below `2^53` (and at least `2^52` when `k ≥ 1`): `n/d·2^k` reaches the
    overflow threshold `(2^54 − 1)·W`, `W = 2^2044`, iff the rounded result overflows -/
theorem overflow_aux (n d k W : Nat) (hW : 0 < W) (hd : 0 < d) (hlt : n < 2 ^ 53 * d)
    (hge : 1 ≤ k → 2 ^ 52 * d ≤ n)
    (p1 : k ≤ 2044 → 2 ^ k ≤ W) (p2 : k = 2045 → 2 ^ k = W * 2) (p3 : 2046 ≤ k → W * 2 ^ 2 ≤ 2 ^ k) :
    (2 ^ 54 - 1) * W * d ≤ n * 2 ^ k ↔ (2046 ≤ k ∨ (divRoundEven n d = 2 ^ 53 ∧ k = 2045)) := by
  have e0 : (2 ^ 54 - 1) * W * d = (2 ^ 54 - 1) * (d * W) := by
    rw [Nat.mul_assoc, Nat.mul_comm W d]
  rw [e0]
  by_cases h1 : k ≤ 2044
  · have a1 : n * 2 ^ k < 2 ^ 53 * d * 2 ^ k :=
      Nat.mul_lt_mul_of_pos_right hlt (Nat.pow_pos (by decide))
    have a2 : d * 2 ^ k ≤ d * W := Nat.mul_le_mul_left d (p1 h1)
    rw [Nat.mul_assoc] at a1
    omega
  · by_cases h2 : k = 2045
    · have hr := dre_reach n d (2 ^ 53 - 1) hd hlt (by decide)
      have e1 : n * 2 ^ k = 2 * n * W := by
        rw [p2 h2, Nat.mul_comm 2 n, Nat.mul_assoc, Nat.mul_comm 2 W]
      rw [e1, ← Nat.mul_assoc, Nat.mul_le_mul_right_iff hW]
      omega
    · have hk : 2046 ≤ k := by omega
      have a1 : 2 ^ 52 * d * 2 ^ k ≤ n * 2 ^ k := Nat.mul_le_mul_right _ (hge (by omega))
      have a3 : d * (W * 2 ^ 2) ≤ d * 2 ^ k := Nat.mul_le_mul_left d (p3 hk)
      rw [← Nat.mul_assoc] at a3
      rw [Nat.mul_assoc] at a1
      omega

theorem pow_facts (w k : Nat) :
    (k ≤ w → 2 ^ k ≤ 2 ^ w) ∧ (k = w + 1 → 2 ^ k = 2 ^ w * 2) ∧ (w + 2 ≤ k → 2 ^ w * 2 ^ 2 ≤ 2 ^ k) :=
  ⟨Nat.pow_le_pow_right (by decide), fun h => by rw [h, Nat.pow_succ],
    fun h => by rw [← Nat.pow_add]; exact Nat.pow_le_pow_right (by decide) h⟩

theorem overflow_iff (n d k : Nat) (hd : 0 < d) (hlt : n < 2 ^ 53 * d)
    (hge : 1 ≤ k → 2 ^ 52 * d ≤ n) :
    (2 ^ 54 - 1) * 2 ^ 2044 * d ≤ n * 2 ^ k ↔
      (2046 ≤ k ∨ (divRoundEven n d = 2 ^ 53 ∧ k = 2045)) := by
  obtain ⟨h1, h2, h3⟩ := pow_facts 2044 k
  have h0 : 0 < 2 ^ 2044 := Nat.two_pow_pos 2044
  generalize 2 ^ 2044 = W at *
  exact overflow_aux n d k W h0 hd hlt hge h1 h2 h3

/-! ### `ofRat` is round-to-nearest-even -/

/-- `F64.err` of Properties/C08Float.lean -/
def errR (num den b : Nat) : Nat := Int.natAbs ((num * 2 ^ 1074 : Int) - (sMag b * den : Int))

theorem errR_eq (num den b : Nat) : errR num den b = dist (num * 2 ^ 1074) (sMag b * den) := by
  unfold errR dist
  simp only [Int.natCast_mul, Int.natCast_pow, Int.cast_ofNat_Int]

/-- `F64.overflowThreshold` of Properties/C08Float.lean -/
def thr : Nat := (2 ^ 54 - 1) * 2 ^ (1074 + 970)

theorem thr_eq : thr = (2 ^ 54 - 1) * 2 ^ 2044 := by
  unfold thr
  rw [show 1074 + 970 = 2044 from rfl]

/-- `ofRat` rounds `n/d = num/den · 2^(1074−k)` to an integer and assembles the result; the
ratio lies below `2^53`, and at or above `2^52` unless the exponent is clamped (`k = 0`) -/
theorem ofRat_scaled (neg : Bool) (num den : Nat) (hn : 0 < num) (hd : 0 < den) :
    ∃ k n d D : Nat, 0 < D ∧ 0 < d ∧ d = den * D ∧ num * 2 ^ 1074 * D = n * 2 ^ k ∧
      n < 2 ^ 53 * d ∧ (1 ≤ k → 2 ^ 52 * d ≤ n) ∧
      ofRat neg num den = finish neg (divRoundEven n d) (1074 - k) := by
  obtain ⟨hs1074, hQ53, hQ52⟩ := chooseS_spec num den hn hd
  have hb : ofRat neg num den =
      finish neg (divRoundEven (num * up (chooseS num den)) (den * dn (chooseS num den)))
        (chooseS num den) := by
    rw [ofRat_eq, if_neg (by omega), scale_eq]
  unfold Q at hQ53 hQ52
  generalize chooseS num den = s at *
  obtain ⟨k, rfl⟩ : ∃ k : Nat, s = 1074 - (k : Int) := ⟨(1074 - s).toNat, by omega⟩
  have hrel : 2 ^ 1074 * dn (1074 - (k : Int)) = up (1074 - (k : Int)) * 2 ^ k := by
    unfold up dn; simp only [← Nat.pow_add]; congr 1; omega
  exact ⟨k, _, _, _, dn_pos _, Nat.mul_pos hd (dn_pos _), rfl,
    by rw [Nat.mul_assoc, hrel, ← Nat.mul_assoc], hQ53, fun h => Nat.le_of_not_lt (hQ52 (by omega)), hb⟩

/-- the error of any double against `num/den`, at the scale of `ofRat_scaled` -/
theorem errR_scaled {num den k n d D : Nat} (hdD : d = den * D)
    (e : num * 2 ^ 1074 * D = n * 2 ^ k) (b : Nat) :
    errR num den b * D = dist (n * 2 ^ k) (sMag b * d) := by
  rw [errR_eq, dist_mul_right, e, Nat.mul_assoc, ← hdD]

theorem ofRat_nearest_R (neg : Bool) (num den : Nat) (hn : num > 0) (hd : den > 0) :
    signBit (ofRat neg num den) = neg ∧ isNaN (ofRat neg num den) = false ∧
    (isFinite (ofRat neg num den) = true →
      ∀ b', errR num den (ofRat neg num den) ≤ errR num den b' ∧
        (errR num den (ofRat neg num den) = errR num den b' →
          sMag b' ≠ sMag (ofRat neg num den) → mant (ofRat neg num den) % 2 = 0)) ∧
    (isInf (ofRat neg num den) = true ↔ num * 2 ^ 1074 ≥ thr * den) := by
  have hnan := (ofRat_ok neg num den hd).1
  obtain ⟨k, n, d, D, hDpos, hdpos, hdD, e1, hQ53, hk1, hb⟩ := ofRat_scaled neg num den hn hd
  have hE := errR_scaled hdD e1
  have hm53 : divRoundEven n d ≤ 2 ^ 53 := dre_le_of n d _ hQ53
  have hmge : 1 ≤ k → 2 ^ 52 ≤ divRoundEven n d := fun h => dre_ge_of n d _ hdpos (hk1 h)
  have hthr : thr * den ≤ num * 2 ^ 1074 ↔
      (2046 ≤ k ∨ (divRoundEven n d = 2 ^ 53 ∧ k = 2045)) := by
    rw [← Nat.mul_le_mul_right_iff hDpos, e1, Nat.mul_assoc, ← hdD, thr_eq]
    exact overflow_iff n d k hdpos hQ53 hk1
  rw [hb] at hnan ⊢
  by_cases hF : (divRoundEven n d < 2 ^ 53 ∧ k ≤ 2045) ∨ k ≤ 2044
  · obtain ⟨f1, f2, f3, f4, f5⟩ := finish_finite neg (divRoundEven n d) k hm53
      (fun h => by false_or_by_contra; omega) hF
    refine ⟨f1, hnan, fun _ b' => ?_, ?_⟩
    · have hS : (∃ j, sMag b' = j * 2 ^ k) ∨ (2 ^ 52 * d ≤ n ∧ sMag b' < 2 ^ 52 * 2 ^ k) :=
        (sMag_grid b' k).imp id (fun h => ⟨hk1 h.1, h.2⟩)
      obtain ⟨c1, c2⟩ := nearest_core n d (2 ^ k) (sMag b') hdpos (Nat.two_pow_pos k) hS
      rw [← f4, ← hE, ← hE] at c1 c2
      refine ⟨Nat.le_of_mul_le_mul_right c1 hDpos, fun heq hne => ?_⟩
      have hev := c2 (by rw [heq]) hne
      rcases f5 with f5 | f5
      · rw [f5]; exact hev
      · rw [f5]
    · rw [f3]
      refine ⟨fun h => (by cases h), fun h => ?_⟩
      have := hthr.mp h
      omega
  · have hinf : 2046 ≤ k ∨ (divRoundEven n d = 2 ^ 53 ∧ k = 2045) := by omega
    obtain ⟨g1, g2, g3⟩ := mkBits_inf neg
    rw [finish_inf neg (divRoundEven n d) k (hmge (by omega)) hinf] at hnan ⊢
    refine ⟨g1, hnan, fun h => ?_, fun _ => hthr.mpr hinf, fun _ => g3⟩
    rw [g2] at h
    cases h

theorem isInf_zero (neg : Bool) : isInf (mkBits neg 0 0) = false := by cases neg <;> decide +kernel

/-- below the overflow threshold the conversion is no infinity -/
theorem isInf_ofRat_lt (neg : Bool) (num den : Nat) (hd : 0 < den)
    (h : num * 2 ^ 1074 < thr * den) : isInf (ofRat neg num den) = false := by
  by_cases hn : num = 0
  · rw [hn, ofRat_zero]; exact isInf_zero _
  · have := (ofRat_nearest_R neg num den (by omega) hd).2.2.2
    cases hi : isInf (ofRat neg num den)
    · rfl
    · have := this.mp hi; omega

theorem finite_of (b : Nat) (h1 : isNaN b = false) (h2 : isInf b = false) : isFinite b = true := by
  unfold isNaN at h1
  unfold isInf at h2
  unfold isFinite
  by_cases h : expField b = 2047
  · rw [h] at h1 h2
    simp only [beq_self_eq_true, Bool.true_and] at h1 h2
    have a1 : fracField b = 0 := by simpa using h1
    have a2 : fracField b ≠ 0 := by simpa using h2
    exact absurd a1 a2
  · simpa using h

/-- a conversion that does not overflow gives a finite double of the requested sign, nearest to
`num/den` among all doubles -/
theorem ofRat_near (neg : Bool) (num den : Nat) (hn : 0 < num) (hd : 0 < den)
    (hinf : isInf (ofRat neg num den) = false) :
    isFinite (ofRat neg num den) = true ∧ signBit (ofRat neg num den) = neg ∧
      ∀ c, dist (num * 2 ^ 1074) (sMag (ofRat neg num den) * den) ≤
        dist (num * 2 ^ 1074) (sMag c * den) := by
  obtain ⟨hsg, hnan, hnear, -⟩ := ofRat_nearest_R neg num den hn hd
  have hfin := finite_of _ hnan hinf
  exact ⟨hfin, hsg, fun c => by rw [← errR_eq, ← errR_eq]; exact (hnear hfin c).1⟩

end Libconfig.F64R
