import LibconfigModel.Proofs.C10ProvSim3
/-
  C02D, the whole parse: `yyparse` over the compiled tables, started on a cleared configuration in
  front of the tokens of a text, does what the reference interpreter says — it accepts with the
  denoted tree, or it aborts with the denoted message, in the scan state right after the token
  `reportAt` names — unless the fuel of the model runs out.
-/
namespace Libconfig.C02D
open Libconfig C02P C05P C02C C01PP C04 C04R Denote C09L C10Prov

section
variable {E : ParserEnv} {plain : Bool} {pos : Nat → ScanState} {o : Options}

/-- what the simulation of a whole text establishes, in terms of what the interpreter makes of
its settings -/
def ParseSim (E : ParserEnv) (plain : Bool) (pos : Nat → ScanState) (a : MC) :
    ResAt (List Node) → Prop
  | .error k w => AbortsAt E plain a k.text (pos (reportAt k w).length)
  | .ok members [] => ∃ la1 sc1 ctx1 vv v2, Reaches E a ⟨[(6, vv), (2, v2), (0, {})], la1, sc1, ctx1⟩ ∧
      stripPos ctx1.cfg.root = { ty := T_GROUP, kids := members }
  | .ok _ (_ :: rest) => AbortsAt E plain a ErrKind.syntax.text (pos (rest.length + 1))

theorem parse_sim (hE : Compiled E) (toks : List (Nat × TokVal)) (hraw : RawOK toks)
    (hnest : nestS 0 (toks.map itemOf) ≤ 1665) {ctx₀ : ParseCtx}
    (hlex : LexAt E plain pos (toks ++ [tEOF]))
    (hroot : stripPos ctx₀.cfg.root = { ty := T_GROUP }) (hpar : ctx₀.parent = some [])
    (hstr : ctx₀.str = none) (hinv : Inv plain o ctx₀) :
    ParseSim E plain pos ⟨[(0, {})], none, pos (toks.length + 1), ctx₀⟩
      (settingsAt o (toks.length + 1) [] (toks.map itemOf)) := by
  rw [show ([] : List Node) = stripPosList [] from rfl, (joint_at (stampAt pos) o).2.1]
  cases hs : settingsJ (stampAt pos) o (toks.length + 1) [] (toks.map itemOf) with
  | error k w =>
    have hsim := top_sim hE toks hraw hnest hlex hroot hpar hstr hinv
    rw [hs] at hsim
    exact hsim
  | ok members rest =>
    cases rest with
    | nil =>
      obtain ⟨la1, sc1, ctx1, vv, v2, hR, hroot1⟩ :=
        accept_sim hE toks hraw hnest hlex hroot hpar hstr hinv hs
      refine ⟨la1, sc1, ctx1, vv, v2, hR, ?_⟩
      rw [hroot1, stripPos_eq]
      rfl
    | cons it tl =>
      obtain ⟨la2, sc2, ctx2, v2, hR2, hI2, hinv2, -⟩ :=
        config_sim hE toks hraw hnest hlex hroot hpar hstr hinv hs
      show AbortsAt E plain _ ErrKind.syntax.text _
      rw [text_syntax]
      refine AbortsAt.of_reaches hR2 ?_
      exact hI2.error hE (items := it :: tl) rfl (Nat.le_of_ble_eq_true rfl) (by decide)
        (fun k h23 hn => err_2 k h23 (ne_of_hk hn rfl hk_ne_0)) nn_2 hinv2.err

/-- what the simulation of a whole text establishes, in terms of what the text denotes -/
def DenoteSim (E : ParserEnv) (plain : Bool) (s₀ : ScanState) (ctx₀ : ParseCtx) :
    Denote.Result → Prop
  | .ok t => ∃ la1 sc1 ctx1 vv v2, Reaches E ⟨[(0, {})], none, s₀, ctx₀⟩
      ⟨[(6, vv), (2, v2), (0, {})], la1, sc1, ctx1⟩ ∧ stripPos ctx1.cfg.root = t
  | .error k => ∃ sOff, AbortsAt E plain ⟨[(0, {})], none, s₀, ctx₀⟩ k.text sOff

theorem denote_sim (hE : Compiled E) (toks : List (Nat × TokVal)) (hraw : RawOK toks)
    (hnest : nestS 0 (toks.map itemOf) ≤ 1665) {ctx₀ : ParseCtx}
    (hlex : LexAt E plain pos (toks ++ [tEOF]))
    (hroot : stripPos ctx₀.cfg.root = { ty := T_GROUP }) (hpar : ctx₀.parent = some [])
    (hstr : ctx₀.str = none) (hinv : Inv plain o ctx₀) :
    DenoteSim E plain (pos (toks.length + 1)) ctx₀ (denote o toks) := by
  have hsim := parse_sim (o := o) hE toks hraw hnest hlex hroot hpar hstr hinv
  unfold denote
  rw [← (erases o (toks.length + 1)).2.2]
  cases hs : settingsAt o (toks.length + 1) [] (toks.map itemOf) with
  | error k w => rw [hs] at hsim; exact ⟨_, hsim⟩
  | ok members rest =>
    rw [hs] at hsim
    cases rest with
    | nil => exact hsim
    | cons it tl => exact ⟨_, hsim⟩

theorem accepts_part (hE : Compiled E) {a : MC} {vv v2 : TokVal} {la1 : Lookahead}
    {sc1 : ScanState} {ctx1 : ParseCtx}
    (hR : Reaches E a ⟨[(6, vv), (2, v2), (0, {})], la1, sc1, ctx1⟩) {fuel : Nat} {s' : ScanState}
    {ctx' : ParseCtx} {r : ParseResult} (h : C01PP.run E fuel a = (s', ctx', r))
    (hr : r ≠ .outOfFuel) : r = .accept ∧ ctx' = ctx1 := by
  have := hR.run_eq (fun f => run_accept hE vv v2 la1 sc1 ctx1 f) (fuel := fuel)
    (by rw [h]; exact hr)
  rw [h] at this
  injection this with _ h2
  injection h2 with h3 h4
  exact ⟨h4, h3⟩

theorem accepts_total (hE : Compiled E) {a : MC} {vv v2 : TokVal} {la1 : Lookahead}
    {sc1 : ScanState} {ctx1 : ParseCtx}
    (hR : Reaches E a ⟨[(6, vv), (2, v2), (0, {})], la1, sc1, ctx1⟩) :
    ∃ N, ∀ fuel, N ≤ fuel → C01PP.run E fuel a = (sc1, ctx1, .accept) :=
  hR.run_total (fun f => run_accept hE vv v2 la1 sc1 ctx1 f)

theorem denote_ok_core (hE : Compiled E) (toks : List (Nat × TokVal)) (hraw : RawOK toks)
    (hnest : nestS 0 (toks.map itemOf) ≤ 1665) {fuel : Nat} {s' : ScanState} {ctx₀ ctx' : ParseCtx}
    {r : ParseResult} (hlex : LexAt E plain pos (toks ++ [tEOF]))
    (hroot : stripPos ctx₀.cfg.root = { ty := T_GROUP }) (hpar : ctx₀.parent = some [])
    (hstr : ctx₀.str = none) (hinv : Inv plain o ctx₀)
    (h : yyparse E fuel (pos (toks.length + 1)) ctx₀ = (s', ctx', r)) (hr : r ≠ .outOfFuel)
    {t : Node} (hd : denote o toks = .ok t) : r = .accept ∧ stripPos ctx'.cfg.root = t := by
  have hsim := denote_sim hE toks hraw hnest hlex hroot hpar hstr hinv
  rw [hd] at hsim
  obtain ⟨la1, sc1, ctx1, vv, v2, hR, hroot1⟩ := hsim
  obtain ⟨h1, h2⟩ := accepts_part hE hR h hr
  exact ⟨h1, by rw [h2]; exact hroot1⟩

theorem denote_error_core (hE : Compiled E) (toks : List (Nat × TokVal)) (hraw : RawOK toks)
    (hnest : nestS 0 (toks.map itemOf) ≤ 1665) {fuel : Nat} {s' : ScanState} {ctx₀ ctx' : ParseCtx}
    {r : ParseResult} (hlex : LexAt E plain pos (toks ++ [tEOF]))
    (hroot : stripPos ctx₀.cfg.root = { ty := T_GROUP }) (hpar : ctx₀.parent = some [])
    (hstr : ctx₀.str = none) (hinv : Inv plain o ctx₀)
    (h : yyparse E fuel (pos (toks.length + 1)) ctx₀ = (s', ctx', r)) (hr : r ≠ .outOfFuel)
    {k : ErrKind} (hd : denote o toks = .error k) :
    r = .abort ∧ (plain = true → ctx'.cfg.errText = some k.text) := by
  have hsim := denote_sim hE toks hraw hnest hlex hroot hpar hstr hinv
  rw [hd] at hsim
  obtain ⟨sOff, hsim⟩ := hsim
  have := hsim.part fuel
  rw [← yyparse_eq_run, h] at this
  rcases this with hout | ⟨hab, -, htext⟩
  · exact absurd hout hr
  · exact ⟨hab, fun hp => (htext hp).1⟩

theorem denote_error_total (hE : Compiled E) (toks : List (Nat × TokVal)) (hraw : RawOK toks)
    (hnest : nestS 0 (toks.map itemOf) ≤ 1665) {ctx₀ : ParseCtx}
    (hlex : LexAt E plain pos (toks ++ [tEOF]))
    (hroot : stripPos ctx₀.cfg.root = { ty := T_GROUP }) (hpar : ctx₀.parent = some [])
    (hstr : ctx₀.str = none) (hinv : Inv plain o ctx₀) {k : ErrKind}
    (hd : denote o toks = .error k) :
    ∃ N, ∀ fuel, N ≤ fuel →
      (yyparse E fuel (pos (toks.length + 1)) ctx₀).2.2 = .abort := by
  have hsim := denote_sim hE toks hraw hnest hlex hroot hpar hstr hinv
  rw [hd] at hsim
  obtain ⟨sOff, hsim⟩ := hsim
  exact hsim.total

theorem denote_ok_total (hE : Compiled E) (toks : List (Nat × TokVal)) (hraw : RawOK toks)
    (hnest : nestS 0 (toks.map itemOf) ≤ 1665) {ctx₀ : ParseCtx}
    (hlex : LexAt E plain pos (toks ++ [tEOF]))
    (hroot : stripPos ctx₀.cfg.root = { ty := T_GROUP }) (hpar : ctx₀.parent = some [])
    (hstr : ctx₀.str = none) (hinv : Inv plain o ctx₀) {t : Node}
    (hd : denote o toks = .ok t) :
    ∃ N s' ctx', (∀ fuel, N ≤ fuel →
        yyparse E fuel (pos (toks.length + 1)) ctx₀ = (s', ctx', .accept)) ∧
      stripPos ctx'.cfg.root = t := by
  have hsim := denote_sim hE toks hraw hnest hlex hroot hpar hstr hinv
  rw [hd] at hsim
  obtain ⟨la1, sc1, ctx1, vv, v2, hR, hroot1⟩ := hsim
  obtain ⟨N, hN⟩ := accepts_total hE hR
  exact ⟨N, sc1, ctx1, hN, hroot1⟩

end

end Libconfig.C02D
