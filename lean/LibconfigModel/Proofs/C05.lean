import LibconfigModel.TreeSpec
import LibconfigModel.WF
import LibconfigModel.Step
import LibconfigModel.Proofs.C04
import LibconfigModel.Proofs.C06
import LibconfigModel.Proofs.Actions
import LibconfigModel.Proofs.ReadCore
/-
  Helper lemmas for property C05 (the API operations behave as an ordered tree).
  The statements live in `LibconfigModel/Properties/C05.lean`; the predicates on operations and
  results they are phrased with (`C05.failed`, `C05.isRead`, `C05.assignsAt`) stand here, where the
  lemmas can name them.
-/
namespace Libconfig.C05

/-- an addition, removal or assignment reported failure -/
def failed : Res → Bool
  | .flag false => true
  | .ptr none => true
  | .badOp => true
  | _ => false

def isRead : Op → Bool
  | .read _ => true
  | .writeFile _ => true     -- file I/O: a failing write records the I/O error
  | _ => false

/-- the value-assigning operations on the setting at `p` -/
def assignsAt (op : Op) (p : Path) : Bool :=
  match op with
  | .setInt q _ | .setInt64 q _ | .setFloat q _ | .setBool q _ | .setString q _
  | .setFormat q _ | .setHook q _ => q == p
  | _ => false

end Libconfig.C05

namespace Libconfig.C05P

open Libconfig

/-! ### `get?` after `modify` -/

theorem get?_modify_prefix (f : Node → Node) (q r : Path) : ∀ n : Node,
    (n.modify f (q ++ r)).get? q = (n.get? q).map (fun m => m.modify f r) := by
  induction q with
  | nil => intro n; simp [get?_nil]
  | cons i q ih =>
    intro n
    rw [List.cons_append, modify_cons, get?_cons, get?_cons]
    cases hk : n.kids[i]? with
    | none => simp [hk]
    | some k =>
      have hi : i < n.kids.length := (List.getElem?_eq_some_iff.mp hk).1
      simp [hi, ih k]

theorem get?_modify_self (f : Node → Node) (p : Path) (n : Node) :
    (n.modify f p).get? p = (n.get? p).map f := by
  have := get?_modify_prefix f p [] n
  simpa [Node.modify] using this

theorem get?_modify_disjoint (f : Node → Node) : ∀ (p q : Path) (n : Node),
    ¬ p <+: q → ¬ q <+: p → (n.modify f p).get? q = n.get? q := by
  intro p
  induction p with
  | nil => intro q n h1 _; exact absurd (List.nil_prefix) h1
  | cons i p ih =>
    intro q n h1 h2
    cases q with
    | nil => exact absurd (List.nil_prefix) h2
    | cons j q =>
      rw [modify_cons]
      cases hk : n.kids[i]? with
      | none => rfl
      | some k =>
        simp only
        rw [get?_cons, get?_cons]
        by_cases hij : i = j
        · subst hij
          have hi : i < n.kids.length := (List.getElem?_eq_some_iff.mp hk).1
          have h1' : ¬ p <+: q := fun h => h1 (by simpa using h)
          have h2' : ¬ q <+: p := fun h => h2 (by simpa using h)
          have hk' : n.kids[i] = k := (List.getElem?_eq_some_iff.mp hk).2
          simp [hi, hk', ih q k h1' h2']
        · simp [List.getElem?_set_ne hij]

theorem modify_below (f : Node → Node) (m : Node) (i : Nat) (r : Path) :
    (m.modify f (i :: r)).name = m.name ∧ (m.modify f (i :: r)).ty = m.ty ∧
    (m.modify f (i :: r)).fmt = m.fmt ∧ (m.modify f (i :: r)).ival = m.ival ∧
    (m.modify f (i :: r)).fval = m.fval ∧ (m.modify f (i :: r)).sval = m.sval ∧
    (m.modify f (i :: r)).hook = m.hook ∧
    (m.modify f (i :: r)).kids.length = m.kids.length := by
  rw [modify_cons]
  cases m.kids[i]? <;> simp

/-! ### the assigning operations -/

/-- what an assignment does to the state: nothing, or an edit of the addressed node -/
def AssignEffect (s s' : State) (p : Path) : Prop :=
  s' = s ∨ ∃ (g : Node → Node) (n : Node), s.cfg.root.get? p = some n ∧
    ((g n).name = n.name ∧ (g n).kids = n.kids) ∧ s' = s.withRoot (s.cfg.root.modify g p)

theorem setAt_effect (s : State) (p : Path) {f : Node → Option Node} (hf : ScalarSetter f) :
    AssignEffect s (setAt s p f).1 p := by
  unfold setAt
  split
  · exact Or.inl rfl
  rename_i n hn
  split
  · exact Or.inl rfl
  rename_i n' hn'
  exact Or.inr ⟨fun _ => n', n, hn, ⟨(hf.update hn').name, (hf.update hn').kids⟩, rfl⟩

theorem step_assign (s : State) (op : Op) (p : Path) (ha : C05.assignsAt op p = true) :
    AssignEffect s (step s op).1 p := by
  cases op <;> simp only [C05.assignsAt, beq_iff_eq, Bool.false_eq_true] at ha
  case setInt q v => subst ha; exact setAt_effect s q (scalar_setInt _ v)
  case setInt64 q v => subst ha; exact setAt_effect s q (scalar_setInt64 _ v)
  case setFloat q b =>
    subst ha
    simp only [step]
    split
    · exact Or.inl rfl
    split
    · exact Or.inl rfl
    · exact setAt_effect s q (scalar_setFloat _ b)
  case setBool q v => subst ha; exact setAt_effect s q (scalar_setBool v)
  case setString q v => subst ha; exact setAt_effect s q (scalar_setString v)
  case setFormat q f => subst ha; exact setAt_effect s q (scalar_setFormat f)
  case setHook q h =>
    subst ha
    simp only [step]
    split
    · exact Or.inl rfl
    rename_i n hn
    exact Or.inr ⟨_, n, hn, ⟨rfl, rfl⟩, rfl⟩

theorem frame_disjoint (s s' : State) (p q : Path) (m : Node) (he : AssignEffect s s' p)
    (hq : s.cfg.root.get? q = some m) (h1 : ¬ p <+: q) (h2 : ¬ q <+: p) :
    s'.cfg.root.get? q = some m := by
  rcases he with rfl | ⟨g, n, _, _, rfl⟩
  · exact hq
  · show (s.cfg.root.modify g p).get? q = some m
    rw [get?_modify_disjoint g p q _ h1 h2, hq]

theorem frame_self (s s' : State) (p : Path) (n : Node) (he : AssignEffect s s' p)
    (hn : s.cfg.root.get? p = some n) :
    ∃ n', s'.cfg.root.get? p = some n' ∧ n'.name = n.name ∧ n'.kids = n.kids ∧
      s'.cfg = { s.cfg with root := s'.cfg.root } ∧ s'.world = s.world := by
  rcases he with rfl | ⟨g, n0, hn0, hk, rfl⟩
  · exact ⟨n, hn, rfl, rfl, rfl, rfl⟩
  · have : n0 = n := by rw [hn] at hn0; cases hn0; rfl
    subst this
    refine ⟨g n0, ?_, hk.1, hk.2, rfl, rfl⟩
    show (s.cfg.root.modify g p).get? p = some (g n0)
    rw [get?_modify_self, hn]; rfl

theorem frame_ancestor (s s' : State) (p q : Path) (m : Node) (he : AssignEffect s s' p)
    (hq : s.cfg.root.get? q = some m) (h : q <+: p) (hne : q ≠ p) :
    ∃ m', s'.cfg.root.get? q = some m' ∧ m'.name = m.name ∧ m'.ty = m.ty ∧ m'.fmt = m.fmt ∧
      m'.ival = m.ival ∧ m'.fval = m.fval ∧ m'.sval = m.sval ∧ m'.hook = m.hook ∧
      m'.kids.length = m.kids.length := by
  rcases he with rfl | ⟨g, n0, _, _, rfl⟩
  · exact ⟨m, hq, rfl, rfl, rfl, rfl, rfl, rfl, rfl, rfl⟩
  · obtain ⟨r, rfl⟩ := h
    cases r with
    | nil => exact absurd (by simp) hne
    | cons i r =>
      refine ⟨m.modify g (i :: r), ?_, modify_below g m i r⟩
      show (s.cfg.root.modify g (q ++ i :: r)).get? q = _
      rw [get?_modify_prefix, hq]; rfl

/-! ### failure atomicity -/

theorem failure_atomic (s : State) (op : Op) (hop : C05.isRead op = false)
    (hf : C05.failed (step s op).2.res = true) : (step s op).1 = s := by
  have e := step_effect s op
  generalize step s op = r at e hf
  cases e with
  | same => rfl
  | edit res _ _ hres => rcases hres with rfl | ⟨q, rfl⟩ <;> cases hf
  | read | writeFile => cases hop
  | setHook | kept | reset => cases hf

/-! ### `remove_elem`, `set_*_elem` with a negative index -/

theorem removeElem_spec (dtor : Bool) (parent : Node) (idx : Nat) :
    parent.removeElem dtor idx =
      if parent.isAggregate then
        (parent.kids[idx]?).map fun victim =>
          ({ parent with kids := parent.kids.eraseIdx idx }, destroyLog dtor victim)
      else none := by
  unfold Node.removeElem
  cases parent.isAggregate <;> simp
  cases parent.kids[idx]? <;> rfl

theorem negative_index_appends (setter : Node → Option Node) (ty : Nat) (n n' : Node) (idx : Int)
    (i : Nat) (hidx : idx < 0) (h : n.setElem setter ty idx = some (n', i)) :
    i = n.kids.length ∧ n'.kids.length = n.kids.length + 1 ∧
      n'.kids.take n.kids.length = n.kids := by
  obtain ⟨-, -, ⟨-, -, e', -, rfl, rfl⟩ | ⟨hn, -⟩⟩ := setElem_some h
  · simp
  · exact absurd hidx hn

/-! ### `config_setting_remove` -/

theorem eraseAt_cons (n : Node) (i : Nat) (q : Path) (hq : q ≠ []) :
    n.eraseAt (i :: q) =
      match n.kids[i]? with
      | some k => { n with kids := n.kids.set i (k.eraseAt q) }
      | none => n := by
  cases q with
  | nil => exact absurd rfl hq
  | cons j q => cases h : n.kids[i]? <;> simp [Node.eraseAt, h]

theorem modify_erase (i : Nat) (pp : Path) : ∀ n : Node,
    n.modify (fun s => { s with kids := s.kids.eraseIdx i }) pp = n.eraseAt (pp ++ [i]) := by
  induction pp with
  | nil => intro n; simp [Node.modify, Node.eraseAt]
  | cons j pp ih =>
    intro n
    rw [List.cons_append, modify_cons, eraseAt_cons _ _ _ (by simp)]
    cases n.kids[j]? with
    | none => rfl
    | some k => simp only [ih k]

/-! the last path component against the last step of the lookup -/

/-- scanning over a chunk that ends with `]`: the candidate then contains a `]` -/
theorem go_bracket (a s : Bytes) : ∀ x : Bytes, ∃ x', 93 ∈ x' ∧
    lastComponent.go (x ++ (a ++ 93 :: s)) (a ++ 93 :: s) = lastComponent.go (x' ++ s) s := by
  induction a with
  | nil =>
    intro x
    refine ⟨x ++ [93], by simp, ?_⟩
    rw [List.nil_append, lastComponent.go_notSep _ _ _ (by decide)]
    simp
  | cons c a ih =>
    intro x
    by_cases hc : isPathSep c = true
    · obtain ⟨x', h1, h2⟩ := ih []
      refine ⟨x', h1, ?_⟩
      rw [List.cons_append, lastComponent.go_sep _ _ _ hc]
      simpa using h2
    · obtain ⟨x', h1, h2⟩ := ih (x ++ [c])
      refine ⟨x', h1, ?_⟩
      rw [List.cons_append, lastComponent.go_notSep _ _ _ (by simpa using hc)]
      simpa using h2

theorem validName_no_bracket {nm : Bytes} (h : validName nm = true) : 93 ∉ nm := by
  cases nm with
  | nil => simp
  | cons c cs =>
    simp only [validName, Bool.and_eq_true, List.all_eq_true] at h
    intro hm
    rcases List.mem_cons.mp hm with h93 | h93
    · have := h.1; rw [← h93] at this; simp [isAlpha, isUpper, isLower] at this
    · have := h.2 93 h93; simp [isAlpha, isUpper, isLower, isDigit] at this

/-- The scanning state of `lastComponent` relative to the text `s` the walker still has to read.
`x` is the part of the current component already consumed: empty (the component starts here), or
containing a `]`, or about to be discarded because a separator follows. -/
def CandOK (cand s : Bytes) : Prop :=
  ∃ x, cand = x ++ s ∧ (x = [] ∨ 93 ∈ x ∨ ∃ c cs, s = c :: cs ∧ isPathSep c = true)

/-- `CandOK` behind the optional separator, where the third alternative is settled -/
def CandOK' (cand s : Bytes) : Prop := ∃ x, cand = x ++ s ∧ (x = [] ∨ 93 ∈ x)

theorem cand_nil_invalid {x : Bytes} (hx : x = [] ∨ 93 ∈ x) (hv : validName x = true) : False := by
  rcases hx with rfl | hx
  · simp [validName] at hv
  · exact validName_no_bracket hv hx

theorem candOK_nil_invalid {cand : Bytes} (hc : CandOK cand [])
    (hv : validName (lastComponent.go cand []) = true) : False := by
  obtain ⟨x, rfl, hx⟩ := hc
  rw [lastComponent.go_nil, List.append_nil] at hv
  exact cand_nil_invalid (hx.imp_right fun h => h.elim id nofun) hv

/-- the walk from `cur` (with `acc` behind it) to the result `q` ends in a setting named `L` -/
def LastStep (cur : Node) (acc q : Path) (L : Bytes) : Prop :=
  ∃ r t, q = acc ++ r ∧ cur.get? r = some t ∧ t.name = some L

theorem LastStep.lift {cur k : Node} {acc q : Path} {i : Nat} {L : Bytes}
    (hk : cur.kids[i]? = some k) (h : LastStep k (acc ++ [i]) q L) : LastStep cur acc q L := by
  obtain ⟨r, t, rfl, hg, hn⟩ := h
  refine ⟨i :: r, t, by simp, ?_, hn⟩
  rw [get?_cons, hk]
  exact hg

/-- `lastComponent.go` scans the text the walker still has to read, in step with it.  One
iteration of `loop_last`, which supplies `ih`: the induction is on the fuel of `lookupLoop`, and
`loopBody` calls `lookupLoop` with one unit less. -/
theorem body_last (fuel : Nat)
    (ih : ∀ cur acc s cand q, lookupLoop fuel cur acc s = some q → CandOK cand s →
      validName (lastComponent.go cand s) = true → LastStep cur acc q (lastComponent.go cand s))
    (cur : Node) (acc : Path) (p1 cand : Bytes) (q : Path)
    (h : C06P.loopBody fuel cur acc p1 = some q) (hc : CandOK' cand p1)
    (hv : validName (lastComponent.go cand p1) = true) :
    LastStep cur acc q (lastComponent.go cand p1) := by
  obtain ⟨x, rfl, hx⟩ := hc
  cases p1 with
  | nil =>
    rw [lastComponent.go_nil, List.append_nil] at hv
    exact (cand_nil_invalid hx hv).elim
  | cons y r =>
    by_cases hy : y = 91
    · subst hy
      rw [C06P.loopBody_idx] at h
      split at h
      · cases h
      split at h
      rotate_left
      · cases h
      rename_i r' hdrop
      split at h
      · cases h
      split at h
      · cases h
      rename_i k hk
      have e : (91 :: r.take (strtol10 r).2) ++ 93 :: r' = 91 :: r := by
        rw [List.cons_append, ← hdrop, List.take_append_drop]
      obtain ⟨x', h93, hgo⟩ := go_bracket (91 :: r.take (strtol10 r).2) r' x
      rw [e] at hgo
      rw [hgo] at hv ⊢
      have hk' : cur.kids[(strtol10 r).1.toNat]? = some k := by
        unfold getElem at hk
        split at hk
        · exact hk
        · cases hk
      exact (ih k _ r' (x' ++ r') q h ⟨x', rfl, Or.inr (Or.inl h93)⟩ hv).lift hk'
    · rw [C06P.loopBody_name _ _ _ _ _ hy] at h
      split at h
      rotate_left
      · cases h
      have hp : y :: r = (y :: r).takeWhile notSep ++ (y :: r).dropWhile notSep :=
        (List.takeWhile_append_dropWhile).symm
      have hall : ∀ c ∈ (y :: r).takeWhile notSep, notSep c = true :=
        List.all_eq_true.mp List.all_takeWhile
      generalize (y :: r).takeWhile notSep = nm at h hp hall
      generalize hrest : (y :: r).dropWhile notSep = rest at h hp
      rw [hp, lastComponent.go_skip _ _ _ hall] at hv ⊢
      cases hs : listSearch cur.kids nm 0 with
      | none => rw [hs] at h; cases h
      | some ik =>
        obtain ⟨i, k⟩ := ik
        rw [hs] at h
        simp only at h
        obtain ⟨j, hj, hkj, hkn⟩ := listSearch_some hs
        have : i = j := by omega
        subst this
        cases rest with
        | nil =>
          rw [lastComponent.go_nil, List.append_nil] at hv ⊢
          have hx0 : x = [] := by
            rcases hx with hx | hx
            · exact hx
            · exact absurd (List.mem_append_left _ hx) (validName_no_bracket hv)
          subst hx0
          rw [C06P.lookupLoop_nil] at h
          simp at h
          subst h
          refine ⟨[i], k, rfl, ?_, by simpa using hkn⟩
          rw [get?_cons, hkj]; rfl
        | cons c' rest' =>
          have hsep : isPathSep c' = true := by
            have := List.head_dropWhile_not notSep (l := y :: r) (by rw [hrest]; nofun)
            simpa [hrest, notSep] using this
          refine (ih k _ (c' :: rest') _ q h ⟨x ++ nm, by simp, Or.inr (Or.inr ⟨c', rest', rfl, hsep⟩)⟩ hv).lift hkj

theorem loop_last : ∀ (fuel : Nat) (cur : Node) (acc : Path) (s cand : Bytes) (q : Path),
    lookupLoop fuel cur acc s = some q → CandOK cand s →
    validName (lastComponent.go cand s) = true → LastStep cur acc q (lastComponent.go cand s) := by
  intro fuel
  induction fuel with
  | zero =>
    intro cur acc s cand q h hc hv
    cases s with
    | nil => exact (candOK_nil_invalid hc hv).elim
    | cons c cs => simp [lookupLoop] at h
  | succ fuel ih =>
    intro cur acc s cand q h hc hv
    cases s with
    | nil => exact (candOK_nil_invalid hc hv).elim
    | cons c cs =>
      rw [C06P.lookupLoop_cons] at h
      by_cases hsep : isPathSep c = true
      · rw [if_pos hsep] at h
        rw [lastComponent.go_sep _ _ _ hsep] at hv ⊢
        exact body_last fuel ih cur acc cs cs q h ⟨[], rfl, Or.inl rfl⟩ hv
      · rw [if_neg hsep] at h
        obtain ⟨x, rfl, hx⟩ := hc
        refine body_last fuel ih cur acc (c :: cs) _ q h ⟨x, rfl, ?_⟩ hv
        rcases hx with hx | hx | ⟨c', cs', hx, hs⟩
        · exact Or.inl hx
        · exact Or.inr hx
        · cases hx; exact absurd hs hsep

theorem lookup_last_name (n : Node) (path : Bytes) (q : Path)
    (h : lookupFrom n path = some q) (hv : validName (lastComponent path) = true) :
    ∃ t, n.get? q = some t ∧ t.name = some (lastComponent path) := by
  obtain ⟨r, t, rfl, hg, hn⟩ :=
    loop_last _ n [] path path q h ⟨[], rfl, Or.inl rfl⟩ hv
  exact ⟨t, by simpa using hg, hn⟩

theorem lookup_target (n : Node) (h : n.WF) (path : Bytes) (q : Path)
    (hl : lookupFrom n path = some q) : q ≠ [] ∧ ∃ m, n.get? q = some m := by
  obtain ⟨steps, _, m, _, _, hw, hq⟩ := C06P.sound_walk n (C06P.noEmpty_of_WF n h) path q hl
  exact ⟨hq, m, (C06P.walk_denotes steps n q m hw).2⟩

theorem remove_refines (dtor : Bool) (parent : Node) (h : parent.WF) (name : Option Bytes) :
    parent.remove dtor name = Spec.remove dtor parent name := by
  unfold Node.remove Spec.remove
  cases name with
  | none => rfl
  | some nm =>
    simp only
    split
    · rfl
    cases hl : lookupFrom parent nm with
    | none => rfl
    | some q =>
      simp only
      obtain ⟨hq, m, hm⟩ := lookup_target parent h nm q hl
      generalize hpp : q.dropLast = pp
      obtain ⟨i, hi⟩ : ∃ i, q = pp ++ [i] :=
        ⟨q.getLast hq, by rw [← hpp]; exact (List.dropLast_concat_getLast hq).symm⟩
      subst hi
      rw [hm]
      rw [get?_append] at hm
      cases hsp : parent.get? pp with
      | none => rw [hsp] at hm; cases hm
      | some sp =>
        rw [hsp, Option.bind_some, get?_cons] at hm
        have hlwf : sp.LocalWF := h pp sp hsp
        cases hk : sp.kids[i]? with
        | none => rw [hk] at hm; cases hm
        | some m' =>
          rw [hk, Option.bind_some, get?_nil] at hm
          cases hm
          simp only
          by_cases hname : m.name = some (lastComponent nm)
          · obtain ⟨_, _, hs⟩ := C06P.wf_named hlwf hk hname
            rw [hs]
            simp [hname, modify_erase]
          · cases hs : listSearch sp.kids (lastComponent nm) 0 with
            | none => simp [hname]
            | some iv =>
              exfalso
              obtain ⟨idx, victim⟩ := iv
              obtain ⟨j, _, hvj, hvn⟩ := listSearch_some hs
              obtain ⟨_, hv, _⟩ := C06P.wf_named hlwf hvj hvn
              obtain ⟨t, ht, htn⟩ := lookup_last_name parent nm _ hl hv
              rw [get?_append, hsp, Option.bind_some, get?_cons, hk, Option.bind_some,
                get?_nil] at ht
              cases ht
              exact hname htn

/-! ### clearing and reading keep the configuration's attributes -/

/-- copy of `C05.attrs` (definitionally equal) -/
def cfgAttrs (c : Config) : Nat × Option Bytes × Nat × Nat × Nat × Nat × Bool × Nat :=
  (c.options, c.includeDir, c.tabWidth, c.floatPrecision, c.defaultFormat, c.hook, c.destructor,
    c.includeFn)

theorem runAction_attrs (act : ParseAct) (ctx : ParseCtx) (v : TokVal) (l : Nat) (f : Option Bytes) :
    cfgAttrs (actCtx (runAction act ctx v l f)).cfg = cfgAttrs ctx.cfg :=
  (congrArg cfgAttrs (runAction_frame act ctx v l f).kept :)

theorem readCore_attrs (w : World) (c : Config) (filename : Option Bytes) (inp : Bytes) (fuel : Nat) :
    cfgAttrs (readCore w c filename inp fuel).cfg = cfgAttrs c := by
  obtain ⟨f, t, h⟩ := C09P.finish_eq (C09P.parseOf w (C09P.start c filename) filename inp fuel)
  rw [C09P.readCore_cfg, h]
  -- by unfolding: `cfgAttrs` reads only fields that `parseKept` keeps, and `start c` has those of `c`
  exact (congrArg cfgAttrs (yyparse_kept _ fuel _ { cfg := C09P.start c filename }) :)

theorem read_attrs (w : World) (c : Config) (src : Source) (fuel : Nat) :
    cfgAttrs (read w c src fuel).cfg = cfgAttrs c :=
  C09P.read_ind (Q := fun r => cfgAttrs r.cfg = cfgAttrs c) w c src fuel
    (fun _ _ _ => readCore_attrs ..) fun _ _ _ => rfl

end Libconfig.C05P
