import LibconfigModel.Proofs.C02Static
/-
  C03T, static part: a ranking certificate for the reductions of the LALR automaton encoded
  in the translated bison tables.

  `C02P.edges` (checked by `C02P.edges_ok`) is a set of automaton edges that contains every
  move `yyparseLoop` can make, so the state stack is always a path of certificate edges from
  state 0.  A reduction by rule `r` in state `s` pops `yyr2[r]` entries: the state `p` it
  uncovers is the end of a backward path of `yyr2[r]` certificate edges from `s`, and the
  state pushed is the goto of `p` on the left-hand side.  `rankOK` checks — for every state,
  for the default reduction and for every explicit reduce entry of the action table, whatever
  the lookahead, and for EVERY such `p` — that the pushed state has a strictly smaller rank
  than `s`.  So along a run the rank of the top state strictly decreases with every iteration
  that reduces; it can only rise again by a shift.  The ranks are at most `R`.

  The check reads the tables exactly as `yyparseLoop` does (`C02P.actAt`, `C02P.gotoTo`,
  `yydefact`, `yyr1`, `yyr2`); it does not mention the hand-written grammar.
-/
namespace Libconfig.C03T
open Libconfig

/-- every backward path of `n` certificate edges that starts in `s` ends in a state
satisfying `k` -/
def backAll (ed : List (Nat × Nat)) (k : Nat → Bool) : Nat → Nat → Bool
  | 0, s => k s
  | n+1, s => ed.all fun e => !(Nat.beq e.2 s) || backAll ed k n e.1

/-- the rank of a state (`0` outside the certificate) -/
def rkOf (rk : List Nat) (s : Nat) : Nat := rk.getD s 0

/-- reducing by rule `r` in state `s` lowers the rank, whatever state the pop uncovers -/
def redRankOK (P : LalrTables) (ed : List (Nat × Nat)) (rk : List Nat) (s r : Nat) : Bool :=
  backAll ed (fun p => Nat.blt (rkOf rk (C02P.gotoTo P p (P.r1.get r).toNat)) (rkOf rk s))
    (P.r2.get r).toNat s

/-- the explicit action for the lookahead kind `tok` in state `s`, if it is a reduction,
lowers the rank -/
def entryRankOK (P : LalrTables) (ed : List (Nat × Nat)) (rk : List Nat) (s tok : Nat) : Bool :=
  match C02P.actAt P s tok with
  | none => true
  | some a => if a ≤ 0 then (a == P.tableNinf || redRankOK P ed rk s (-a).toNat) else true

/-- every reduction available in state `s` (default or explicit) lowers the rank -/
def stateRankOK (P : LalrTables) (ed : List (Nat × Nat)) (rk : List Nat) (s : Nat) : Bool :=
  (Nat.beq (P.defact.get s).toNat 0 || redRankOK P ed rk s (P.defact.get s).toNat) &&
  C02P.allBelow P.ntokens (entryRankOK P ed rk s)

/-- the whole ranking check: all ranks are at most `R`, and in every state but the final one
(where `yyparseLoop` accepts before acting) every reduction lowers the rank -/
def rankOK (P : LalrTables) (ed : List (Nat × Nat)) (rk : List Nat) (R : Nat) : Bool :=
  C02P.allBelow P.nstates (fun s => Nat.ble (rkOf rk s) R) &&
  C02P.allBelow P.nstates (fun s => Nat.beq s P.final || stateRankOK P ed rk s)

/-- the ranking certificate for the compiled tables: the length of the longest chain of
reductions that can start in each of the 47 states (found by a fixpoint computation; the
final state 6 gets 0).  The maximum, 7, is attained in states 15 and 31 (a `STRING` token on
top of the stack): `string → simple_value → value → setting_terminator(ε) → setting →
setting_list → configuration`. -/
def ranks : List Nat :=
  [1, 1, 0, 1, 2, 0, 0, 2, 0, 6, 6, 6, 6, 6, 6, 7, 2, 2, 2, 5, 5, 4, 6, 5, 5, 1, 1, 1, 4, 4, 3, 7,
   2, 1, 0, 2, 1, 0, 1, 0, 2, 6, 2, 6, 6, 2, 2]

/-- the kernel evaluates the ranking check for the compiled tables (7 is the largest rank) -/
theorem ranks_ok : rankOK Generated.parser C02P.edges ranks 7 = true := by decide +kernel

/-! ### what the check says -/

structure RankFacts (P : LalrTables) (ed : List (Nat × Nat)) (rk : List Nat) (R : Nat) : Prop where
  le : ∀ s, s < P.nstates → rkOf rk s ≤ R
  st : ∀ s, s < P.nstates → s ≠ P.final → stateRankOK P ed rk s = true

theorem rankFacts_of {P : LalrTables} {ed : List (Nat × Nat)} {rk : List Nat} {R : Nat}
    (h : rankOK P ed rk R = true) : RankFacts P ed rk R := by
  unfold rankOK at h
  rw [Bool.and_eq_true] at h
  exact ⟨fun s hs => Nat.le_of_ble_eq_true (C02P.allBelow_spec h.1 s hs),
    fun s hs hne => of_beq_or (C02P.allBelow_spec h.2 s hs) hne⟩

end Libconfig.C03T
