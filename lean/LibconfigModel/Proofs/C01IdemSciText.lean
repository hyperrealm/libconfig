import LibconfigModel.Proofs.C01IdemSciLen
/-
  C01 idempotence (scientific notation) — the value `strtod` reads off the text that
  `libconfig_format_double` makes of a `%.{p}g` rendering: for digits `d` (`10^(p-1) ≤ d < 10^p`)
  and exponent `x` the text denotes exactly `d·10^(x-p+1)`.
-/
namespace Libconfig.C01I
open Libconfig F64 C01P C01L

/-! ### `parseDecimal` on a literal with an exponent -/

/-- the exponent value `e±digits` denotes -/
def expOf (sg : Nat) (exds : Bytes) : Int :=
  if sg = 45 then -(digitsVal 10 exds : Int) else (digitsVal 10 exds : Int)

theorem exp_part (sg : Nat) (exds : Bytes) (hsg : sg = 43 ∨ sg = 45) (hne : exds ≠ [])
    (hds : AllDigits exds) : parseExp (101 :: sg :: exds) = expOf sg exds := by
  have hta := (span_all (p := isDigit) hds).1
  have hemp : exds.isEmpty = false := by
    cases exds with
    | nil => exact absurd rfl hne
    | cons _ _ => rfl
  unfold expOf parseExp
  rcases hsg with rfl | rfl
  · simp only [show ((101 : Nat) == 101 || (101 : Nat) == 69) = true from rfl, if_true, hta, hemp,
      Bool.false_eq_true, if_false, show ¬ ((43 : Nat) = 45) by decide]
  · simp only [show ((101 : Nat) == 101 || (101 : Nat) == 69) = true from rfl, if_true, hta, hemp,
      Bool.false_eq_true, if_false]

theorem parseExp_nil : parseExp [] = 0 := rfl

theorem parseTail_sci (ip fq : Bytes) (sg : Nat) (exds : Bytes) (hip : AllDigits ip)
    (hfq : AllDigits fq) (hsg : sg = 43 ∨ sg = 45) (hne : exds ≠ []) (hds : AllDigits exds) :
    parseTail (ip ++ (optFrac fq ++ 101 :: sg :: exds)) = (ip, fq, expOf sg exds) := by
  have hE := exp_part sg exds hsg hne hds
  unfold parseTail optFrac
  cases fq with
  | nil =>
    have hsp := span_cons (p := isDigit) (x := 101) (sg :: exds) hip (by decide)
    have hF : parseFrac (101 :: sg :: exds) = ([], 101 :: sg :: exds) := rfl
    simp only [List.isEmpty_nil, if_true, List.nil_append, hsp.1, hsp.2, hF, hE]
  | cons f0 fr =>
    have hsp := span_cons (p := isDigit) (x := 46) (f0 :: (fr ++ 101 :: sg :: exds)) hip (by decide)
    have hsp2 := span_cons (p := isDigit) (x := 101) (sg :: exds) hfq (by decide)
    simp only [List.cons_append] at hsp2
    unfold parseFrac
    simp only [List.isEmpty_cons, Bool.false_eq_true, if_false, List.cons_append, hsp.1, hsp.2,
      hsp2.1, hsp2.2, hE]

/-- `-?digits(.digits)?e±digits` -/
theorem strtod_sci (neg : Bool) (ip fq : Bytes) (sg : Nat) (exds : Bytes) (hne : ip ≠ [])
    (hip : AllDigits ip) (hfq : AllDigits fq) (hsg : sg = 43 ∨ sg = 45) (hxne : exds ≠ [])
    (hds : AllDigits exds) :
    strtod (signBytes neg ++ ip ++ optFrac fq ++ 101 :: sg :: exds) =
      strtodCore neg ip fq (expOf sg exds) := by
  cases ip with
  | nil => exact absurd rfl hne
  | cons d r =>
    rw [strtod_eq, List.append_assoc, List.append_assoc, List.cons_append,
      parseDecimal_signed neg d _ (hip d (List.mem_cons_self ..)), ← List.cons_append,
      parseTail_sci _ _ _ _ hip hfq hsg hxne hds]

/-! ### the exponent field of `%e` -/

theorem expDigits_spec (x : Int) :
    expDigits x ≠ [] ∧ AllDigits (expDigits x) ∧
      expOf (if x < 0 then 45 else 43) (expDigits x) = x := by
  have hv : digitsVal 10 (expDigits x) = x.natAbs := by
    unfold expDigits
    split
    · rw [show (48 :: natToDec x.natAbs) = List.replicate 1 48 ++ natToDec x.natAbs from rfl,
        dv_lead_zeros, digitsVal_natToDec]
    · exact digitsVal_natToDec _
  refine ⟨?_, ?_, ?_⟩
  · unfold expDigits
    split
    · simp
    · exact natToDec_ne_nil _
  · unfold expDigits
    split
    · intro c hc
      rcases List.mem_cons.mp hc with rfl | hc
      · decide
      · exact allDigits_dec _ c hc
    · exact allDigits_dec _
  · unfold expOf
    rw [hv]
    by_cases hx : x < 0
    · simp only [hx, if_true]; omega
    · simp only [hx, if_false, show ¬ ((43 : Nat) = 45) by decide]; omega

/-- a text with an exponent is left as it is by `libconfig_format_double` -/
theorem postProc_exp (t u : Bytes) : postProc (t ++ 101 :: u) = t ++ 101 :: u := by
  unfold postProc
  rw [if_pos (by rw [List.contains_iff_mem]; simp)]

/-! ### the value of the written text -/

/-- the text denotes `D·10^k`; relation to the digits `d` and the scale `s = x-p+1`:
`D·10^z = d·10^y` and `k + y = s + z` -/
structure TextVal (neg : Bool) (text : Bytes) (d : Nat) (s : Int) (D : Nat) (k : Int) (z y : Nat) : Prop where
  digits : D * 10 ^ z = d * 10 ^ y
  scale : k + y = s + z
  value : strtod text = ofRat neg (D * 10 ^ k.toNat) (10 ^ (-k).toNat)

/-- splitting a digit string into its head part, the stripped tail and the zeros stripped -/
theorem split_strip (ds : Bytes) (n : Nat) :
    ∃ z, ds = ds.take n ++ stripZeros (ds.drop n) ++ List.replicate z 48 ∧
      (stripZeros (ds.drop n)).length + z = ds.length - n := by
  obtain ⟨z, hz⟩ := stripZeros_spec (ds.drop n)
  refine ⟨z, ?_, ?_⟩
  · rw [List.append_assoc, ← hz, List.take_append_drop]
  · have := congrArg List.length hz
    simp only [List.length_append, List.length_replicate, List.length_drop] at this
    omega

/-- **the value of the written text**, scientific style or fixed style, after the
post-processing of `libconfig_format_double` -/
theorem gTail_value (neg : Bool) (p d : Nat) (x : Int) (hp : 1 ≤ p) (hp70 : p ≤ 70)
    (hdhi : d < 10 ^ p) (hx1 : -331 ≤ x) (hx2 : x ≤ 321) :
    ∃ D k z y, TextVal neg (postProc (gTail (signBytes neg) p d x)) d (x - (p : Int) + 1) D k z y := by
  have hdl : (natToDec d).length ≤ p := natToDec_length d p hdhi hp
  by_cases hst : x < -4 ∨ x ≥ (p : Int)
  · -- exponent style: the text is kept; `Dg = ip ++ fq ++ zeros`
    rw [gTail_sci _ p d x hst, postProc_exp]
    have hds : AllDigits (pad0 p (natToDec d)) := allDigits_pad0 _ (allDigits_dec _)
    have hlen : (pad0 p (natToDec d)).length = p := by rw [pad0_length_eq]; omega
    have hval := dv_pad0 p d
    generalize pad0 p (natToDec d) = Dg at hds hlen hval ⊢
    obtain ⟨z, hz, hzl⟩ := split_strip Dg 1
    have hipne : Dg.take 1 ≠ [] := take_ne_nil (by omega) (by intro e; rw [e] at hlen; simp at hlen; omega)
    have hipl : (Dg.take 1).length = 1 := by rw [List.length_take]; omega
    obtain ⟨he1, he2, he3⟩ := expDigits_spec x
    have hdig : digitsVal 10 (Dg.take 1 ++ stripZeros (Dg.drop 1)) * 10 ^ z = d * 10 ^ 0 := by
      rw [← dv_trail_zeros, ← hz, hval, Nat.pow_zero, Nat.mul_one]
    refine ⟨_, x - ((stripZeros (Dg.drop 1)).length : Int), z, 0, hdig, by omega, ?_⟩
    rw [strtod_sci neg _ _ _ _ hipne (allDigits_take _ hds) (allDigits_strip (allDigits_drop _ hds))
        (by split <;> simp) he1 he2, he3,
      strtodCore_val neg _ _ x hipne (by omega) (by omega)]
  · -- fixed style: `Dg = ip ++ F ++ zeros`, and `F` is post-processed
    have hfdv : (((p : Int) - 1 - x).toNat : Int) = (p : Int) - 1 - x := by omega
    have hfd : ((p : Int) - 1 - x).toNat ≤ p + 3 := by omega
    rw [gTail_fix _ p d x (by omega) (by omega) _ rfl _ rfl]
    generalize ((p : Int) - 1 - x).toNat = fd at hfdv hfd ⊢
    have hds : AllDigits (pad0 (fd + 1) (natToDec d)) := allDigits_pad0 _ (allDigits_dec _)
    have hlen1 : fd + 1 ≤ (pad0 (fd + 1) (natToDec d)).length := pad0_length _ _
    have hlen2 : (pad0 (fd + 1) (natToDec d)).length ≤ p + 4 := by rw [pad0_length_eq]; omega
    have hval := dv_pad0 (fd + 1) d
    generalize pad0 (fd + 1) (natToDec d) = Dg at hds hlen1 hlen2 hval ⊢
    obtain ⟨z, hz, hzl⟩ := split_strip Dg (Dg.length - fd)
    have hipne : Dg.take (Dg.length - fd) ≠ [] :=
      take_ne_nil (by omega) (by intro e; rw [e] at hlen1; simp at hlen1)
    have hipd : AllDigits (Dg.take (Dg.length - fd)) := allDigits_take _ hds
    have hipl : (Dg.take (Dg.length - fd)).length ≤ p + 4 := by rw [List.length_take]; omega
    obtain ⟨F', z', y, ht, hF', -, hv, hl, hy⟩ :=
      postProc_fix neg _ _ hipd (allDigits_strip (allDigits_drop (Dg.length - fd) hds))
    have hdig : digitsVal 10 (Dg.take (Dg.length - fd) ++ F') * 10 ^ (z' + z) = d * 10 ^ y := by
      rw [Nat.pow_add, ← Nat.mul_assoc, hv, Nat.mul_right_comm, ← dv_trail_zeros, ← hz, hval]
    refine ⟨_, (0 : Int) - (F'.length : Int), z' + z, y, hdig, by omega, ?_⟩
    rw [ht, strtod_point neg _ _ hipne hipd hF', strtodCore_val neg _ _ 0 hipne (by omega) (by omega)]

end Libconfig.C01I
