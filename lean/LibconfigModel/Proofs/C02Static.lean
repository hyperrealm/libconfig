import LibconfigModel.Parser
import LibconfigModel.Grammar
import LibconfigModel.Proofs.Bounded
/-
  C02, static part: the LALR automaton encoded in the compressed bison tables, read off
  exactly as `yyparseLoop` reads it, and a Boolean check (evaluated by the kernel) that this
  automaton only ever reduces by a rule whose right-hand side is spelled by the accessing
  symbols of the states on top of the stack.

  The goto function of the compressed tables is total (`yydefgoto`), so "all predecessors of
  a state under the goto function" over-approximates hopelessly.  The check is therefore
  relative to a certificate `ed`: a list of edges `(p, q)` of the automaton (`q` is entered from
  `p`; the symbol of the edge is the accessing symbol `yystos[q]`).  The check establishes that
  the certificate is closed under everything `yyparseLoop` can do (every shift out of a state,
  every goto after a reduction whose handle is spelled backwards along certificate edges), so
  "the state stack is a path of certificate edges from state 0" is an invariant of the loop.
  The certificate itself is untrusted: only the check is evaluated.
-/
namespace Libconfig.C02P
open Libconfig Grammar

/-- the entry of the action table that `yybackup` consults in `state` for the lookahead kind
`tok`; `none` = the default action is taken -/
def actAt (P : LalrTables) (state tok : Nat) : Option Int :=
  let yyn := P.pact.get state
  if yyn == P.pactNinf then none
  else
    let idx := yyn + tok
    if idx < 0 || idx > P.last || P.check.get idx.toNat != tok then none
    else some (P.table.get idx.toNat)

/-- the state entered after a reduction to the symbol `sym` uncovers `top` (as in `yyreduce`) -/
def gotoTo (P : LalrTables) (top sym : Nat) : Nat :=
  let lhs := sym - P.ntokens
  let yyi := P.pgoto.get lhs + top
  if 0 ≤ yyi && yyi ≤ P.last && P.check.get yyi.toNat == top then (P.table.get yyi.toNat).toNat
  else (P.defgoto.get lhs).toNat

/-- accessing symbol -/
def stosN (P : LalrTables) (s : Nat) : Nat := (P.stos.get s).toNat

def edgeB (ed : List (Nat × Nat)) (p q : Nat) : Bool :=
  ed.any fun e => Nat.beq e.1 p && Nat.beq e.2 q

/-- every backward path along certificate edges that starts in `s` spells the symbols `βr`
(a right-hand side, reversed) by accessing symbols without hitting the bottom of the stack,
and the state it ends in satisfies `k` -/
def spellsRev (P : LalrTables) (ed : List (Nat × Nat)) (k : Nat → Bool) : List Nat → Nat → Bool
  | [], s => k s
  | X :: βr, s =>
    Nat.beq (stosN P s) X && !(Nat.beq s 0) &&
      ed.all fun e => !(Nat.beq e.2 s) || spellsRev P ed k βr e.1

/-- the goto from `p` on `lhs` is a certificate edge into a state accessed by `lhs` -/
def gotoOK (P : LalrTables) (ed : List (Nat × Nat)) (lhs p : Nat) : Bool :=
  let q := gotoTo P p lhs
  edgeB ed p q && Nat.beq (stosN P q) lhs && !(Nat.beq q P.final)

/-- reducing by rule `r` in state `s` is justified -/
def ruleOK (P : LalrTables) (ed : List (Nat × Nat)) (s r : Nat) : Bool :=
  let lr := rules.getD r (0, [])
  Nat.ble 1 r && Nat.blt r rules.length &&
  Nat.beq (P.r2.get r).toNat lr.2.length && Nat.beq (P.r1.get r).toNat lr.1 &&
  spellsRev P ed (gotoOK P ed lr.1) lr.2.reverse s

/-- shifting the kind `tok` in state `p` enters `q`: a certificate edge into a state accessed
by `tok`; the end marker is shifted only into the final state and only from a state that sits
directly on the bottom of the stack and is accessed by `configuration` -/
def shiftOK (P : LalrTables) (ed : List (Nat × Nat)) (p tok q : Nat) : Bool :=
  edgeB ed p q && Nat.beq (stosN P q) tok &&
  (if Nat.beq tok 0 then
     Nat.beq q P.final && Nat.beq (stosN P p) configuration && !(Nat.beq p 0) &&
       ed.all fun e => !(Nat.beq e.2 p) || Nat.beq e.1 0
   else !(Nat.beq q P.final))

def entryOK (P : LalrTables) (ed : List (Nat × Nat)) (s tok : Nat) : Bool :=
  match actAt P s tok with
  | none => true
  | some a =>
    if a ≤ 0 then (a == P.tableNinf || ruleOK P ed s (-a).toNat)
    else shiftOK P ed s tok a.toNat

def stateOK (P : LalrTables) (ed : List (Nat × Nat)) (s : Nat) : Bool :=
  (Nat.beq (P.defact.get s).toNat 0 || ruleOK P ed s (P.defact.get s).toNat) &&
  allBelow P.ntokens (entryOK P ed s)

/-- the whole static check (the final state is never acted in: `yyparseLoop` accepts first) -/
def staticOK (P : LalrTables) (ed : List (Nat × Nat)) : Bool :=
  Nat.beq P.ntokens 23 && !(Nat.beq P.final 0) && Nat.blt 0 P.nstates &&
  (ed.all fun e => !(Nat.beq e.2 0) && Nat.blt e.1 P.nstates && Nat.blt e.2 P.nstates) &&
  allBelow (P.maxutok + 1) (fun i => Nat.blt (P.translate.get i).toNat P.ntokens) &&
  allBelow P.nstates (fun s => Nat.beq s P.final || stateOK P ed s)

/-- the edge certificate for the compiled tables (97 edges: the shift edges, closed under the
gotos of all reductions) -/
def edges : List (Nat × Nat) :=
  [(0,1),(2,6),(3,1),(5,8),(8,9),(8,10),(8,11),(8,12),(8,13),(8,14),(8,15),(8,16),(8,17),(8,18),
   (21,28),(21,29),(22,31),(25,9),(25,10),(25,11),(25,12),(25,13),(25,14),(25,15),(26,9),(26,10),
   (26,11),(26,12),(26,13),(26,14),(26,15),(26,16),(26,17),(26,18),(27,1),(33,40),(34,41),(36,42),
   (37,43),(38,1),(39,44),(40,9),(40,10),(40,11),(40,12),(40,13),(40,14),(40,15),(42,9),(42,10),
   (42,11),(42,12),(42,13),(42,14),(42,15),(42,16),(42,17),(42,18),(0,2),(1,5),(8,23),(25,32),
   (26,23),(40,45),(42,23),(8,22),(25,22),(26,22),(40,22),(42,22),(16,25),(17,26),(18,27),(21,30),
   (25,34),(26,37),(27,39),(8,21),(26,35),(42,46),(25,33),(8,19),(26,19),(42,19),(8,20),(26,20),
   (42,20),(8,24),(26,24),(42,24),(0,4),(3,7),(27,4),(38,7),(26,36),(0,3),(27,38)]

theorem edges_ok : staticOK Generated.parser edges = true := by decide +kernel

/-- left-hand sides and lengths of `Grammar.rules` against `yyr1`/`yyr2` -/
def rulesMatch (P : LalrTables) : Bool :=
  allBelow (P.nrules + 1) fun r =>
    Nat.beq r 0 ||
      (Nat.beq (P.r1.get r).toNat (rules.getD r (0, [])).1 &&
       Nat.beq (P.r2.get r).toNat (rules.getD r (0, [])).2.length)

end Libconfig.C02P
