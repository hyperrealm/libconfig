/-
  What a Boolean check evaluated by the kernel says, as a proposition.  A check of `0 … n-1` is
  written as a recursion on `n` (DESIGN.md §4: the index stays a numeral); every such recursion
  (`C02P.allBelow`, `Bisim.checkBytes`, `C01L.okStates`, …) is the bounded quantifier by `below_iff`,
  both of whose hypotheses hold by `rfl` (for `Bisim.checkStarts` up to `Bool.and_assoc`).
-/
namespace Libconfig

theorem below_iff {g p : Nat → Bool} (h0 : g 0 = true) (hs : ∀ n, g (n + 1) = (p n && g n)) :
    ∀ {n : Nat}, g n = true ↔ ∀ i, i < n → p i = true
  | 0 => ⟨fun _ _ hi => absurd hi (Nat.not_lt_zero _), fun _ => h0⟩
  | n + 1 => by
    rw [hs, Bool.and_eq_true, below_iff h0 hs (n := n)]
    exact ⟨fun h i hi => (Nat.lt_succ_iff_lt_or_eq.mp hi).elim (h.2 i) (· ▸ h.1),
      fun h => ⟨h n (Nat.lt_succ_self n), fun i hi => h i (Nat.lt_succ_of_lt hi)⟩⟩

/-- the condition behind a test that leaves out the index `c` -/
theorem of_beq_or {i c : Nat} {b : Bool} (h : (Nat.beq i c || b) = true) (hne : i ≠ c) : b = true :=
  ((Bool.or_eq_true _ _).mp h).resolve_left fun e => hne (Nat.eq_of_beq_eq_true e)

theorem not_beq {a b : Nat} (h : (!Nat.beq a b) = true) : a ≠ b := fun e => by
  rw [e, Nat.beq_refl] at h; cases h

/-- the condition behind a test that holds of `a` only -/
theorem of_not_beq_or {a : Nat} {b : Bool} (h : (!(Nat.beq a a) || b) = true) : b = true := by
  rwa [Nat.beq_refl] at h

theorem blt_eq_false {a b : Nat} (h : b ≤ a) : Nat.blt a b = false :=
  Bool.eq_false_iff.mpr fun hb => Nat.not_succ_le_self a (Nat.le_trans (Nat.le_of_ble_eq_true hb) h)

/-- a list searched with `Nat.beq`, the element on either side of the test -/
theorem any_beq_iff {l : List Nat} {x : Nat} : (l.any fun y => Nat.beq y x) = true ↔ x ∈ l := by
  rw [List.any_eq_true]
  exact ⟨fun ⟨y, hy, e⟩ => Nat.eq_of_beq_eq_true e ▸ hy, fun h => ⟨x, h, Nat.beq_refl x⟩⟩

theorem any_beq_left_iff {l : List Nat} {x : Nat} : l.any (Nat.beq x) = true ↔ x ∈ l := by
  rw [List.any_eq_true]
  exact ⟨fun ⟨y, hy, e⟩ => Nat.eq_of_beq_eq_true e ▸ hy, fun h => ⟨x, h, Nat.beq_refl x⟩⟩

/-! ### the bounded quantifiers of the checks (`C02P.allBelow` and `C03P.allBelow` are one function
with the arguments in either order; `Bridge.allFrom` counts upwards from `lo`) -/

namespace C02P
/-- `f i` for every `i < n` -/
def allBelow : Nat → (Nat → Bool) → Bool
  | 0, _ => true
  | n+1, f => f n && allBelow n f

theorem allBelow_iff {n : Nat} {f : Nat → Bool} : allBelow n f = true ↔ ∀ i, i < n → f i = true :=
  below_iff (g := (allBelow · f)) rfl fun _ => rfl

theorem allBelow_spec {n : Nat} {f : Nat → Bool} (h : allBelow n f = true) : ∀ i, i < n → f i = true :=
  allBelow_iff.mp h

end C02P

namespace C03P
/-- `p 0 && … && p (n-1)`, by structural recursion -/
def allBelow (p : Nat → Bool) : Nat → Bool
  | 0 => true
  | n + 1 => p n && allBelow p n

theorem allBelow_iff {p : Nat → Bool} {n : Nat} : allBelow p n = true ↔ ∀ i, i < n → p i = true :=
  below_iff (g := allBelow p) rfl fun _ => rfl

theorem allBelow_spec {p : Nat → Bool} {n : Nat} (h : allBelow p n = true) : ∀ i, i < n → p i = true :=
  allBelow_iff.mp h

end C03P

namespace Bridge
/-- every `w` in `lo..hi` satisfies `p` (structural recursion on the length of the interval) -/
def allFrom (p : Nat → Bool) : Nat → Nat → Bool
  | _, 0 => true
  | lo, n + 1 => p lo && allFrom p (lo + 1) n

theorem allFrom_sound (p : Nat → Bool) : ∀ n lo, allFrom p lo n = true → ∀ w, lo ≤ w → w < lo + n → p w = true
  | 0, lo, _, w, h1, h2 => by omega
  | n + 1, lo, h, w, h1, h2 => by
    simp only [allFrom, Bool.and_eq_true] at h
    by_cases hw : w = lo
    · subst hw; exact h.1
    · exact allFrom_sound p n (lo + 1) h.2 w (by omega) (by omega)

theorem allFrom_complete (p : Nat → Bool) :
    ∀ n lo, (∀ w, lo ≤ w → w < lo + n → p w = true) → allFrom p lo n = true
  | 0, _, _ => rfl
  | n + 1, lo, h => by
    simp only [allFrom, Bool.and_eq_true]
    exact ⟨h lo (Nat.le_refl _) (by omega),
      allFrom_complete p n (lo + 1) fun w h1 h2 => h w (by omega) (by omega)⟩

end Bridge

end Libconfig
