import LibconfigModel.Properties.C01Lex
import LibconfigModel.Properties.C01Parse
import LibconfigModel.Properties.C03Term
import LibconfigModel.Proofs.C10ProvSpec
/-
  C01RT — helpers for the composition of the two halves of the write → read round trip
  (Properties/C01RoundTrip.lean).

  1. A good item has at least one byte, hence a good item sequence denotes at most as many
     tokens as it has bytes (`goodSeq_toks_le`): this turns the parser-loop bound
     `8·|tokens| + 10` of C03 into a bound in the number of bytes written.
  2. `readCore` of the written form of a configuration, for every world, every reading
     configuration and every top-level file name (`readCore_written`).
  3. What `expectedRoot` says node by node (`Same`).
-/
namespace Libconfig.C01RT
open Libconfig C01L C02 Flex

/-! ### 1. tokens ≤ bytes -/

theorem goodTok_bytes_pos (t : WTok) (hg : GoodTok t) : 1 ≤ t.bytes.length := by
  cases hs : isStr t
  · exact List.length_pos_iff.mpr (item_lexeme t hg hs).ne_nil
  · cases t with
    | str x => exact Nat.le_add_left 1 _
    | _ => cases hs

theorem goodSeq_length_le : ∀ (ts : List WTok), GoodSeq ts → ts.length ≤ (bytesOf ts).length
  | [], _ => Nat.zero_le _
  | t :: ts, ⟨hg, _, hgs⟩ => by
    have h1 := goodTok_bytes_pos t hg
    have h2 := goodSeq_length_le ts hgs
    rw [bytesOf_cons, List.length_append, List.length_cons]
    omega

theorem goodSeq_toks_le (ts : List WTok) (hg : GoodSeq ts) : (toksOf ts).length ≤ (bytesOf ts).length :=
  Nat.le_trans (List.length_filterMap_le _ _) (goodSeq_length_le ts hg)

theorem tokens_le_bytes (bufLen : Nat) (c : Config) (hok : LexOK bufLen c = true) :
    (tokensOfConfig Generated.tokens bufLen c).length ≤ (c.write bufLen).length := by
  show (toksOf (wtoksConfig bufLen c)).length ≤ _
  rw [C19.C19_bytes bufLen c]
  exact goodSeq_toks_le _ (config_good bufLen c hok)

/-! ### 2. the scan state of `readCore` -/

/-- **`__config_read` of the written form**: no lexing hypothesis, no proviso on the outcome —
the fuel bound `8·|bytes| + 10` discharges both. -/
theorem readCore_written (bufLen : Nat) (c : Config) (hl : LexOK bufLen c = true)
    (hp : C01Parse.ParseOK c = true) (w : World) (c₀ : Config) (filename : Option Bytes) (fuel : Nat)
    (hfuel : fuel ≥ 8 * (c.write bufLen).length + 10) :
    (readCore w c₀ filename (c.write bufLen) fuel).ok = true ∧
      (readCore w c₀ filename (c.write bufLen) fuel).result = .accept ∧
      C01Parse.stripPos (readCore w c₀ filename (c.write bufLen) fuel).cfg.root =
        C01Parse.expectedRoot bufLen c := by
  obtain ⟨s₁, hlex, _⟩ := lexes_written bufLen c hl w c₀ fuel (by omega)
    (C01Parse.readScanStart filename (c.write bufLen)) ⟨rfl, rfl, rfl, rfl, rfl⟩
  have hlen := tokens_le_bytes bufLen c hl
  refine C01Parse.C01_readCore_rebuilds w c₀ filename (c.write bufLen) bufLen c hp fuel s₁ hlex ?_
  rw [C09P.readCore_result]
  exact C03.C03_parse_fuel w (C09P.start c₀ filename) fuel _ s₁ _ _ hlex fuel
    (by unfold C03.parseFuel; omega)

/-! ### 3. what `expectedRoot` says, node by node -/

open C01Parse in
theorem expectedList_map (bufLen : Nat) (c : Config) :
    ∀ ks : List Node, expectedList bufLen c ks = ks.map (expectedNode bufLen c)
  | [] => by rw [expectedList]; rfl
  | k :: ks => by rw [expectedList, expectedList_map bufLen c ks]; rfl

/-- the relation between a written setting `m` and the setting `m'` read back for it: same
name, same type, same number of children; the value as the documentation promises it, per
type; hook, and the fields that do not belong to the type, as in a fresh setting -/
structure Same (bufLen : Nat) (c : Config) (m m' : Node) : Prop where
  name : m'.name = m.name
  ty : m'.ty = m.ty
  count : m.isAggregate = true ∨ m.kids = [] → m'.kids.length = m.kids.length
  bool : m.ty = T_BOOL → m'.ival = if m.ival ≠ 0 then 1 else 0
  int : m.ty = T_INT ∨ m.ty = T_INT64 → m'.ival = m.ival
  fmt : m.ty = T_INT ∨ m.ty = T_INT64 →
    m'.fmt = if effFormat c m = FMT_HEX then FMT_HEX else FMT_DEFAULT
  float : m.ty = T_FLOAT →
    m'.fval = F64.strtod (formatDouble bufLen m.fval c.floatPrecision (c.opt OPT_SCIENTIFIC))
  string : m.ty = T_STRING → m'.sval = some (m.sval.getD [])
  fmtOther : m.ty ≠ T_INT → m.ty ≠ T_INT64 → m'.fmt = 0
  ivalOther : m.ty ≠ T_INT → m.ty ≠ T_INT64 → m.ty ≠ T_BOOL → m'.ival = 0
  fvalOther : m.ty ≠ T_FLOAT → m'.fval = 0
  svalOther : m.ty ≠ T_STRING → m'.sval = none
  hook : m'.hook = 0

/-- `Same` from the four value fields written as functions of the written setting: what does
not belong to the type is as in a fresh setting -/
theorem Same.of_fields {bufLen : Nat} {c : Config} {m m' : Node} (hn : m'.name = m.name)
    (ht : m'.ty = m.ty) (hc : m.isAggregate = true ∨ m.kids = [] → m'.kids.length = m.kids.length)
    (hi : m'.ival = if m.ty = T_BOOL then (if m.ival ≠ 0 then 1 else 0)
      else if m.ty = T_INT ∨ m.ty = T_INT64 then m.ival else 0)
    (hf : m'.fmt = if m.ty = T_INT ∨ m.ty = T_INT64 then
      (if effFormat c m = FMT_HEX then FMT_HEX else FMT_DEFAULT) else 0)
    (hv : m'.fval = if m.ty = T_FLOAT then
      F64.strtod (formatDouble bufLen m.fval c.floatPrecision (c.opt OPT_SCIENTIFIC)) else 0)
    (hs : m'.sval = if m.ty = T_STRING then some (m.sval.getD []) else none) (hh : m'.hook = 0) :
    Same bufLen c m m' := by
  have nb : m.ty = T_INT ∨ m.ty = T_INT64 → m.ty ≠ T_BOOL := fun h e => by
    rw [e] at h; exact absurd h (by decide)
  exact
    { name := hn, ty := ht, count := hc, hook := hh
      bool := fun h => by rw [hi, if_pos h]
      int := fun h => by rw [hi, if_neg (nb h), if_pos h]
      fmt := fun h => by rw [hf, if_pos h]
      float := fun h => by rw [hv, if_pos h]
      string := fun h => by rw [hs, if_pos h]
      fmtOther := fun h1 h2 => by rw [hf, if_neg fun h => h.elim h1 h2]
      ivalOther := fun h1 h2 h3 => by rw [hi, if_neg h3, if_neg fun h => h.elim h1 h2]
      fvalOther := fun h => by rw [hv, if_neg h]
      svalOther := fun h => by rw [hs, if_neg h] }

open C01Parse in
theorem same_expectedScalar (bufLen : Nat) (c : Config) (n : Node) (hk : n.kids = []) :
    Same bufLen c n (expectedScalar bufLen c n) := by
  cases n with
  | mk name ty fmt ival fval sval kids hook line file =>
    cases hk
    have hb : ∀ {α} (a b : Nat) (x y : α), (if (a == b) = true then x else y) = if a = b then x else y :=
      fun a b x y => by simp only [beq_iff_eq]
    rcases C01L.scalarTy_cases ty with rfl | rfl | rfl | rfl | rfl | ⟨h1, h2, h3, h4, h5⟩
    · refine .of_fields rfl rfl (fun _ => rfl) ?_ rfl rfl rfl rfl
      show (if (ival != 0) = true then (1 : Int) else 0) = if ival ≠ 0 then 1 else 0
      simp only [bne_iff_ne]
    · exact .of_fields rfl rfl (fun _ => rfl) rfl (hb ..) rfl rfl rfl
    · exact .of_fields rfl rfl (fun _ => rfl) rfl (hb ..) rfl rfl rfl
    · exact .of_fields rfl rfl (fun _ => rfl) rfl rfl rfl rfl rfl
    · exact .of_fields rfl rfl (fun _ => rfl) rfl rfl rfl rfl rfl
    · have e : expectedScalar bufLen c (.mk name ty fmt ival fval sval [] hook line file) =
          { name := name, ty := ty } := by
        simp only [expectedScalar, beq_iff_eq, h1, h2, h3, h4, h5, if_false]
      rw [e]
      refine .of_fields rfl rfl (fun _ => rfl) ?_ ?_ ?_ ?_ rfl
      · exact (if_neg h1).symm ▸ (if_neg fun h => h.elim h2 h3).symm
      · exact (if_neg fun h => h.elim h2 h3).symm
      · exact (if_neg h4).symm
      · exact (if_neg h5).symm

open C01Parse in
/-- the children of the expected form: those of the written setting, each in its expected form,
in the same order (for a scalar that has no children, as well-formedness demands) -/
theorem expectedNode_kids (bufLen : Nat) (c : Config) (n : Node)
    (h : n.isAggregate = false → n.kids = []) :
    (expectedNode bufLen c n).kids = n.kids.map (expectedNode bufLen c) := by
  cases n with
  | mk name ty fmt ival fval sval kids hook line file =>
    rw [expectedNode]
    split
    · exact expectedList_map bufLen c kids
    · rename_i ha
      have ha : isAggregateTy ty = false := by simpa using ha
      have : kids = [] := h ha
      subst this
      have := (same_expectedScalar bufLen c (.mk name ty fmt ival fval sval [] hook line file) rfl).count
        (.inr rfl)
      exact List.eq_nil_of_length_eq_zero this

open C01Parse in
theorem same_expectedNode (bufLen : Nat) (c : Config) (n : Node)
    (h : n.isAggregate = false → n.kids = []) : Same bufLen c n (expectedNode bufLen c n) := by
  cases n with
  | mk name ty fmt ival fval sval kids hook line file =>
    rw [expectedNode]
    cases ha : isAggregateTy ty
    · cases h ha
      exact same_expectedScalar bufLen c _ rfl
    · have hcount : (expectedList bufLen c kids).length = kids.length := by
        rw [expectedList_map, List.length_map]
      have ha : ty = T_ARRAY ∨ ty = T_LIST ∨ ty = T_GROUP := by
        simpa only [isAggregateTy, Bool.or_eq_true, beq_iff_eq, or_assoc] using ha
      rcases ha with rfl | rfl | rfl <;> exact .of_fields rfl rfl (fun _ => hcount) rfl rfl rfl rfl rfl

open C01Parse in
/-- **the expected tree, path by path**: at every index path the expected tree holds the
expected form of what the written tree holds there (and nothing where the written tree has
nothing) -/
theorem expectedNode_get? (bufLen : Nat) (c : Config) :
    ∀ (p : Path) (n : Node), n.WF →
      (expectedNode bufLen c n).get? p = (n.get? p).map (expectedNode bufLen c)
  | [], n, _ => by rw [get?_nil, get?_nil]; rfl
  | i :: p, n, hwf => by
    rw [get?_cons, get?_cons, expectedNode_kids bufLen c n (C04.WF.localWF hwf).scalarNoKids,
      List.getElem?_map]
    cases hk : n.kids[i]? with
    | none => rfl
    | some k =>
      simp only [Option.map_some, Option.bind_some]
      exact expectedNode_get? bufLen c p k (C06P.WF.child hwf hk)

open C01Parse in
theorem stripPos_eq_restamp : stripPos = C10Prov.restamp fun _ => (0, none) :=
  funext fun n => (stripPos_pp n).trans (C10Prov.stripPos_restamp n)

open C01Parse in
theorem stripPos_get? (p : Path) (n : Node) : (stripPos n).get? p = (n.get? p).map stripPos := by
  rw [stripPos_eq_restamp]; exact C10Prov.get?_restamp _ p n

open C01Parse in
theorem stripPos_fields (n : Node) :
    (stripPos n).name = n.name ∧ (stripPos n).ty = n.ty ∧ (stripPos n).fmt = n.fmt ∧
    (stripPos n).ival = n.ival ∧ (stripPos n).fval = n.fval ∧ (stripPos n).sval = n.sval ∧
    (stripPos n).kids.length = n.kids.length ∧ (stripPos n).hook = n.hook := by
  rw [stripPos_eq_restamp, C10Prov.restamp_eq, C10Prov.restampList_map]
  exact ⟨rfl, rfl, rfl, rfl, rfl, rfl, List.length_map _, rfl⟩

end Libconfig.C01RT
