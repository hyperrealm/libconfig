import LibconfigModel.Proofs.C09LineStep
/-
  C02D, the simulation, its building blocks: the input as a sequence of items and the iterations
  of the loop over it, closing brackets, the end of a setting, the contexts a value occurs in (and
  the syntax error where none starts), adjacent strings, and the scalars that are refused (an abort
  with the right message IN THE RIGHT SCAN STATE).  The simulation itself is
  Proofs/C10ProvSim*.lean.
-/
namespace Libconfig.C02D
open Libconfig C02P C05P C02C C01PP C04 C04R Denote C09L

/-! ### the input as items -/

/-- the tokens the proofs can deal with: none is numbered 0 (the scanner never returns 0 before
the end of the input), and a NAME token carries a valid name (the scanner's pattern for names
admits nothing else) -/
def RawOK (raw : List (Nat × TokVal)) : Prop :=
  ∀ tv ∈ raw, tv.1 ≠ 0 ∧ ∀ s, itemOf tv = .name s → validName s = true

/-- What the loop has in front of it: the tokens `raw` (lookahead included, the scanner at position
`pos` of what is still to come), read as the items `items`, and behind them ONE more token `tv`,
the end token.  The loop looks at `tv` (it is the lookahead once the items are used up) and never
consumes it.  For a whole text `tv` is the end marker; for a part of a text — a value, the members
of a group — it is whatever token follows that part, and what comes after it does not matter. -/
def InpI (E : ParserEnv) (plain : Bool) (pos : Nat → ScanState) (tv : Nat × TokVal) (la : Lookahead)
    (sc : ScanState) (items : List Denote.Item) : Prop :=
  ∃ raw, InpAt E plain pos la sc (raw ++ [tv]) ∧ raw.map itemOf = items ∧ RawOK raw

/-- the kind of the end token, numbered as `hk` numbers the items (0: the end marker, 9: a string,
17: a comma, 20: a semicolon, …): what the automaton sees when the items are used up -/
def endK (tv : Nat × TokVal) : Nat := normK (translateTok P tv.1)

section
variable {E : ParserEnv} {plain : Bool} {pos : Nat → ScanState} {o : Options} {tv : Nat × TokVal}

theorem InpI.peek {la : Lookahead} {sc : ScanState} {items : List Denote.Item}
    (h : InpI E plain pos tv la sc items) :
    ∃ t v ks, InpAt E plain pos la sc ((t, v) :: ks) ∧ ks.length = items.length ∧
      translateTok P t < 23 ∧ normK (translateTok P t) = hkE (endK tv) items ∧
      ∀ la' sc', InpAt E plain pos la' sc' ((t, v) :: ks) → InpI E plain pos tv la' sc' items := by
  obtain ⟨raw, hin, hmap, hok⟩ := h
  cases raw with
  | nil =>
    subst hmap
    exact ⟨tv.1, tv.2, [], hin, rfl, kind_lt _, rfl, fun la' sc' h' => ⟨[], h', rfl, hok⟩⟩
  | cons tv' raw' =>
    obtain ⟨t, v⟩ := tv'
    subst hmap
    refine ⟨t, v, raw' ++ [tv], hin, by simp, kind_lt t, ?_,
      fun la' sc' h' => ⟨(t, v) :: raw', h', rfl, hok⟩⟩
    have := kindRel_norm (kindRel_itemOf t v (hok _ List.mem_cons_self).1)
    rw [this]
    exact hk_cons _ _ _

theorem InpI.pop {la : Lookahead} {sc : ScanState} {it : Denote.Item} {rest : List Denote.Item}
    (h : InpI E plain pos tv la sc (it :: rest)) :
    ∃ t v ks, InpAt E plain pos la sc ((t, v) :: ks) ∧ ks.length = rest.length + 1 ∧
      KindRel it (translateTok P t) ∧ ValRel it v ∧
      (∀ s, it = .name s → validName s = true) ∧
      ∀ la' sc', InpAt E plain pos la' sc' ks → InpI E plain pos tv la' sc' rest := by
  obtain ⟨raw, hin, hmap, hok⟩ := h
  cases raw with
  | nil => cases hmap
  | cons tv' raw' =>
    obtain ⟨t, v⟩ := tv'
    simp only [List.map_cons, List.cons.injEq] at hmap
    obtain ⟨h1, h2⟩ := hmap
    subst h1
    subst h2
    have hm := hok _ List.mem_cons_self
    refine ⟨t, v, raw' ++ [tv], hin, by simp, kindRel_itemOf t v hm.1, valRel_itemOf t v, hm.2,
      fun la' sc' h' => ⟨raw', h', rfl, fun x hx => hok x (List.mem_cons_of_mem _ hx)⟩⟩

theorem ne_of_hk {k c h : Nat} (hn : normK k = h) (hc : normK c = c) (hne : h ≠ c) : k ≠ c :=
  fun e => hne (by rw [← hn, e, hc])

/-- the automaton does not see the kind `c`: the next item is of another kind, and where the items
are used up it is the end marker that follows -/
theorem kind_ne {e k c : Nat} {l : List Denote.Item} (hn : normK k = hkE e l) (he : l = [] → e = 0)
    (h : hk l ≠ c) (hc : normK c = c := by rfl) : k ≠ c :=
  ne_of_hk (hkE_of he ▸ hn) hc h

theorem valStart_of_hk {k h : Nat} (hk23 : k < 23) (hn : normK k = h) (hv : valStart h = false) :
    valStart k = false := by
  rw [← valStart_norm k hk23, hn, hv]

theorem scalStart_of_hk {k h : Nat} (hk23 : k < 23) (hn : normK k = h) (hv : ¬ (3 ≤ h ∧ h ≤ 9)) :
    scalStart k = false := by
  rw [← scalStart_norm k hk23, hn]
  cases hs : scalStart h with
  | false => rfl
  | true => exact absurd ((scalStart_iff h).mp hs) hv

/-! ### single iterations in terms of items -/

theorem InpI.shift (hE : Compiled E) {s : Nat} {v0 : TokVal} {rest : List (Nat × TokVal)}
    {la : Lookahead} {sc : ScanState} {ctx : ParseCtx} {it : Denote.Item}
    {items : List Denote.Item} {k q : Nat}
    (hdepth : rest.length + 1 < 10000) (hfin : s ≠ 6) (hkc : ∀ k', KindRel it k' → k' = k)
    (hact : actAt P s k = some (q : Int)) (hq : 0 < q)
    (hI : InpI E plain pos tv la sc (it :: items)) :
    ∃ v sc' ctx', Reaches E ⟨(s, v0) :: rest, la, sc, ctx⟩
        ⟨(q, v) :: (s, v0) :: rest, none, sc', ctx'⟩ ∧
      InpI E plain pos tv none sc' items ∧ Same plain ctx ctx' ∧ ValRel it v ∧
      sc' = pos (items.length + 1) ∧ ∀ s, it = .name s → validName s = true := by
  obtain ⟨t, v, ks, hin, hlen, hkr, hvr, hvalid, hcont⟩ := hI.pop
  obtain ⟨sc1, ctx1, hR1, hI1, hS1⟩ := pshiftAt hE (v0 := v0) (rest := rest) (ctx := ctx) hdepth hfin
    (hkc _ hkr) hact hq hin
  exact ⟨v, sc1, ctx1, hR1, hcont _ _ hI1, hS1, hvr, by rw [hI1.here, hlen], hvalid⟩

/-- reduce, in front of the next item, by a rule whose action — given the position of the scan
state `sa` it runs in: the present one if the state reduces without consulting the lookahead, the
one right after the token behind that item otherwise — succeeds.  For the actions that record a
position. -/
theorem InpI.reduceAt (hE : Compiled E) {stk pushed : List (Nat × TokVal)} {p : Nat}
    {vp : TokVal} {rest : List (Nat × TokVal)} {s : Nat} {v0 : TokVal}
    {rest0 : List (Nat × TokVal)} {la : Lookahead} {sc sa : ScanState} {ctx : ParseCtx}
    {items : List Denote.Item} {r lhs len q' : Nat} {act : ParseAct} {Post : ParseCtx → Prop}
    (hstk : stk = pushed ++ (p, vp) :: rest) (htop : stk = (s, v0) :: rest0)
    (hdepth : stk.length < 10000) (hfin : s ≠ 6)
    (hred : ∀ k, k < 23 → normK k = hkE (endK tv) items → redOK P s k r = true)
    (hrule : RuleIs r lhs len act) (hlen : len = pushed.length)
    (hgoto : gotoTo P p lhs = q')
    (hI : InpI E plain pos tv la sc items) (hinv : Inv plain o ctx)
    (hsa : sa = (if (P.pact.get s == P.pactNinf) = true then sc else pos items.length))
    (hact : ∀ ctx₁, Same plain ctx ctx₁ →
      ∃ ctx₂, runAction act ctx₁ v0 sa.buf.lineno sa.currentFilename = .ok ctx₂ ∧ Post ctx₂) :
    ∃ la' ctx' vv, Reaches E ⟨stk, la, sc, ctx⟩ ⟨(q', vv) :: (p, vp) :: rest, la', sa, ctx'⟩ ∧
      InpI E plain pos tv la' sa items ∧ Post ctx' ∧ Inv plain o ctx' := by
  obtain ⟨t, v, ks, hin, hl, hk23, hn, hrest⟩ := hI.peek
  obtain ⟨la', ctx', vv, hR, hI', hP, hinv'⟩ := preduceAt hE (sa := sa)
    (Post := fun c => Post c ∧ Inv plain o c) hstk htop hdepth hfin (hred _ hk23 hn) hrule hlen
    hgoto hin (by rw [hsa, hl]) (fun ctx₁ hs => by
      obtain ⟨ctx₂, ha, hp⟩ := hact ctx₁ hs
      exact ⟨ctx₂, ha, hp, (hinv.of_same hs).of_ok ha⟩)
  exact ⟨la', ctx', vv, hR, hrest _ _ hI', hP, hinv'⟩

/-- `reduceAt` for an action that succeeds whatever position it is given: the scan state it runs
in is left open -/
theorem InpI.reduceI (hE : Compiled E) {stk pushed : List (Nat × TokVal)} {p : Nat}
    {vp : TokVal} {rest : List (Nat × TokVal)} {s : Nat} {v0 : TokVal}
    {rest0 : List (Nat × TokVal)} {la : Lookahead} {sc : ScanState} {ctx : ParseCtx}
    {items : List Denote.Item} {r lhs len q' : Nat} {act : ParseAct} {Post : ParseCtx → Prop}
    (hstk : stk = pushed ++ (p, vp) :: rest) (htop : stk = (s, v0) :: rest0)
    (hdepth : stk.length < 10000) (hfin : s ≠ 6)
    (hred : ∀ k, k < 23 → normK k = hkE (endK tv) items → redOK P s k r = true)
    (hrule : RuleIs r lhs len act) (hlen : len = pushed.length)
    (hgoto : gotoTo P p lhs = q')
    (hI : InpI E plain pos tv la sc items) (hinv : Inv plain o ctx)
    (hact : ∀ ctx₁ l f, Same plain ctx ctx₁ →
      ∃ ctx₂, runAction act ctx₁ v0 l f = .ok ctx₂ ∧ Post ctx₂) :
    ∃ la' sc' ctx' vv, Reaches E ⟨stk, la, sc, ctx⟩ ⟨(q', vv) :: (p, vp) :: rest, la', sc', ctx'⟩ ∧
      InpI E plain pos tv la' sc' items ∧ Post ctx' ∧ Inv plain o ctx' := by
  obtain ⟨la', ctx', vv, h⟩ := hI.reduceAt hE hstk htop hdepth hfin hred hrule hlen hgoto hinv rfl
    (fun ctx₁ hs => hact ctx₁ _ _ hs)
  exact ⟨la', _, ctx', vv, h⟩

/-- `reduceAt` for a rule without action: the parse context is the same but for what a fetch
changes, and no invariant is needed -/
theorem InpI.reduce0 (hE : Compiled E) {stk pushed : List (Nat × TokVal)} {p : Nat}
    {vp : TokVal} {rest : List (Nat × TokVal)} {s : Nat} {v0 : TokVal}
    {rest0 : List (Nat × TokVal)} {la : Lookahead} {sc : ScanState} {ctx : ParseCtx}
    {items : List Denote.Item} {r lhs len q' : Nat}
    (hstk : stk = pushed ++ (p, vp) :: rest) (htop : stk = (s, v0) :: rest0)
    (hdepth : stk.length < 10000) (hfin : s ≠ 6)
    (hred : ∀ k, k < 23 → normK k = hkE (endK tv) items → redOK P s k r = true)
    (hrule : RuleIs r lhs len .none) (hlen : len = pushed.length)
    (hgoto : gotoTo P p lhs = q')
    (hI : InpI E plain pos tv la sc items) :
    ∃ la' sc' ctx' vv, Reaches E ⟨stk, la, sc, ctx⟩ ⟨(q', vv) :: (p, vp) :: rest, la', sc', ctx'⟩ ∧
      InpI E plain pos tv la' sc' items ∧ Same plain ctx ctx' := by
  obtain ⟨t, v, ks, hin, -, hk23, hn, hrest⟩ := hI.peek
  obtain ⟨la', ctx', vv, hR, hI', hS⟩ := preduceAt hE (Post := fun c => Same plain ctx c)
    hstk htop hdepth hfin (hred _ hk23 hn) hrule hlen hgoto hin rfl (fun ctx₁ hs => ⟨ctx₁, rfl, hs⟩)
  exact ⟨la', _, ctx', vv, hR, hrest _ _ hI', hS⟩

theorem InpI.error (hE : Compiled E) {stk : List (Nat × TokVal)} {s : Nat} {v0 : TokVal}
    {rest0 : List (Nat × TokVal)} {la : Lookahead} {sc : ScanState} {ctx : ParseCtx}
    {items : List Denote.Item}
    (htop : stk = (s, v0) :: rest0) (hdepth : stk.length < 10000) (hfin : s ≠ 6)
    (herr : ∀ k, k < 23 → normK k = hkE (endK tv) items → errOK P s k = true)
    (hninf : P.pact.get s ≠ P.pactNinf) (hI : InpI E plain pos tv la sc items)
    (hnone : plain = true → ctx.cfg.errText = none) :
    AbortsAt E plain ⟨stk, la, sc, ctx⟩ Generated.ERR_SYNTAX (pos items.length) := by
  obtain ⟨t, v, ks, hin, hlen, hk23, hn, -⟩ := hI.peek
  rw [← hlen]
  exact perrorAt hE htop hdepth hfin (herr _ hk23 hn) hninf hin hnone

/-- the action of a reduction in front of the next item aborts, recording the line it is given
(`sa` as in `reduceAt`) -/
theorem InpI.abort (hE : Compiled E) {stk : List (Nat × TokVal)} {s : Nat} {v0 : TokVal}
    {rest0 : List (Nat × TokVal)} {la : Lookahead} {sc : ScanState} {ctx : ParseCtx}
    {items : List Denote.Item} {r lhs len : Nat} {act : ParseAct} {text : Bytes} {sa : ScanState}
    (htop : stk = (s, v0) :: rest0) (hdepth : stk.length < 10000) (hfin : s ≠ 6)
    (hred : ∀ k, k < 23 → normK k = hkE (endK tv) items → redOK P s k r = true)
    (hrule : RuleIs r lhs len act) (hI : InpI E plain pos tv la sc items)
    (hsa : sa = (if (P.pact.get s == P.pactNinf) = true then sc else pos items.length))
    (hact : ∀ ctx₁ l f, Same plain ctx ctx₁ →
      ∃ ctx₂, runAction act ctx₁ v0 l f = .abort ctx₂ ∧
        (plain = true → ctx₂.cfg.errText = some text ∧ ctx₂.cfg.errLine = l)) :
    AbortsAt E plain ⟨stk, la, sc, ctx⟩ text sa := by
  obtain ⟨t, v, ks, hin, hlen, hk23, hn, -⟩ := hI.peek
  rw [hsa, ← hlen]
  exact preduce_abortAt hE htop hdepth hfin (hred _ hk23 hn) hrule hin hact

/-! ### outcomes -/

theorem text_syntax : ErrKind.syntax.text = Generated.ERR_SYNTAX := by decide
theorem text_dup : ErrKind.duplicateName.text = Generated.ERR_DUPLICATE_SETTING := by decide
theorem text_elem : ErrKind.arrayElemType.text = Generated.ERR_ARRAY_ELEM_TYPE := by decide

theorem reportAt_syntax (w : List Denote.Item) : reportAt .syntax w = w := by
  cases w <;> rfl

theorem reportAt_dup (w : List Denote.Item) : reportAt .duplicateName w = w := by
  cases w <;> rfl

/-- the position reported for a mismatching element that is one token (not a string): its own -/
theorem report_nonstring {it : Denote.Item} (rest : List Denote.Item)
    (hns : ∀ s, it ≠ .string s) :
    (reportAt .arrayElemType (lastLiteral (it :: rest))).length = rest.length + 1 := by
  rw [lastLiteral_other _ (fun s r h => by injection h with h1 _; exact hns s h1)]
  cases it
  case string s => exact absurd rfl (hns s)
  all_goals rfl

/-- the position reported for a mismatching element that is a string: that of the token behind
its last literal -/
theorem report_string (s : Bytes) (tl : List Denote.Item) :
    reportAt .arrayElemType (lastLiteral (.string s :: tl)) = (strings tl).2 := by
  obtain ⟨s', h⟩ := lastLiteral_strings tl s
  rw [h]
  rfl

/-! ### closing an aggregate -/

/-- the closing bracket of an aggregate: shift it, reduce `array / list / group: OPEN $@n body
CLOSE` (which moves `ctx->parent` back up), reduce `value: array / list / group` -/
theorem sim_close (hE : Compiled E) {q qv : Nat} (hgv : gotoTo P q 34 = qv)
    {s3 s2 s1 se sv k r r2 lhs : Nat} {close : Denote.Item} (hkc : ∀ k', KindRel close k' → k' = k)
    (hsh : actAt P s3 k = some (se : Int)) (hse0 : 0 < se)
    (hs3f : s3 ≠ 6) (hsef : se ≠ 6) (hsvf : sv ≠ 6)
    (hred : ∀ k' < 23, redOK P se k' r = true) (hrule : RuleIs r lhs 4 .aggEnd)
    (hgoto : gotoTo P q lhs = sv)
    (hred2 : ∀ k' < 23, redOK P sv k' r2 = true) (hrule2 : RuleIs r2 34 1 .none)
    {v3 v2 v1 vq : TokVal} {stk : List (Nat × TokVal)} {la : Lookahead} {sc : ScanState}
    {ctx : ParseCtx} {K : Node → Node} {pp : Path} {pn : Node} {pre : List Node} {a : Node}
    {st : Option Path} {rest : List Denote.Item}
    (hd : stk.length + 5 < 10000) (hH : Hole K pp)
    (hV : View ctx (fun y => K { pn with kids := pre ++ [y] }) (pp ++ [pre.length]) a none st)
    (hinv : Inv plain o ctx)
    (hI : InpI E plain pos tv la sc (close :: rest)) :
    ∃ la' sc' ctx' vv st', Reaches E
        ⟨(s3, v3) :: (s2, v2) :: (s1, v1) :: (q, vq) :: stk, la, sc, ctx⟩
        ⟨(qv, vv) :: (q, vq) :: stk, la', sc', ctx'⟩ ∧
      InpI E plain pos tv la' sc' rest ∧ View ctx' K pp { pn with kids := pre ++ [a] } none st' ∧
      Inv plain o ctx' := by
  obtain ⟨v, sc1, ctx1, hR1, hI1, hS1, -⟩ := hI.shift hE (v0 := v3)
    (rest := (s2, v2) :: (s1, v1) :: (q, vq) :: stk) (ctx := ctx) (room 4 hd) hs3f hkc hsh hse0
  obtain ⟨la2, sc2, ctx2, vv2, hR2, hI2, hP2, hinv2⟩ := hI1.reduceI hE
    (Post := fun c2 => View c2 K pp { pn with kids := pre ++ [a] } none st)
    (pushed := [(se, v), (s3, v3), (s2, v2), (s1, v1)]) (p := q) (vp := vq) (rest := stk)
    rfl rfl (room 5 hd) hsef (fun k h23 _ => hred k h23) hrule rfl hgoto (hinv.of_same hS1)
    (fun ctx₁ l f hs => act_aggEnd hH ((hV.of_same hS1.sem).of_same hs.sem) _ l f)
  obtain ⟨la3, sc3, ctx3, vv3, hR3, hI3, hS3⟩ := hI2.reduce0 hE (ctx := ctx2)
    (pushed := [(sv, vv2)]) (p := q) (vp := vq) (rest := stk)
    rfl rfl (room 2 hd) hsvf (fun k h23 _ => hred2 k h23) hrule2 rfl hgv
  exact ⟨la3, sc3, ctx3, vv3, st, (hR1.trans hR2).trans hR3, hI3, hP2.of_same hS3.sem,
    hinv2.of_same hS3⟩

/-! ### the end of a setting -/

/-- after the value of a setting: the optional terminator, `setting: NAME $@1 = value
setting_terminator`, and `setting_list: setting | setting_list setting` -/
theorem sim_setting_end (hE : Compiled E) {q0 q1 : Nat} (hM : MemCtx q0 q1) {v0 : TokVal}
    {stk0 stkS : List (Nat × TokVal)}
    (hS : stkS = (q0, v0) :: stk0 ∨ ∃ v1, stkS = (q1, v1) :: (q0, v0) :: stk0)
    {v21 v8 v5 v1 : TokVal} {la : Lookahead} {sc : ScanState} {ctx : ParseCtx}
    {rest : List Denote.Item} (hd : stk0.length + 8 < 10000) (hI : InpI E plain pos tv la sc rest)
    (he : rest = [] → endK tv ≠ 17 ∧ endK tv ≠ 20) :
    ∃ la' sc' ctx' vv, Reaches E ⟨(21, v21) :: (8, v8) :: (5, v5) :: (1, v1) :: stkS, la, sc, ctx⟩
        ⟨(q1, vv) :: (q0, v0) :: stk0, la', sc', ctx'⟩ ∧
      InpI E plain pos tv la' sc' (skipTerminator rest) ∧ Same plain ctx ctx' := by
  have hlen : stkS.length ≤ stk0.length + 2 := by
    rcases hS with rfl | ⟨v1', rfl⟩ <;> simp
  have hrS : stkS.length + 6 < 10000 := by omega
  have hterm : ∃ la1 sc1 ctx1 vv1, Reaches E
      ⟨(21, v21) :: (8, v8) :: (5, v5) :: (1, v1) :: stkS, la, sc, ctx⟩
      ⟨(30, vv1) :: (21, v21) :: (8, v8) :: (5, v5) :: (1, v1) :: stkS, la1, sc1, ctx1⟩ ∧
      InpI E plain pos tv la1 sc1 (skipTerminator rest) ∧ Same plain ctx ctx1 := by
    have dflt : (∀ r, rest ≠ .semicolon :: r) → (∀ r, rest ≠ .comma :: r) →
        skipTerminator rest = rest →
        ∃ la1 sc1 ctx1 vv1, Reaches E
          ⟨(21, v21) :: (8, v8) :: (5, v5) :: (1, v1) :: stkS, la, sc, ctx⟩
          ⟨(30, vv1) :: (21, v21) :: (8, v8) :: (5, v5) :: (1, v1) :: stkS, la1, sc1, ctx1⟩ ∧
          InpI E plain pos tv la1 sc1 (skipTerminator rest) ∧ Same plain ctx ctx1 := by
      intro h1 h2 h3
      rw [h3]
      exact hI.reduce0 hE (ctx := ctx)
        (pushed := []) (p := 21) (vp := v21) (rest := (8, v8) :: (5, v5) :: (1, v1) :: stkS)
        rfl rfl (room 4 hrS) (by decide)
        (fun k h23 hn => red_21 k h23 (ne_of_hk hn rfl (hkE_ne (fun h => (he h).1) (hk_ne_17 h2)))
          (ne_of_hk hn rfl (hkE_ne (fun h => (he h).2) (hk_ne_20 h1))))
        rule_8 rfl go_21_term
    -- an explicit terminator: shift it, reduce `setting_terminator: ; | ,`
    have term : ∀ (it : Denote.Item) (tl : List Denote.Item) (k s r : Nat), rest = it :: tl →
        (∀ k', KindRel it k' → k' = k) → actAt P 21 k = some (s : Int) → 0 < s → s ≠ 6 →
        (∀ k' < 23, redOK P s k' r = true) → RuleIs r 27 1 .none →
        ∃ la1 sc1 ctx1 vv1, Reaches E
          ⟨(21, v21) :: (8, v8) :: (5, v5) :: (1, v1) :: stkS, la, sc, ctx⟩
          ⟨(30, vv1) :: (21, v21) :: (8, v8) :: (5, v5) :: (1, v1) :: stkS, la1, sc1, ctx1⟩ ∧
          InpI E plain pos tv la1 sc1 tl ∧ Same plain ctx ctx1 := by
      intro it tl k s r hr hkc hsh hs0 hsf hred hrule
      subst hr
      obtain ⟨v, sc1, ctx1, hR1, hI1, hS1, -⟩ := hI.shift hE (v0 := v21)
        (rest := (8, v8) :: (5, v5) :: (1, v1) :: stkS) (ctx := ctx) (room 4 hrS) (by decide) hkc hsh hs0
      obtain ⟨la2, sc2, ctx2, vv2, hR2, hI2, hS2⟩ := hI1.reduce0 hE (ctx := ctx1)
        (pushed := [(s, v)]) (p := 21) (vp := v21)
        (rest := (8, v8) :: (5, v5) :: (1, v1) :: stkS)
        rfl rfl (room 5 hrS) hsf (fun k h23 _ => hred k h23) hrule rfl go_21_term
      exact ⟨la2, sc2, ctx2, vv2, hR1.trans hR2, hI2, hS1.trans hS2⟩
    cases rest with
    | nil => exact dflt (fun _ h => by cases h) (fun _ h => by cases h) rfl
    | cons it tl =>
      cases it
      case semicolon =>
        exact term .semicolon tl 20 29 9 rfl (fun _ h => h) sh_21_semicolon (by decide) (by decide)
          red_29 rule_9
      case comma =>
        exact term .comma tl 17 28 10 rfl (fun _ h => h) sh_21_comma (by decide) (by decide) red_28
          rule_10
      all_goals exact dflt (fun _ h => by cases h) (fun _ h => by cases h) rfl
  obtain ⟨la1, sc1, ctx1, vv1, hR1, hI1, hS1⟩ := hterm
  rcases hS with rfl | ⟨v1', rfl⟩
  · -- the first setting of its group
    obtain ⟨la2, sc2, ctx2, vv2, hR2, hI2, hS2⟩ := hI1.reduce0 hE (ctx := ctx1)
      (pushed := [(30, vv1), (21, v21), (8, v8), (5, v5), (1, v1)]) (p := q0) (vp := v0)
      (rest := stk0) rfl rfl (room 6 hd) (by decide) (fun k h23 _ => red_30 k h23) rule_12 rfl
      hM.gSetting0
    obtain ⟨la3, sc3, ctx3, vv3, hR3, hI3, hS3⟩ := hI2.reduce0 hE (ctx := ctx2)
      (pushed := [(4, vv2)]) (p := q0) (vp := v0) (rest := stk0)
      rfl rfl (room 2 hd) (by decide) (fun k h23 _ => red_4 k h23) rule_4 rfl hM.gList
    exact ⟨la3, sc3, ctx3, vv3, (hR1.trans hR2).trans hR3, hI3, (hS1.trans hS2).trans hS3⟩
  · -- a later one
    obtain ⟨la2, sc2, ctx2, vv2, hR2, hI2, hS2⟩ := hI1.reduce0 hE (ctx := ctx1)
      (pushed := [(30, vv1), (21, v21), (8, v8), (5, v5), (1, v1)]) (p := q1) (vp := v1')
      (rest := (q0, v0) :: stk0) rfl rfl (room 7 hd) (by decide) (fun k h23 _ => red_30 k h23) rule_12
      rfl hM.gSetting1
    obtain ⟨la3, sc3, ctx3, vv3, hR3, hI3, hS3⟩ := hI2.reduce0 hE (ctx := ctx2)
      (pushed := [(7, vv2), (q1, v1')]) (p := q0) (vp := v0) (rest := stk0)
      rfl rfl (room 3 hd) (by decide) (fun k h23 _ => red_7 k h23) rule_5 rfl hM.gList
    exact ⟨la3, sc3, ctx3, vv3, (hR1.trans hR2).trans hR3, hI3, (hS1.trans hS2).trans hS3⟩

/-! ### the places a value can stand in -/

/-- `VCtx q qv stk ex`: `q` is a state in which a value may start, on top of the stack `stk`;
`qv` is its goto on `value`; `ex` are the kinds (other than the starts of values) on which the
parser does not report a syntax error there -/
inductive VCtx : Nat → Nat → List (Nat × TokVal) → List Nat → Prop where
  /-- after `NAME $@1 =` -/
  | member (stk : List (Nat × TokVal)) : VCtx 8 21 stk []
  /-- after `( $@3` -/
  | first (stk : List (Nat × TokVal)) : VCtx 26 35 stk [16]
  /-- after `value_list ,` -/
  | later (v36 v26 : TokVal) (stk : List (Nat × TokVal)) :
      VCtx 42 46 ((36, v36) :: (26, v26) :: stk) [17, 16]

/-- in a place for a value, an item that starts none (and is not one of the exceptions) is a
syntax error, reported in the scan state right after its token -/
theorem VCtx.err (hE : Compiled E) {q qv : Nat} {stk : List (Nat × TokVal)} {ex : List Nat}
    (h : VCtx q qv stk ex) {vq : TokVal} {la : Lookahead} {sc : ScanState} {ctx : ParseCtx}
    {items : List Denote.Item} (hd : stk.length + 2 < 10000)
    (hI : InpI E plain pos tv la sc items) (he0 : endK tv = 0)
    (hvs : valStart (hk items) = false)
    (hex : ∀ c ∈ ex, normK c = c ∧ hk items ≠ c)
    (hnone : plain = true → ctx.cfg.errText = none) :
    AbortsAt E plain ⟨(q, vq) :: stk, la, sc, ctx⟩ Generated.ERR_SYNTAX (pos items.length) := by
  have hv : ∀ k, k < 23 → normK k = hkE (endK tv) items → valStart k = false :=
    fun k h23 hn => valStart_of_hk h23 (hkE_of (fun _ => he0) ▸ hn) hvs
  have hx : ∀ c ∈ ex, ∀ k, normK k = hkE (endK tv) items → k ≠ c :=
    fun c hc k hn => kind_ne hn (fun _ => he0) (hex c hc).2 (hex c hc).1
  cases h with
  | member =>
    exact hI.error hE rfl (room 1 hd) (by decide) (fun k h23 hn => err_8 k h23 (hv k h23 hn)) nn_8 hnone
  | first =>
    obtain ⟨la1, sc1, ctx1, vv1, hR1, hI1, hS1⟩ := hI.reduce0 hE (ctx := ctx)
      (pushed := []) (p := 26) (vp := vq) (rest := stk)
      rfl rfl (room 1 hd) (by decide) (fun k h23 hn => red_26 k h23 (hv k h23 hn)) rule_33 rfl go_26_vlo
    refine AbortsAt.of_reaches hR1 ?_
    exact hI1.error hE rfl (room 2 hd) (by decide)
      (fun k h23 hn => err_37 k h23 (hx 16 (by simp) k hn)) nn_37
      (fun hp => (hS1.err hp).trans (hnone hp))
  | later v36 v26 stk' =>
    simp only [List.length_cons] at hd
    obtain ⟨la1, sc1, ctx1, vv1, hR1, hI1, hS1⟩ := hI.reduce0 hE (ctx := ctx)
      (pushed := [(42, vq), (36, v36)]) (p := 26) (vp := v26) (rest := stk')
      rfl rfl (room 3 (k := 4) hd) (by decide) (fun k h23 hn => red_42 k h23 (hv k h23 hn)) rule_32 rfl go_26_vl
    obtain ⟨la2, sc2, ctx2, vv2, hR2, hI2, hS2⟩ := hI1.reduce0 hE (ctx := ctx1)
      (pushed := [(36, vv1)]) (p := 26) (vp := v26) (rest := stk')
      rfl rfl (room 2 (k := 4) hd) (by decide) (fun k h23 hn => red_36 k h23 (hx 17 (by simp) k hn)) rule_34 rfl
      go_26_vlo
    refine AbortsAt.of_reaches (hR1.trans hR2) ?_
    exact hI2.error hE rfl (room 2 (k := 4) hd) (by decide)
      (fun k h23 hn => err_37 k h23 (hx 16 (by simp) k hn)) nn_37
      (fun hp => ((hS2.err hp).trans (hS1.err hp)).trans (hnone hp))

/-! ### scalars -/

section
variable {K : Node → Node} {pp : Path} {pn : Node} {st : Option Path} {pre : List Node}
  {nm : Option Bytes}

theorem sim_strings (hE : Compiled E) {q qs : Nat} (hC : ScalCtx q qs) (l : List Denote.Item) :
    ∀ (acc : Bytes) (vq v22 : TokVal) (stk : List (Nat × TokVal)) (la : Lookahead)
      (sc : ScanState) (ctx : ParseCtx),
    stk.length + 3 < 10000 → InpI E plain pos tv la sc l → View ctx K pp pn (some acc) st →
    Inv plain o ctx →
    ∃ la' sc' ctx' vv, Reaches E ⟨(22, v22) :: (q, vq) :: stk, la, sc, ctx⟩
        ⟨(22, vv) :: (q, vq) :: stk, la', sc', ctx'⟩ ∧
      InpI E plain pos tv la' sc' (strings l).2 ∧
      View ctx' K pp pn (some (acc ++ (strings l).1)) st ∧ Inv plain o ctx' := by
  induction l with
  | nil =>
    intro acc vq v22 stk la sc ctx _ hI hV hinv
    rw [strings_other _ (fun _ _ h => by cases h)]
    simp only [List.append_nil]
    exact ⟨la, sc, ctx, v22, Reaches.refl _ _, hI, hV, hinv⟩
  | cons it tl ih =>
    intro acc vq v22 stk la sc ctx hd hI hV hinv
    cases it
    case string s =>
      rw [strings_cons]
      simp only
      obtain ⟨v, sc1, ctx1, hR1, hI1, hS1, hvr, -⟩ := hI.shift hE (v0 := v22)
        (rest := (q, vq) :: stk) (ctx := ctx) (it := .string s) (k := 9) (room 2 hd) (by decide)
        (fun _ h => h) sh_22_string (by decide)
      have hvs : v.sval = s := hvr
      obtain ⟨la2, sc2, ctx2, vv2, hR2, hI2, hP2, hinv2⟩ := hI1.reduceI hE
        (Post := fun c2 => View c2 K pp pn (some (acc ++ s)) st)
        (pushed := [(31, v), (22, v22)]) (p := q) (vp := vq) (rest := stk) rfl rfl (room 3 hd)
        (by decide) (fun k h23 _ => red_31 k h23) rule_22 rfl hC.gString (hinv.of_same hS1)
        (fun ctx₁ l f hs => by
          obtain ⟨c2, h1, h2⟩ := act_stringNext ((hV.of_same hS1.sem).of_same hs.sem) v l f
          rw [hvs] at h2
          exact ⟨c2, h1, h2⟩)
      obtain ⟨la3, sc3, ctx3, vv3, hR3, hI3, hV3, hinv3⟩ := ih (acc ++ s) vq vv2 stk la2 sc2 ctx2
        hd hI2 hP2 hinv2
      rw [List.append_assoc] at hV3
      exact ⟨la3, sc3, ctx3, vv3, (hR1.trans hR2).trans hR3, hI3, hV3, hinv3⟩
    all_goals
      rw [strings_other _ (fun _ _ h => by cases h)]
      simp only [List.append_nil]
      exact ⟨la, sc, ctx, v22, Reaches.refl _ _, hI, hV, hinv⟩

/-- the six one-token scalars: the item, its token kind, the state it is shifted to, the rule
`simple_value: TOKEN` with its action, and the type of the setting it makes -/
inductive Tok1 : Denote.Item → Nat → Nat → Nat → ParseAct → Nat → Prop where
  | boolean (i : Int) : Tok1 (.boolean i) 3 9 23 .valBool T_BOOL
  | integer (i : Int) : Tok1 (.integer i) 4 10 24 .valInt T_INT
  | integer64 (i : Int) : Tok1 (.integer64 i) 6 12 25 .valInt64 T_INT64
  | hex (i : Int) : Tok1 (.hex i) 5 11 26 .valHex T_INT
  | hex64 (i : Int) : Tok1 (.hex64 i) 7 13 27 .valHex64 T_INT64
  | float (b : Nat) : Tok1 (.float b) 8 14 28 .valFloat T_FLOAT

/-- what the tables say about a one-token scalar: the state it is shifted to reduces by its rule
whatever follows, without consulting the lookahead -/
theorem Tok1.table {it : Denote.Item} {k s r ty : Nat} {act : ParseAct} (h : Tok1 it k s r act ty) :
    (∀ k', KindRel it k' → k' = k) ∧ 0 < s ∧ s ≠ 6 ∧ DefaultOnly s r ∧ RuleIs r 36 1 act ∧
    ∀ s', it ≠ .string s' := by
  cases h
  · exact ⟨fun _ h => h, by decide, by decide, dflt 9, rule_23, nofun⟩
  · exact ⟨fun _ h => h, by decide, by decide, dflt 10, rule_24, nofun⟩
  · exact ⟨fun _ h => h, by decide, by decide, dflt 12, rule_25, nofun⟩
  · exact ⟨fun _ h => h, by decide, by decide, dflt 11, rule_26, nofun⟩
  · exact ⟨fun _ h => h, by decide, by decide, dflt 13, rule_27, nofun⟩
  · exact ⟨fun _ h => h, by decide, by decide, dflt 14, rule_28, nofun⟩

/-- … and what its action stores: a value of the type in the last column -/
theorem Tok1.spec {it : Denote.Item} {k s r ty : Nat} {act : ParseAct} (h : Tok1 it k s r act ty)
    (ctx : ParseCtx) (v : TokVal) :
    ∃ σ, valueSpec ctx v act = some σ ∧ σ.ty = ty ∧ ctx.taken act = ctx := by
  cases h <;> exact ⟨_, rfl, rfl, rfl⟩

theorem tok1_shift {q qs : Nat} (hC : ScalCtx q qs) {it : Denote.Item} {k s r ty : Nat}
    {act : ParseAct} (h : Tok1 it k s r act ty) : actAt P q k = some (s : Int) := by
  cases h
  · exact hC.boolean
  · exact hC.integer
  · exact hC.integer64
  · exact hC.hex
  · exact hC.hex64
  · exact hC.float

theorem scalar_tok1 {nm : Option Bytes} {it : Denote.Item} {tl rest : List Denote.Item} {x : Node}
    (hs : scalar nm (it :: tl) = some (x, rest)) (hns : ∀ s, it ≠ .string s) :
    rest = tl ∧ ∃ k s r act, Tok1 it k s r act x.ty := by
  cases it
  case string s => exact absurd rfl (hns s)
  all_goals simp only [scalar, Option.some.injEq, Prod.mk.injEq, reduceCtorEq] at hs
  all_goals obtain ⟨rfl, rfl⟩ := hs
  · exact ⟨rfl, _, _, _, _, .boolean _⟩
  · exact ⟨rfl, _, _, _, _, .integer _⟩
  · exact ⟨rfl, _, _, _, _, .integer64 _⟩
  · exact ⟨rfl, _, _, _, _, .hex _⟩
  · exact ⟨rfl, _, _, _, _, .hex64 _⟩
  · exact ⟨rfl, _, _, _, _, .float _⟩

/-- a one-token scalar that does not fit its array: it is shifted, and the action of
`simple_value: TOKEN` reports it, in the scan state right after the token -/
theorem sim_tok1_mismatch (hE : Compiled E) {q qs : Nat} (hC : ScalCtx q qs) {it : Denote.Item}
    {rest : List Denote.Item} {k s r ty : Nat} {act : ParseAct} (ht : Tok1 it k s r act ty)
    {vq : TokVal} {stk : List (Nat × TokVal)} {la : Lookahead} {sc : ScanState} {ctx : ParseCtx}
    (hd : stk.length + 2 < 10000) (hinv : Inv plain o ctx) (hV : View ctx K pp pn none st)
    (hI : InpI E plain pos tv la sc (it :: rest)) (hpa : pn.ty = T_ARRAY)
    (hck : checkType pn ty = false) :
    AbortsAt E plain ⟨(q, vq) :: stk, la, sc, ctx⟩ Generated.ERR_ARRAY_ELEM_TYPE
      (pos (reportAt .arrayElemType (lastLiteral (it :: rest))).length) := by
  obtain ⟨hkc, hs0, hsf, hdf, hrule, hns⟩ := ht.table
  rw [report_nonstring rest hns]
  obtain ⟨v, sc1, ctx1, hR1, hI1, hS1, -, hsc1, -⟩ := hI.shift hE (v0 := vq) (rest := stk)
    (ctx := ctx) (room 1 hd) hC.notFinal hkc (tok1_shift hC ht) hs0
  refine AbortsAt.of_reaches hR1 ?_
  rw [← hsc1]
  refine hI1.abort hE (stk := (s, v) :: (q, vq) :: stk) rfl (room 2 hd) hsf (fun k _ _ => hdf.red k)
    hrule (by rw [if_pos (by rw [hdf.ninf]; exact beq_self_eq_true _)]) (fun ctx₁ l f hs => ?_)
  have hs := hS1.trans hs
  obtain ⟨σ, hσ, rfl, htk⟩ := ht.spec ctx₁ v
  refine ⟨_, act_mismatch hσ (hV.of_same hs.sem) hpa hck l f, fun hp => ?_⟩
  rw [htk]
  exact ⟨yyerror_text ((hinv.of_same hs).err hp) _ _, yyerror_line ((hinv.of_same hs).err hp) _ _⟩

end

theorem checkType_array {a k0 : Node} {tl : List Node} (hty : a.ty = T_ARRAY)
    (hk : a.kids = k0 :: tl) (ty' : Nat) : checkType a ty' = (k0.ty == ty') := by
  unfold checkType
  rw [hk]
  simp only
  rw [hty]
  rfl

end

end Libconfig.C02D
