import LibconfigModel.WriterSpec
/-
  For `Properties/C19.lean`: the bytes of the writer are the rendering of its
  item sequence, and `norm` / `nosemi` of that sequence do not see the
  presentation options.  `writeValue` and `wtoksValue` are the same nest of
  `if` and `++`; each proof pushes its function (`flatMap WTok.bytes`, `norm`,
  `nosemi`) to the leaves of that nest, where the two sides meet.
-/
namespace Libconfig.C19

open Libconfig

/-! ### bytes of the item sequence -/

theorem scalar_bytes (bufLen : Nat) (c : Config) (n : Node) :
    writeScalar bufLen c n = (scalarTok bufLen c n).bytes := by
  unfold writeScalar scalarTok
  simp only [apply_ite WTok.bytes]
  simp only [WTok.bytes, Nat.reduceBEq, Bool.false_eq_true, if_false, if_true, List.append_nil]
  cases effFormat c n == FMT_HEX <;> rfl

theorem prefix_bytes (c : Config) (d : Nat) (name : Option Bytes) (ty : Nat) :
    settingPrefix c d name ty = (prefixToks c d name ty).flatMap WTok.bytes := by
  unfold settingPrefix prefixToks
  cases name <;>
    simp only [List.flatMap_append, apply_ite (List.flatMap WTok.bytes), List.flatMap_cons, List.flatMap_nil,
      WTok.bytes, List.append_nil, List.cons_append, List.nil_append]

theorem suffix_bytes (c : Config) (d : Nat) :
    settingSuffix c d = (suffixToks c d).flatMap WTok.bytes := by
  unfold settingSuffix suffixToks
  simp only [List.flatMap_append, apply_ite (List.flatMap WTok.bytes), List.flatMap_cons, List.flatMap_nil,
    WTok.bytes, List.append_nil]

-- `flatMap WTok.bytes` is pushed through every `if` and `++` of the two parallel definitions
mutual
theorem value_bytes (bufLen : Nat) (c : Config) (d : Nat) :
    (n : Node) → writeValue bufLen c d n = (wtoksValue bufLen c d n).flatMap WTok.bytes
  | .mk name ty fmt ival fval sval kids hook line file => by
    unfold writeValue wtoksValue
    simp only [apply_ite (List.flatMap WTok.bytes), List.flatMap_append, elems_bytes bufLen c (d+1) kids,
      members_bytes bufLen c (d+1) kids, scalar_bytes, List.flatMap_cons, List.flatMap_nil, WTok.bytes,
      List.append_nil, List.cons_append, List.nil_append]
theorem elems_bytes (bufLen : Nat) (c : Config) (d : Nat) :
    (ks : List Node) → writeElems bufLen c d ks = (wtoksElems bufLen c d ks).flatMap WTok.bytes
  | [] => rfl
  | k :: ks => by
    unfold writeElems wtoksElems
    rw [value_bytes bufLen c d k, elems_bytes bufLen c d ks]
    simp only [apply_ite (List.flatMap WTok.bytes), List.flatMap_append, List.flatMap_cons, List.flatMap_nil,
      WTok.bytes, List.append_nil]
theorem members_bytes (bufLen : Nat) (c : Config) (d : Nat) :
    (ks : List Node) → writeMembers bufLen c d ks = (wtoksMembers bufLen c d ks).flatMap WTok.bytes
  | [] => rfl
  | k :: ks => by
    unfold writeMembers wtoksMembers
    rw [value_bytes bufLen c d k, members_bytes bufLen c d ks, prefix_bytes, suffix_bytes]
    simp only [List.flatMap_append]
end

/-! ### invariance of the normalised item sequence -/

theorem norm_append (a b : List WTok) : norm (a ++ b) = norm a ++ norm b := by
  simp [norm, List.filterMap_append]

@[simp] theorem norm_nil : norm [] = [] := rfl
@[simp] theorem norm_ws (b : Bytes) (l : List WTok) : norm (.ws b :: l) = norm l := rfl
@[simp] theorem norm_semi (l : List WTok) : norm (.semi :: l) = norm l := rfl
@[simp] theorem norm_assign (a : Nat) (l : List WTok) :
    norm (.assign a :: l) = .assign 0 :: norm l := rfl
@[simp] theorem norm_name (a : Bytes) (l : List WTok) :
    norm (.name a :: l) = .name a :: norm l := rfl
@[simp] theorem norm_punct (a : Nat) (l : List WTok) :
    norm (.punct a :: l) = .punct a :: norm l := rfl
@[simp] theorem norm_comma (l : List WTok) : norm (.comma :: l) = .comma :: norm l := rfl
@[simp] theorem norm_int (bits : Nat) (v : Int) (h : Bool) (l : List WTok) :
    norm (.int bits v h :: l) = .int bits v false :: norm l := rfl
@[simp] theorem norm_float (b : Nat) (t : Bytes) (l : List WTok) :
    norm (.float b t :: l) = .float b [] :: norm l := rfl

theorem norm_scalar (bufLen : Nat) (c₁ c₂ : Config) (n : Node) :
    norm [scalarTok bufLen c₁ n] = norm [scalarTok bufLen c₂ n] := by
  unfold scalarTok
  simp only [apply_ite (fun t => norm [t]), norm_int, norm_float]

theorem norm_prefix (c₁ c₂ : Config) (d : Nat) (name : Option Bytes) (ty : Nat) :
    norm (prefixToks c₁ d name ty) = norm (prefixToks c₂ d name ty) := by
  unfold prefixToks
  cases name <;> simp only [norm_append, apply_ite norm, norm_ws, norm_name, norm_assign, norm_nil, ite_self]

theorem norm_suffix (c : Config) (d : Nat) : norm (suffixToks c d) = [] := by
  unfold suffixToks
  simp only [norm_append, apply_ite norm, norm_ws, norm_semi, norm_nil, ite_self, List.append_nil]

-- `norm` is pushed through every `if` and `++`; what it leaves does not mention the configuration
mutual
theorem norm_value (bufLen : Nat) (c₁ c₂ : Config) (d : Nat) :
    (n : Node) → norm (wtoksValue bufLen c₁ d n) = norm (wtoksValue bufLen c₂ d n)
  | .mk name ty fmt ival fval sval kids hook line file => by
    unfold wtoksValue
    simp only [apply_ite norm, norm_append, norm_elems bufLen c₁ c₂ (d+1) kids,
      norm_members bufLen c₁ c₂ (d+1) kids, norm_scalar bufLen c₁ c₂, norm_ws, norm_punct, norm_nil, ite_self,
      List.nil_append]
theorem norm_elems (bufLen : Nat) (c₁ c₂ : Config) (d : Nat) :
    (ks : List Node) → norm (wtoksElems bufLen c₁ d ks) = norm (wtoksElems bufLen c₂ d ks)
  | [] => rfl
  | k :: ks => by
    unfold wtoksElems
    simp only [norm_append, norm_value bufLen c₁ c₂ d k, norm_elems bufLen c₁ c₂ d ks]
theorem norm_members (bufLen : Nat) (c₁ c₂ : Config) (d : Nat) :
    (ks : List Node) → norm (wtoksMembers bufLen c₁ d ks) = norm (wtoksMembers bufLen c₂ d ks)
  | [] => rfl
  | k :: ks => by
    unfold wtoksMembers
    simp only [norm_append, norm_value bufLen c₁ c₂ d k, norm_members bufLen c₁ c₂ d ks,
      norm_prefix c₁ c₂, norm_suffix]
end

theorem norm_config (bufLen : Nat) (c₁ c₂ : Config) (h : c₁.root = c₂.root) :
    norm (wtoksConfig bufLen c₁) = norm (wtoksConfig bufLen c₂) := by
  unfold wtoksConfig
  simp only [norm_append, h, norm_value bufLen c₁ c₂, norm_prefix c₁ c₂, norm_suffix]

/-! ### the semicolon option -/

/-- drop the `;` items -/
def nosemi (l : List WTok) : List WTok := l.filter (· != WTok.semi)

theorem nosemi_append (a b : List WTok) : nosemi (a ++ b) = nosemi a ++ nosemi b := by
  simp [nosemi]

/-- `c'` presents like `c` except possibly for the `OPT_SEMICOLON` bit. -/
structure SameButSemi (c c' : Config) : Prop where
  tw : c'.tabWidth = c.tabWidth
  fp : c'.floatPrecision = c.floatPrecision
  df : c'.defaultFormat = c.defaultFormat
  cg : c'.opt OPT_COLON_GROUPS = c.opt OPT_COLON_GROUPS
  cn : c'.opt OPT_COLON_NONGROUPS = c.opt OPT_COLON_NONGROUPS
  bs : c'.opt OPT_BRACE_SEPARATE = c.opt OPT_BRACE_SEPARATE
  sc : c'.opt OPT_SCIENTIFIC = c.opt OPT_SCIENTIFIC

theorem optGet_or (o a x : Nat) (h : a &&& x = 0) : optGet (o ||| a) x = optGet o x := by
  unfold optGet
  rw [Nat.and_or_distrib_right, h, Nat.or_zero]

theorem optGet_and (o m x : Nat) (h : m &&& x = x) : optGet (o &&& m) x = optGet o x := by
  unfold optGet
  rw [Nat.and_assoc, h]

theorem sameButSemi_setOption (c : Config) (on : Bool) :
    SameButSemi c (c.setOption OPT_SEMICOLON on) := by
  cases on
  · refine ⟨rfl, rfl, rfl, ?_, ?_, ?_, ?_⟩ <;>
      exact optGet_and _ _ _ (by decide)
  · refine ⟨rfl, rfl, rfl, ?_, ?_, ?_, ?_⟩ <;>
      exact optGet_or _ _ _ (by decide)

theorem scalarTok_same {c c' : Config} (h : SameButSemi c c') (bufLen : Nat) (n : Node) :
    scalarTok bufLen c' n = scalarTok bufLen c n := by
  unfold scalarTok effFormat
  rw [h.fp, h.df, h.sc]

theorem prefixToks_same {c c' : Config} (h : SameButSemi c c') (d : Nat) (name : Option Bytes)
    (ty : Nat) : prefixToks c' d name ty = prefixToks c d name ty := by
  unfold prefixToks
  rw [h.tw, h.cg, h.cn]

theorem nosemi_suffix (c : Config) (d : Nat) :
    nosemi (suffixToks c d) = if d > 0 then [WTok.ws [10]] else [] := by
  unfold suffixToks
  rw [apply_ite nosemi]
  cases c.opt OPT_SEMICOLON <;> rfl

mutual
theorem nosemi_value {c c' : Config} (h : SameButSemi c c') (bufLen : Nat) (d : Nat) :
    (n : Node) → nosemi (wtoksValue bufLen c' d n) = nosemi (wtoksValue bufLen c d n)
  | .mk name ty fmt ival fval sval kids hook line file => by
    unfold wtoksValue
    rw [h.tw, h.bs, scalarTok_same h]
    simp only [apply_ite nosemi, nosemi_append, nosemi_elems h bufLen (d+1) kids,
      nosemi_members h bufLen (d+1) kids]
theorem nosemi_elems {c c' : Config} (h : SameButSemi c c') (bufLen : Nat) (d : Nat) :
    (ks : List Node) → nosemi (wtoksElems bufLen c' d ks) = nosemi (wtoksElems bufLen c d ks)
  | [] => rfl
  | k :: ks => by
    unfold wtoksElems
    simp only [nosemi_append, nosemi_value h bufLen d k, nosemi_elems h bufLen d ks]
theorem nosemi_members {c c' : Config} (h : SameButSemi c c') (bufLen : Nat) (d : Nat) :
    (ks : List Node) → nosemi (wtoksMembers bufLen c' d ks) = nosemi (wtoksMembers bufLen c d ks)
  | [] => rfl
  | k :: ks => by
    unfold wtoksMembers
    simp only [nosemi_append, nosemi_value h bufLen d k, nosemi_members h bufLen d ks,
      prefixToks_same h, nosemi_suffix]
end

theorem nosemi_config {c c' : Config} (h : SameButSemi c c') (hr : c'.root = c.root)
    (bufLen : Nat) : nosemi (wtoksConfig bufLen c') = nosemi (wtoksConfig bufLen c) := by
  unfold wtoksConfig
  simp only [nosemi_append, hr, nosemi_value h bufLen, prefixToks_same h, nosemi_suffix]

end Libconfig.C19
