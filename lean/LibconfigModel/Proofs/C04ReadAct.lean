import LibconfigModel.Proofs.C04ReadInv
import LibconfigModel.Proofs.C04ReadStatic
import LibconfigModel.Proofs.Actions
/-
  C04 (reads): every semantic action of the grammar preserves the invariant `TInv`
  (C04ReadInv), whatever its outcome; the only proviso is that `$@2/$@3/$@4` do not run while
  `ctx->setting` is still the root.
-/
namespace Libconfig.C04R
open Libconfig C04 C05P

/-- what an action's outcome has to satisfy: an `ok` outcome re-establishes the invariant and
never points `setting` back to the root (`strict`: it points it away from the root); the
other outcomes end the parse, only the well-formedness of what is left matters -/
def ActGood (strict : Bool) (ctx : ParseCtx) : ActOut → Prop
  | .ok ctx' => TInv ctx'.cfg ctx'.parent ctx'.setting ∧
      (ctx.setting ≠ some [] → ctx'.setting ≠ some []) ∧
      (strict = true → ctx'.setting ≠ some [])
  | .abort ctx' => ctx'.cfg.WF
  | .crash ctx' => ctx'.cfg.WF

theorem cap_wf {l : Nat} {f : Option Bytes} {n : Node} (h : n.WF) : (cap l f n).WF :=
  WF.congr h rfl rfl

theorem cap_compat (l : Nat) (f : Option Bytes) (n : Node) : Compat n (cap l f n) :=
  ⟨rfl, fun _ => rfl⟩

theorem yyerror_wf {ctx : ParseCtx} (h : ctx.cfg.WF) (l : Nat) (t : Bytes) :
    (ctx.yyerror l t).cfg.WF := by
  unfold ParseCtx.yyerror
  split
  · exact h
  · exact ⟨h.1, h.2, h.3⟩

theorem getD_kids {setter : Node → Option Node} (hk : ScalarSetter setter)
    (n : Node) : ((setter n).getD n).kids = n.kids := by
  cases hs : setter n with
  | none => rfl
  | some n' => exact (hk.update hs).kids

theorem getD_good {setter : Node → Option Node} (hs : ScalarSetter setter) (n : Node) (hn : n.WF) :
    ((setter n).getD n).WF ∧ Compat n ((setter n).getD n) := by
  cases h : setter n with
  | none => exact ⟨hn, Compat.refl n⟩
  | some n' => exact scalarUpdate_wf (hs.update h) hn

theorem setFmtF_kids (fmt : Option Nat) (n : Node) : (setFmtF fmt n).kids = n.kids := by
  cases fmt with
  | none => rfl
  | some f0 => exact getD_kids (scalar_setFormat f0) n

theorem setFmtF_good (fmt : Option Nat) (n : Node) (hn : n.WF) :
    (setFmtF fmt n).WF ∧ Compat n (setFmtF fmt n) := by
  cases fmt with
  | none => exact ⟨hn, Compat.refl n⟩
  | some f0 => exact getD_good (scalar_setFormat f0) n hn

theorem runAction_inv (act : ParseAct) (ctx : ParseCtx) (v : TokVal) (l : Nat) (f : Option Bytes)
    (h : TInv ctx.cfg ctx.parent ctx.setting)
    (hs : ctx.setting = some [] → usesSetting act = false) :
    ActGood (isSettingName act) ctx (runAction act ctx v l f) := by
  have he := runAction_effect ctx v l f act
  -- only `$@1` has to point `setting` away from the root
  have other : ∀ {c' : ParseCtx}, act ≠ .settingName → isSettingName act = true →
      c'.setting ≠ some [] := fun hne h => by
    cases act <;> first | exact absurd rfl hne | cases h
  generalize runAction act ctx v l f = out at he
  cases he with
  | skip => exact ⟨h, id, nofun⟩
  | piece hp => exact ⟨h, id, other (by rintro rfl; cases hp <;> contradiction)⟩
  | crash => exact h.wf
  | duplicate => exact yyerror_wf (ctx := { ctx with setting := none }) h.wf _ _
  | mismatch => exact yyerror_wf (ctx := ctx.taken act) h.wf _ _
  | ascend =>
    refine ⟨?_, id, nofun⟩
    show TInv ctx.cfg (upPath ctx.parent) ctx.setting
    cases hp : ctx.parent with
    | none => exact h.no_parent
    | some p =>
      cases p with
      | nil => exact h.no_parent
      | cons i p => exact (hp ▸ h).ascend
  | @named pp _ _ _ _ hpp hpn hadd =>
    have hw' := (add_wf (WF.get h.wf.nodes hpn) hadd).1
    obtain ⟨ks, nm, rfl, rfl, -, hna, -⟩ := add_some hadd
    have hne : some (pp ++ [ks.length]) ≠ some ([] : Path) := by simp
    refine ⟨?_, fun _ => hne, fun _ => hne⟩
    simp only [Node.editKid, modify_last]
    show TInv _ ctx.parent _
    rw [hpp] at h ⊢
    refine TInv.new_setting h hpn
      (grown _ ks _ (cap l f) hw' (cap_wf (WF.leaf (Nat.zero_le _) rfl)) (cap_compat _ _ _))
      ⟨rfl, fun _ => rfl⟩ ?_ List.getElem?_concat_length rfl
    intro ha
    have := hna ha
    revert this
    decide
  | @opened _ ty _ pn _ _ _ hty _ hpp hpn hadd =>
    have hty8 : ty ≤ 8 := by cases act <;> cases hty <;> decide
    have hw' := (add_wf (WF.get h.wf.nodes hpn) hadd).1
    obtain ⟨ks, nm, rfl, rfl, hks, -⟩ := add_some hadd
    obtain rfl : ks = pn.kids := hks.elim (·.1) fun ⟨_, _, hne, _⟩ => absurd rfl hne
    refine ⟨?_, fun h => h, other (by rintro rfl; cases hty)⟩
    rw [hpp] at h
    simp only [Node.editKid, modify_last]
    exact TInv.grow_descend h hpn
      (grown pn pn.kids _ (cap l f) hw' (cap_wf (WF.leaf (by simp; omega) rfl)) (cap_compat _ _ _))
      (grows_append pn _) rfl List.getElem?_concat_length
  | @retyped _ ty sp _ hty _ hsp _ =>
    have hty8 : ty ≤ 8 := by cases act <;> cases hty <;> decide
    have hu : usesSetting act = true := by cases act <;> first | rfl | cases hty
    refine ⟨?_, fun _ => nofun, other (by rintro rfl; cases hty)⟩
    rw [hsp] at h
    exact TInv.retype h (by rintro rfl; simp [hs hsp] at hu) hty8
  | @elem _ σ pp pn _ _ hσ _ hpp hpn hse =>
    obtain ⟨hsc, hty⟩ := valueSpec_scalar hσ
    have hw' := (setElem_wf hsc hty (WF.get h.wf.nodes hpn) hse).1
    obtain ⟨el, rfl, rfl⟩ := setElem_shape hse
    refine ⟨?_, fun h => h, other (by rintro rfl; cases hσ)⟩
    simp only [Node.editKid, modify_last]
    obtain ⟨g1, g2⟩ := setFmtF_good σ.fmt el (C06P.WF.child hw' List.getElem?_concat_length)
    exact TInv.grow h hpp hpn
      (grown pn pn.kids el (fun m => cap l f (setFmtF σ.fmt m)) hw' (cap_wf g1)
        (compat_trans' g2 (cap_compat _ _ _)))
      (grows_append pn _)
  | @assigned _ σ sp n hσ _ hsp hn =>
    obtain ⟨hsc, -⟩ := valueSpec_scalar hσ
    refine ⟨?_, fun h => h, other (by rintro rfl; cases hσ)⟩
    obtain ⟨a1, a2⟩ := getD_good hsc n (WF.get h.wf.nodes hn)
    obtain ⟨b1, b2⟩ := setFmtF_good σ.fmt _ a1
    have := TInv.edit_setting (hsp ▸ h) (fun n => setFmtF σ.fmt ((σ.setter n).getD n)) hn b1
      (compat_trans' a2 b2) (fun m => by rw [setFmtF_kids, getD_kids hsc])
    rw [← hsp] at this
    exact this

end Libconfig.C04R
