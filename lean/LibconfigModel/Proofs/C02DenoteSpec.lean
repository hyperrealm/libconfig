import LibconfigModel.Denote
/-
  C02D, specification side in the form the proofs use: unfolding lemmas for the reference
  interpreter of Denote.lean (named only where a clause has a side condition or leaves a match to
  reduce; the other clauses are the definition's own equations, `rw [value]`), the same resolved
  by the outcome of the calls a clause makes, the bison symbol an item is read as, and the nesting
  measure.  What the interpreter consumes, and that its fuel is never used up, is read off the
  interpreter that tells where it stops (Proofs/C09LineSpec.lean).  Nothing here mentions the
  parser.
-/
namespace Libconfig.C02D
open Libconfig Denote

/-! ### case distinctions on the items in front -/

inductive ValueView : List Denote.Item → Prop where
  | arrNil (r : List Denote.Item) : ValueView (.arrayStart :: .arrayEnd :: r)
  | arr (rest : List Denote.Item) (h : ∀ r, rest ≠ .arrayEnd :: r) : ValueView (.arrayStart :: rest)
  | lstNil (r : List Denote.Item) : ValueView (.listStart :: .listEnd :: r)
  | lst (rest : List Denote.Item) (h : ∀ r, rest ≠ .listEnd :: r) : ValueView (.listStart :: rest)
  | grp (rest : List Denote.Item) : ValueView (.groupStart :: rest)
  | other (items : List Denote.Item) (h1 : ∀ r, items ≠ .arrayStart :: r)
      (h2 : ∀ r, items ≠ .listStart :: r) (h3 : ∀ r, items ≠ .groupStart :: r) : ValueView items

theorem valueView (items : List Denote.Item) : ValueView items := by
  cases items with
  | nil => exact .other _ (fun _ h => by cases h) (fun _ h => by cases h) (fun _ h => by cases h)
  | cons it tl =>
    cases it
    case arrayStart =>
      cases tl with
      | nil => exact .arr _ (fun _ h => by cases h)
      | cons it2 tl2 =>
        cases it2
        case arrayEnd => exact .arrNil _
        all_goals exact .arr _ (fun _ h => by cases h)
    case listStart =>
      cases tl with
      | nil => exact .lst _ (fun _ h => by cases h)
      | cons it2 tl2 =>
        cases it2
        case listEnd => exact .lstNil _
        all_goals exact .lst _ (fun _ h => by cases h)
    case groupStart => exact .grp _
    all_goals exact .other _ (fun _ h => by cases h) (fun _ h => by cases h) (fun _ h => by cases h)

/-- what may follow the elements read so far in a list or an array (`close` is the closing
bracket) -/
inductive RestView (close : Denote.Item) : List Denote.Item → Prop where
  | done (r : List Denote.Item) : RestView close (close :: r)
  | comma (rest : List Denote.Item) : RestView close (.comma :: rest)
  | other (items : List Denote.Item) (h1 : ∀ r, items ≠ close :: r) (h2 : ∀ r, items ≠ .comma :: r) :
      RestView close items

theorem listRestView (items : List Denote.Item) : RestView .listEnd items := by
  cases items with
  | nil => exact .other _ (fun _ h => by cases h) (fun _ h => by cases h)
  | cons it tl =>
    cases it
    case listEnd => exact .done _
    case comma => exact .comma _
    all_goals exact .other _ (fun _ h => by cases h) (fun _ h => by cases h)

theorem arrayRestView (items : List Denote.Item) : RestView .arrayEnd items := by
  cases items with
  | nil => exact .other _ (fun _ h => by cases h) (fun _ h => by cases h)
  | cons it tl =>
    cases it
    case arrayEnd => exact .done _
    case comma => exact .comma _
    all_goals exact .other _ (fun _ h => by cases h) (fun _ h => by cases h)

inductive SettingsView : List Denote.Item → Prop where
  | setting (nm : Bytes) (rest : List Denote.Item) : SettingsView (.name nm :: .assign :: rest)
  | noAssign (nm : Bytes) (rest : List Denote.Item) (h : ∀ r, rest ≠ .assign :: r) :
      SettingsView (.name nm :: rest)
  | other (items : List Denote.Item) (h : ∀ nm r, items ≠ .name nm :: r) : SettingsView items

theorem settingsView (items : List Denote.Item) : SettingsView items := by
  cases items with
  | nil => exact .other _ (fun _ _ h => by cases h)
  | cons it tl =>
    cases it
    case name nm =>
      cases tl with
      | nil => exact .noAssign _ _ (fun _ h => by cases h)
      | cons it2 tl2 =>
        cases it2
        case assign => exact .setting _ _
        all_goals exact .noAssign _ _ (fun _ h => by cases h)
    all_goals exact .other _ (fun _ _ h => by cases h)

/-! ### unfolding lemmas -/

theorem value_arr (o : Options) (fuel : Nat) (nm : Option Bytes) (rest : List Denote.Item)
    (h : ∀ r, rest ≠ .arrayEnd :: r) :
    value o (fuel + 1) nm (.arrayStart :: rest) =
      match scalar none rest with
      | none => .error .syntax
      | some (x, rest') =>
        match arrayRest x.ty fuel [x] rest' with
        | .error k => .error k
        | .ok elems rest'' => .ok { name := nm, ty := T_ARRAY, kids := elems } rest'' := by
  rw [value]
  · rfl
  · exact h

theorem value_lst (o : Options) (fuel : Nat) (nm : Option Bytes) (rest : List Denote.Item)
    (h : ∀ r, rest ≠ .listEnd :: r) :
    value o (fuel + 1) nm (.listStart :: rest) =
      match value o fuel none rest with
      | .error k => .error k
      | .ok x rest' =>
        match listRest o fuel [x] rest' with
        | .error k => .error k
        | .ok elems rest'' => .ok { name := nm, ty := T_LIST, kids := elems } rest'' := by
  rw [value]
  · rfl
  · exact h

theorem value_other (o : Options) (fuel : Nat) (nm : Option Bytes) (items : List Denote.Item)
    (h1 : ∀ r, items ≠ .arrayStart :: r) (h2 : ∀ r, items ≠ .listStart :: r)
    (h3 : ∀ r, items ≠ .groupStart :: r) :
    value o (fuel + 1) nm items =
      match scalar nm items with
      | some (x, rest) => .ok x rest
      | none => .error .syntax := by
  rw [value]
  · rfl
  · exact h1
  · exact h2
  · exact h3

theorem listRest_skip (o : Options) (fuel : Nat) (acc : List Node) (rest : List Denote.Item)
    (h : (∃ r, rest = .comma :: r) ∨ (∃ r, rest = .listEnd :: r)) :
    listRest o (fuel + 1) acc (.comma :: rest) = listRest o fuel acc rest := by
  rcases h with ⟨r, rfl⟩ | ⟨r, rfl⟩ <;> rw [listRest]

theorem listRest_value (o : Options) (fuel : Nat) (acc : List Node) (rest : List Denote.Item)
    (h1 : ∀ r, rest ≠ .listEnd :: r) (h2 : ∀ r, rest ≠ .comma :: r) :
    listRest o (fuel + 1) acc (.comma :: rest) =
      match value o fuel none rest with
      | .error k => .error k
      | .ok x rest' => listRest o fuel (acc ++ [x]) rest' := by
  rw [listRest]
  · rfl
  · exact h2
  · exact h1

theorem listRest_other (o : Options) (fuel : Nat) (acc : List Node) (items : List Denote.Item)
    (h1 : ∀ r, items ≠ .listEnd :: r) (h2 : ∀ r, items ≠ .comma :: r) :
    listRest o (fuel + 1) acc items = .error .syntax := by
  rw [listRest]
  · exact h1
  · exact h2

theorem arrayRest_other (ty fuel : Nat) (acc : List Node) (items : List Denote.Item)
    (h1 : ∀ r, items ≠ .arrayEnd :: r) (h2 : ∀ r, items ≠ .comma :: r) :
    arrayRest ty (fuel + 1) acc items = .error .syntax := by
  rw [arrayRest]
  · exact h1
  · exact h2

theorem settings_noAssign (o : Options) (fuel : Nat) (members : List Node) (nm : Bytes)
    (rest : List Denote.Item) (h : ∀ r, rest ≠ .assign :: r) :
    settings o (fuel + 1) members (.name nm :: rest) =
      match enter o members nm with
      | none => .error .duplicateName
      | some _ => .error .syntax := by
  rw [settings]
  cases enter o members nm with
  | none => rfl
  | some m' =>
    cases rest with
    | nil => rfl
    | cons it tl =>
      cases it
      case assign => exact absurd rfl (h _)
      all_goals rfl

theorem settings_setting (o : Options) (fuel : Nat) (members : List Node) (nm : Bytes)
    (rest : List Denote.Item) :
    settings o (fuel + 1) members (.name nm :: .assign :: rest) =
      match enter o members nm with
      | none => .error .duplicateName
      | some members' =>
        match value o fuel (some nm) rest with
        | .error k => .error k
        | .ok x rest'' => settings o fuel (members' ++ [x]) (skipTerminator rest'') := by
  rw [settings]
  rfl

theorem settings_other (o : Options) (fuel : Nat) (members : List Node) (items : List Denote.Item)
    (h : ∀ nm r, items ≠ .name nm :: r) :
    settings o (fuel + 1) members items = .ok members items := by
  rw [settings]
  exact h

/-! ### the unfolding lemmas, resolved -/

section
variable {o : Options} {fuel : Nat} {nm : Option Bytes} {rest r1 r2 : List Denote.Item}
  {x : Node} {k : ErrKind}

theorem value_arr_none (hne : ∀ r, rest ≠ .arrayEnd :: r) (hs : scalar none rest = none) :
    value o (fuel + 1) nm (.arrayStart :: rest) = .error .syntax := by
  rw [value_arr _ _ _ _ hne, hs]

theorem value_arr_err (hne : ∀ r, rest ≠ .arrayEnd :: r) (hs : scalar none rest = some (x, r1))
    (ha : arrayRest x.ty fuel [x] r1 = .error k) :
    value o (fuel + 1) nm (.arrayStart :: rest) = .error k := by
  rw [value_arr _ _ _ _ hne, hs]
  simp only
  rw [ha]

theorem value_arr_ok {elems : List Node} (hne : ∀ r, rest ≠ .arrayEnd :: r)
    (hs : scalar none rest = some (x, r1)) (ha : arrayRest x.ty fuel [x] r1 = .ok elems r2) :
    value o (fuel + 1) nm (.arrayStart :: rest) =
      .ok { name := nm, ty := T_ARRAY, kids := elems } r2 := by
  rw [value_arr _ _ _ _ hne, hs]
  simp only
  rw [ha]

theorem value_lst_err1 (hne : ∀ r, rest ≠ .listEnd :: r) (hv : value o fuel none rest = .error k) :
    value o (fuel + 1) nm (.listStart :: rest) = .error k := by
  rw [value_lst _ _ _ _ hne, hv]

theorem value_lst_err2 (hne : ∀ r, rest ≠ .listEnd :: r) (hv : value o fuel none rest = .ok x r1)
    (hl : listRest o fuel [x] r1 = .error k) :
    value o (fuel + 1) nm (.listStart :: rest) = .error k := by
  rw [value_lst _ _ _ _ hne, hv]
  simp only
  rw [hl]

theorem value_lst_ok {elems : List Node} (hne : ∀ r, rest ≠ .listEnd :: r)
    (hv : value o fuel none rest = .ok x r1) (hl : listRest o fuel [x] r1 = .ok elems r2) :
    value o (fuel + 1) nm (.listStart :: rest) =
      .ok { name := nm, ty := T_LIST, kids := elems } r2 := by
  rw [value_lst _ _ _ _ hne, hv]
  simp only
  rw [hl]

theorem value_grp_err (hs : settings o fuel [] rest = .error k) :
    value o (fuel + 1) nm (.groupStart :: rest) = .error k := by
  rw [value, hs]

theorem value_grp_ok {members : List Node} (hs : settings o fuel [] rest = .ok members (.groupEnd :: r2)) :
    value o (fuel + 1) nm (.groupStart :: rest) =
      .ok { name := nm, ty := T_GROUP, kids := members } r2 := by
  rw [value, hs]

theorem value_grp_bad {members : List Node} (hs : settings o fuel [] rest = .ok members r1)
    (h : ∀ r, r1 ≠ .groupEnd :: r) :
    value o (fuel + 1) nm (.groupStart :: rest) = .error .syntax := by
  rw [value, hs]
  cases r1 with
  | nil => rfl
  | cons it tl =>
    cases it
    case groupEnd => exact absurd rfl (h _)
    all_goals rfl

theorem value_other_none {items : List Denote.Item} (h1 : ∀ r, items ≠ .arrayStart :: r)
    (h2 : ∀ r, items ≠ .listStart :: r) (h3 : ∀ r, items ≠ .groupStart :: r)
    (hs : scalar nm items = none) : value o (fuel + 1) nm items = .error .syntax := by
  rw [value_other _ _ _ _ h1 h2 h3, hs]

theorem value_other_some {items : List Denote.Item} (h1 : ∀ r, items ≠ .arrayStart :: r)
    (h2 : ∀ r, items ≠ .listStart :: r) (h3 : ∀ r, items ≠ .groupStart :: r)
    (hs : scalar nm items = some (x, r1)) : value o (fuel + 1) nm items = .ok x r1 := by
  rw [value_other _ _ _ _ h1 h2 h3, hs]

theorem listRest_value_err {acc : List Node} (h1 : ∀ r, rest ≠ .listEnd :: r)
    (h2 : ∀ r, rest ≠ .comma :: r) (hv : value o fuel none rest = .error k) :
    listRest o (fuel + 1) acc (.comma :: rest) = .error k := by
  rw [listRest_value _ _ _ _ h1 h2, hv]

theorem listRest_value_ok {acc : List Node} (h1 : ∀ r, rest ≠ .listEnd :: r)
    (h2 : ∀ r, rest ≠ .comma :: r) (hv : value o fuel none rest = .ok x r1) :
    listRest o (fuel + 1) acc (.comma :: rest) = listRest o fuel (acc ++ [x]) r1 := by
  rw [listRest_value _ _ _ _ h1 h2, hv]

theorem settings_setting_dup {m : List Node} {n : Bytes} (he : enter o m n = none) :
    settings o (fuel + 1) m (.name n :: rest) = .error .duplicateName := by
  rw [settings, he]

theorem settings_setting_err {m m' : List Node} {n : Bytes} (he : enter o m n = some m')
    (hv : value o fuel (some n) rest = .error k) :
    settings o (fuel + 1) m (.name n :: .assign :: rest) = .error k := by
  rw [settings_setting, he]
  simp only
  rw [hv]

theorem settings_setting_ok {m m' : List Node} {n : Bytes} (he : enter o m n = some m')
    (hv : value o fuel (some n) rest = .ok x r1) :
    settings o (fuel + 1) m (.name n :: .assign :: rest) =
      settings o fuel (m' ++ [x]) (skipTerminator r1) := by
  rw [settings_setting, he]
  simp only
  rw [hv]

theorem settings_noAssign_syn {m m' : List Node} {n : Bytes} (h : ∀ r, rest ≠ .assign :: r)
    (he : enter o m n = some m') :
    settings o (fuel + 1) m (.name n :: rest) = .error .syntax := by
  rw [settings_noAssign _ _ _ _ _ h, he]

end

/-! ### strings and scalars -/

theorem strings_cons (s : Bytes) (rest : List Denote.Item) :
    strings (.string s :: rest) = (s ++ (strings rest).1, (strings rest).2) := by
  rw [strings]

theorem strings_other (l : List Denote.Item) (h : ∀ s r, l ≠ .string s :: r) : strings l = ([], l) := by
  rw [strings]
  exact h

theorem strings_head (l : List Denote.Item) : ∀ s r, (strings l).2 ≠ .string s :: r := by
  induction l with
  | nil => rw [strings_other _ (fun _ _ h => by cases h)]; exact fun _ _ h => by cases h
  | cons it tl ih =>
    cases it
    case string s =>
      rw [strings_cons]
      exact ih
    all_goals
      rw [strings_other _ (fun _ _ h => by cases h)]
      exact fun _ _ h => by cases h

/-- "head kind": the kind (in the numbering of the grammar) of the item in front; 0 at the end of
the input, 2 (`$undefined`) for an item that is none of the language -/
def hk : List Denote.Item → Nat
  | [] => 0
  | .boolean _ :: _ => 3
  | .integer _ :: _ => 4
  | .hex _ :: _ => 5
  | .integer64 _ :: _ => 6
  | .hex64 _ :: _ => 7
  | .float _ :: _ => 8
  | .string _ :: _ => 9
  | .name _ :: _ => 10
  | .assign :: _ => 11
  | .arrayStart :: _ => 13
  | .arrayEnd :: _ => 14
  | .listStart :: _ => 15
  | .listEnd :: _ => 16
  | .comma :: _ => 17
  | .groupStart :: _ => 18
  | .groupEnd :: _ => 19
  | .semicolon :: _ => 20
  | .other :: _ => 2

/-- the kind of the token the automaton sees in front of the items when a token of kind `e` stands
behind them (`e` is `endK tv`, Proofs/C02DenoteSim.lean): `hk` of the items, and `e` where they
are used up -/
def hkE (e : Nat) : List Denote.Item → Nat
  | [] => e
  | it :: l => hk (it :: l)

@[simp] theorem hkE_cons (e : Nat) (it : Denote.Item) (l : List Denote.Item) :
    hkE e (it :: l) = hk (it :: l) := rfl

theorem hkE_of {e : Nat} {l : List Denote.Item} (h : l = [] → e = 0) : hkE e l = hk l := by
  cases l with
  | nil => rw [h rfl]; rfl
  | cons it tl => rfl

theorem hkE_ne {e c : Nat} {l : List Denote.Item} (he : l = [] → e ≠ c) (h : hk l ≠ c) :
    hkE e l ≠ c := by
  cases l with
  | nil => exact he rfl
  | cons it tl => exact h

/-- which item stands in front, read off its kind (for the kinds the proofs ask about) -/
theorem hk_inv {l : List Denote.Item} {c : Nat} (h : hk l = c) :
    match c with
    | 9 => ∃ s r, l = .string s :: r
    | 10 => ∃ s r, l = .name s :: r
    | 11 => ∃ r, l = .assign :: r
    | 14 => ∃ r, l = .arrayEnd :: r
    | 16 => ∃ r, l = .listEnd :: r
    | 17 => ∃ r, l = .comma :: r
    | 19 => ∃ r, l = .groupEnd :: r
    | 20 => ∃ r, l = .semicolon :: r
    | _ => True := by
  subst h
  cases l with
  | nil => exact True.intro
  | cons it tl => cases it <;> first | exact True.intro | exact ⟨_, rfl⟩ | exact ⟨_, _, rfl⟩

theorem hk_ne_9 {l : List Denote.Item} (h : ∀ s r, l ≠ .string s :: r) : hk l ≠ 9 :=
  fun e => let ⟨s, r, e'⟩ := hk_inv e; h s r e'

theorem hk_ne_10 {l : List Denote.Item} (h : ∀ s r, l ≠ .name s :: r) : hk l ≠ 10 :=
  fun e => let ⟨s, r, e'⟩ := hk_inv e; h s r e'

theorem hk_ne_11 {l : List Denote.Item} (h : ∀ r, l ≠ .assign :: r) : hk l ≠ 11 :=
  fun e => let ⟨r, e'⟩ := hk_inv e; h r e'

theorem hk_ne_14 {l : List Denote.Item} (h : ∀ r, l ≠ .arrayEnd :: r) : hk l ≠ 14 :=
  fun e => let ⟨r, e'⟩ := hk_inv e; h r e'

theorem hk_ne_16 {l : List Denote.Item} (h : ∀ r, l ≠ .listEnd :: r) : hk l ≠ 16 :=
  fun e => let ⟨r, e'⟩ := hk_inv e; h r e'

theorem hk_ne_17 {l : List Denote.Item} (h : ∀ r, l ≠ .comma :: r) : hk l ≠ 17 :=
  fun e => let ⟨r, e'⟩ := hk_inv e; h r e'

theorem hk_ne_19 {l : List Denote.Item} (h : ∀ r, l ≠ .groupEnd :: r) : hk l ≠ 19 :=
  fun e => let ⟨r, e'⟩ := hk_inv e; h r e'

theorem hk_ne_20 {l : List Denote.Item} (h : ∀ r, l ≠ .semicolon :: r) : hk l ≠ 20 :=
  fun e => let ⟨r, e'⟩ := hk_inv e; h r e'

theorem hk_ne_0 {it : Denote.Item} {l : List Denote.Item} : hk (it :: l) ≠ 0 := by
  cases it <;> exact Nat.ne_of_beq_eq_false rfl

/-- a run of string literals ends behind its last literal -/
theorem strings_reads (tl : List Denote.Item) : ∀ s : Bytes,
    ∃ it, (it :: (strings tl).2) <:+ (.string s :: tl) := by
  induction tl with
  | nil => exact fun s => ⟨_, by rw [strings_other _ (fun _ _ h => by cases h)]; exact List.suffix_refl _⟩
  | cons it tl ih =>
    intro s
    cases it
    case string s2 =>
      obtain ⟨it, h⟩ := ih s2
      exact ⟨it, by rw [strings_cons]; exact h.trans (List.suffix_cons _ _)⟩
    all_goals
      exact ⟨_, by rw [strings_other _ (fun _ _ h => by cases h)]; exact List.suffix_refl _⟩

/-- what follows a scalar stands right behind the scalar's last item -/
theorem scalar_reads {nm : Option Bytes} {items rest : List Denote.Item} {x : Node}
    (h : scalar nm items = some (x, rest)) : ∃ it, (it :: rest) <:+ items := by
  cases items with
  | nil => simp [scalar] at h
  | cons it tl =>
    cases it
    case string s =>
      simp only [scalar, Option.some.injEq, Prod.mk.injEq] at h
      rw [← h.2]
      exact strings_reads tl s
    all_goals
      simp only [scalar, Option.some.injEq, Prod.mk.injEq, reduceCtorEq] at h
    all_goals
      rw [← h.2]
      exact ⟨_, List.suffix_refl _⟩

theorem scalar_suffix {nm : Option Bytes} {items rest : List Denote.Item} {x : Node}
    (h : scalar nm items = some (x, rest)) : rest <:+ items :=
  let ⟨_, hs⟩ := scalar_reads h
  (List.suffix_cons _ _).trans hs

theorem scalar_length {nm : Option Bytes} {items rest : List Denote.Item} {x : Node}
    (h : scalar nm items = some (x, rest)) : rest.length < items.length :=
  let ⟨_, hs⟩ := scalar_reads h
  hs.length_le

/-- no scalar starts here: the item in front is none of BOOLEAN … STRING -/
theorem scalar_none {nm : Option Bytes} {items : List Denote.Item} (h : scalar nm items = none) :
    ¬ (3 ≤ hk items ∧ hk items ≤ 9) := by
  cases items with
  | nil => simp [hk]
  | cons it tl =>
    cases it
    all_goals first | (simp [scalar] at h; done) | simp [hk]

theorem scalar_some {nm : Option Bytes} {items rest : List Denote.Item} {x : Node}
    (h : scalar nm items = some (x, rest)) : 3 ≤ hk items ∧ hk items ≤ 9 := by
  cases items with
  | nil => simp [scalar] at h
  | cons it tl =>
    cases it
    all_goals first | (simp [scalar] at h; done) | simp [hk]

/-! ### the optional terminator -/

theorem skipTerminator_suffix (l : List Denote.Item) : skipTerminator l <:+ l := by
  cases l with
  | nil => exact List.suffix_refl _
  | cons it tl =>
    cases it
    case semicolon => rw [skipTerminator]; exact List.suffix_cons _ _
    case comma => rw [skipTerminator]; exact List.suffix_cons _ _
    all_goals exact List.suffix_refl _

theorem skipTerminator_length (l : List Denote.Item) : (skipTerminator l).length ≤ l.length :=
  (skipTerminator_suffix l).length_le

/-! ### the nesting that costs the parser stack

A bracket that is closed at once (`( )`, `[ ]`, `{ }`) takes no more of the parser's stack than a
scalar in its place.  `nestS` is `nestingFrom` without such pairs: the measure the simulation
bounds.  For the written form of a tree it is the depth of the tree (Proofs/C01ParseDenote.lean). -/

/-- an item that is no bracket does not change the nesting -/
def flat : Denote.Item → Bool
  | .arrayStart | .arrayEnd | .listStart | .listEnd | .groupStart | .groupEnd => false
  | _ => true

def nestS : Nat → List Denote.Item → Nat
  | d, [] => d
  | d, .arrayStart :: .arrayEnd :: rest => nestS d rest
  | d, .listStart :: .listEnd :: rest => nestS d rest
  | d, .groupStart :: .groupEnd :: rest => nestS d rest
  | d, .arrayStart :: rest | d, .listStart :: rest | d, .groupStart :: rest =>
    max d (nestS (d + 1) rest)
  | d, .arrayEnd :: rest | d, .listEnd :: rest | d, .groupEnd :: rest => max d (nestS (d - 1) rest)
  | d, _ :: rest => nestS d rest

theorem le_nestS (d : Nat) (l : List Denote.Item) : d ≤ nestS d l := by
  fun_induction nestS d l
  all_goals first | exact Nat.le_refl _ | exact Nat.le_max_left _ _ | assumption

theorem nestS_le (d : Nat) (l : List Denote.Item) : nestS d l ≤ nestingFrom d l := by
  fun_induction nestS d l
  all_goals simp only [nestingFrom, Nat.add_sub_cancel]
  all_goals omega

theorem nest_of {toks : List (Nat × TokVal)} {N : Nat} (h : nesting toks ≤ N) :
    nestS 0 (toks.map itemOf) ≤ N :=
  Nat.le_trans (nestS_le _ _) h

theorem nestS_open {d : Nat} {it : Denote.Item} {rest : List Denote.Item}
    (h : it = .arrayStart ∧ (∀ r, rest ≠ .arrayEnd :: r) ∨
      it = .listStart ∧ (∀ r, rest ≠ .listEnd :: r) ∨
      it = .groupStart ∧ (∀ r, rest ≠ .groupEnd :: r)) :
    nestS (d + 1) rest ≤ nestS d (it :: rest) := by
  rcases h with ⟨rfl, hne⟩ | ⟨rfl, hne⟩ | ⟨rfl, hne⟩
  all_goals
    rw [nestS]
    · exact Nat.le_max_right _ _
    · exact fun r h => hne r h

theorem nestS_close {d : Nat} {it : Denote.Item} {rest : List Denote.Item}
    (h : it = .arrayEnd ∨ it = .listEnd ∨ it = .groupEnd) :
    nestS d rest ≤ nestS (d + 1) (it :: rest) := by
  rcases h with rfl | rfl | rfl <;> rw [nestS, Nat.add_sub_cancel] <;> exact Nat.le_max_right _ _

theorem nestS_flat {d : Nat} {it : Denote.Item} {rest : List Denote.Item} (h : flat it = true) :
    nestS d (it :: rest) = nestS d rest := by
  cases it
  all_goals first | exact Bool.noConfusion h | (rw [nestS] <;> intros <;> contradiction)

theorem nestS_strings (d : Nat) (l : List Denote.Item) : nestS d (strings l).2 = nestS d l := by
  induction l with
  | nil => rw [strings_other _ (fun _ _ h => by cases h)]
  | cons it tl ih =>
    cases it
    case string s =>
      rw [strings_cons, nestS_flat rfl]
      exact ih
    all_goals
      rw [strings_other _ (fun _ _ h => by cases h)]

theorem scalar_nestS {nm : Option Bytes} {items rest : List Denote.Item} {x : Node} (d : Nat)
    (h : scalar nm items = some (x, rest)) : nestS d rest = nestS d items := by
  cases items with
  | nil => simp [scalar] at h
  | cons it tl =>
    cases it
    case string s =>
      simp only [scalar, Option.some.injEq, Prod.mk.injEq] at h
      rw [← h.2, nestS_strings, nestS_flat rfl]
    all_goals
      simp only [scalar, Option.some.injEq, Prod.mk.injEq, reduceCtorEq] at h
    all_goals
      rw [← h.2, nestS_flat rfl]

theorem nestS_skipTerminator (d : Nat) (l : List Denote.Item) :
    nestS d (skipTerminator l) = nestS d l := by
  cases l with
  | nil => rfl
  | cons it tl =>
    cases it
    case semicolon => rw [skipTerminator, nestS_flat rfl]
    case comma => rw [skipTerminator, nestS_flat rfl]
    all_goals rfl

/-! ### where the settings stop -/

/-- the settings of a group end in front of an item that is not a NAME -/
theorem settings_stop (o : Options) : ∀ (fuel : Nat) (m : List Node) (items : List Denote.Item)
    (r : List Node) (rest : List Denote.Item),
    settings o fuel m items = .ok r rest → ∀ nm r', rest ≠ .name nm :: r' := by
  intro fuel
  induction fuel with
  | zero => intro m items r rest h; rw [settings] at h; cases h
  | succ fuel ih =>
    intro m items r rest h
    cases settingsView items with
    | setting nm rest' =>
      rw [settings_setting] at h
      cases he : enter o m nm with
      | none => rw [he] at h; cases h
      | some m' =>
        rw [he] at h
        simp only at h
        cases hv : value o fuel (some nm) rest' with
        | error k => rw [hv] at h; cases h
        | ok x1 r1 =>
          rw [hv] at h
          exact ih _ _ _ _ h
    | noAssign nm rest' hne =>
      rw [settings_noAssign _ _ _ _ _ hne] at h
      cases he : enter o m nm with
      | none => rw [he] at h; cases h
      | some m' => rw [he] at h; cases h
    | other _ hne =>
      rw [settings_other _ _ _ _ hne] at h
      cases h
      exact hne


end Libconfig.C02D
