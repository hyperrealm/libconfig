import LibconfigModel.Proofs.C20BufferInv
/-
  C20B helpers: whole executions (`run`).  `Progress` is one end-of-buffer action seen from the
  matcher (`eobStep_progress`); `Reach` is what every event keeps from `create P stream` on —
  the invariant, tokens ++ pending = stream, the bound on the buffer size (`reach`); with a
  stream that never fails (`Willing`), end of input is reported only at its end (`EofOK`).
  At the end the vocabulary of the replayed scenarios: `sizes`, `contents_of_sizes`, `longTok`,
  `seededParams`, `zeroRead`.
-/
namespace Libconfig.C20BP

open Libconfig Libconfig.FlexBuffer

theorem run_append (P : Params) (es fs : List Event) (s : State) :
    run P (es ++ fs) s = run P fs (run P es s) := by
  simp [run, List.foldl_append]

theorem length_window (P : Params) (s : State) (h : Inv P s) :
    (window s).length = s.nChars - s.textPtr := by
  rw [window_eq_slice]
  exact length_slice _ _ _ (by have := h.alloc; have := h.room; have := h.text; have := h.cur; omega)

/-! ### one refill, seen from the matcher -/

/-- What the end-of-buffer action does, in terms of the window and the stream: `data` is
what the read delivered. -/
structure Progress (k : Nat) (s s' : State) (ret : Ret) (data : Bytes) : Prop where
  /-- the bytes read are the next bytes of the stream … -/
  stream : s.rest = data ++ s'.rest
  /-- … and are appended to the window, which is otherwise unchanged -/
  window : window s' = window s ++ data
  le : data.length ≤ k
  result : ret = Ret.continueScan ∧ data ≠ [] ∨
        ret = Ret.lastMatch ∧ data = [] ∧ FlexBuffer.window s ≠ [] ∧ s'.status = .eofPending ∨
        ret = Ret.endOfFile ∧ data = [] ∧ FlexBuffer.window s = [] ∧ s'.status = .new
  /-- a read from a stream that has bytes and offers some delivers some -/
  live : s.status ≠ .eofPending → 1 ≤ k → s.rest ≠ [] → ret = Ret.continueScan
  /-- end of input is reported because of `YY_BUFFER_EOF_PENDING`, because the read was
  offered nothing, or because the stream is at its end -/
  dry : ret ≠ Ret.continueScan → s.status = .eofPending ∨ k = 0 ∨ s.rest = []
  /-- the buffer grows only when the token in progress fills it, and then it doubles -/
  grow : s'.bufSize = s.bufSize ∨
    (s'.bufSize = 2 * s.bufSize ∧ s.textPtr = 0 ∧ (FlexBuffer.window s).length + 1 = s.bufSize ∧
      s.status ≠ .eofPending)

theorem eobStep_progress (P : Params) (hP : P.OK) (k : Nat) (s : State) (h : Inv P s) :
    ∃ data, Progress k s (eobStep P k s).1 (eobStep P k s).2 data := by
  obtain ⟨E, G, _⟩ := eobStep_spec P hP k s h
  have hw := length_window P s h
  generalize hs' : (eobStep P k s).1 = s' at G
  generalize (eobStep P k s).2 = ret at G
  have htext : s.textPtr ≤ s.nChars := Nat.le_trans h.text h.cur
  obtain ⟨d, hd⟩ : ∃ d, s'.nChars = (s.nChars - s.textPtr) + d :=
    ⟨s'.nChars - (s.nChars - s.textPtr), by have := G.ge; omega⟩
  have hdata := G.data
  rw [hd, Nat.add_sub_cancel_left, E.rest] at hdata
  have hfit : (s.nChars - s.textPtr) + d ≤ s'.ch.length := by
    rw [G.alloc]; have := G.room; omega
  have hdl : (slice s'.ch (s.nChars - s.textPtr) d).length = d := length_slice _ _ _ hfit
  have hnil : slice s'.ch (s.nChars - s.textPtr) d = [] ↔ d = 0 := by
    rw [← List.length_eq_zero_iff, hdl]
  have hwnil : FlexBuffer.window s = [] ↔ s.nChars - s.textPtr = 0 := by
    rw [← List.length_eq_zero_iff, hw]
  have hcase : (s'.nChars = s.nChars - s.textPtr) ↔ d = 0 := by omega
  refine ⟨slice s'.ch (s.nChars - s.textPtr) d, ?_⟩
  exact {
    stream := hdata.symm
    window := by
      rw [window_eq_slice, window_eq_slice, G.textPtr, Nat.sub_zero, hd, slice_append, Nat.zero_add,
        G.moved, E.ch, E.textPtr]
    le := by rw [hdl]; have := G.le; omega
    result := by
      have hr := G.ret
      have hst := G.status
      by_cases h0 : d = 0
      · rw [if_pos (hcase.mpr h0)] at hr hst
        by_cases hz : s.nChars - s.textPtr = 0
        · rw [if_pos hz] at hr hst
          exact .inr (.inr ⟨hr, hnil.mpr h0, hwnil.mpr hz, hst⟩)
        · rw [if_neg hz] at hr hst
          exact .inr (.inl ⟨hr, hnil.mpr h0, fun hc => hz (hwnil.mp hc), hst⟩)
      · rw [if_neg (fun hc => h0 (hcase.mp hc))] at hr
        exact .inl ⟨hr, fun hc => h0 (hnil.mp hc)⟩
    live := fun h1 h2 h3 => by
      have := G.live (by rw [E.status, Ne, enteredStatus_eof]; exact h1) h2 (by rw [E.rest]; exact h3)
      rw [G.ret, if_neg this]
    dry := fun hne => by
      have hr := G.ret
      by_cases h0 : s'.nChars = s.nChars - s.textPtr
      · have := G.dry h0
        rw [E.status, enteredStatus_eof, E.rest] at this
        exact this
      · rw [if_neg h0] at hr
        exact absurd hr hne
    grow := by
      rcases G.size with h1 | ⟨h1, h2, h3⟩
      · exact .inl (by rw [h1, E.bufSize])
      · rw [E.bufSize] at h1 h2
        rw [E.status, Ne, enteredStatus_eof] at h3
        have := h.room
        exact .inr ⟨h1, by omega, by rw [hw]; omega, h3⟩ }


theorem eobStep_pending (P : Params) (hP : P.OK) (k : Nat) (s : State) (h : Inv P s) :
    pending (eobStep P k s).1 = pending s ∧ (eobStep P k s).1.tokens = s.tokens := by
  obtain ⟨E, G, _⟩ := eobStep_spec P hP k s h
  obtain ⟨data, H⟩ := eobStep_progress P hP k s h
  refine ⟨?_, by rw [G.tokens, E.tokens]⟩
  unfold pending
  rw [H.window, H.stream, List.append_assoc]

/-! ### what is known of a reachable state -/

/-- What every event keeps, from `create P stream` on. -/
structure Reach (P : Params) (stream : Bytes) (s : State) : Prop where
  inv : Inv P s
  /-- nothing lost, nothing duplicated: what has been handed to the actions, followed by what is
  still to be scanned, is the stream -/
  content : s.tokens.flatten ++ pending s = stream
  /-- the buffer is never larger than `YY_BUF_SIZE` or twice (the length of the stream + 1) -/
  size : s.bufSize ≤ max P.B (2 * (stream.length + 1))

theorem step_reach (P : Params) (hP : P.OK) (stream : Bytes) (s : State) (e : Event)
    (h : Reach P stream s) : Reach P stream (step P s e) := by
  cases e with
  | tok l =>
    show Reach P stream (tokStep l s)
    by_cases hv : s.textPtr + l ≤ s.nChars
    · obtain ⟨h1, _, h3⟩ := tokStep_pending P l s h.inv hv
      exact {
        inv := tokStep_inv P l s h.inv
        content := by rw [h1, h3, ← h.content]; simp
        size := by rw [(tokStep_fixed l s).1]; exact h.size }
    · rw [tokStep_invalid l s hv]; exact h
  | eob k =>
    show Reach P stream (eobStep P k s).1
    obtain ⟨data, H⟩ := eobStep_progress P hP k s h.inv
    obtain ⟨h1, h2⟩ := eobStep_pending P hP k s h.inv
    exact {
      inv := eobStep_inv P hP k s h.inv
      content := by rw [h1, h2]; exact h.content
      size := by
        rcases H.grow with hg | ⟨hg, _, hw, _⟩
        · rw [hg]; exact h.size
        · -- it doubles only when the window fills it, and the window is part of the stream
          have := congrArg List.length h.content
          simp only [pending, List.length_append] at this
          rw [hg]
          exact Nat.le_trans (by omega) (Nat.le_max_right _ _) }

theorem run_reach (P : Params) (hP : P.OK) (stream : Bytes) (es : List Event) (s : State)
    (h : Reach P stream s) : Reach P stream (run P es s) := by
  induction es generalizing s with
  | nil => exact h
  | cons e es ih => exact ih _ (step_reach P hP stream s e h)

theorem create_reach (P : Params) (hB : 0 < P.B) (stream : Bytes) :
    Reach P stream (create P stream) where
  inv := create_inv P hB stream
  content := by simp [create, flush, loadBufferState, pending, window]
  size := Nat.le_max_left _ _

theorem reach (P : Params) (hP : P.OK) (stream : Bytes) (es : List Event) :
    Reach P stream (run P es (create P stream)) :=
  run_reach P hP stream es _ (create_reach P hP.B stream)

/-! ### end of input is reported only at the end of the stream -/

/-- every read of the execution is offered at least one byte (the stream never fails) -/
def Willing : List Event → Prop
  | [] => True
  | .tok _ :: es => Willing es
  | .eob k :: es => 1 ≤ k ∧ Willing es

/-- `YY_BUFFER_EOF_PENDING` only when the stream is exhausted -/
def EofOK (s : State) : Prop := s.status = .eofPending → s.rest = []

theorem eobStep_eofOK (P : Params) (hP : P.OK) (k : Nat) (hk : 1 ≤ k) (s : State) (h : Inv P s)
    (he : EofOK s) : EofOK (eobStep P k s).1 := by
  obtain ⟨E, G, _⟩ := eobStep_spec P hP k s h
  intro hst
  have hrest : (eobEnter s).rest = [] → (eobStep P k s).1.rest = [] := fun h0 => by
    have := G.data
    rw [h0] at this
    exact (List.append_eq_nil_iff.mp this).2
  rw [G.status] at hst
  by_cases h0 : (eobStep P k s).1.nChars = s.nChars - s.textPtr
  · rcases G.dry h0 with h1 | h1 | h1
    · rw [E.status, enteredStatus_eof] at h1
      exact hrest (by rw [E.rest]; exact he h1)
    · omega
    · exact hrest h1
  · rw [if_neg h0, E.status, enteredStatus_eof] at hst
    exact hrest (by rw [E.rest]; exact he hst)

theorem tokStep_eofOK (l : Nat) (s : State) (he : EofOK s) : EofOK (tokStep l s) := by
  obtain ⟨_, h2, h3⟩ := tokStep_fixed l s
  intro hst
  rw [h3]
  exact he (h2 ▸ hst)

theorem run_eofOK (P : Params) (hP : P.OK) (es : List Event) (hw : Willing es) (s : State)
    (h : Inv P s) (he : EofOK s) : EofOK (run P es s) := by
  induction es generalizing s with
  | nil => exact he
  | cons e es ih =>
    cases e with
    | tok l => exact ih hw _ (tokStep_inv P l s h) (tokStep_eofOK l s he)
    | eob k => exact ih hw.2 _ (eobStep_inv P hP k s h) (eobStep_eofOK P hP k hw.1 s h he)

theorem create_eofOK (P : Params) (stream : Bytes) : EofOK (create P stream) := by
  intro h
  simp [create, flush, loadBufferState] at h

theorem Progress.exhausted {k : Nat} {s s' : State} {ret : Ret} {data : Bytes}
    (H : Progress k s s' ret data) (he : EofOK s) (hk : 1 ≤ k) (hr : ret ≠ .continueScan) :
    s.rest = [] := by
  rcases H.dry hr with h | h | h
  · exact he h
  · omega
  · exact h

/-! ### scenarios replayed in `Proofs/C20BufferReplay.lean` and `Properties/C20Buffer.lean` -/

/-- the integer fields of a state and the number of bytes the stream still holds -/
def sizes (s : State) : Nat × Nat × Nat × Nat × Nat :=
  (s.bufSize, s.nChars, s.textPtr, s.cBufP, s.rest.length)

def Shadow.sizes (a : Shadow) : Nat × Nat × Nat × Nat × Nat :=
  (a.bufSize, a.nChars, a.textPtr, a.cBufP, a.rest)

theorem sizes_of_shadow {s : State} {a : Shadow} (h : shadow s = a) : sizes s = a.sizes := by
  subst h; rfl

/-- The contents from the sizes: a division of the stream into three parts of the lengths that
the tokens, the window and the rest of a reachable state have is that division. -/
theorem contents_of_sizes {P : Params} {stream : Bytes} {s : State} (h : Reach P stream s)
    {b n p c l : Nat} (hz : sizes s = (b, n, p, c, l)) (t w r : Bytes) (hs : stream = t ++ (w ++ r))
    (hw : w.length = n - p) (hr : r.length = l) :
    s.tokens.flatten = t ∧ window s = w ∧ s.rest = r := by
  simp only [sizes, Prod.mk.injEq] at hz
  obtain ⟨_, rfl, rfl, _, rfl⟩ := hz
  have hl := length_window P s h.inv
  obtain ⟨h1, h2⟩ := List.append_inj' (h.content.trans hs)
    (by simp only [pending, List.length_append]; omega)
  obtain ⟨h3, h4⟩ := List.append_inj h2 (by omega)
  exact ⟨h1, h3, h4⟩

/-- a text that starts with a token of `YY_BUF_SIZE - 1` = 16383 bytes (16382 × `a`, then
`b`), followed by `c`, `d` and 20000 × `e` -/
def longTok : Bytes := List.replicate 16382 97 ++ [98, 99, 100] ++ List.replicate 20000 101

/-- scanner.c with the seeded change `while ( num_to_read < 0 )` -/
def seededParams : Params := { scannerParams with test := growTestSeeded }

/-- a `YY_INPUT` that is asked for no bytes at all -/
def zeroRead : Access → Bool
  | .input _ _ max => decide (max ≤ 0)
  | _ => false

theorem zeroRead_not_ok (a : Access) (h : zeroRead a = true) : ¬ a.ok := by
  cases a with
  | input alloc dst max =>
    simp only [zeroRead, decide_eq_true_eq] at h
    simp only [Access.ok]
    omega
  | _ => simp [zeroRead] at h

theorem any_zeroRead_not_safe (l : List Access) (h : l.any zeroRead = true) : ¬ ∀ a ∈ l, a.ok := by
  obtain ⟨a, ha, hz⟩ := List.any_eq_true.mp h
  exact fun hall => zeroRead_not_ok a hz (hall a ha)

theorem run_snoc (P : Params) (es : List Event) (k : Nat) (s : State) :
    run P (es ++ [.eob k]) s = (eobStep P k (run P es s)).1 := by
  rw [run_append]; rfl

end Libconfig.C20BP
