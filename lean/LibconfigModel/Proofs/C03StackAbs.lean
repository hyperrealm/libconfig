import LibconfigModel.Proofs.C03StackInv
/-
  C03S: the memory of `BisonStack.lean` holds the idealised list stack of
  `Parser.lean`; pushes and pops on both stay in lock step; growth moves the contents without
  loss; "memory exhausted" exactly at the limit.
-/
namespace Libconfig.C03SP

open Libconfig Libconfig.BisonStack

variable {V : Type}

/-! ### lists -/

theorem take_set_succ {α : Type} (l : List α) (i : Nat) (x : α) (h : i < l.length) :
    (l.set i x).take (i + 1) = l.take i ++ [x] := by
  rw [List.take_add_one, List.getElem?_set_self h, List.take_set_of_le (Nat.le_refl i)]
  rfl

/-- dropping the `n` newest entries of a reversed prefix -/
theorem reverse_take_drop {α : Type} (l : List α) (m n : Nat) (h : m + n ≤ l.length) :
    (l.take (m + n)).reverse.drop n = (l.take m).reverse := by
  rw [List.take_add, List.reverse_append]
  rw [List.drop_left' (by rw [List.length_reverse, List.length_take, List.length_drop]; omega)]

theorem absValues_eq (s : State V) : absValues s = ((s.vs.drop 1).take s.vsp).reverse := by
  unfold absValues
  rw [List.drop_take]
  rfl

theorem absStates_length (s : State V) (h : s.ssp < s.ss.length) : (absStates s).length = s.ssp + 1 := by
  unfold absStates
  rw [List.length_reverse, List.length_take]
  omega

/-- the idealised stack has one entry per slot up to `yyssp` -/
theorem abs_length {s : State V} {stack : List (Nat × V)} (h : Abs s stack) (htop : s.ssp < s.ss.length) :
    stack.length = s.ssp + 1 := by
  have := congrArg List.length h.2.2.1
  rw [absStates_length s htop, List.length_map] at this
  exact this.symm

/-- what a load of `yyssp[-k]` delivers: the state of the `k`-th entry from the top -/
theorem abs_state_at {s : State V} {stack : List (Nat × V)} (ha : Abs s stack)
    (htop : s.ssp < s.ss.length) (k : Nat) (hk : k < stack.length) :
    s.ss[s.ssp - k]? = stack[k]?.map (fun e => some e.1) := by
  have hl := abs_length ha htop
  have h := congrArg (fun l => l[k]?) ha.2.2.1
  simp only [List.getElem?_map] at h
  rw [← h]
  unfold absStates
  rw [List.getElem?_reverse (by rw [List.length_take]; omega), List.length_take,
    Nat.min_eq_left (by omega), List.getElem?_take_of_lt (by omega)]
  congr 1 <;> omega

/-- what a load of `yyvsp[-k]` delivers: the value of the `k`-th entry from the top (not for the
bottom entry, whose slot is never written) -/
theorem abs_value_at {s : State V} {stack : List (Nat × V)} (ha : Abs s stack)
    (htop : s.ssp < s.ss.length) (hcV : s.vs.length = s.ss.length) (k : Nat)
    (hk : k + 1 < stack.length) :
    s.vs[s.vsp - k]? = stack[k]?.map (fun e => some e.2) := by
  have hl := abs_length ha htop
  have hsame := ha.2.1
  have h := congrArg (fun l => l[k]?) ha.2.2.2
  simp only [List.getElem?_map, List.dropLast_eq_take] at h
  rw [List.getElem?_take_of_lt (by omega)] at h
  rw [← h, absValues_eq]
  rw [List.getElem?_reverse (by rw [List.length_take, List.length_drop]; omega), List.length_take,
    List.length_drop, Nat.min_eq_left (by omega), List.getElem?_take_of_lt (by omega),
    List.getElem?_drop]
  congr 1 <;> omega

/-! ### `yysetstate` -/

/-- the state array after the store holds the new state on top of what was below `yyssp` -/
theorem absStates_stored (st : Nat) (t : State V) (h : t.ssp < t.ss.length) :
    absStates (stored st t) = some st :: (t.ss.take t.ssp).reverse := by
  unfold absStates stored
  simp only
  rw [take_set_succ _ _ _ h, List.reverse_append]
  rfl

/-- **Growth loses nothing**: the relocated state array holds, up to `yyssp`, what the old one
held … -/
theorem absStates_relocated (P : Params) (t : State V) (h : t.ssp < t.ss.length) :
    absStates (relocated P t) = absStates t := by
  unfold absStates relocated
  simp only
  rw [Nat.add_sub_cancel, take_relocate _ _ _ (by omega)]

/-- … and the relocated value array what the old one held -/
theorem absValues_relocated (P : Params) (t : State V) (hs : t.vsp = t.ssp) (h : t.ssp < t.vs.length) :
    absValues (relocated P t) = absValues t := by
  unfold absValues relocated
  simp only
  rw [Nat.add_sub_cancel, take_relocate _ _ _ (by omega), hs]

theorem absValues_stored (st : Nat) (t : State V) : absValues (stored st t) = absValues t := rfl

/-- `yysetstate` entered with the value of the new entry in place: the three outcomes in terms
of the idealised stack `(st, v) :: rest`. -/
theorem setState_abs (P : Params) (hP : P.OK) (st : Nat) (ok : Bool) (t : State V) (v : V)
    (rest : List (Nat × V)) (hpre : Pre P t)
    (hb : (t.ss.take t.ssp).reverse = rest.map (fun e => some e.1))
    (hv : absValues t = ((st, v) :: rest).dropLast.map (fun e => some e.2)) :
    (t.ssp + 1 < t.stacksize →
      Abs (setState P st ok t) ((st, v) :: rest) ∧ setState P st ok t = stored st t) ∧
    (t.ssp + 1 = t.stacksize → t.stacksize < P.M → ok = true →
      Abs (setState P st ok t) ((st, v) :: rest) ∧ setState P st ok t = grown P st t) ∧
    (t.ssp + 1 = t.stacksize → (P.M ≤ t.stacksize ∨ ok = false) →
      (setState P st ok t).status = .done .nomem) := by
  have htop := hpre.top
  have hst : absStates (stored st t) = ((st, v) :: rest).map (fun e => some e.1) := by
    rw [absStates_stored st t htop, hb]
    rfl
  rcases setState_out P hP st ok t hpre.room with ⟨hlt, e⟩ | ⟨heq, hM, hok, e⟩ | ⟨u, heq, hor, hu, e⟩ <;>
    rw [e]
  · exact ⟨fun _ => ⟨⟨hpre.running, hpre.same, hst, hv⟩, rfl⟩, fun _ => by omega, fun _ => by omega⟩
  · refine ⟨fun _ => by omega, fun _ _ _ => ⟨⟨hpre.running, rfl, ?_, ?_⟩, rfl⟩, fun _ hor => by
      subst hok; simp at hor; omega⟩
    · exact (absStates_relocated P _ (hpre.filled_stored st).1.top).trans hst
    · exact (absValues_relocated P (stored st t) hpre.same (hpre.capV ▸ htop)).trans hv
  · exact ⟨fun _ => by omega, fun _ hM hok => by subst hok; simp at hor; omega, fun _ _ =>
      returnLab_status .nomem 0 u (Nat.zero_le _) (hpre.filled_nomem st hu).1⟩

/-! ### the pushing events -/

/-- a push: what `yybackup` (shift) or `yyreduce` does to the stacks; `YYSTACK_ALLOC`, if it is
called, succeeds -/
inductive Push (V : Type) where
  | shift (st : Nat) (v : V)
  | reduce (n st : Nat) (v : V)
deriving Repr

def Push.toEvent : Push V → Event V
  | .shift st v => .shift st v true
  | .reduce n st v => .reduce n st v true

/-- the same push on the idealised stack of `Parser.lean` -/
def Push.apply : Push V → List (Nat × V) → List (Nat × V)
  | .shift st v, stack => (st, v) :: stack
  | .reduce n st v, stack => (st, v) :: stack.drop n

/-- number of entries the push takes off first -/
def Push.pops : Push V → Nat
  | .shift _ _ => 0
  | .reduce n _ _ => n

theorem Push.apply_length (p : Push V) (stack : List (Nat × V)) :
    (p.apply stack).length = stack.length - p.pops + 1 := by
  cases p <;> simp [Push.apply, Push.pops]

/-- `*++yyvsp = v; yyssp++` in terms of the idealised stack -/
theorem pushed_abs (P : Params) (st : Nat) (v : V) (s : State V) (stack : List (Nat × V))
    (h : Inv P s) (ha : Abs s stack) :
    ((pushed v s).ss.take (pushed v s).ssp).reverse = stack.map (fun e => some e.1) ∧
    absValues (pushed v s) = ((st, v) :: stack).dropLast.map (fun e => some e.2) := by
  obtain ⟨hr, hsame, hS, hV⟩ := ha
  have hsp := h.spare hr
  have hcS := h.capS hr
  have hcV := h.capV
  have hne : stack ≠ [] := by
    intro he
    have := abs_length ⟨hr, hsame, hS, hV⟩ h.top
    rw [he] at this
    cases this
  refine ⟨hS, ?_⟩
  rw [absValues_eq] at hV ⊢
  show (((s.vs.set (s.vsp + 1) (some v)).drop 1).take (s.vsp + 1)).reverse = _
  rw [List.drop_set, if_neg (by omega), Nat.add_sub_cancel,
    take_set_succ _ _ _ (by rw [List.length_drop]; omega), List.reverse_append, hV,
    List.dropLast_cons_of_ne_nil hne]
  rfl

/-- `YYPOPSTACK (n)` in terms of the idealised stack -/
theorem popped_abs (n : Nat) (s : State V) (stack : List (Nat × V)) (htop : s.ssp < s.ss.length)
    (hcV : s.vs.length = s.ss.length) (ha : Abs s stack) (hn : n ≤ s.ssp) :
    Abs (popped n s) (stack.drop n) := by
  obtain ⟨hr, hsame, hS, hV⟩ := ha
  refine ⟨hr, by show s.vsp - n = s.ssp - n; rw [hsame], ?_, ?_⟩
  · unfold absStates at hS ⊢
    show (s.ss.take (s.ssp - n + 1)).reverse = _
    rw [List.map_drop, ← hS]
    have : s.ssp + 1 = (s.ssp - n + 1) + n := by omega
    rw [this, reverse_take_drop _ _ _ (by omega)]
  · rw [absValues_eq] at hV ⊢
    show ((s.vs.drop 1).take (s.vsp - n)).reverse = _
    have hd : (stack.drop n).dropLast = stack.dropLast.drop n := by
      rw [List.dropLast_eq_take, List.dropLast_eq_take, List.length_drop, List.drop_take]
      congr 1
      omega
    rw [hd, List.map_drop, ← hV]
    have : s.vsp = (s.vsp - n) + n := by omega
    rw [this, reverse_take_drop _ _ _ (by rw [List.length_drop]; omega)]
    simp

/-- a push is `yysetstate` from a state `t` whose memory holds the idealised stack below the new
entry, in the block and with the sizes of `s` -/
theorem push_setState (P : Params) (p : Push V) (s : State V) (stack : List (Nat × V))
    (h : Inv P s) (ha : Abs s stack) (hp : p.pops < stack.length) :
    ∃ st v rest t, p.apply stack = (st, v) :: rest ∧
      step P s p.toEvent = setState P st true t ∧ Pre P t ∧
      (t.ss.take t.ssp).reverse = rest.map (fun e => some e.1) ∧
      absValues t = ((st, v) :: rest).dropLast.map (fun e => some e.2) ∧
      t.ssp + p.pops = s.ssp + 1 ∧ t.stacksize = s.stacksize ∧ t.loc = s.loc ∧
      t.nextId = s.nextId := by
  have hr := ha.1
  have hlen := abs_length ha h.top
  cases p with
  | shift st v =>
    obtain ⟨hb, hv⟩ := pushed_abs P st v s stack h ha
    exact ⟨st, v, stack, pushed v s, rfl, by unfold step; rw [hr]; rfl, pre_pushed P v s h hr, hb, hv,
      rfl, rfl, rfl, rfl⟩
  | reduce n st v =>
    have hn : n ≤ s.ssp := by have : n < stack.length := hp; omega
    obtain ⟨hb, hv⟩ := pushed_abs P st v (popped n s) (stack.drop n) (inv_popped P n s h hr hn)
      (popped_abs n s stack h.top h.capV ha hn)
    exact ⟨st, v, stack.drop n, _, rfl,
      by unfold step; rw [hr]; exact reduceStep_eq P n st v true s hn,
      pre_reduced P n v s h hr hn, hb, hv, by show s.ssp - n + 1 + n = s.ssp + 1; omega, rfl, rfl,
      rfl⟩

/-- **Lock step** (one push).  `s` holds the idealised stack `stack`; the push `p` pops no more
entries than lie above the bottom.  With `stack' = p.apply stack`, the idealised result:
`stack'` never has more entries than `yystacksize`; if it has fewer, the memory holds `stack'`
afterwards, in the same block; if it has exactly `yystacksize < YYMAXDEPTH`, the stacks have moved
to a new block of `newSize` slots and the memory holds `stack'`; if it has `yystacksize =
YYMAXDEPTH` entries, the parse has ended with "memory exhausted". -/
theorem push_abs (P : Params) (hP : P.OK) (p : Push V) (s : State V) (stack : List (Nat × V))
    (h : Inv P s) (ha : Abs s stack) (hp : p.pops < stack.length) :
    (p.apply stack).length ≤ s.stacksize ∧
    ((p.apply stack).length < s.stacksize →
      Abs (step P s p.toEvent) (p.apply stack) ∧ (step P s p.toEvent).stacksize = s.stacksize ∧
      (step P s p.toEvent).loc = s.loc ∧ (step P s p.toEvent).nextId = s.nextId) ∧
    ((p.apply stack).length = s.stacksize → s.stacksize < P.M →
      Abs (step P s p.toEvent) (p.apply stack) ∧
      (step P s p.toEvent).stacksize = newSize P s.stacksize ∧
      (step P s p.toEvent).loc = .heap s.nextId ∧ (step P s p.toEvent).nextId = s.nextId + 1) ∧
    ((p.apply stack).length = s.stacksize → P.M ≤ s.stacksize →
      (step P s p.toEvent).status = .done .nomem) := by
  have hlen := abs_length ha h.top
  have hsp := h.spare ha.1
  obtain ⟨st, v, rest, t, hap, hstep, hpre, hb, hv, hssp, e1, e2, e3⟩ :=
    push_setState P p s stack h ha hp
  obtain ⟨a1, a2, a3⟩ := setState_abs P hP st true t v rest hpre hb hv
  rw [Push.apply_length, hstep]
  rw [hap] at *
  refine ⟨by omega, fun hlt => ?_, fun heq hM => ?_, fun heq hM => ?_⟩
  · obtain ⟨x1, x2⟩ := a1 (by omega)
    exact ⟨x1, x2 ▸ e1, x2 ▸ e2, x2 ▸ e3⟩
  · obtain ⟨x1, x2⟩ := a2 (by omega) (by omega) rfl
    exact ⟨x1, x2 ▸ congrArg (newSize P) e1, x2 ▸ congrArg Blk.heap e3, x2 ▸ congrArg (· + 1) e3⟩
  · exact a3 (by omega) (.inl (by omega))

/-! ### the start -/

/-- The first `yysetstate` (state 0 into `yyssa[0]`, no value): with `YYINITDEPTH ≥ 2` the memory
holds the one-entry stack of `Parser.lean` (whatever placeholder `v0` it uses for the value of
the bottom entry); with `YYINITDEPTH = 1` the stacks are extended at once, or — `YYMAXDEPTH = 1`
— the parse ends before it begins. -/
theorem init_abs (P : Params) (hP : P.OK) (ok : Bool) (v0 : V) :
    (1 < P.I → Abs (init P ok : State V) [(0, v0)] ∧ (init P ok : State V) = stored 0 (start P)) ∧
    (P.I = 1 → 1 < P.M → ok = true →
      Abs (init P ok : State V) [(0, v0)] ∧ (init P ok : State V) = grown P 0 (start P)) ∧
    (P.I = 1 → (P.M = 1 ∨ ok = false) → (init P ok : State V).status = .done .nomem) := by
  have hI := hP.I
  have hM := hP.M
  obtain ⟨a1, a2, a3⟩ := setState_abs P hP 0 ok (start P : State V) v0 [] (pre_start P hP) rfl (by
    unfold absValues start
    simp only [List.dropLast_singleton, List.map_nil, List.reverse_eq_nil_iff]
    apply List.drop_eq_nil_of_le
    rw [List.length_take]
    omega)
  have e1 : (start P : State V).ssp = 0 := rfl
  have e2 : (start P : State V).stacksize = P.I := rfl
  refine ⟨fun h => a1 (by rw [e1, e2]; omega), fun h1 h2 hok => a2 (by rw [e1, e2]; omega)
    (by rw [e2]; omega) hok, fun h1 h2 => a3 (by rw [e1, e2]; omega) ?_⟩
  rw [e2]
  rcases h2 with h2 | h2
  · exact .inl (by omega)
  · exact .inr h2

/-! ### any number of pushes -/

/-- the outcome of the idealised machine -/
inductive IdealOut (V : Type) where
  | stack (l : List (Nat × V))
  /-- the limit of `Parser.lean`: a stack of `YYMAXDEPTH` entries -/
  | exhausted
  /-- a reduction asked for more entries than lie above the bottom -/
  | underflow
deriving Repr, DecidableEq

/-- The idealised machine: the list stack of `Parser.lean` with its limit (`yyparseLoop` answers
"memory exhausted" as soon as the list has `maxDepth` entries). -/
def ideal (M : Nat) : List (Push V) → List (Nat × V) → IdealOut V
  | [], stack => .stack stack
  | p :: ps, stack =>
    if stack.length ≤ p.pops then .underflow
    else if M ≤ (p.apply stack).length then .exhausted
    else ideal M ps (p.apply stack)

theorem run_stopped (P : Params) : ∀ (es : List (Event V)) (s : State V), s.status ≠ .running →
    run P es s = s := by
  intro es
  induction es with
  | nil => intro s _; rfl
  | cons e es ih =>
    intro s hs
    have h1 : step P s e = s := by
      unfold step
      split
      · rename_i hr; exact absurd hr hs
      · rfl
    show run P es (step P s e) = s
    rw [h1]
    exact ih s hs

/-- **Lock step** (any number of pushes, `YYSTACK_ALLOC` never failing): the memory model and the
idealised machine agree — same stack as long as the idealised one stays below `YYMAXDEPTH`
entries, "memory exhausted" from the push on that reaches `YYMAXDEPTH` entries, and the fault
status exactly when a reduction underflows the idealised stack. -/
theorem run_abs (P : Params) (hP : P.OK) : ∀ (ps : List (Push V)) (s : State V)
    (stack : List (Nat × V)), Inv P s → Abs s stack →
    match ideal P.M ps stack with
    | .stack l => Abs (run P (ps.map Push.toEvent) s) l
    | .exhausted => (run P (ps.map Push.toEvent) s).status = .done .nomem
    | .underflow => (run P (ps.map Push.toEvent) s).status = .fault := by
  intro ps
  induction ps with
  | nil => intro s stack _ ha; exact ha
  | cons p ps ih =>
    intro s stack h ha
    have hr := ha.1
    have hlen := abs_length ha h.top
    rw [ideal]
    by_cases hu : stack.length ≤ p.pops
    · rw [if_pos hu]
      show (run P (ps.map Push.toEvent) (step P s p.toEvent)).status = .fault
      -- underflow
      have hf : (step P s p.toEvent).status = .fault := by
        cases p with
        | shift st v => simp only [Push.pops] at hu; omega
        | reduce n st v =>
          have hn : s.ssp < n := by have : stack.length ≤ n := hu; omega
          unfold step
          rw [hr]
          show (reduceStep P n st v true s).status = _
          unfold reduceStep
          rw [if_pos hn]
      rw [run_stopped P _ _ (by rw [hf]; intro hh; cases hh)]
      exact hf
    · rw [if_neg hu]
      obtain ⟨b0, b1, b2, b3⟩ := push_abs P hP p s stack h ha (by omega)
      have hsz : s.stacksize ≤ P.M := by rw [h.size hr]; exact Nat.min_le_right _ _
      by_cases hM : P.M ≤ (p.apply stack).length
      · rw [if_pos hM]
        show (run P (ps.map Push.toEvent) (step P s p.toEvent)).status = .done .nomem
        have hd := b3 (by omega) (by omega)
        rw [run_stopped P _ _ (by rw [hd]; intro hh; cases hh)]
        exact hd
      · rw [if_neg hM]
        have hinv := step_inv P hP s p.toEvent h
        rcases Nat.lt_or_ge (p.apply stack).length s.stacksize with hlt | hge
        · exact ih _ _ hinv (b1 hlt).1
        · exact ih _ _ hinv (b2 (by omega) (by omega)).1

/-- `n` shifts on the idealised machine -/
theorem ideal_shifts (M : Nat) (st : Nat) (v : V) : ∀ (n : Nat) (stack : List (Nat × V)),
    stack ≠ [] →
    ideal M (List.replicate n (Push.shift st v)) stack =
      if stack.length + n < M ∨ n = 0 then .stack (List.replicate n (st, v) ++ stack) else .exhausted := by
  intro n
  induction n with
  | zero => intro stack _; simp [ideal]
  | succ n ih =>
    intro stack hne
    rw [List.replicate_succ, ideal]
    have hpos : 0 < stack.length := List.length_pos_iff.mpr hne
    rw [if_neg (by simp only [Push.pops]; omega)]
    have hl : (Push.shift st v).apply stack = (st, v) :: stack := rfl
    have hl2 : ((st, v) :: stack).length = stack.length + 1 := rfl
    rw [hl]
    by_cases hM : M ≤ ((st, v) :: stack).length
    · rw [if_pos hM, if_neg (by omega)]
    · rw [if_neg hM, ih _ (by simp), hl2]
      rw [hl2] at hM
      by_cases h2 : stack.length + 1 + n < M
      · rw [if_pos (.inl h2), if_pos (.inl (by omega))]
        congr 1
        rw [List.replicate_succ' (n := n), List.append_assoc]
        rfl
      · by_cases h3 : n = 0
        · subst h3
          rw [if_pos (.inr rfl), if_pos (.inl (by omega))]
          rfl
        · rw [if_neg (by omega), if_neg (by omega)]

/-! ### sizes -/

/-- the number of extensions: `⌈log2 (YYMAXDEPTH / YYINITDEPTH)⌉` at most -/
theorem growth_count (P : Params) (hP : P.OK) (k : Nat) (h : k = 0 ∨ P.I * 2 ^ (k - 1) < P.M) :
    k ≤ ((P.M - 1) / P.I).log2 + 1 := by
  rcases h with h | h
  · omega
  · have hI := hP.I
    have h1 : 2 ^ (k - 1) * P.I ≤ P.M - 1 := by rw [Nat.mul_comm]; omega
    have h2 : 2 ^ (k - 1) ≤ (P.M - 1) / P.I := (Nat.le_div_iff_mul_le hI).mpr h1
    have h3 : (P.M - 1) / P.I ≠ 0 := by
      have : 1 ≤ 2 ^ (k - 1) := Nat.one_le_two_pow
      omega
    have := (Nat.le_log2 h3).mpr h2
    omega

end Libconfig.C03SP
