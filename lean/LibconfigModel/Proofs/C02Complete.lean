import LibconfigModel.Proofs.C02CompleteStatic
import LibconfigModel.Proofs.C02
/-
  C02 completeness, dynamic part: `yyparseLoop` follows a given derivation tree of its input and
  therefore never takes the `syntaxError` branch.

  * `tree_first`/`list_first`: the `nullable`/`first` tables over-approximate valid trees;
  * `shift_step`/`reduce_step`: one iteration (`bodyK`) when the tables shift / reduce on the next kind;
  * `tree_run`/`kids_run` (mutual, by recursion on the tree, in continuation-passing form so that
    no fuel arithmetic is needed): started in a state containing `[B → . γ, b]` in front of the
    yield of a `B`-node followed by `b`, the loop ends without a syntax error or reaches the goto
    target on `B` in front of `b`;
  * `yyparse_complete`: the whole parse, for any environment whose tables pass `certOK`;
  * `complete_theEnv`: the instance for the compiled tables, scanner and actions.
-/
namespace Libconfig.C02C
open Libconfig Grammar C02P C05P

/-! ### `nullable` and `first` over-approximate what valid trees do -/

theorem firstS_term {X : Nat} (h : X < 23) : firstS X = [X] := by
  unfold firstS
  have hb : Nat.blt X 23 = true := Nat.ble_eq_true_of_le h
  rw [if_pos hb]

mutual
theorem tree_first {P : LalrTables} {C : Cert} (F : CFacts P C) :
    (t : Tree) → t.Valid →
      (t.yield = [] → nullableS t.sym = true) ∧ (∀ c rest, t.yield = c :: rest → c ∈ firstS t.sym)
  | .leaf k, hv => by
    rw [Tree.Valid] at hv
    have hk : k < 23 := by simpa [isTerminal] using hv
    rw [yield_leaf]
    refine ⟨fun h => (by cases h), ?_⟩
    intro c rest h
    cases h
    rw [Tree.sym, firstS_term hk]
    exact List.mem_singleton.mpr rfl
  | .node r kids, hv => by
    rw [Tree.Valid] at hv
    obtain ⟨h1, h2, hsyms, hvl⟩ := hv
    have ih := list_first F kids hvl
    rw [yield_node]
    refine ⟨?_, ?_⟩
    · intro h
      have := ih.1 h
      rw [hsyms] at this
      exact F.null r h1 h2 this
    · intro c rest h
      have := ih.2 [] [] c rest (fun c' rest' h' => by cases h') (by rw [List.append_nil]; exact h)
      rw [hsyms] at this
      exact F.first r h1 h2 c this
theorem list_first {P : LalrTables} {C : Cert} (F : CFacts P C) :
    (ks : List Tree) → ValidList ks →
      (yieldList ks = [] → (ks.map Tree.sym).all nullableS = true) ∧
      (∀ la tl c rest, (∀ c' rest', tl = c' :: rest' → c' ∈ la) → yieldList ks ++ tl = c :: rest →
        c ∈ firstSeq (ks.map Tree.sym) la)
  | [], _ => by
    refine ⟨fun _ => rfl, ?_⟩
    intro la tl c rest htl h
    rw [yieldList, List.nil_append] at h
    exact htl c rest h
  | t :: ts, hv => by
    rw [ValidList] at hv
    have iht := tree_first F t hv.1
    have ihs := list_first F ts hv.2
    rw [yieldList]
    refine ⟨?_, ?_⟩
    · intro h
      rw [List.append_eq_nil_iff] at h
      rw [List.map_cons, List.all_cons, iht.1 h.1, ihs.1 h.2]
      rfl
    · intro la tl c rest htl h
      rw [List.map_cons, firstSeq, List.mem_append]
      cases hy : t.yield with
      | nil =>
        rw [hy, List.nil_append] at h
        right
        rw [if_pos (iht.1 hy)]
        exact ihs.2 la tl c rest htl h
      | cons c' rest' =>
        rw [hy, List.cons_append, List.cons_append] at h
        left
        have hc : c' = c := by injection h
        rw [← hc]
        exact iht.2 c' rest' hy
end

/-! ### the remaining input -/

/-- the kinds (including the final end marker) that the scanner will deliver from `sc` on start
with the list `ks` (the empty list says nothing) -/
inductive LexK (E : ParserEnv) : ScanState → List Nat → Prop where
  | nil (sc : ScanState) : LexK E sc []
  | eof (sc sc' : ScanState) : yylex E.T E.sacts E.w E.ic E.lexFuel sc = (sc', .eof) → LexK E sc [0]
  | tok (sc sc' : ScanState) (t : Nat) (v : TokVal) (ks : List Nat) :
      yylex E.T E.sacts E.w E.ic E.lexFuel sc = (sc', .tok t v) → LexK E sc' ks →
      LexK E sc (translateTok E.P t :: ks)

/-- the kinds still to be consumed, given the lookahead -/
def Inp (E : ParserEnv) (la : Lookahead) (sc : ScanState) (ks : List Nat) : Prop :=
  match la with
  | none => LexK E sc ks
  | some (t, _) => ∃ ks', ks = translateTok E.P t :: ks' ∧ LexK E sc ks'

/-- the outcome "syntax error" -/
def Bad (o : POut) : Prop := o.2.2 = .abort ∧ o.2.1.cfg.errText = some Generated.ERR_SYNTAX

/-- no syntax error has been recorded -/
def NoSyn (ctx : ParseCtx) : Prop := ctx.cfg.errText ≠ some Generated.ERR_SYNTAX

theorem fetch_inp {E : ParserEnv} {la : Lookahead} {sc : ScanState} {ctx : ParseCtx} {k : Nat}
    {ks : List Nat} (h : Inp E la sc (k :: ks)) :
    ∃ sc' t v, fetchK E la sc ctx = (sc', some (t, v), none, ctx) ∧ translateTok E.P t = k ∧
      LexK E sc' ks := by
  cases la with
  | some l =>
    obtain ⟨t, v⟩ := l
    obtain ⟨ks', h1, h2⟩ := h
    injection h1 with h3 h4
    subst h4
    exact ⟨sc, t, v, rfl, h3.symm, h2⟩
  | none =>
    unfold Inp at h
    simp only at h
    unfold fetchK
    simp only
    cases h with
    | eof _ sc' hy =>
      rw [hy]
      exact ⟨sc', 0, {}, rfl, translateTok_zero _, LexK.nil _⟩
    | tok _ sc' t v _ hy hl =>
      rw [hy]
      exact ⟨sc', t, v, rfl, rfl, hl⟩

/-! ### semantic actions never record the text "syntax error" -/

theorem runAction_noSyn (act : ParseAct) (ctx : ParseCtx) (v : TokVal) (l : Nat) (f : Option Bytes)
    (h : NoSyn ctx) : NoSyn (actCtx (runAction act ctx v l f)) := by
  unfold NoSyn
  rcases (runAction_frame act ctx v l f).text with he | ⟨t, ht, he⟩
  · rw [he]; exact h
  · rw [he]
    intro h'
    injection h' with h'
    subst h'
    revert ht
    decide

/-! ### single iterations -/

theorem actAt_ninf {P : LalrTables} {s k : Nat} (h : (P.pact.get s == P.pactNinf) = true) :
    actAt P s k = none := by
  unfold actAt
  simp only [h, if_true]

theorem actAt_guard {P : LalrTables} {s k : Nat} (hp : ¬ (P.pact.get s == P.pactNinf) = true)
    (hg : (P.pact.get s + ↑k < 0 || P.pact.get s + ↑k > ↑P.last ||
      P.check.get (P.pact.get s + ↑k).toNat != ↑k) = true) : actAt P s k = none := by
  unfold actAt
  simp only
  rw [if_neg hp, if_pos hg]

theorem actAt_entry {P : LalrTables} {s k : Nat} (hp : ¬ (P.pact.get s == P.pactNinf) = true)
    (hg : ¬ (P.pact.get s + ↑k < 0 || P.pact.get s + ↑k > ↑P.last ||
      P.check.get (P.pact.get s + ↑k).toNat != ↑k) = true) :
    actAt P s k = some (P.table.get (P.pact.get s + ↑k).toNat) := by
  unfold actAt
  simp only
  rw [if_neg hp, if_neg hg]

/-- One iteration in front of the kind `k`: the stack limit, the final state, or what the
tables say for `k` in the state on top — the default action, or the entry `a` (reduce, error,
shift), found with `k` as the lookahead. -/
theorem bodyK_act {E : ParserEnv} {rec : PRec} {s : Nat} {v0 : TokVal} {rest : List (Nat × TokVal)}
    {la : Lookahead} {sc : ScanState} {ctx : ParseCtx} {k : Nat} {ks : List Nat}
    (hinp : Inp E la sc (k :: ks)) (o : POut) (ho : bodyK E rec ((s, v0) :: rest) la sc ctx = o) :
    o.2.2 = .exhausted ∨ o.2.2 = .accept ∨
    (actAt E.P s k = none ∧ ∃ la' sc', Inp E la' sc' (k :: ks) ∧
      o = dfltK E rec ((s, v0) :: rest) s la' sc' ctx) ∨
    ∃ a sc' t v, actAt E.P s k = some a ∧ Inp E (some (t, v)) sc' (k :: ks) ∧ LexK E sc' ks ∧
      o = if a ≤ 0 then
          if a == E.P.tableNinf then syntaxErrorK sc' ctx
          else reduceK E rec ((s, v0) :: rest) (-a).toNat (some (t, v)) sc' ctx
        else rec ((a.toNat, v) :: (s, v0) :: rest) none sc' ctx := by
  rw [bodyK_cons] at ho
  split at ho
  · exact .inl (ho ▸ rfl)
  split at ho
  · exact .inr (.inl (ho ▸ rfl))
  split at ho
  · rename_i hp
    exact .inr (.inr (.inl ⟨actAt_ninf hp, la, sc, hinp, ho.symm⟩))
  rename_i hp
  obtain ⟨sc', t, v, hf, ht, hl⟩ := fetch_inp (ctx := ctx) hinp
  have hinp' : Inp E (some (t, v)) sc' (k :: ks) := ⟨ks, by rw [ht], hl⟩
  rw [hf] at ho
  simp only at ho
  unfold actK at ho
  simp only at ho
  rw [ht] at ho
  split at ho
  · rename_i hg
    exact .inr (.inr (.inl ⟨actAt_guard hp hg, _, sc', hinp', ho.symm⟩))
  · rename_i hg
    exact .inr (.inr (.inr ⟨_, sc', t, v, actAt_entry hp hg, hinp', hl, ho.symm⟩))

theorem loop_zero (E : ParserEnv) (stk : List (Nat × TokVal)) (la : Lookahead) (sc : ScanState)
    (ctx : ParseCtx) : ¬ Bad (yyparseLoop E 0 stk la sc ctx) := by
  intro hb
  rw [yyparseLoop] at hb
  cases hb.1

theorem loop_succ (E : ParserEnv) (fuel : Nat) :
    yyparseLoop E (fuel + 1) = bodyK E (yyparseLoop E fuel) := by
  funext stack la s ctx
  exact yyparseLoop_succ E fuel stack la s ctx

theorem shift_step {E : ParserEnv} {s : Nat} {v0 : TokVal} {rest : List (Nat × TokVal)}
    {la : Lookahead} {sc : ScanState} {ctx : ParseCtx} {k : Nat} {ks : List Nat} {q : Int}
    (hact : actAt E.P s k = some q) (hq : 0 < q) (hinp : Inp E la sc (k :: ks))
    (hk : ∀ fuel v sc', LexK E sc' ks →
      ¬ Bad (yyparseLoop E fuel ((q.toNat, v) :: (s, v0) :: rest) none sc' ctx)) :
    ∀ fuel, ¬ Bad (yyparseLoop E fuel ((s, v0) :: rest) la sc ctx)
  | 0 => loop_zero _ _ _ _ _
  | fuel + 1 => by
    rw [loop_succ]
    rcases bodyK_act hinp _ rfl with h | h | ⟨h, -⟩ | ⟨a, sc', t, v, ha, -, hl, h⟩
    · intro hb; have h1 := hb.1; rw [h] at h1; cases h1
    · intro hb; have h1 := hb.1; rw [h] at h1; cases h1
    · rw [h] at hact; cases hact
    · rw [hact] at ha
      cases ha
      rw [h, if_neg (by omega)]
      exact hk fuel v sc' hl

theorem reduceK_step {E : ParserEnv} {rec : PRec} {pushed stk' : List (Nat × TokVal)} {p : Nat}
    {vp : TokVal} {rest' : List (Nat × TokVal)} (hstk' : stk' = (p, vp) :: rest')
    {la : Lookahead} {sc : ScanState} {ctx : ParseCtx} {r : Nat}
    (hlen : (E.P.r2.get r).toNat = pushed.length) (hns : NoSyn ctx)
    (hk : ∀ v' ctx', NoSyn ctx' →
      ¬ Bad (rec ((gotoTo E.P p (E.P.r1.get r).toNat, v') :: stk') la sc ctx')) :
    ¬ Bad (reduceK E rec (pushed ++ stk') r la sc ctx) := by
  unfold reduceK
  simp only
  have ha := runAction_noSyn (E.acts.getD r .unknown) ctx ((pushed ++ stk').headD (0, {})).2
    sc.buf.lineno sc.currentFilename hns
  split
  · rename_i ctx' heq
    rw [heq] at ha
    intro hb
    exact ha hb.2
  · intro hb; cases hb.1
  · rename_i ctx' heq
    rw [heq] at ha
    rw [hlen, List.drop_left]
    subst hstk'
    exact hk _ _ ha

theorem reduce_step {E : ParserEnv} {pushed stk' : List (Nat × TokVal)} {s p : Nat}
    {v0 vp : TokVal} {rest rest' : List (Nat × TokVal)}
    (hstk : pushed ++ stk' = (s, v0) :: rest) (hstk' : stk' = (p, vp) :: rest')
    {la : Lookahead} {sc : ScanState} {ctx : ParseCtx} {k : Nat} {ks : List Nat} {r : Nat}
    (hred : redOK E.P s k r = true) (hlen : (E.P.r2.get r).toNat = pushed.length)
    (hinp : Inp E la sc (k :: ks)) (hns : NoSyn ctx)
    (hk : ∀ fuel v' la' sc' ctx', Inp E la' sc' (k :: ks) → NoSyn ctx' →
      ¬ Bad (yyparseLoop E fuel ((gotoTo E.P p (E.P.r1.get r).toNat, v') :: stk') la' sc' ctx')) :
    ∀ fuel, ¬ Bad (yyparseLoop E fuel (pushed ++ stk') la sc ctx)
  | 0 => loop_zero _ _ _ _ _
  | fuel + 1 => by
    unfold redOK at hred
    simp only [Bool.and_eq_true] at hred
    obtain ⟨hr0, hred⟩ := hred
    rw [loop_succ, hstk]
    rcases bodyK_act hinp _ rfl with h | h | ⟨ha, la', sc', hi, h⟩ | ⟨a, sc', t, v, ha, hi, -, h⟩
    · intro hb; have h1 := hb.1; rw [h] at h1; cases h1
    · intro hb; have h1 := hb.1; rw [h] at h1; cases h1
    · -- by default
      rw [ha] at hred
      rw [h, ← hstk]
      unfold dfltK
      simp only
      rw [Nat.eq_of_beq_eq_true hred, if_neg (by simpa using not_beq hr0)]
      exact reduceK_step hstk' hlen hns (fun v' ctx' h' => hk fuel v' la' sc' ctx' hi h')
    · rw [ha] at hred
      simp only [Bool.and_eq_true, decide_eq_true_eq] at hred
      obtain ⟨⟨hle, hninf⟩, hrule⟩ := hred
      rw [h, if_pos hle, if_neg (by simpa using hninf), Nat.eq_of_beq_eq_true hrule, ← hstk]
      exact reduceK_step hstk' hlen hns (fun v' ctx' h' => hk fuel v' _ sc' ctx' hi h')

theorem final_step {E : ParserEnv} (v : TokVal) (rest : List (Nat × TokVal)) (la : Lookahead)
    (sc : ScanState) (ctx : ParseCtx) :
    ∀ fuel, ¬ Bad (yyparseLoop E fuel ((E.P.final, v) :: rest) la sc ctx)
  | 0 => loop_zero _ _ _ _ _
  | fuel + 1 => by
    rw [loop_succ, bodyK_cons]
    split
    · intro hb; cases hb.1
    · rw [if_pos (beq_self_eq_true _)]
      intro hb; cases hb.1

/-! ### following the tree -/

def topSt (stk : List (Nat × TokVal)) : Nat := (stk.headD (0, {})).1

/-- what `tree_run` says about a tree: started below an inner node `B → γ` in a state that
contains `[B → . γ, b]`, with the yield of the node followed by `b` ahead, the loop either ends
without a syntax error or arrives — having pushed the goto target on `B` — in front of `b` -/
def TreeRun (E : ParserEnv) (C : Cert) : Tree → Prop
  | .leaf _ => True
  | .node r kids => r ≠ 1 →
    ∀ (fuel s : Nat) (v0 : TokVal) (rest : List (Nat × TokVal)) (la : Lookahead) (sc : ScanState)
      (ctx : ParseCtx) (b : Nat) (restk : List Nat),
      HasItem C s r 0 b → Inp E la sc (yieldList kids ++ b :: restk) → NoSyn ctx →
      (∀ fuel' v' la' sc' ctx', Inp E la' sc' (b :: restk) → NoSyn ctx' →
        ¬ Bad (yyparseLoop E fuel' ((gotoTo E.P s (lhsOf r), v') :: (s, v0) :: rest) la' sc' ctx')) →
      ¬ Bad (yyparseLoop E fuel ((s, v0) :: rest) la sc ctx)

theorem cons_of_append {pushed stk' : List (Nat × TokVal)} {p : Nat} {vp : TokVal}
    {rest' : List (Nat × TokVal)} (h : stk' = (p, vp) :: rest') :
    ∃ s v0 rest, pushed ++ stk' = (s, v0) :: rest := by
  subst h
  cases pushed with
  | nil => exact ⟨p, vp, rest', rfl⟩
  | cons x xs => exact ⟨x.1, x.2, xs ++ (p, vp) :: rest', rfl⟩

mutual
theorem tree_run {E : ParserEnv} {C : Cert} (F : CFacts E.P C) :
    (t : Tree) → t.Valid → TreeRun E C t
  | .leaf _, _ => trivial
  | .node r kids, hv => by
    rw [Tree.Valid] at hv
    obtain ⟨h1, h2, hsyms, hvl⟩ := hv
    rw [TreeRun]
    intro hr1 fuel s v0 rest la sc ctx b restk hitem hinp hns hk
    refine kids_run F kids hvl r 0 h1 h2 (by rw [hsyms]; rfl) (Nat.zero_le _) fuel []
      ((s, v0) :: rest) s v0 rest rfl rfl la sc ctx b restk hitem hinp hns ?_
    intro fuel' pushed' la' sc' ctx' hlen hitem' hinp' hns'
    obtain ⟨s1, v1, rest1, hst⟩ := cons_of_append (pushed := pushed') (rfl : (s, v0) :: rest = _)
    have htop : topSt (pushed' ++ (s, v0) :: rest) = s1 := by rw [hst]; rfl
    rw [htop] at hitem'
    have hred := F.reduce s1 r _ b hitem' List.drop_length hr1
    refine reduce_step hst rfl hred (by rw [F.r2 r h1 h2, hlen]) hinp' hns' ?_ fuel'
    intro fuel'' v' la'' sc'' ctx'' hi hn
    rw [F.r1 r h1 h2]
    exact hk _ v' la'' sc'' ctx'' hi hn
theorem kids_run {E : ParserEnv} {C : Cert} (F : CFacts E.P C) :
    (ks : List Tree) → ValidList ks → ∀ (r d : Nat), 1 ≤ r → r < rules.length →
      ks.map Tree.sym = (rhsOf r).drop d → d ≤ (rhsOf r).length →
      ∀ (fuel : Nat) (pushed stk' : List (Nat × TokVal)) (p : Nat) (vp : TokVal)
        (rest' : List (Nat × TokVal)), stk' = (p, vp) :: rest' → pushed.length = d →
      ∀ (la : Lookahead) (sc : ScanState) (ctx : ParseCtx) (b : Nat) (restk : List Nat),
        HasItem C (topSt (pushed ++ stk')) r d b → Inp E la sc (yieldList ks ++ b :: restk) →
        NoSyn ctx →
        (∀ fuel' pushed' la' sc' ctx', pushed'.length = (rhsOf r).length →
          HasItem C (topSt (pushed' ++ stk')) r (rhsOf r).length b → Inp E la' sc' (b :: restk) →
          NoSyn ctx' → ¬ Bad (yyparseLoop E fuel' (pushed' ++ stk') la' sc' ctx')) →
        ¬ Bad (yyparseLoop E fuel (pushed ++ stk') la sc ctx)
  | [], _ => by
    intro r d h1 h2 hsyms hd fuel pushed stk' p vp rest' hstk' hlen la sc ctx b restk hitem hinp hns hk
    have hd' : d = (rhsOf r).length := by
      have := List.drop_eq_nil_iff.mp hsyms.symm
      omega
    subst hd'
    rw [yieldList, List.nil_append] at hinp
    exact hk fuel pushed la sc ctx hlen hitem hinp hns
  | k :: ks', hv => by
    intro r d h1 h2 hsyms hd fuel pushed stk' p vp rest' hstk' hlen la sc ctx b restk hitem hinp hns hk
    rw [ValidList] at hv
    obtain ⟨hvk, hvs⟩ := hv
    rw [List.map_cons] at hsyms
    have hdrop : (rhsOf r).drop d = k.sym :: ks'.map Tree.sym := hsyms.symm
    have hdlt : d < (rhsOf r).length := by
      apply Classical.byContradiction
      intro hn
      rw [List.drop_eq_nil_iff.mpr (Nat.le_of_not_lt hn)] at hdrop
      cases hdrop
    have hsyms' : ks'.map Tree.sym = (rhsOf r).drop (d + 1) := by
      rw [List.drop_add_one_eq_tail_drop, hdrop]; rfl
    obtain ⟨s, v0, rest, hst⟩ := cons_of_append (pushed := pushed) hstk'
    have htop : topSt (pushed ++ stk') = s := by rw [hst]; rfl
    rw [htop] at hitem
    rw [yieldList, List.append_assoc] at hinp
    match k, hvk, hdrop, hinp with
    | .leaf X, hvk, hdrop, hinp =>
      rw [Tree.Valid] at hvk
      have hX : X < 23 := by simpa [isTerminal] using hvk
      rw [Tree.sym] at hdrop
      rw [yield_leaf, List.singleton_append] at hinp
      obtain ⟨q, hact, hq, hitem'⟩ := F.shift s r d b X _ hitem hdrop hX
      rw [hst]
      refine shift_step hact hq hinp ?_ fuel
      intro fuel' v sc' hl
      rw [← hst]
      exact kids_run F ks' hvs r (d + 1) h1 h2 hsyms' hdlt fuel' ((q.toNat, v) :: pushed) stk' p vp
        rest' hstk' (by rw [List.length_cons, hlen]) none sc' ctx b restk hitem' hl hns hk
    | .node r' kids', hvk, hdrop, hinp =>
      have ihk := tree_run F (.node r' kids') hvk
      rw [Tree.Valid] at hvk
      obtain ⟨h1', h2', _, _⟩ := hvk
      have hsym : (Tree.node r' kids').sym = lhsOf r' := rfl
      rw [hsym] at hdrop
      have hX : 23 ≤ lhsOf r' := F.lhs r' h1' h2'
      have hr1 : r' ≠ 1 := by
        intro h
        subst h
        have hm : lhsOf 1 ∈ (rhsOf r).drop d := by rw [hdrop]; exact List.mem_cons_self
        exact F.rhs r h2 (List.mem_of_mem_drop hm)
      rw [yield_node] at hinp
      cases hrem : yieldList ks' ++ b :: restk with
      | nil => simp at hrem
      | cons b' restk' =>
        rw [hrem] at hinp
        have hb' : b' ∈ firstSeq (ks'.map Tree.sym) [b] :=
          (list_first F ks' hvs).2 [b] (b :: restk) b' restk'
            (fun c' rest'' h => by injection h with h3 _; rw [← h3]; exact List.mem_singleton.mpr rfl)
            hrem
        have hitem' := F.closure s r d b _ _ hitem hdrop hX r' h1' h2' rfl b' hb'
        rw [TreeRun] at ihk
        rw [hst]
        refine ihk hr1 fuel s v0 rest la sc ctx b' restk' hitem' hinp hns ?_
        intro fuel' v' la' sc' ctx' hi hn
        rw [← hst]
        rw [← hrem] at hi
        exact kids_run F ks' hvs r (d + 1) h1 h2 hsyms' hdlt fuel'
          ((gotoTo E.P s (lhsOf r'), v') :: pushed) stk' p vp rest' hstk'
          (by rw [List.length_cons, hlen]) la' sc' ctx' b restk
          (F.goto s r d b _ _ hitem hdrop hX) hi hn hk
end

/-! ### the whole parse -/

theorem yyparse_complete {E : ParserEnv} {C : Cert} (F : CFacts E.P C) (fuel : Nat)
    (s₀ : ScanState) (ctx₀ : ParseCtx) (ks : List Nat) (hlex : LexK E s₀ (ks ++ [0]))
    (hder : Derivable ks) (h0 : NoSyn ctx₀) : ¬ Bad (yyparse E fuel s₀ ctx₀) := by
  obtain ⟨t, hv, hsym, hy⟩ := hder
  match t, hv, hsym, hy with
  | .leaf k, hv, hsym, _ =>
    rw [Tree.Valid] at hv
    rw [Tree.sym] at hsym
    subst hsym
    cases hv
  | .node r kids, hv, hsym, hy =>
    have ih := tree_run F (.node r kids) hv
    rw [Tree.Valid] at hv
    obtain ⟨h1, h2, _, _⟩ := hv
    have hsym : lhsOf r = configuration := hsym
    have hr1 : r ≠ 1 := by
      intro h
      subst h
      cases hsym
    rw [yield_node] at hy
    have hitem : HasItem C 0 r 0 0 :=
      F.closure 0 1 0 0 configuration [0] F.init rfl (by decide) r h1 h2 hsym 0 (by decide)
    rw [TreeRun] at ih
    unfold yyparse
    refine ih hr1 fuel 0 {} [] none s₀ ctx₀ 0 [] hitem (by rw [hy]; exact hlex) h0 ?_
    intro fuel' v' la' sc' ctx' hi hn
    rw [hsym]
    obtain ⟨q, hact, hq, hfin⟩ := F.accept
    refine shift_step hact hq hi (fun fuel'' v sc'' _ => ?_) fuel'
    rw [hfin]
    exact final_step _ _ _ _ _ fuel''

/-! ### terminals of derivable sequences -/

mutual
theorem yield_rhs : (t : Tree) → t.Valid →
    ∀ k ∈ t.yield, t = .leaf k ∨ ∃ r, r < rules.length ∧ k ∈ rhsOf r
  | .leaf k, _ => by
    intro k' hk'
    rw [yield_leaf, List.mem_singleton] at hk'
    rw [hk']
    exact Or.inl rfl
  | .node r kids, hv => by
    intro k hk
    rw [Tree.Valid] at hv
    obtain ⟨_, h2, hsyms, hvl⟩ := hv
    rw [yield_node] at hk
    right
    rcases yieldList_rhs kids hvl k hk with h | h
    · rw [hsyms] at h
      exact ⟨r, h2, h⟩
    · exact h
theorem yieldList_rhs : (ks : List Tree) → ValidList ks →
    ∀ k ∈ yieldList ks, k ∈ ks.map Tree.sym ∨ ∃ r, r < rules.length ∧ k ∈ rhsOf r
  | [], _ => by
    intro k hk
    rw [yieldList] at hk
    cases hk
  | t :: ts, hv => by
    intro k hk
    rw [ValidList] at hv
    rw [yieldList, List.mem_append] at hk
    rcases hk with hk | hk
    · rcases yield_rhs t hv.1 k hk with h | h
      · left
        rw [h, List.map_cons, Tree.sym]
        exact List.mem_cons_self
      · exact Or.inr h
    · rcases yieldList_rhs ts hv.2 k hk with h | h
      · left
        rw [List.map_cons]
        exact List.mem_cons_of_mem _ h
      · exact Or.inr h
end

/-- the kind of the `error` token (22) occurs in no rule -/
def noErrB : Bool := allBelow rules.length fun r => !(memB (rhsOf r) 22)

theorem derivable_no22 {ks : List Nat} (h : Derivable ks) : 22 ∉ ks := by
  obtain ⟨t, hv, hsym, hy⟩ := h
  intro hmem
  rw [← hy] at hmem
  rcases yield_rhs t hv 22 hmem with h | ⟨r, h2, hr⟩
  · subst h
    cases hsym
  · have h3 : noErrB = true := by decide
    have := allBelow_spec h3 r h2
    rw [memB_iff.mpr hr] at this
    cases this

/-! ### include errors are handed over as the `error` token -/

def InclKind (E : ParserEnv) : Prop :=
  ∀ s s₁ t text file line,
    yylex E.T E.sacts E.w E.ic E.lexFuel s = (s₁, .includeError t text file line) →
      translateTok E.P t = 22

theorem scanActions_incl :
    Generated.scanActions.all (actToks (fun _ => true)
      fun e => Nat.beq (translateTok Generated.parser e) 22) = true := by
  decide +kernel

theorem inclKind_theEnv (w : World) (c : Config) (fuel : Nat) : InclKind (theEnv w c fuel) := by
  intro s s₁ t text file line hy
  have h := yylex_outToks _ _ (theEnv w c fuel).T (theEnv w c fuel).sacts (theEnv w c fuel).w
    (theEnv w c fuel).ic scanActions_incl (by decide +kernel) (theEnv w c fuel).lexFuel s
  rw [hy] at h
  exact Nat.eq_of_beq_eq_true h

theorem lexK_of_lexes {E : ParserEnv} (hincl : InclKind E) {s s' : ScanState}
    {toks : List (Nat × TokVal)} (h : C02.LexesTo E s toks s') :
    22 ∉ kinds E.P toks → LexK E s (kinds E.P toks ++ [0]) := by
  induction h with
  | eof s s' hy => intro _; exact LexK.eof _ _ hy
  | tok s s₁ s' t v rest hy _ ih =>
    intro hn
    have hn' : 22 ∉ kinds E.P rest := fun hm => hn (List.mem_cons_of_mem _ hm)
    exact LexK.tok _ _ _ _ _ hy (ih hn')
  | incl s s₁ s' t text file line rest hy _ _ =>
    intro hn
    exfalso
    apply hn
    have := hincl _ _ _ _ _ _ hy
    simp only [kinds, List.map_cons, this]
    exact List.mem_cons_self

theorem complete_theEnv (w : World) (c : Config) (fuel : Nat) (s₀ s₁ : ScanState) (ctx₀ : ParseCtx)
    (toks : List (Nat × TokVal)) (hlex : C02.LexesTo (theEnv w c fuel) s₀ toks s₁)
    (hder : Derivable (kinds Generated.parser toks)) (h0 : ctx₀.cfg.errText = none) :
    ¬ Bad (yyparse (theEnv w c fuel) fuel s₀ ctx₀) := by
  have F : CFacts (theEnv w c fuel).P cert := cfacts
  have hl := lexK_of_lexes (inclKind_theEnv w c fuel) hlex (derivable_no22 hder)
  refine yyparse_complete F fuel s₀ ctx₀ _ hl hder ?_
  intro h
  rw [h0] at h
  cases h

/-- non-vacuity of the hypothesis `Derivable`: the kinds of `a = 1;` -/
example : Derivable [NAME, EQUALS, INTEGER, SEMICOLON] :=
  ⟨.node 3 [.node 4 [.node 12 [.leaf NAME, .node 11 [], .leaf EQUALS,
      .node 17 [.node 24 [.leaf INTEGER]], .node 9 [.leaf SEMICOLON]]]],
    by simp only [Tree.Valid, ValidList, Tree.sym, List.map]; decide, rfl, rfl⟩

end Libconfig.C02C
