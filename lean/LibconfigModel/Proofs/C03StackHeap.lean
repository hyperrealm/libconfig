import LibconfigModel.Proofs.C03StackInv
/-
  C03S: an allocator monitor judges the log of `BisonStack.lean`.

  `Heap` is the allocator's view: which heap blocks are allocated (with their number of
  slots), which have been released, how many were handed out.  `Heap.step` lets one access
  pass only if it goes to the automatic arrays or to a block that is allocated at that
  moment, with the number of slots the log claims for it; `YYSTACK_FREE` only of an allocated
  heap block.  The first half of the file is about the monitor alone (what its acceptance
  means: no use after release, no double release, counts); the second half shows that the log
  of every execution is accepted and what the allocator's view is afterwards.
-/
namespace Libconfig.C03SP

open Libconfig Libconfig.BisonStack

variable {V : Type}

/-! ### the monitor -/

structure Heap where
  /-- blocks allocated and not released: `(id, slots)` -/
  live : List (Nat × Nat) := []
  /-- released blocks, newest first -/
  freed : List Nat := []
  /-- number of blocks handed out -/
  next : Nat := 0
deriving Repr, DecidableEq

/-- number of slots of the allocated block `id` -/
def slotsOf : List (Nat × Nat) → Nat → Option Nat
  | [], _ => none
  | p :: rest, id => if p.1 = id then some p.2 else slotsOf rest id

/-- the block `b` can be used, and has this many slots (`I` = `YYINITDEPTH` for the automatic
arrays) -/
def Heap.cap (I : Nat) (h : Heap) : Blk → Option Nat
  | .auto => some I
  | .heap id => slotsOf h.live id

def Heap.step (I : Nat) (h : Heap) : Access → Option Heap
  | .storeS b cap _ => if h.cap I b = some cap then some h else none
  | .storeV b cap _ => if h.cap I b = some cap then some h else none
  | .loadS b cap _ _ => if h.cap I b = some cap then some h else none
  | .loadV b cap _ _ => if h.cap I b = some cap then some h else none
  | .garbageV b cap _ => if h.cap I b = some cap then some h else none
  | .copyS src sc dst dc _ => if h.cap I src = some sc ∧ h.cap I dst = some dc then some h else none
  | .copyV src sc dst dc _ => if h.cap I src = some sc ∧ h.cap I dst = some dc then some h else none
  | .alloc .auto _ => none
  | .alloc (.heap id) n =>
    if id = h.next then some { h with live := (id, n) :: h.live, next := h.next + 1 } else none
  | .allocFail _ => some h
  | .free .auto => none
  | .free (.heap id) =>
    if (slotsOf h.live id).isSome then
      some { h with live := h.live.filter (fun p => p.1 ≠ id), freed := id :: h.freed }
    else none

/-- the monitor on a log (newest first) from the view `h0` -/
def Heap.runFrom (I : Nat) (h0 : Heap) : List Access → Option Heap
  | [] => some h0
  | a :: log => (Heap.runFrom I h0 log).bind (fun h => h.step I a)

/-- the monitor on a whole log: nothing allocated at the start -/
def Heap.check (I : Nat) (log : List Access) : Option Heap := Heap.runFrom I {} log

theorem runFrom_append (I : Nat) (h0 : Heap) (post pre : List Access) :
    Heap.runFrom I h0 (post ++ pre) = (Heap.runFrom I h0 pre).bind (fun h1 => Heap.runFrom I h1 post) := by
  induction post with
  | nil => simp [Heap.runFrom]
  | cons a post ih =>
    rw [List.cons_append, Heap.runFrom, ih]
    cases Heap.runFrom I h0 pre with
    | none => rfl
    | some h1 => rfl

/-- the blocks an access names -/
def blocksOf : Access → List Blk
  | .storeS b _ _ => [b]
  | .storeV b _ _ => [b]
  | .loadS b _ _ _ => [b]
  | .loadV b _ _ _ => [b]
  | .garbageV b _ _ => [b]
  | .copyS src _ dst _ _ => [src, dst]
  | .copyV src _ dst _ _ => [src, dst]
  | .alloc b _ => [b]
  | .allocFail _ => []
  | .free b => [b]

structure Heap.WF (h : Heap) : Prop where
  liveLt : ∀ p ∈ h.live, p.1 < h.next
  freedLt : ∀ id ∈ h.freed, id < h.next
  disj : ∀ id ∈ h.freed, slotsOf h.live id = none

theorem slotsOf_mem {live : List (Nat × Nat)} {id c : Nat} (h : slotsOf live id = some c) :
    (id, c) ∈ live := by
  induction live with
  | nil => cases h
  | cons p rest ih =>
    rw [slotsOf] at h
    split at h
    · rename_i hp
      cases h
      rw [← hp]
      exact List.mem_cons_self
    · exact List.mem_cons_of_mem _ (ih h)

theorem slotsOf_none_of_lt {live : List (Nat × Nat)} {n id : Nat} (h : ∀ p ∈ live, p.1 < n)
    (hid : n ≤ id) : slotsOf live id = none := by
  cases hs : slotsOf live id with
  | none => rfl
  | some c => have := h _ (slotsOf_mem hs); simp only at this; omega

theorem slotsOf_filter_ne (live : List (Nat × Nat)) (id id' : Nat) (h : id' ≠ id) :
    slotsOf (live.filter (fun p => p.1 ≠ id)) id' = slotsOf live id' := by
  induction live with
  | nil => rfl
  | cons p rest ih =>
    by_cases hp : p.1 = id
    · rw [List.filter_cons_of_neg (by simpa using hp), ih, slotsOf, if_neg (by omega)]
    · rw [List.filter_cons_of_pos (by simpa using hp), slotsOf, slotsOf, ih]

theorem slotsOf_filter_self (live : List (Nat × Nat)) (id : Nat) :
    slotsOf (live.filter (fun p => p.1 ≠ id)) id = none := by
  induction live with
  | nil => rfl
  | cons p rest ih =>
    by_cases hp : p.1 = id
    · rw [List.filter_cons_of_neg (by simpa using hp), ih]
    · rw [List.filter_cons_of_pos (by simpa using hp), slotsOf, if_neg hp, ih]

theorem wf_init : Heap.WF {} :=
  { liveLt := fun p hp => by cases hp
    freedLt := fun id hid => by cases hid
    disj := fun id hid => by cases hid }

/-- number of `YYSTACK_ALLOC`s that returned block `id` -/
def allocCount (id : Nat) : List Access → Nat
  | [] => 0
  | .alloc (.heap i) _ :: log => (if i = id then 1 else 0) + allocCount id log
  | _ :: log => allocCount id log

/-- number of `YYSTACK_FREE`s of block `id` -/
def freeCount (id : Nat) : List Access → Nat
  | [] => 0
  | .free (.heap i) :: log => (if i = id then 1 else 0) + freeCount id log
  | _ :: log => freeCount id log

theorem of_ite_some {α : Type} {c : Prop} [Decidable c] {x y : α}
    (h : (if c then some x else none) = some y) : c ∧ x = y := by
  by_cases hc : c
  · rw [if_pos hc] at h
    exact ⟨hc, Option.some.inj h⟩
  · rw [if_neg hc] at h
    cases h

/-- The three answers of the monitor: the next block is handed out; an allocated block is
released; or the view stays as it is, for an access that is neither and names usable blocks only. -/
theorem step_cases (I : Nat) (h h' : Heap) (a : Access) (hs : h.step I a = some h') :
    (∃ n, a = .alloc (.heap h.next) n ∧
      h' = { h with live := (h.next, n) :: h.live, next := h.next + 1 }) ∨
    (∃ id, a = .free (.heap id) ∧ (slotsOf h.live id).isSome ∧
      h' = { h with live := h.live.filter (fun p => p.1 ≠ id), freed := id :: h.freed }) ∨
    (h' = h ∧ (∀ b ∈ blocksOf a, (h.cap I b).isSome) ∧
      (∀ id log, allocCount id (a :: log) = allocCount id log) ∧
      (∀ id log, freeCount id (a :: log) = freeCount id log)) := by
  cases a with
  | alloc b n =>
    cases b with
    | auto => cases hs
    | heap id =>
      obtain ⟨hid, rfl⟩ := of_ite_some hs
      subst hid
      exact .inl ⟨n, rfl, rfl⟩
  | free b =>
    cases b with
    | auto => cases hs
    | heap id =>
      obtain ⟨hl, rfl⟩ := of_ite_some hs
      exact .inr (.inl ⟨id, rfl, hl, rfl⟩)
  | allocFail n =>
    cases hs
    exact .inr (.inr ⟨rfl, by simp [blocksOf], fun _ _ => rfl, fun _ _ => rfl⟩)
  | _ =>
    obtain ⟨hc, rfl⟩ := of_ite_some hs
    exact .inr (.inr ⟨rfl, by simp [blocksOf, hc], fun _ _ => rfl, fun _ _ => rfl⟩)

theorem step_wf (I : Nat) (h h' : Heap) (a : Access) (hw : h.WF) (hs : h.step I a = some h') :
    h'.WF ∧ ∀ id ∈ h.freed, id ∈ h'.freed := by
  rcases step_cases I h h' a hs with ⟨n, -, rfl⟩ | ⟨id, -, hlive, rfl⟩ | ⟨rfl, -⟩
  · refine ⟨?_, fun _ h => h⟩
    exact {
      liveLt := by
        intro p hp
        rcases List.mem_cons.mp hp with rfl | hp
        · exact Nat.lt_succ_self _
        · exact Nat.lt_succ_of_lt (hw.liveLt p hp)
      freedLt := fun i hi => Nat.lt_succ_of_lt (hw.freedLt i hi)
      disj := by
        intro i hi
        show slotsOf ((h.next, n) :: h.live) i = none
        rw [slotsOf, if_neg (by have := hw.freedLt i hi; simp only; omega)]
        exact hw.disj i hi }
  · have hnotfreed : id ∉ h.freed := fun hf => by rw [hw.disj id hf] at hlive; cases hlive
    refine ⟨?_, fun _ h => List.mem_cons_of_mem _ h⟩
    exact {
      liveLt := fun p hp => hw.liveLt p (List.mem_filter.mp hp).1
      freedLt := by
        intro i hi
        rcases List.mem_cons.mp hi with rfl | hi
        · obtain ⟨c, hc⟩ := Option.isSome_iff_exists.mp hlive
          exact hw.liveLt _ (slotsOf_mem hc)
        · exact hw.freedLt i hi
      disj := by
        intro i hi
        show slotsOf (h.live.filter _) i = none
        rcases List.mem_cons.mp hi with rfl | hi
        · exact slotsOf_filter_self _ _
        · rw [slotsOf_filter_ne _ _ _ (fun e : i = id => hnotfreed (by rw [← e]; exact hi))]
          exact hw.disj i hi }
  · exact ⟨hw, fun _ h => h⟩

theorem runFrom_cons (I : Nat) (h0 h : Heap) (a : Access) (log : List Access) :
    Heap.runFrom I h0 (a :: log) = some h ↔
      ∃ h1, Heap.runFrom I h0 log = some h1 ∧ h1.step I a = some h :=
  Option.bind_eq_some_iff

theorem runFrom_wf (I : Nat) : ∀ (log : List Access) (h0 h : Heap), h0.WF →
    Heap.runFrom I h0 log = some h → h.WF ∧ ∀ id ∈ h0.freed, id ∈ h.freed := by
  intro log
  induction log with
  | nil => intro h0 h hw hr; cases hr; exact ⟨hw, fun _ h => h⟩
  | cons a log ih =>
    intro h0 h hw hr
    obtain ⟨h1, hm, hs⟩ := (runFrom_cons ..).mp hr
    obtain ⟨w1, f1⟩ := ih h0 h1 hw hm
    obtain ⟨w2, f2⟩ := step_wf I h1 h a w1 hs
    exact ⟨w2, fun id hid => f2 id (f1 id hid)⟩

theorem step_not_freed (I : Nat) (h h' : Heap) (a : Access) (hw : h.WF) (hs : h.step I a = some h')
    (id : Nat) (hid : id ∈ h.freed) : Blk.heap id ∉ blocksOf a := by
  intro hmem
  rcases step_cases I h h' a hs with ⟨n, rfl, -⟩ | ⟨id', rfl, hl, -⟩ | ⟨-, hb, -⟩
  · cases List.mem_singleton.mp hmem
    exact Nat.lt_irrefl _ (hw.freedLt _ hid)
  · cases List.mem_singleton.mp hmem
    rw [hw.disj _ hid] at hl
    cases hl
  · have := hb _ hmem
    rw [Heap.cap, hw.disj id hid] at this
    cases this

theorem runFrom_not_freed (I : Nat) (id : Nat) : ∀ (post : List Access) (h1 h : Heap), h1.WF →
    id ∈ h1.freed → Heap.runFrom I h1 post = some h → ∀ a ∈ post, Blk.heap id ∉ blocksOf a := by
  intro post
  induction post with
  | nil => intro _ _ _ _ _ a ha; cases ha
  | cons a post ih =>
    intro h1 h hw hid hc a' ha'
    obtain ⟨h2, hm2, hs2⟩ := (runFrom_cons ..).mp hc
    rcases List.mem_cons.mp ha' with rfl | ha'
    · obtain ⟨w2, f2⟩ := runFrom_wf I post h1 h2 hw hm2
      exact step_not_freed I h2 h a' w2 hs2 id (f2 id hid)
    · exact ih h1 h2 hw hid hm2 a' ha'

/-- **No use after release** (what acceptance by the monitor means, 1): once `YYSTACK_FREE (b)`
is in the log, no later entry — load, store, copy, another release, an allocation — names `b`.
(The log is newest first: `post` is what happened after the release.) -/
theorem check_no_use_after_free (I : Nat) (post pre : List Access) (b : Blk) (h : Heap)
    (hc : Heap.check I (post ++ .free b :: pre) = some h) : ∀ a ∈ post, b ∉ blocksOf a := by
  unfold Heap.check at hc
  rw [runFrom_append] at hc
  obtain ⟨h1, hm, hp⟩ := Option.bind_eq_some_iff.mp hc
  obtain ⟨h0, -, hs⟩ := (runFrom_cons ..).mp hm
  -- `b` is a heap block, and `h1` lists it as released
  rcases step_cases I h0 h1 _ hs with ⟨n, he, -⟩ | ⟨id, he, -, rfl⟩ | ⟨-, -, -, hf⟩
  · cases he
  · cases he
    exact runFrom_not_freed I id post _ h (runFrom_wf I _ {} _ wf_init hm).1 List.mem_cons_self hp
  · cases b with
    | auto => cases hs
    | heap id => have := hf id []; simp [freeCount] at this

theorem check_auto (I : Nat) : ∀ (log : List Access) (h : Heap), Heap.check I log = some h →
    Access.free .auto ∉ log := by
  intro log
  induction log with
  | nil => intro _ _ hm; cases hm
  | cons a log ih =>
    intro h hc hm
    obtain ⟨h1, hm1, hs⟩ := (runFrom_cons ..).mp hc
    rcases List.mem_cons.mp hm with rfl | hm
    · cases hs
    · exact ih h1 hm1 hm

/-- **Counts** (what acceptance means, 2): block `id` was allocated once if `id` is below the
number of blocks handed out and never otherwise; it was released once if the allocator lists
it as released and never otherwise. -/
theorem check_counts (I : Nat) : ∀ (log : List Access) (h : Heap), Heap.check I log = some h →
    ∀ id, allocCount id log = (if id < h.next then 1 else 0) ∧
      freeCount id log = (if id ∈ h.freed then 1 else 0) := by
  intro log
  induction log with
  | nil =>
    intro h hc id
    cases hc
    simp [allocCount, freeCount]
  | cons a log ih =>
    intro h hc id
    obtain ⟨h1, hm1, hs⟩ := (runFrom_cons ..).mp hc
    obtain ⟨ih1, ih2⟩ := ih h1 hm1 id
    rcases step_cases I h1 h a hs with ⟨n, rfl, rfl⟩ | ⟨i, rfl, hl, rfl⟩ | ⟨rfl, -, ha, hf⟩
    · refine ⟨?_, ih2⟩
      show (if h1.next = id then 1 else 0) + allocCount id log = if id < h1.next + 1 then 1 else 0
      rw [ih1]
      rcases Nat.lt_trichotomy id h1.next with hlt | heq | hgt
      · rw [if_neg (Nat.ne_of_gt hlt), if_pos hlt, if_pos (Nat.lt_succ_of_lt hlt)]
      · rw [if_pos heq.symm, if_neg (heq ▸ Nat.lt_irrefl _), if_pos (heq ▸ Nat.lt_succ_self _)]
      · rw [if_neg (Nat.ne_of_lt hgt), if_neg (Nat.lt_asymm hgt), if_neg (Nat.not_lt.mpr hgt)]
    · refine ⟨ih1, ?_⟩
      show (if i = id then 1 else 0) + freeCount id log = if id ∈ i :: h1.freed then 1 else 0
      have hnotfreed : i ∉ h1.freed := fun hf => by
        rw [(runFrom_wf I log {} h1 wf_init hm1).1.disj i hf] at hl
        cases hl
      rw [ih2]
      by_cases h1' : i = id
      · subst h1'
        simp [hnotfreed]
      · simp [h1', show ¬ id = i from fun e => h1' e.symm]
    · rw [ha, hf]
      exact ⟨ih1, ih2⟩

/-! ### the log of every execution is accepted -/

/-- the heap blocks the parser holds: none after `yyparse` has returned, none while the stacks
are in the automatic arrays, otherwise the block `yyss` points to -/
def liveOf (s : State V) : List (Nat × Nat) :=
  match s.status, s.loc with
  | .done _, _ => []
  | _, .auto => []
  | _, .heap id => [(id, s.ss.length)]

/-- the allocator's view that belongs to a state: the blocks `0 … nextId - 1` have been handed
out, all but the one the parser holds have been released, in this order -/
def heapOf (s : State V) : Heap :=
  { live := liveOf s, freed := (List.range (s.nextId - (liveOf s).length)).reverse, next := s.nextId }

/-- the monitor accepts the log and ends with the view that belongs to the state -/
def HeapInv (P : Params) (s : State V) : Prop := Heap.check P.I s.log = some (heapOf s)

theorem heapOf_congr (t s : State V) (h1 : t.status = s.status) (h2 : t.loc = s.loc)
    (h3 : t.ss.length = s.ss.length) (h4 : t.nextId = s.nextId) : heapOf t = heapOf s := by
  unfold heapOf liveOf
  rw [h1, h2, h3, h4]

theorem step_plain (I : Nat) (h : Heap) (b : Blk) (cap : Nat) (hcap : h.cap I b = some cap)
    (a : Access) (ha : plain b cap a) : h.step I a = some h := by
  cases a <;> first | exact ha.elim | (obtain ⟨rfl, rfl⟩ := ha; exact if_pos hcap)

theorem heap_plain (I : Nat) (h : Heap) (b : Blk) (cap : Nat) (hcap : h.cap I b = some cap) :
    ∀ (new log : List Access), Heap.check I log = some h → (∀ a ∈ new, plain b cap a) →
      Heap.check I (new ++ log) = some h := by
  intro new
  induction new with
  | nil => intro log hc _; exact hc
  | cons a new ih =>
    intro log hc hnew
    exact (runFrom_cons ..).mpr ⟨h, ih log hc (fun a ha => hnew a (List.mem_cons_of_mem _ ha)),
      step_plain I h b cap hcap a (hnew a List.mem_cons_self)⟩

theorem loc_cases {s : State V}
    (h : s.loc = (match s.nextId with | 0 => .auto | k + 1 => .heap k)) :
    (s.loc = .auto ∧ s.nextId = 0) ∨ ∃ k, s.loc = .heap k ∧ s.nextId = k + 1 := by
  cases hn : s.nextId with
  | zero => rw [hn] at h; exact .inl ⟨h, rfl⟩
  | succ k => rw [hn] at h; exact .inr ⟨k, h, rfl⟩

/-- while the parser runs, the block `yyss` points to is usable and has `ss.length` slots in
the allocator's view (for the automatic arrays: `YYINITDEPTH` slots) -/
theorem cur_cap (P : Params) (hP : P.OK) (s : State V) (hr : s.status = .running)
    (hcap : s.ss.length = s.stacksize) (hsize : s.stacksize = min (P.I * 2 ^ s.nextId) P.M)
    (hw : s.loc = (match s.nextId with | 0 => .auto | k + 1 => .heap k)) :
    (heapOf s).cap P.I s.loc = some s.ss.length := by
  rcases loc_cases hw with ⟨hl, hn⟩ | ⟨k, hl, hn⟩
  · rw [hl]
    show some P.I = _
    rw [hcap, hsize, hn]
    have := hP.M
    simp only [Nat.pow_zero, Nat.mul_one]
    congr 1
    omega
  · rw [hl]
    show slotsOf (liveOf s) k = _
    unfold liveOf
    rw [hr, hl]
    simp [slotsOf]

theorem range_reverse_succ (k : Nat) : (List.range (k + 1)).reverse = k :: (List.range k).reverse := by
  rw [List.range_succ, List.reverse_append]
  rfl

/-- `yyreturnlab` entered from a running state: the loads are accepted, the block is released
if it is a heap block, afterwards the allocator holds nothing for the parser -/
theorem returnLab_heap (P : Params) (r : Result) (len : Nat) (s : State V)
    (hr : s.status = .running)
    (hc : (heapOf s).cap P.I s.loc = some s.ss.length)
    (hw : s.loc = (match s.nextId with | 0 => .auto | k + 1 => .heap k))
    (hlen : len ≤ s.ssp) (hf : Filled s) (hh : HeapInv P s) : HeapInv P (returnLab r len s) := by
  obtain ⟨new, heq, hnew⟩ := returnLab_spec r len s hlen hf
  rw [heq]
  unfold HeapInv at hh ⊢
  have h1 := heap_plain P.I (heapOf s) s.loc s.ss.length hc new s.log hh (fun a ha => (hnew a ha).2)
  show Heap.check P.I (freeOf s.loc ++ (new ++ s.log)) = _
  rcases loc_cases hw with ⟨hl, hn⟩ | ⟨k, hl, hn⟩
  · rw [hl]
    show Heap.check P.I (new ++ s.log) = _
    rw [h1]
    congr 1
    unfold heapOf liveOf
    simp only [hr, hl]
  · rw [hl]
    unfold Heap.check at h1 ⊢
    show Heap.runFrom P.I {} (Access.free (.heap k) :: (new ++ s.log)) = _
    rw [Heap.runFrom, h1]
    simp only [Option.bind_some]
    unfold heapOf liveOf
    simp only [hr, hl, hn, Heap.step, slotsOf, if_true, Option.isSome_some, List.length_cons,
      List.length_nil]
    simp [range_reverse_succ]

/-- the two `YYSTACK_RELOCATE`s: the copies are accepted, the old block (if it is a heap block) is
released, the allocator now holds the new one for the parser -/
theorem relocated_heap (P : Params) (t : State V) (hr : t.status = .running)
    (hc : (heapOf t).cap P.I t.loc = some t.ss.length) (hcV : t.vs.length = t.ss.length)
    (hw : t.loc = (match t.nextId with | 0 => .auto | k + 1 => .heap k))
    (hl : t.ssp + 1 ≤ t.ss.length) (hle : t.ssp + 1 ≤ newSize P t.stacksize)
    (hh : HeapInv P t) : HeapInv P (relocated P t) := by
  have hrl := length_relocate t.ss _ _ hl hle
  unfold HeapInv Heap.check at hh ⊢
  show Heap.runFrom P.I {} ((freeOf t.loc ++
    [.copyV t.loc t.vs.length (.heap t.nextId) (newSize P t.stacksize) (t.ssp + 1),
     .copyS t.loc t.ss.length (.heap t.nextId) (newSize P t.stacksize) (t.ssp + 1),
     .alloc (.heap t.nextId) (newSize P t.stacksize)]) ++ t.log) = _
  rw [runFrom_append, hh]
  simp only [Option.bind_some]
  rcases loc_cases hw with ⟨hl, hn⟩ | ⟨k, hl, hn⟩
  · have hI : t.ss.length = P.I := by
      rw [hl] at hc
      exact (Option.some.inj hc).symm
    have hH : heapOf t = Heap.mk [] [] 0 := by
      unfold heapOf liveOf
      simp only [hr, hl, hn]
      rfl
    have hG : heapOf (relocated P t) = Heap.mk [(0, newSize P t.stacksize)] [] 1 := by
      unfold heapOf liveOf
      simp only [relocated, hr, hn, hrl]
      rfl
    rw [hG, hH, hl, hn, hcV, hI]
    simp [freeOf, Heap.runFrom, Heap.step, Heap.cap, slotsOf]
  · have hH : heapOf t = Heap.mk [(k, t.ss.length)] (List.range k).reverse (k + 1) := by
      unfold heapOf liveOf
      simp only [hr, hl, hn]
      simp
    have hG : heapOf (relocated P t) =
        Heap.mk [(k + 1, newSize P t.stacksize)] (k :: (List.range k).reverse) (k + 2) := by
      unfold heapOf liveOf
      simp only [relocated, hr, hn, hrl]
      simp [range_reverse_succ]
    rw [hG, hH, hl, hn, hcV]
    simp [freeOf, Heap.runFrom, Heap.step, Heap.cap, slotsOf]

theorem setState_heap (P : Params) (hP : P.OK) (st : Nat) (ok : Bool) (s : State V) (h : Pre P s)
    (hh : HeapInv P s) : HeapInv P (setState P st ok s) := by
  obtain ⟨hf, hf', -⟩ := h.filled_stored st
  have hlen : (s.ss.set s.ssp (some st)).length = s.ss.length := List.length_set ..
  have hc : (heapOf s).cap P.I s.loc = some (s.ss.set s.ssp (some st)).length :=
    hlen ▸ cur_cap P hP s h.running h.capS h.size h.where_
  have hcs : (heapOf (stored st s)).cap P.I s.loc = some (s.ss.set s.ssp (some st)).length := by
    rw [heapOf_congr (stored st s) s rfl rfl hlen rfl]; exact hc
  -- the store itself
  have hstored : HeapInv P (stored st s) := by
    unfold HeapInv at hh ⊢
    rw [heapOf_congr (stored st s) s rfl rfl hlen rfl]
    exact heap_plain P.I (heapOf s) s.loc _ hc [_] s.log hh
      (List.forall_mem_cons.mpr ⟨⟨rfl, hlen.symm⟩, nofun⟩)
  rcases setState_out P hP st ok s h.room with ⟨-, e⟩ | ⟨heq, hM, -, e⟩ | ⟨u, -, -, hu, e⟩ <;> rw [e]
  · exact hstored
  · have hlt := lt_newSize P s.stacksize (by omega) hM
    exact relocated_heap P _ h.running hcs hf.capV h.where_ hf.top
      (by show s.ssp + 1 ≤ newSize P s.stacksize; omega) hstored
  · rcases hu with rfl | rfl
    · exact returnLab_heap P .nomem 0 _ h.running hcs h.where_ (Nat.zero_le _) hf hstored
    · refine returnLab_heap P .nomem 0 _ h.running hcs h.where_ (Nat.zero_le _) hf' ?_
      unfold HeapInv at hstored ⊢
      rw [heapOf_congr (failed P st s) (stored st s) rfl rfl rfl rfl]
      exact (runFrom_cons ..).mpr ⟨_, hstored, rfl⟩

theorem cur_cap_inv (P : Params) (hP : P.OK) (s : State V) (h : Inv P s) (hr : s.status = .running) :
    (heapOf s).cap P.I s.loc = some s.ss.length :=
  cur_cap P hP s hr (h.capS hr) (h.size hr) h.where_

theorem move_heap (P : Params) (hP : P.OK) (s t : State V) (h : Inv P s) (hr : s.status = .running)
    (hh : HeapInv P s) (hm : Move s t) : HeapInv P t := by
  obtain ⟨new, h5, hnew⟩ := hm.log
  unfold HeapInv at hh ⊢
  rw [heapOf_congr t s hm.status hm.loc hm.cap hm.nextId, h5]
  exact heap_plain P.I (heapOf s) s.loc s.ss.length (cur_cap_inv P hP s h hr) new s.log hh hnew

theorem fault_heap (P : Params) (s : State V) (hr : s.status = .running) (hh : HeapInv P s) :
    HeapInv P { s with status := .fault } := by
  unfold HeapInv at hh ⊢
  have : heapOf { s with status := .fault } = heapOf s := by
    unfold heapOf liveOf
    simp only [hr]
    cases s.loc <;> rfl
  rw [this]
  exact hh

theorem step_heap (P : Params) (hP : P.OK) (s : State V) (e : Event V) (h : Inv P s)
    (hh : HeapInv P s) : HeapInv P (step P s e) := by
  rcases step_shape P s e h with
    ⟨hr, ⟨st, ok, t, e, ht, hm⟩ | ⟨r, len, u, e, hlen, hru, hu, hm⟩ | e | ⟨-, hm⟩⟩ | e
  · rw [e]; exact setState_heap P hP st ok t ht (move_heap P hP s t h hr hh hm)
  · rw [e]
    exact returnLab_heap P r len u hru (cur_cap_inv P hP u hu hru) hu.where_ hlen hu.filled
      (move_heap P hP s u h hr hh hm)
  · rw [e]; exact fault_heap P s hr hh
  · exact move_heap P hP s _ h hr hh hm
  · rw [e]; exact hh

theorem run_heap (P : Params) (hP : P.OK) : ∀ (es : List (Event V)) (s : State V), Inv P s →
    HeapInv P s → HeapInv P (run P es s)
  | [], _, _, hh => hh
  | e :: es, s, h, hh =>
    run_heap P hP es (step P s e) (step_inv P hP s e h) (step_heap P hP s e h hh)

theorem init_heap (P : Params) (hP : P.OK) (ok : Bool) : HeapInv P (init P ok : State V) :=
  setState_heap P hP 0 ok _ (pre_start P hP) rfl

end Libconfig.C03SP
