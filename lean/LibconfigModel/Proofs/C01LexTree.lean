import LibconfigModel.Proofs.C01LexSeq
import LibconfigModel.Proofs.C01LexFloat
import LibconfigModel.Properties.C19
/-
  C01L, the tree — the hypothesis `LexOK` on configurations, and the proof that the
  item sequence of a configuration satisfying it is a good sequence (`GoodSeq`): every item is
  readable and is followed by a byte that delimits it.
-/
namespace Libconfig.C01L
open Flex

/-! ### the hypothesis on configurations -/

/-- a setting name the reader reads back as a name: valid (`__config_validate_name`) and not
a spelling of `true` / `false` -/
def nameOK : Option Bytes → Bool
  | none => true
  | some nm => validName nm && !isBoolWord nm

/-- a float value whose text is read back: finite, the `printf` rendering is not cut by the
`snprintf` limit of `libconfig_format_double`, and the text does not overflow when read -/
def floatOK (bufLen : Nat) (c : Config) (b : Nat) : Bool :=
  F64.isFinite b &&
  decide ((C01P.rawText bufLen b c.floatPrecision (c.opt OPT_SCIENTIFIC)).length ≤ bufLen - 4) &&
  !F64.isInf (F64.strtod (formatDouble bufLen b c.floatPrecision (c.opt OPT_SCIENTIFIC)))

/-- a scalar value that is read back as the same token: the integer fits its C type, the
float is as above, the string has no NUL byte; a setting of type NONE (or with a type code
out of range) is written as `???` and is excluded -/
def scalarOK (bufLen : Nat) (c : Config) (ty : Nat) (ival : Int) (fval : Nat) (sval : Option Bytes) : Bool :=
  if ty == T_BOOL then true
  else if ty == T_INT then fits32 ival
  else if ty == T_INT64 then fits64 ival
  else if ty == T_FLOAT then floatOK bufLen c fval
  else if ty == T_STRING then (sval.getD []).all (fun b => decide (1 ≤ b) && decide (b < 256))
  else false

mutual
def nodeOK (bufLen : Nat) (c : Config) : Node → Bool
  | .mk name ty _ ival fval sval kids _ _ _ =>
    nameOK name &&
    (if ty == T_LIST then nodesOK bufLen c kids
     else if ty == T_ARRAY then nodesOK bufLen c kids
     else if ty == T_GROUP then nodesOK bufLen c kids
     else scalarOK bufLen c ty ival fval sval)
def nodesOK (bufLen : Nat) (c : Config) : List Node → Bool
  | [] => true
  | k :: ks => nodeOK bufLen c k && nodesOK bufLen c ks
end

/-- **the hypothesis of C01_lex_items**: every setting has a readable name (or none) and, if it
is a scalar, a readable value -/
def LexOK (bufLen : Nat) (c : Config) : Bool := nodeOK bufLen c c.root

/-! ### first bytes -/

theorem bytesOf_append (a b : List WTok) : bytesOf (a ++ b) = bytesOf a ++ bytesOf b :=
  List.flatMap_append

theorem FollowOK.weaken {f g : Nat → Bool} {rest : Bytes} (h : FollowOK f rest)
    (hg : ∀ c, f c = true → g c = true) : FollowOK g rest :=
  fun c hc => ⟨(h c hc).1, hg c (h c hc).2⟩

theorem blankFollow_digit {d : Nat} (h : isDigit d = true) : d < 256 ∧ blankFollow d = true := by
  simp only [isDigit, Bool.and_eq_true, decide_eq_true_eq] at h
  simp only [blankFollow, isBlank, Bool.and_eq_true, Bool.not_eq_true', Bool.or_eq_false_iff,
    beq_eq_false_iff_ne, bne_iff_ne, ne_eq]
  omega

theorem blankFollow_nameStart {c : Nat} (h : (isAlpha c || c == 42) = true) :
    c < 256 ∧ blankFollow c = true := by
  simp only [isAlpha, isUpper, isLower, Bool.or_eq_true, Bool.and_eq_true, decide_eq_true_eq,
    beq_iff_eq] at h
  simp only [blankFollow, isBlank, Bool.and_eq_true, Bool.not_eq_true', Bool.or_eq_false_iff,
    beq_eq_false_iff_ne, bne_iff_ne, ne_eq]
  omega

theorem sign_digits_first (neg : Bool) {ds : Bytes} (hne : ds ≠ []) (h : AllDigits ds) (tail : Bytes) :
    ∃ b bs, signBytes neg ++ ds ++ tail = b :: bs ∧ b < 256 ∧ blankFollow b = true := by
  cases neg
  · cases ds with
    | nil => exact absurd rfl hne
    | cons d ds => exact ⟨d, ds ++ tail, rfl, blankFollow_digit (h d (List.mem_cons_self ..))⟩
  · exact ⟨45, ds ++ tail, rfl, by decide⟩

/-! ### good prefixes -/

/-- `X` may be put in front of any good sequence that starts with a byte of `f`: the result is
good and starts with a byte of `g` -/
def Pre (f g : Nat → Bool) (X : List WTok) : Prop :=
  ∀ rest, GoodSeq rest → FollowOK f (bytesOf rest) →
    GoodSeq (X ++ rest) ∧ FollowOK g (bytesOf (X ++ rest))

theorem Pre.nil {f g : Nat → Bool} (h : ∀ c, f c = true → g c = true) : Pre f g [] :=
  fun _ hg hf => ⟨hg, hf.weaken h⟩

theorem Pre.mono_left {f f' g : Nat → Bool} {X : List WTok} (h : Pre f g X) (hf : ∀ c, f' c = true → f c = true) :
    Pre f' g X :=
  fun rest hg hr => h rest hg (hr.weaken hf)

theorem Pre.append {f g h : Nat → Bool} {A B : List WTok} (hA : Pre g h A) (hB : Pre f g B) :
    Pre f h (A ++ B) := fun rest hg hf => by
  rw [List.append_assoc]
  exact hA _ (hB rest hg hf).1 (hB rest hg hf).2

theorem Pre.tok {f g : Nat → Bool} {t : WTok} (hg : GoodTok t)
    (hf : ∀ c, f c = true → itemFollow t c = true)
    (hb : ∃ b bs, t.bytes = b :: bs ∧ b < 256 ∧ g b = true) : Pre f g [t] := by
  obtain ⟨b, bs, hb, hgb⟩ := hb
  refine fun rest hr hfr => ⟨⟨hg, hfr.weaken hf, hr⟩, fun c hc => ?_⟩
  rw [List.singleton_append, bytesOf_cons, hb] at hc
  exact Option.some.inj hc ▸ hgb

theorem Pre.ite {f g : Nat → Bool} {p : Prop} [Decidable p] {A B : List WTok} (hA : Pre f g A) (hB : Pre f g B) :
    Pre f g (if p then A else B) := by
  split
  · exact hA
  · exact hB

abbrev anyByte : Nat → Bool := fun _ => true

theorem pre_single {f g : Nat → Bool} {t : WTok} {b : Nat} (hg : GoodTok t)
    (hfol : itemFollow t = anyByte) (hb : t.bytes = [b]) (hgb : b < 256 ∧ g b = true) : Pre f g [t] :=
  .tok hg (fun _ _ => hfol ▸ rfl) ⟨b, [], hb, hgb⟩

theorem itemFollow_blank {b : Bytes} (hb : ∀ x ∈ b, isBlank x = true) : itemFollow (.ws b) = blankFollow :=
  show (if b = [10] then anyByte else blankFollow) = blankFollow from if_neg (blank_ne_nl hb)

theorem pre_nl {f g : Nat → Bool} (hg : g 10 = true) : Pre f g [.ws [10]] :=
  pre_single (.inl rfl) rfl rfl ⟨by decide, hg⟩

theorem pre_blank {g : Nat → Bool} {b : Bytes} (hne : b ≠ []) (hb : ∀ x ∈ b, isBlank x = true)
    (hg : ∀ x, isBlank x = true → g x = true) : Pre blankFollow g [.ws b] := by
  refine .tok (.inr ⟨hne, hb⟩) (fun _ h => itemFollow_blank hb ▸ h) ?_
  cases b with
  | nil => exact absurd rfl hne
  | cons x xs =>
    have := hb x (List.mem_cons_self ..)
    exact ⟨x, xs, rfl, isBlank_lt this, hg x this⟩

theorem blank_delim (x : Nat) (h : isBlank x = true) : delim x = true := by
  simp only [isBlank, Bool.or_eq_true, beq_iff_eq] at h
  rcases h with rfl | rfl <;> rfl

theorem indent_blank (d w : Nat) (hd : d > 1) : indent d w ≠ [] ∧ ∀ x ∈ indent d w, isBlank x = true := by
  unfold indent
  split <;> exact ⟨List.ne_nil_of_length_pos (by rw [List.length_replicate]; omega),
    fun x hx => (List.mem_replicate.mp hx).2 ▸ rfl⟩

/-- the optional indentation: a run of blanks from depth 2 on -/
theorem pre_indent (d w : Nat) {g : Nat → Bool}
    (hg : ∀ x, (if d > 1 then isBlank x else blankFollow x) = true → g x = true) :
    Pre blankFollow g (if d > 1 then [WTok.ws (indent d w)] else []) := by
  split
  · rename_i hd
    exact pre_blank (indent_blank d w hd).1 (indent_blank d w hd).2 fun x hx => hg x (by rwa [if_pos hd])
  · rename_i hd
    exact .nil fun x hx => hg x (by rwa [if_neg hd])

/-- name, blank, assignment character, blank — in front of a value -/
theorem pre_name (nm : Bytes) (ac : Nat) (hv : validName nm = true) (hb : isBoolWord nm = false)
    (hac : ac = 61 ∨ ac = 58) :
    Pre blankFollow blankFollow [.name nm, .ws [32], .assign ac, .ws [32]] := by
  have h1 : Pre delim blankFollow [.name nm] := .tok ⟨hv, hb⟩ (fun _ h => h) (by
    cases nm with
    | nil => cases hv
    | cons c cs => exact ⟨c, cs, rfl, blankFollow_nameStart ((Bool.and_eq_true _ _).mp hv).1⟩)
  have h2 : Pre anyByte blankFollow [.assign ac] :=
    pre_single hac rfl rfl (by rcases hac with rfl | rfl <;> decide)
  have sp : ∀ {g}, (∀ x, isBlank x = true → g x = true) → Pre blankFollow g [.ws [32]] :=
    pre_blank (List.cons_ne_nil _ _) (by decide)
  exact ((h1.append (sp blank_delim)).append h2).append (sp fun _ _ => rfl)

theorem assignChar_cases (c : Config) (ty : Nat) :
    (if ty == T_GROUP then (if c.opt OPT_COLON_GROUPS then 58 else 61)
     else (if c.opt OPT_COLON_NONGROUPS then 58 else 61)) = 61 ∨
    (if ty == T_GROUP then (if c.opt OPT_COLON_GROUPS then 58 else 61)
     else (if c.opt OPT_COLON_NONGROUPS then 58 else 61)) = 58 := by
  split <;> split <;> decide

theorem pre_prefix (c : Config) (d : Nat) (name : Option Bytes) (ty : Nat) (h : nameOK name = true)
    {g : Nat → Bool} (hg : ∀ x, (if d > 1 then isBlank x else blankFollow x) = true → g x = true) :
    Pre blankFollow g (prefixToks c d name ty) := by
  refine (pre_indent d c.tabWidth hg).append ?_
  cases name with
  | none => exact .nil fun _ h => h
  | some nm =>
    have h := (Bool.and_eq_true _ _).mp h
    exact pre_name nm _ h.1 ((Bool.not_eq_true' _).mp h.2) (assignChar_cases c ty)

/-- optional `;` and newline after a member -/
theorem pre_suffix (c : Config) (d : Nat) (hd : 0 < d) : Pre anyByte delim (suffixToks c d) := by
  unfold suffixToks
  rw [if_pos hd]
  exact (Pre.ite (pre_single (t := .semi) trivial rfl rfl (by decide)) (.nil fun _ h => h)).append (pre_nl rfl)

/-! ### scalars -/

theorem scalarTy_cases (ty : Nat) :
    ty = T_BOOL ∨ ty = T_INT ∨ ty = T_INT64 ∨ ty = T_FLOAT ∨ ty = T_STRING ∨
    (ty ≠ T_BOOL ∧ ty ≠ T_INT ∧ ty ≠ T_INT64 ∧ ty ≠ T_FLOAT ∧ ty ≠ T_STRING) := by
  by_cases h1 : ty = T_BOOL; exact .inl h1
  by_cases h2 : ty = T_INT; exact .inr (.inl h2)
  by_cases h3 : ty = T_INT64; exact .inr (.inr (.inl h3))
  by_cases h4 : ty = T_FLOAT; exact .inr (.inr (.inr (.inl h4)))
  by_cases h5 : ty = T_STRING; exact .inr (.inr (.inr (.inr (.inl h5))))
  exact .inr (.inr (.inr (.inr (.inr ⟨h1, h2, h3, h4, h5⟩))))

theorem int_first (bits : Nat) (v : Int) (hex : Bool) (hb : bits = 32 ∨ bits = 64) :
    ∃ b bs, (WTok.int bits v hex).bytes = b :: bs ∧ b < 256 ∧ blankFollow b = true := by
  rw [int_bytes bits v hex hb]
  cases hex
  · obtain ⟨neg, ds, hds, hne, hdig⟩ := intToDec_shape v
    rw [if_neg Bool.false_ne_true, hds]
    exact sign_digits_first neg hne hdig _
  · exact ⟨48, _, rfl, by decide⟩

theorem pre_scalar (bufLen : Nat) (c : Config) (name : Option Bytes) (ty fmt : Nat) (ival : Int)
    (fval : Nat) (sval : Option Bytes) (hook line : Nat) (file : Option Bytes)
    (h : scalarOK bufLen c ty ival fval sval = true) :
    Pre delim blankFollow [scalarTok bufLen c (.mk name ty fmt ival fval sval [] hook line file)] := by
  rcases scalarTy_cases ty with rfl | rfl | rfl | rfl | rfl | ⟨h1, h2, h3, h4, h5⟩
  · refine .tok (t := .bool _) trivial (fun _ h => h) ?_
    rw [bool_bytes]
    cases (ival != 0) <;> exact ⟨_, _, rfl, by decide⟩
  · exact .tok (t := .int 32 ival _) (.inl ⟨rfl, h⟩) (fun _ h => h) (int_first _ _ _ (.inl rfl))
  · exact .tok (t := .int 64 ival _) (.inr ⟨rfl, h⟩) (fun _ h => h) (int_first _ _ _ (.inr rfl))
  · have h : floatOK bufLen c fval = true := h
    simp only [floatOK, Bool.and_eq_true, decide_eq_true_eq, Bool.not_eq_true'] at h
    have hlit := formatDouble_lit bufLen fval _ _ h.1.1 h.1.2
    refine .tok (t := .float fval _) ⟨hlit, h.2⟩ (fun _ h => h) ?_
    obtain ⟨neg, ip, fp, ex, he, hne, hip, _⟩ := hlit
    show ∃ b bs, formatDouble bufLen fval c.floatPrecision (c.opt OPT_SCIENTIFIC) = b :: bs ∧ _
    rw [he, List.append_assoc]
    exact sign_digits_first neg hne hip _
  · have h : (sval.getD []).all (fun b => decide (1 ≤ b) && decide (b < 256)) = true := h
    simp only [List.all_eq_true, Bool.and_eq_true, decide_eq_true_eq] at h
    exact .tok (t := .str _) h (fun _ _ => rfl) ⟨34, _, rfl, by decide⟩
  · simp only [scalarOK, beq_iff_eq, h1, h2, h3, h4, h5, if_false] at h
    cases h

/-! ### the tree -/

theorem nodeOK_mk {bufLen : Nat} {c : Config} {name : Option Bytes} {ty fmt : Nat} {ival : Int} {fval : Nat}
    {sval : Option Bytes} {kids : List Node} {hook line : Nat} {file : Option Bytes}
    (h : nodeOK bufLen c (.mk name ty fmt ival fval sval kids hook line file) = true) :
    nameOK name = true ∧
      (if ty == T_LIST then nodesOK bufLen c kids
       else if ty == T_ARRAY then nodesOK bufLen c kids
       else if ty == T_GROUP then nodesOK bufLen c kids
       else scalarOK bufLen c ty ival fval sval) = true := by
  rw [nodeOK] at h
  exact (Bool.and_eq_true _ _).mp h

/-- a member: indentation, name and assignment character, value, `;`, newline -/
theorem pre_member {bufLen : Nat} {c : Config} {k : Node} {d : Nat} (hd : 0 < d)
    (hok : nodeOK bufLen c k = true) (hV : Pre delim blankFollow (wtoksValue bufLen c d k))
    {g : Nat → Bool} (hg : ∀ x, (if d > 1 then isBlank x else blankFollow x) = true → g x = true) :
    Pre anyByte g (prefixToks c d k.name k.ty ++ wtoksValue bufLen c d k ++ suffixToks c d) :=
  ((pre_prefix c d k.name k.ty (by cases k; exact (nodeOK_mk hok).1) hg).append hV).append
    (pre_suffix c d hd)

theorem pre_punct {f g : Nat → Bool} (b : Nat) (h : b = 40 ∨ b = 41 ∨ b = 91 ∨ b = 93 ∨ b = 123 ∨ b = 125)
    (hg : g b = true) : Pre f g [.punct b] :=
  pre_single h rfl rfl ⟨by rcases h with rfl | rfl | rfl | rfl | rfl | rfl <;> decide, hg⟩

theorem pre_bracket {o cl : Nat} {E : List WTok} (ho : o = 40 ∨ o = 41 ∨ o = 91 ∨ o = 93 ∨ o = 123 ∨ o = 125)
    (hc : cl = 40 ∨ cl = 41 ∨ cl = 91 ∨ cl = 93 ∨ cl = 123 ∨ cl = 125)
    (hbo : blankFollow o = true) (hbc : blankFollow cl = true) (hE : Pre blankFollow blankFollow E) :
    Pre delim blankFollow ([.punct o, .ws [32]] ++ E ++ [.punct cl]) :=
  (((pre_punct (f := anyByte) o ho hbo).append
    (pre_blank (List.cons_ne_nil _ _) (by decide) fun _ _ => rfl)).append hE).append (pre_punct cl hc hbc)

mutual
theorem pre_value (bufLen : Nat) (c : Config) :
    (n : Node) → ∀ (d : Nat), nodeOK bufLen c n = true → 0 < d ∨ n.ty ≠ T_GROUP →
      Pre delim blankFollow (wtoksValue bufLen c d n)
  | .mk name ty fmt ival fval sval kids hook line file => by
    intro d hok hd
    have hok := (nodeOK_mk hok).2
    rw [wtoksValue]
    by_cases hl : ty = T_LIST
    · subst hl
      exact pre_bracket (by decide) (by decide) rfl rfl (pre_elems bufLen c kids (d + 1) (Nat.succ_pos d) hok)
    by_cases ha : ty = T_ARRAY
    · subst ha
      exact pre_bracket (by decide) (by decide) rfl rfl (pre_elems bufLen c kids (d + 1) (Nat.succ_pos d) hok)
    by_cases hg : ty = T_GROUP
    · subst hg
      have h0 : d > 0 := hd.resolve_right fun h => h rfl
      have hM := pre_members bufLen c kids (d + 1) (Nat.succ_pos d) hok
      have hnl : ∀ {f g}, g 10 = true → Pre f g [WTok.ws [10]] := pre_nl
      have hB : Pre blankFollow blankFollow (if c.opt OPT_BRACE_SEPARATE = true then
          [WTok.ws [10]] ++ (if d > 1 then [WTok.ws (indent d c.tabWidth)] else []) else []) :=
        .ite ((hnl rfl).append (pre_indent d c.tabWidth fun _ _ => rfl)) (.nil fun _ h => h)
      have hO : Pre anyByte blankFollow [.punct 123, .ws [10]] :=
        (pre_punct (f := anyByte) 123 (by decide) rfl).append (hnl rfl)
      show Pre delim blankFollow ((if d > 0 then _ else []) ++ _ ++ _ ++ (if d > 0 then _ else []))
      rw [if_pos h0, if_pos h0]
      exact ((((hB.append hO).append hM).append (pre_indent d c.tabWidth fun _ _ => rfl)).append
        (pre_punct 125 (by decide) rfl))
    · have nl := mt beq_iff_eq.mp hl
      have na := mt beq_iff_eq.mp ha
      have ng := mt beq_iff_eq.mp hg
      rw [if_neg nl, if_neg na, if_neg ng] at hok ⊢
      exact pre_scalar bufLen c name ty fmt ival fval sval hook line file hok
theorem pre_elems (bufLen : Nat) (c : Config) :
    (ks : List Node) → ∀ (d : Nat), 0 < d → nodesOK bufLen c ks = true →
      Pre blankFollow blankFollow (wtoksElems bufLen c d ks)
  | [] => fun _ _ _ => by unfold wtoksElems; exact .nil fun _ h => h
  | k :: ks => by
    intro d hd hok
    rw [nodesOK, Bool.and_eq_true] at hok
    unfold wtoksElems
    exact (((pre_value bufLen c k d hok.1 (.inl hd)).append
      (Pre.ite (.nil fun _ h => h) (pre_single (t := .comma) trivial rfl rfl (by decide)))).append
      (pre_blank (List.cons_ne_nil _ _) (by decide) blank_delim)).append
      (pre_elems bufLen c ks d hd hok.2)
theorem pre_members (bufLen : Nat) (c : Config) :
    (ks : List Node) → ∀ (d : Nat), 0 < d → nodesOK bufLen c ks = true →
      Pre anyByte anyByte (wtoksMembers bufLen c d ks)
  | [] => fun _ _ _ => by unfold wtoksMembers; exact .nil fun _ h => h
  | k :: ks => by
    intro d hd hok
    rw [nodesOK, Bool.and_eq_true] at hok
    unfold wtoksMembers
    exact (pre_member hd hok.1 (pre_value bufLen c k d hok.1 (.inl hd)) fun _ _ => rfl).append
      (pre_members bufLen c ks d hd hok.2)
end

theorem good_elems (bufLen : Nat) (c : Config) :
    (ks : List Node) → ∀ (d : Nat) (rest : List WTok), 0 < d → nodesOK bufLen c ks = true → GoodSeq rest →
      FollowOK blankFollow (bytesOf rest) →
      GoodSeq (wtoksElems bufLen c d ks ++ rest) ∧
      FollowOK blankFollow (bytesOf (wtoksElems bufLen c d ks ++ rest)) :=
  fun ks d rest hd hok => pre_elems bufLen c ks d hd hok rest

theorem pre_members_top (bufLen : Nat) (c : Config) :
    (ks : List Node) → nodesOK bufLen c ks = true →
      Pre (fun _ => false) blankFollow (wtoksMembers bufLen c 1 ks)
  | [], _ => by unfold wtoksMembers; exact .nil fun _ h => nomatch h
  | k :: ks, hok => by
    rw [nodesOK, Bool.and_eq_true] at hok
    unfold wtoksMembers
    exact (pre_member Nat.one_pos hok.1 (pre_value bufLen c k 1 hok.1 (.inl Nat.one_pos)) fun _ h => h).append
      ((pre_members bufLen c ks 1 Nat.one_pos hok.2).mono_left fun _ h => nomatch h)

theorem config_good (bufLen : Nat) (c : Config) (hok : nodeOK bufLen c c.root = true) :
    GoodSeq (wtoksConfig bufLen c) := by
  have hV : Pre (fun _ => false) blankFollow (wtoksValue bufLen c 0 c.root) := by
    by_cases hg : c.root.ty = T_GROUP
    · cases hr : c.root with
      | mk name ty fmt ival fval sval kids hook line file =>
        rw [hr] at hok hg
        cases hg
        have e : wtoksValue bufLen c 0 (.mk name T_GROUP fmt ival fval sval kids hook line file) =
            wtoksMembers bufLen c 1 kids := by
          rw [wtoksValue]
          exact (List.append_nil _).trans (List.append_nil _)
        rw [e]
        exact pre_members_top bufLen c kids (nodeOK_mk hok).2
    · exact (pre_value bufLen c c.root 0 hok (.inr hg)).mono_left fun _ h => nomatch h
  have hP : Pre blankFollow anyByte (prefixToks c 0 c.root.name c.root.ty) :=
    pre_prefix c 0 _ _ (by cases hr : c.root; rw [hr] at hok; exact (nodeOK_mk hok).1) fun _ _ => rfl
  exact ((hP.append hV) (suffixToks c 0) trivial fun _ h => nomatch h).1

/-- **a configuration**: from any state between two tokens whose buffer holds the written
form, repeated calls of `yylex` return the tokens of the configuration and then end of input -/
theorem lexes_written {K : Ctx} (bufLen : Nat) (c : Config) (hok : nodeOK bufLen c c.root = true)
    (w : World) (c₀ : Config) (fuel : Nat) (hfuel : (c.write bufLen).length < fuel) (s : ScanState)
    (hs : Ready K s (c.write bufLen)) :
    ∃ s₁, C02.LexesTo (theEnv w c₀ fuel) s (tokensOfConfig Generated.tokens bufLen c) s₁ ∧
      Ready K s₁ [] := by
  rw [C19.C19_bytes bufLen c] at hfuel hs
  obtain ⟨s₁, h, hfin⟩ := lexes_seq w c₀ fuel _ (config_good bufLen c hok) hfuel s hs fuel hfuel
  exact ⟨s₁, h.lexes, hfin⟩

end Libconfig.C01L
