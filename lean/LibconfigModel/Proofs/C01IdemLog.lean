import LibconfigModel.Proofs.C01IdemFloat
/-
  C01 idempotence (scientific notation) — `F64.floorLog10` is correct: `10^x0 ≤ num/den < 10^(x0+1)`.
  Its two loops (8 steps each) start from an estimate that brackets the logarithm within a few
  decades.  Comparisons with `10^a` for an integer `a` are cross-multiplied (`LeP`, `LtP`);
  multiplied by `10^1000` they involve natural exponents only (`E10`, `W10`).
-/
namespace Libconfig.C01I
open Libconfig F64 C01P C01L
open Libconfig.F64R

/-! ### the two loops of `floorLog10` -/

theorem down_spec (le : Int → Bool) : ∀ (fuel : Nat) (x : Int) (j : Nat), j < fuel →
    le (x - j) = true →
    le (floorLog10.down le fuel x) = true ∧ x - j ≤ floorLog10.down le fuel x ∧
      floorLog10.down le fuel x ≤ x ∧
      (floorLog10.down le fuel x < x → le (floorLog10.down le fuel x + 1) = false) := by
  intro fuel
  induction fuel with
  | zero => intro x j hj; omega
  | succ f ih =>
    intro x j hj hle
    rw [floorLog10.down.eq_2]
    by_cases hx : le x = true
    · rw [if_pos hx]
      exact ⟨hx, by omega, by omega, fun h => by omega⟩
    · rw [if_neg hx]
      cases j with
      | zero => simp at hle; exact absurd hle hx
      | succ j' =>
        have e : x - 1 - (j' : Int) = x - ((j' + 1 : Nat) : Int) := by omega
        obtain ⟨a1, a2, a3, a4⟩ := ih (x - 1) j' (by omega) (by rw [e]; exact hle)
        refine ⟨a1, by omega, by omega, fun _ => ?_⟩
        by_cases hlt : floorLog10.down le f (x - 1) < x - 1
        · exact a4 hlt
        · have : floorLog10.down le f (x - 1) + 1 = x := by omega
          rw [this]
          simpa using hx

theorem up_spec (le : Int → Bool) : ∀ (fuel : Nat) (x : Int) (j : Nat), j < fuel →
    le (x + j + 1) = false → le x = true →
    le (floorLog10.up le fuel x) = true ∧ le (floorLog10.up le fuel x + 1) = false ∧
      x ≤ floorLog10.up le fuel x ∧ floorLog10.up le fuel x ≤ x + j := by
  intro fuel
  induction fuel with
  | zero => intro x j hj; omega
  | succ f ih =>
    intro x j hj hfalse hx
    rw [floorLog10.up.eq_2]
    by_cases h1 : le (x + 1) = true
    · rw [if_pos h1]
      cases j with
      | zero =>
        simp only [Int.natCast_zero, Int.add_zero] at hfalse
        rw [hfalse] at h1; cases h1
      | succ j' =>
        have e : x + 1 + (j' : Int) + 1 = x + ((j' + 1 : Nat) : Int) + 1 := by omega
        obtain ⟨a1, a2, a3, a4⟩ := ih (x + 1) j' (by omega) (by rw [e]; exact hfalse) h1
        exact ⟨a1, a2, by omega, by omega⟩
    · rw [if_neg h1]
      exact ⟨hx, by simpa using h1, by omega, by omega⟩

/-! ### comparisons with integer powers of ten -/

/-- `X·10^a ≤ Y`, for an integer exponent (cross-multiplied) -/
def LeP (X Y : Nat) (a : Int) : Prop := X * 10 ^ a.toNat ≤ Y * 10 ^ (-a).toNat
/-- `Y < X·10^a`, for an integer exponent (cross-multiplied) -/
def LtP (X Y : Nat) (a : Int) : Prop := Y * 10 ^ (-a).toNat < X * 10 ^ a.toNat

/-- `10^1000`: the offset that turns integer exponents from −1000 on into natural numbers -/
def W10 : Nat := 10 ^ 1000
/-- `10^a`, multiplied by the offset -/
def E10 (a : Int) : Nat := 10 ^ (a + 1000).toNat

theorem W10_pos : 0 < W10 := pow10_pos _
theorem E10_pos (a : Int) : 0 < E10 a := pow10_pos _

theorem E10_add (a : Int) (q : Nat) (ha : -1000 ≤ a) : E10 (a + q) = 10 ^ q * E10 a := by
  unfold E10
  rw [← Nat.pow_add]; congr 1; omega

theorem E10_mono (a c : Int) (h : a ≤ c) : E10 a ≤ E10 c := by
  unfold E10
  exact Nat.pow_le_pow_right (by omega) (by omega)

/-- `10^a = E10 a / W10`, cross-multiplied -/
theorem E10_ratio (a : Int) (ha : -1000 ≤ a) : 10 ^ a.toNat * W10 = E10 a * 10 ^ (-a).toNat := by
  unfold E10 W10
  exact pow_mul_pow_eq 10 (c := 1000) (a' := (a + 1000).toNat) (by omega)

attribute [irreducible] W10 E10

theorem LeP_offset (X Y : Nat) (a : Int) (ha : -1000 ≤ a) : LeP X Y a ↔ X * E10 a ≤ Y * W10 :=
  le_iff_of_ratio (pow10_pos _) W10_pos (E10_ratio a ha) X Y

theorem LtP_offset (X Y : Nat) (a : Int) (ha : -1000 ≤ a) : LtP X Y a ↔ Y * W10 < X * E10 a := by
  unfold LtP
  exact Nat.not_le.symm.trans ((not_congr (LeP_offset X Y a ha)).trans Nat.not_le)

theorem LeP_shift (X Y : Nat) (a s : Int) (q : Nat) (h : a = s + q) :
    LeP X Y a ↔ LeP (10 ^ q * X) Y s := by
  have hid : 10 ^ a.toNat * 10 ^ (-s).toNat = 10 ^ q * 10 ^ s.toNat * 10 ^ (-a).toNat := by
    rw [← Nat.pow_add, ← Nat.pow_add, ← Nat.pow_add]; congr 1; omega
  unfold LeP
  rw [Nat.mul_comm (10 ^ q) X, Nat.mul_assoc]
  exact le_iff_of_ratio (pow10_pos _) (pow10_pos _) hid X Y

theorem LtP_shift (X Y : Nat) (a s : Int) (q : Nat) (h : a = s + q) :
    LtP X Y a ↔ LtP (10 ^ q * X) Y s :=
  Nat.not_le.symm.trans ((not_congr (LeP_shift X Y a s q h)).trans Nat.not_le)

/-! ### `floorLog10` from its two ingredients -/

/-- `10^x ≤ num/den`, as `floorLog10` tests it -/
def leP (num den : Nat) (x : Int) : Bool :=
  if x ≥ 0 then decide (den * 10 ^ x.toNat ≤ num) else decide (den ≤ num * 10 ^ ((-x).toNat))

theorem leP_iff (num den : Nat) (x : Int) : leP num den x = true ↔ LeP den num x := by
  unfold leP LeP
  by_cases hx : x ≥ 0
  · rw [if_pos hx, show (-x).toNat = 0 by omega, Nat.pow_zero, Nat.mul_one, decide_eq_true_iff]
  · rw [if_neg hx, show x.toNat = 0 by omega, Nat.pow_zero, Nat.mul_one, decide_eq_true_iff]

theorem leP_false_iff (num den : Nat) (x : Int) : leP num den x = false ↔ LtP den num x :=
  Bool.eq_false_iff.trans ((not_congr (leP_iff num den x)).trans Nat.not_le)

/-- the estimate `⌊0.30103·B⌋` -/
def estB (B : Int) : Int := (B * 30103) / 100000

theorem floorLog10_eq (num den : Nat) :
    floorLog10 num den = floorLog10.up (leP num den) 8
      (floorLog10.down (leP num den) 8 (estB ((bitLen num : Int) - (bitLen den : Int)) + 1)) := rfl

theorem floorLog10_of_bracket (num den : Nat) (e : Int)
    (he : e = estB ((bitLen num : Int) - (bitLen den : Int)))
    (h1 : leP num den (e - 4) = true) (h2 : leP num den (e + 9) = false) :
    leP num den (floorLog10 num den) = true ∧ leP num den (floorLog10 num den + 1) = false ∧
      e - 4 ≤ floorLog10 num den ∧ floorLog10 num den ≤ e + 8 := by
  rw [floorLog10_eq, ← he]
  obtain ⟨a1, a2, a3, a4⟩ := down_spec (leP num den) 8 (e + 1) 5 (by omega)
    (by rw [show e + 1 - ((5 : Nat) : Int) = e - 4 by omega]; exact h1)
  generalize floorLog10.down (leP num den) 8 (e + 1) = r at *
  -- below its start the walk down has found the decade; at its start the walk up has 8 steps
  obtain ⟨j, hj, hf⟩ : ∃ j : Nat, j < 8 ∧ leP num den (r + j + 1) = false := by
    by_cases hr : r < e + 1
    · exact ⟨0, by omega, by simpa using a4 hr⟩
    · exact ⟨7, by omega, by rw [show r + ((7 : Nat) : Int) + 1 = e + 9 by omega]; exact h2⟩
  obtain ⟨b1, b2, b3, b4⟩ := up_spec (leP num den) 8 r j hj hf a1
  exact ⟨b1, b2, by omega, by omega⟩

/-! ### the estimate brackets the logarithm

`0.30103` is `log₁₀ 2` to five places, so over the 2,120 possible differences `B` of bit lengths the
estimate is off by less than a decade.  Powers of two are compared with powers of ten in steps
`10^59 ≤ 2^196`, `10^3 ≤ 2^10` from below and `2^93 ≤ 10^28`, `2^3 ≤ 10` from above, which lose under
four decades; the two loops make up for that.  Negative exponents are cleared by the factors `10^1000`
and `2^1100`. -/

/-- comparing `x^p/x^t` with `y^q/y^s` by climbing in steps `x^u₁ ≤ y^v₁` and `x^u₂ ≤ y^v₂` -/
theorem climb {x y u₁ v₁ u₂ v₂ r s : Nat} (hx : 0 < x) (hy : 0 < y) (h₁ : x ^ u₁ ≤ y ^ v₁)
    (h₂ : x ^ u₂ ≤ y ^ v₂) (h₃ : y ^ s ≤ x ^ r) (a b : Nat) {p q t : Nat}
    (hp : p + r ≤ u₁ * a + u₂ * b + t) (hq : v₁ * a + v₂ * b ≤ q) : x ^ p * y ^ s ≤ y ^ q * x ^ t :=
  calc x ^ p * y ^ s ≤ x ^ p * x ^ r := Nat.mul_le_mul_left _ h₃
    _ = x ^ (p + r) := (Nat.pow_add ..).symm
    _ ≤ x ^ (u₁ * a + u₂ * b + t) := Nat.pow_le_pow_right hx hp
    _ = (x ^ u₁) ^ a * (x ^ u₂) ^ b * x ^ t := by rw [Nat.pow_add, Nat.pow_add, Nat.pow_mul, Nat.pow_mul]
    _ ≤ (y ^ v₁) ^ a * (y ^ v₂) ^ b * x ^ t :=
      Nat.mul_le_mul_right _ (Nat.mul_le_mul (Nat.pow_le_pow_left h₁ a) (Nat.pow_le_pow_left h₂ b))
    _ = y ^ (v₁ * a + v₂ * b) * x ^ t := by rw [Nat.pow_add, Nat.pow_mul, Nat.pow_mul]
    _ ≤ y ^ q * x ^ t := Nat.mul_le_mul_right _ (Nat.pow_le_pow_right hy hq)

theorem off_lo : 2 ^ 1101 ≤ 10 ^ 332 := by decide +kernel
theorem off_hi : 10 ^ 1000 ≤ 2 ^ 3322 := by decide +kernel

/-- `10^(est−4) ≤ 2^(B−1)` -/
theorem tab_lo (B : Int) (h1 : -1080 ≤ B) (h2 : B < 1040) :
    E10 (estB B - 4) * 2 ^ 1101 ≤ 2 ^ (B + 1100).toNat * W10 := by
  unfold E10 W10
  generalize hi : (B + 1100).toNat = i
  generalize hJ : (estB B - 4 + 1000).toNat = J
  exact climb (by decide) (by decide) (by decide : 10 ^ 59 ≤ 2 ^ 196) (by decide : 10 ^ 3 ≤ 2 ^ 10)
    off_lo (i / 196) (i % 196 / 10) (by unfold estB at hJ; omega) (by omega)

/-- `2^(B+1) ≤ 10^(est+9)` -/
theorem tab_hi (B : Int) (h1 : -1080 ≤ B) (h2 : B < 1040) :
    2 ^ ((B + 1100).toNat + 1) * W10 ≤ E10 (estB B + 9) * 2 ^ 1100 := by
  unfold E10 W10
  generalize hn : (B + 1100).toNat + 1 = n
  generalize hK : (estB B + 9 + 1000).toNat = K
  exact climb (by decide) (by decide) (by decide : 2 ^ 93 ≤ 10 ^ 28) (by decide : 2 ^ 3 ≤ 10 ^ 1)
    off_hi ((n + 2222) / 93) ((n + 2222) % 93 / 3 + 1) (by omega) (by unfold estB at hK; omega)

/-! ### from the powers of two to the ratio -/

/-- `num/den` lies between `2^(B−1)` and `2^(B+1)`, where `B` is the difference of the bit
lengths (`i = B + 1100`) -/
theorem ratio_bits (num den i : Nat) (hn : 0 < num) (hd : 0 < den)
    (hi : (i : Int) = (bitLen num : Int) - (bitLen den : Int) + 1100) :
    den * 2 ^ i ≤ num * 2 ^ 1101 ∧ num * 2 ^ 1100 < den * 2 ^ (i + 1) := by
  have hbn := bitLen_pos num hn
  have hbd := bitLen_pos den hd
  constructor
  · calc den * 2 ^ i ≤ 2 ^ bitLen den * 2 ^ i := Nat.mul_le_mul_right _ (Nat.le_of_lt (lt_pow_bitLen den))
      _ = 2 ^ (bitLen num - 1) * 2 ^ 1101 := pow_mul_pow_eq 2 (by omega)
      _ ≤ num * 2 ^ 1101 := Nat.mul_le_mul_right _ (pow_pred_bitLen_le num hn)
  · calc num * 2 ^ 1100 < 2 ^ bitLen num * 2 ^ 1100 :=
          Nat.mul_lt_mul_of_pos_right (lt_pow_bitLen num) (Nat.two_pow_pos _)
      _ = 2 ^ (bitLen den - 1) * 2 ^ (i + 1) := pow_mul_pow_eq 2 (by omega)
      _ ≤ den * 2 ^ (i + 1) := Nat.mul_le_mul_right _ (pow_pred_bitLen_le den hd)

/-- **`floorLog10` is correct**: for a positive ratio whose bit lengths differ by `−1080 ≤ B < 1040`,
`10^x0 ≤ num/den < 10^(x0+1)`, and `x0` is between 4 below and 8 above the estimate -/
theorem floorLog10_spec (num den : Nat) (hn : 0 < num) (hd : 0 < den)
    (h1 : -1080 ≤ (bitLen num : Int) - (bitLen den : Int))
    (h2 : (bitLen num : Int) - (bitLen den : Int) < 1040) :
    LeP den num (floorLog10 num den) ∧ LtP den num (floorLog10 num den + 1) ∧
    estB ((bitLen num : Int) - (bitLen den : Int)) - 4 ≤ floorLog10 num den ∧
    floorLog10 num den ≤ estB ((bitLen num : Int) - (bitLen den : Int)) + 8 := by
  have t1 := tab_lo _ h1 h2
  have t2 := tab_hi _ h1 h2
  obtain ⟨r1, r2⟩ := ratio_bits num den _ hn hd
    (show ((((bitLen num : Int) - (bitLen den : Int) + 1100).toNat : Nat) : Int) = _ by omega)
  have he : -1000 ≤ estB ((bitLen num : Int) - (bitLen den : Int)) - 4 := by unfold estB; omega
  generalize hee : estB ((bitLen num : Int) - (bitLen den : Int)) = e at *
  generalize ((bitLen num : Int) - (bitLen den : Int) + 1100).toNat = i at *
  -- `den·10^(e−4) ≤ den·2^(B−1) ≤ num` and `num < den·2^(B+1) ≤ den·10^(e+9)`
  have b1 : LeP den num (e - 4) := by
    rw [LeP_offset _ _ _ he]
    apply Nat.le_of_mul_le_mul_right _ (Nat.two_pow_pos 1101)
    calc den * E10 (e - 4) * 2 ^ 1101 = den * (E10 (e - 4) * 2 ^ 1101) := Nat.mul_assoc ..
      _ ≤ den * (2 ^ i * W10) := Nat.mul_le_mul_left _ t1
      _ = den * 2 ^ i * W10 := (Nat.mul_assoc ..).symm
      _ ≤ num * 2 ^ 1101 * W10 := Nat.mul_le_mul_right _ r1
      _ = num * W10 * 2 ^ 1101 := Nat.mul_right_comm ..
  have b2 : LtP den num (e + 9) := by
    rw [LtP_offset _ _ _ (by omega)]
    apply Nat.lt_of_mul_lt_mul_right (a := 2 ^ 1100)
    calc num * W10 * 2 ^ 1100 = num * 2 ^ 1100 * W10 := Nat.mul_right_comm ..
      _ < den * 2 ^ (i + 1) * W10 := Nat.mul_lt_mul_of_pos_right r2 W10_pos
      _ = den * (2 ^ (i + 1) * W10) := Nat.mul_assoc ..
      _ ≤ den * (E10 (e + 9) * 2 ^ 1100) := Nat.mul_le_mul_left _ t2
      _ = den * E10 (e + 9) * 2 ^ 1100 := (Nat.mul_assoc ..).symm
  obtain ⟨a1, a2, a3, a4⟩ := floorLog10_of_bracket num den e hee.symm
    ((leP_iff ..).mpr b1) ((leP_false_iff ..).mpr b2)
  exact ⟨(leP_iff ..).mp a1, (leP_false_iff ..).mp a2, a3, a4⟩

end Libconfig.C01I
