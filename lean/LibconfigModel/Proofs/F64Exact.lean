import LibconfigModel.Proofs.F64Grid
/-
  `(double)v` is exact for 32-bit integers (used for the int → float auto-conversion): an integer
  below `2^53` is the magnitude of a double (`int_is_double`), and `ofRat`, being nearest, returns a
  double of that magnitude (`ofRat_exact`).
-/
namespace Libconfig.F64

open Libconfig Libconfig.C08P Libconfig.F64R

/-- a ratio that is the magnitude of some double is converted to a double of that magnitude -/
theorem ofRat_exact (neg : Bool) (num den c : Nat) (hn : 0 < num) (hd : 0 < den)
    (hc : num * 2 ^ 1074 = sMag c * den) (hinf : isInf (ofRat neg num den) = false) :
    isFinite (ofRat neg num den) = true ∧ signBit (ofRat neg num den) = neg ∧
      sMag (ofRat neg num den) = sMag c := by
  obtain ⟨hfin, hsg, hnear⟩ := ofRat_near neg num den hn hd hinf
  refine ⟨hfin, hsg, Nat.eq_of_mul_eq_mul_right hd ?_⟩
  have := hnear c
  rw [hc] at this
  unfold dist at this
  omega

/-- every positive integer below `2^53` is the magnitude of a double -/
theorem int_is_double (a : Nat) (ha : 0 < a) (h53 : a < 2 ^ 53) : ∃ c, sMag c = a * 2 ^ 1074 := by
  have hL1 := bitLen_pos a ha
  have hlo := pow_pred_bitLen_le a ha
  have hhi := lt_pow_bitLen a
  generalize bitLen a = L at *
  have hL : L ≤ 53 := by
    have := (Nat.pow_lt_pow_iff_right (by decide : 1 < 2)).mp (Nat.lt_of_le_of_lt hlo h53)
    omega
  -- normalised: `a = m·2^(L−53)` with `2^52 ≤ m < 2^53`
  have hm1 : 2 ^ 52 ≤ a * 2 ^ (53 - L) :=
    calc 2 ^ 52 = 2 ^ (L - 1) * 2 ^ (53 - L) := by rw [← Nat.pow_add]; congr 1; omega
      _ ≤ a * 2 ^ (53 - L) := Nat.mul_le_mul_right _ hlo
  have hm2 : a * 2 ^ (53 - L) < 2 ^ 53 :=
    calc a * 2 ^ (53 - L) < 2 ^ L * 2 ^ (53 - L) := Nat.mul_lt_mul_of_pos_right hhi (Nat.two_pow_pos _)
      _ = 2 ^ 53 := by rw [← Nat.pow_add]; congr 1; omega
  obtain ⟨-, -, -, h4, -⟩ := pack_finite false (a * 2 ^ (53 - L)) (L + 1021) hm2
    (fun h => absurd hm1 (Nat.not_le_of_lt h)) (Nat.le_trans (Nat.add_le_add_right hL 1021) (by decide))
  exact ⟨_, by rw [h4, Nat.mul_assoc, ← Nat.pow_add, show 53 - L + (L + 1021) = 1074 by omega]⟩

theorem int32_lt_thr : 4294967296 * 2 ^ 1074 < F64R.thr := by decide +kernel

/-- `(double)v` is exact for every 32-bit integer: the result is finite, has the sign of `v`, and its
mantissa and exponent denote |v| exactly. -/
theorem ofInt_exact (v : Int) (h : fits32 v = true) :
    let b := ofInt v
    isFinite b = true ∧ (signBit b = decide (v < 0) ∨ v = 0) ∧
    ((expo b ≥ 0 ∧ mant b * 2 ^ (expo b).toNat = v.natAbs) ∨
     (expo b < 0 ∧ mant b = v.natAbs * 2 ^ (-(expo b)).toNat)) := by
  intro b
  have hv : v.natAbs < 4294967296 := by
    have := (fits32_iff v).1 h
    omega
  by_cases h0 : v = 0
  · subst h0
    have hb : b = 0 := by decide
    rw [hb]
    refine ⟨by decide, .inr rfl, .inr ⟨by decide, ?_⟩⟩
    rw [show Int.natAbs 0 = 0 from rfl, Nat.zero_mul]
    decide
  · have ha : 0 < v.natAbs := by omega
    obtain ⟨c, hc⟩ := int_is_double v.natAbs ha (by omega)
    obtain ⟨hfin, hsg, hS⟩ := ofRat_exact (decide (v < 0)) v.natAbs 1 c ha Nat.one_pos
      (by rw [hc, Nat.mul_one])
      (isInf_ofRat_lt _ _ _ Nat.one_pos (by
        have := Nat.mul_lt_mul_of_pos_right hv (Nat.two_pow_pos 1074)
        have := int32_lt_thr
        omega))
    refine ⟨hfin, .inl hsg, ?_⟩
    -- `mant·2^(expo+1074) = |v|·2^1074`, read for either sign of the exponent
    have hS : mant b * 2 ^ (expo b + 1074).toNat = v.natAbs * 2 ^ 1074 := hS.trans hc
    have he := expo_ge b
    by_cases hx : expo b ≥ 0
    · rw [show (expo b + 1074).toNat = (expo b).toNat + 1074 by omega, Nat.pow_add, ← Nat.mul_assoc] at hS
      exact .inl ⟨hx, Nat.eq_of_mul_eq_mul_right (Nat.two_pow_pos _) hS⟩
    · rw [show (2 : Nat) ^ 1074 = 2 ^ (-expo b).toNat * 2 ^ (expo b + 1074).toNat by
        rw [← Nat.pow_add]; congr 1; omega, ← Nat.mul_assoc] at hS
      exact .inr ⟨by omega, Nat.eq_of_mul_eq_mul_right (Nat.two_pow_pos _) hS⟩

end Libconfig.F64
