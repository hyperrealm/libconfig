import LibconfigModel.Scanner
import LibconfigModel.Proofs.ByteReps
import LibconfigModel.Proofs.Bounded
/-
  C01L — a small hand-written automaton (`A`, `astep`, `aacc`) for the lexemes the writer produces,
  in INITIAL and in the STRING start condition, and the kernel-checked certificate `cert_ok` that the
  translated flex automaton (`Generated.scanner`, `Flex.step`) simulates it: for every flex state `q`
  that stands for a described state `a = absOf q`, the accept entry of `q` is `aacc a` and for every
  byte `b < 256` the flex successor of `q` stands for `astep a b`, unless that is `A.top`, about which
  nothing is claimed.  `next_abs` (C01LexSim) turns this into a statement about `Flex.next`.
-/
namespace Libconfig.C01L
open Flex

abbrev T : FlexTables := Generated.scanner

/-! ### the abstract automaton -/

inductive A where
  /-- not described -/
  | top
  /-- flex's jam state: no rule can continue -/
  | jam
  /-- start of a token in INITIAL (`bol`: at the beginning of a line, where the
  `@include` rule competes) -/
  | start (bol : Bool)
  /-- rule `r` matched, nothing can follow -/
  | done (r : Nat)
  /-- inside `[ \t]+` -/
  | ws (bol : Bool)
  /-- inside a name that is no longer a prefix of `true` / `false` -/
  | name
  /-- the first `i` letters of `true` (`t = true`) / `false`, in either case -/
  | kw (t : Bool) (i : Nat)
  | sign | zero | int | intL | intLL | zx | hex | hexL | hexLL
  /-- after the decimal point -/
  | frac
  /-- after the exponent marker / its sign / inside the exponent digits -/
  | fe | fesign | fexp
  /-- start of a piece in the STRING start condition -/
  | sstart
  | chunk | bs | bsx | bsxh
deriving Repr, DecidableEq, Inhabited

def lower (b : Nat) : Nat := if isUpper b then b + 32 else b

def kwLen (t : Bool) : Nat := if t then 4 else 5

/-- letter `i` of the keyword, lower case -/
def kwByte (t : Bool) (i : Nat) : Nat :=
  if t then [116, 114, 117, 101].getD i 0 else [102, 97, 108, 115, 101].getD i 0

def kwNext (t : Bool) (i b : Nat) : Bool := decide (i < kwLen t) && lower b == kwByte t i

/-- `[-A-Za-z0-9_\*]` in the order `validName` tests it -/
def nameRest (c : Nat) : Bool := isAlpha c || isDigit c || c == 42 || c == 95 || c == 45

def isE (b : Nat) : Bool := b == 101 || b == 69
def isX (b : Nat) : Bool := b == 120 || b == 88
def isSgn (b : Nat) : Bool := b == 45 || b == 43
def isBlank (b : Nat) : Bool := b == 32 || b == 9

/-- rule of a single-character token of INITIAL (0: the byte is not one) -/
def punctRule (b : Nat) : Nat :=
  if b == 10 then 28 else if b == 34 then 8 else if b == 61 || b == 58 then 30
  else if b == 44 then 31 else if b == 123 then 32 else if b == 125 then 33
  else if b == 91 then 42 else if b == 93 then 43 else if b == 40 then 44
  else if b == 41 then 45 else if b == 59 then 46 else 0

def astep : A → Nat → A
  | .top, _ => .top
  | .jam, _ => .top
  | .start bol, b =>
    if isBlank b then .ws bol
    else if punctRule b != 0 then .done (punctRule b)
    else if b == 116 || b == 84 then .kw true 1
    else if b == 102 || b == 70 then .kw false 1
    else if isAlpha b || b == 42 then .name
    else if isSgn b then .sign
    else if b == 48 then .zero
    else if isDigit b then .int
    else .top
  | .done _, _ => .jam
  | .ws bol, b => if isBlank b then .ws bol else if bol && b == 64 then .top else .jam
  | .name, b => if nameRest b then .name else .jam
  | .kw t i, b => if kwNext t i b then .kw t (i + 1) else if nameRest b then .name else .jam
  | .sign, b => if isDigit b then .int else .top
  | .zero, b =>
    if isDigit b then .int else if b == 46 then .frac else if isE b then .fe
    else if b == 76 then .intL else if isX b then .zx else .jam
  | .int, b =>
    if isDigit b then .int else if b == 46 then .frac else if isE b then .fe
    else if b == 76 then .intL else .jam
  | .intL, b => if b == 76 then .intLL else .jam
  | .intLL, _ => .jam
  | .zx, b => if isHexDigit b then .hex else .jam
  | .hex, b => if isHexDigit b then .hex else if b == 76 then .hexL else .jam
  | .hexL, b => if b == 76 then .hexLL else .jam
  | .hexLL, _ => .jam
  | .frac, b => if isDigit b then .frac else if isE b then .fe else .jam
  | .fe, b => if isDigit b then .fexp else if isSgn b then .fesign else .jam
  | .fesign, b => if isDigit b then .fexp else .jam
  | .fexp, b => if isDigit b then .fexp else .jam
  | .sstart, b => if b == 34 then .done 21 else if b == 92 then .bs else .chunk
  | .chunk, b => if b == 34 || b == 92 then .jam else .chunk
  | .bs, b =>
    if b == 110 then .done 12 else if b == 114 then .done 13 else if b == 116 then .done 14
    else if b == 102 then .done 16 else if b == 92 then .done 17 else if b == 34 then .done 18
    else if isX b then .bsx else .top
  | .bsx, b => if isHexDigit b then .bsxh else .jam
  | .bsxh, b => if isHexDigit b then .done 19 else .jam

/-! ### the part of a byte that `astep` looks at -/

/-- what `astep` looks at in a byte, besides `punctRule` -/
def byteAtoms (b : Nat) : List Bool :=
  [isBlank b, isAlpha b, isSgn b, isDigit b, nameRest b, isE b, isX b, isHexDigit b,
   b == 116, b == 84, b == 102, b == 70, b == 42, b == 48, b == 64, b == 46, b == 76,
   b == 34, b == 92, b == 110, b == 114,
   kwNext true 0 b, kwNext true 1 b, kwNext true 2 b, kwNext true 3 b,
   kwNext false 0 b, kwNext false 1 b, kwNext false 2 b, kwNext false 3 b, kwNext false 4 b]

/-- the bits `l` appended to the number `x` -/
def pack : Nat → List Bool → Nat
  | x, [] => x
  | x, a :: l => pack (bif a then Nat.succ (Nat.add x x) else Nat.add x x) l

def bsig (b : Nat) : Nat := pack (punctRule b) (byteAtoms b)

theorem pack_inj : ∀ {l l' : List Bool} {x x' : Nat}, l.length = l'.length →
    pack x l = pack x' l' → x = x' ∧ l = l'
  | [], [], _, _, _, h => ⟨h, rfl⟩
  | a :: l, a' :: l', x, x', hl, h => by
    obtain ⟨h1, h2⟩ := pack_inj (l := l) (l' := l') (Nat.succ.inj hl) h
    have h1 : (bif a then x + x + 1 else x + x) = (bif a' then x' + x' + 1 else x' + x') := h1
    cases a <;> cases a' <;> simp only [cond_true, cond_false] at h1 <;>
      first | omega | exact ⟨by omega, h2 ▸ rfl⟩

theorem kwNext_ge {t : Bool} {i : Nat} (h : ¬ i < kwLen t) (b : Nat) : kwNext t i b = false := by
  unfold kwNext; rw [decide_eq_false h]; rfl

theorem astep_congr {b c : Nat} (h : bsig b = bsig c) (a : A) : astep a b = astep a c := by
  have hlen : ∀ x, (byteAtoms x).length = 30 := fun _ => rfl
  obtain ⟨hp, hl⟩ := pack_inj ((hlen b).trans (hlen c).symm) h
  simp only [byteAtoms, List.cons.injEq, and_true] at hl
  obtain ⟨h1, h2, h3, h4, h5, h6, h7, h8, h9, h10, h11, h12, h13, h14, h15, h16, h17, h18, h19,
    h20, h21, t0, t1, t2, t3, f0, f1, f2, f3, f4⟩ := hl
  have hk : ∀ t i, kwNext t i b = kwNext t i c := by
    intro t i
    cases t
    · match i with
      | 0 => exact f0
      | 1 => exact f1
      | 2 => exact f2
      | 3 => exact f3
      | 4 => exact f4
      | i + 5 => rw [kwNext_ge (Nat.not_lt.mpr (Nat.le_add_left 5 i)), kwNext_ge (Nat.not_lt.mpr (Nat.le_add_left 5 i))]
    · match i with
      | 0 => exact t0
      | 1 => exact t1
      | 2 => exact t2
      | 3 => exact t3
      | i + 4 => rw [kwNext_ge (Nat.not_lt.mpr (Nat.le_add_left 4 i)), kwNext_ge (Nat.not_lt.mpr (Nat.le_add_left 4 i))]
  cases a <;> simp only [astep, hp, h1, h2, h3, h4, h5, h6, h7, h8, h9, h10, h11, h12, h13, h14,
    h15, h16, h17, h18, h19, h20, h21, hk]

/-! ### accepting, codes -/

/-- the rule an abstract state accepts (0: none) -/
def aacc : A → Nat
  | .done r => r
  | .ws _ => 29
  | .name => 36
  | .kw t i => if Nat.beq i (kwLen t) then (if t then 34 else 35) else 36
  | .sign => 47
  | .zero => 38 | .int => 38 | .intL => 39 | .intLL => 39
  | .hex => 40 | .hexL => 41 | .hexLL => 41
  | .frac => 37 | .fexp => 37
  | .chunk => 9 | .bs => 20
  | _ => 0

def A.live : A → Bool
  | .top => false
  | .jam => false
  | _ => true

/-- equality test evaluated by the kernel (no derived `DecidableEq` there) -/
def A.code : A → Nat
  | .top => 0 | .jam => 1
  | .start b => 2 + b.toNat
  | .ws b => 4 + b.toNat
  | .name => 6 | .sign => 7 | .zero => 8 | .int => 9 | .intL => 10 | .intLL => 11
  | .zx => 12 | .hex => 13 | .hexL => 14 | .hexLL => 15
  | .frac => 16 | .fe => 17 | .fesign => 18 | .fexp => 19
  | .sstart => 20 | .chunk => 21 | .bs => 22 | .bsx => 23 | .bsxh => 24
  | .done r => 100 + 2 * r
  | .kw t i => 101 + 2 * (2 * i + t.toNat)

def A.beq (a b : A) : Bool := Nat.beq a.code b.code

def A.decode (n : Nat) : A :=
  if 100 ≤ n then
    (if n % 2 = 0 then .done ((n - 100) / 2)
     else .kw (decide (((n - 101) / 2) % 2 = 1)) (((n - 101) / 2) / 2))
  else match n with
    | 0 => .top | 1 => .jam | 2 => .start false | 3 => .start true | 4 => .ws false | 5 => .ws true
    | 6 => .name | 7 => .sign | 8 => .zero | 9 => .int | 10 => .intL | 11 => .intLL
    | 12 => .zx | 13 => .hex | 14 => .hexL | 15 => .hexLL
    | 16 => .frac | 17 => .fe | 18 => .fesign | 19 => .fexp
    | 20 => .sstart | 21 => .chunk | 22 => .bs | 23 => .bsx | 24 => .bsxh
    | _ => .top

theorem A.decode_ge {n : Nat} (h : 100 ≤ n) : A.decode n =
    if n % 2 = 0 then .done ((n - 100) / 2)
    else .kw (decide (((n - 101) / 2) % 2 = 1)) (((n - 101) / 2) / 2) := by
  unfold A.decode; exact if_pos h

theorem A.decode_code (a : A) : A.decode a.code = a := by
  cases a with
  | done r =>
    show A.decode (100 + 2 * r) = _
    rw [A.decode_ge (by omega), if_pos (by omega)]
    congr 1; omega
  | kw t i =>
    show A.decode (101 + 2 * (2 * i + t.toNat)) = _
    rw [A.decode_ge (by omega), if_neg (by omega)]
    cases t
    · congr 1
      · exact decide_eq_false (by simp only [Bool.toNat, cond_false]; omega)
      · simp only [Bool.toNat, cond_false]; omega
    · congr 1
      · exact decide_eq_true (by simp only [Bool.toNat, cond_true]; omega)
      · simp only [Bool.toNat, cond_true]; omega
  | start b => cases b <;> rfl
  | ws b => cases b <;> rfl
  | _ => rfl

theorem A.code_inj {a b : A} (h : a.code = b.code) : a = b := by
  rw [← A.decode_code a, ← A.decode_code b, h]

theorem A.beq_eq {a b : A} (h : A.beq a b = true) : a = b :=
  A.code_inj (Nat.eq_of_beq_eq_true h)

/-! ### the flex states and the abstract states they stand for -/

/-- found by an untrusted breadth-first search from the start states 1, 2 (INITIAL), 7, 8
(STRING) and the jam state 107 -/
def absTab : List A := [
  .top, .start false, .start true, .top, .top, .top, .top, .sstart, .sstart, .top, .top, .top, .top,
  .top, .ws false, .done 28, .done 8, .top, .done 44, .done 45, .name, .sign, .done 31, .top, .top,
  .zero, .int, .done 30, .done 46, .kw false 1, .kw true 1, .done 42, .done 43, .done 32, .done 33,
  .ws true, .top, .top, .top, .top, .top, .top, .chunk, .done 21, .bs, .top, .top, .top, .ws false,
  .name, .top, .int, .top, .top, .top, .top, .frac, .fe, .intL, .zx, .kw false 2, .kw true 2,
  .ws true, .top, .top, .top, .chunk, .done 18, .bsx, .done 17, .top, .top, .done 16, .done 12,
  .done 13, .done 14, .top, .top, .top, .top, .top, .top, .frac, .fe, .fesign, .fexp, .intLL, .hex,
  .kw false 3, .kw true 3, .top, .bsxh, .fesign, .fexp, .hexL, .kw false 4, .kw true 4, .top,
  .done 19, .hexLL, .kw false 5, .top, .top, .top, .top, .top, .top, .jam]

def absOf (q : Nat) : A := absTab.getD q .top

/-! ### the check -/

def A.isTop : A → Bool
  | .top => true
  | _ => false

def okByte (q : Nat) (a : A) (b : Nat) : Bool :=
  (astep a b).isTop || A.beq (absOf (step T q b)) (astep a b)

def okBytes (q : Nat) (a : A) : Nat → Bool
  | 0 => true
  | n + 1 => okByte q a n && okBytes q a n

def okState (q : Nat) : Bool :=
  if (absOf q).live then Nat.beq (T.accept.getN q) (aacc (absOf q)) && okBytes q (absOf q) 256
  else (absOf q).isTop || Nat.beq q T.jamState

def okStates : Nat → Bool
  | 0 => true
  | n + 1 => okState n && okStates n

/-! ### the check, on one byte of each class

`okByte q a b` depends on `b` through `classOf T b` (the flex successor) and `bsig b` (`astep`), so
it is evaluated for one byte of each class of bytes that agree in both. -/

def sameByte (T : FlexTables) (b c : Nat) : Bool :=
  Nat.beq (classOf T b) (classOf T c) && Nat.beq (bsig b) (bsig c)

def reps : List Nat := mkReps (sameByte T) 256 []

/-- Byte `q` of this number is `(absOf q).code` (`codeAt_eq`, so a literal that does not fit
`absTab` is a proof that fails).  The check asks for the abstract state of every flex successor, and
`absTab.getD` would walk the list each time; `codeAt` reads it here instead. -/
def absCodes : Nat :=
  0x1000000000000790f8a0077750e1312180073710d0b13121110000000000000807e7c84000086178815000000056f6d0c0a11100000000009000604000000168e1500000000000005a6a4bab86b69c0a009080000a20706bebc00749c040000000000141400000000030200

def codeAt (q : Nat) : Nat :=
  bif Nat.blt q 108 then Nat.mod (Nat.shiftRight absCodes (Nat.mul 8 q)) 256 else 0

theorem codeAt_eq (q : Nat) : (absOf q).code = codeAt q := by
  by_cases hq : q < 108
  · have h : C02P.allBelow 108 (fun q => Nat.beq (absOf q).code (codeAt q)) = true := by
      decide +kernel
    exact Nat.eq_of_beq_eq_true (C02P.allBelow_spec h q hq)
  · have hlen : absTab.length = 108 := rfl
    unfold absOf codeAt
    rw [List.getD_eq_getElem?_getD, List.getElem?_eq_none (by omega),
      show Nat.blt q 108 = false from Bool.eq_false_iff.mpr fun h => hq (Nat.le_of_ble_eq_true h)]
    rfl

/-- `okByte` with the successor's abstract state read from `absCodes` -/
def okByteOn (q : Nat) (a : A) (b : Nat) : Bool :=
  (astep a b).isTop || Nat.beq (codeAt (step T q b)) (astep a b).code

theorem okByteOn_eq (q : Nat) (a : A) (b : Nat) : okByteOn q a b = okByte q a b := by
  unfold okByteOn okByte A.beq; rw [codeAt_eq]

def okStateOn (reps : List Nat) (q : Nat) : Bool :=
  if (absOf q).live then
    Nat.beq (T.accept.getN q) (aacc (absOf q)) && reps.all (okByteOn q (absOf q))
  else (absOf q).isTop || Nat.beq q T.jamState

def okStatesOn (reps : List Nat) : Nat → Bool
  | 0 => true
  | n + 1 => okStateOn reps n && okStatesOn reps n

theorem sameByte_spec {T : FlexTables} {b c : Nat} (h : sameByte T b c = true) :
    classOf T b = classOf T c ∧ bsig b = bsig c := by
  simp only [sameByte, Bool.and_eq_true] at h
  exact ⟨Nat.eq_of_beq_eq_true h.1, Nat.eq_of_beq_eq_true h.2⟩

theorem okByte_congr {b c : Nat} (hc : classOf T b = classOf T c) (hs : bsig b = bsig c)
    (q : Nat) (a : A) : okByte q a b = okByte q a c := by
  unfold okByte step
  rw [hc, astep_congr hs]

theorem okBytes_iff {q : Nat} {a : A} {n : Nat} :
    okBytes q a n = true ↔ ∀ b, b < n → okByte q a b = true :=
  below_iff (g := okBytes q a) rfl fun _ => rfl

theorem okStates_iff {n : Nat} : okStates n = true ↔ ∀ q, q < n → okState q = true :=
  below_iff (g := okStates) rfl fun _ => rfl

theorem okStateOn_sound {reps : List Nat}
    (hr : ∀ b, b < 256 → ∃ c ∈ reps, sameByte T b c = true) {q : Nat}
    (h : okStateOn reps q = true) : okState q = true := by
  unfold okStateOn at h
  unfold okState
  split
  · next hl =>
    rw [if_pos hl, Bool.and_eq_true, List.all_eq_true] at h
    rw [Bool.and_eq_true]
    refine ⟨h.1, okBytes_iff.mpr fun b hb => ?_⟩
    obtain ⟨c, hc, hs⟩ := hr b hb
    rw [okByte_congr (sameByte_spec hs).1 (sameByte_spec hs).2, ← okByteOn_eq]
    exact h.2 c hc
  · next hl => rw [if_neg hl] at h; exact h

theorem okStatesOn_sound {reps : List Nat}
    (hr : ∀ b, b < 256 → ∃ c ∈ reps, sameByte T b c = true) {n : Nat}
    (h : okStatesOn reps n = true) : okStates n = true :=
  okStates_iff.mpr fun q hq =>
    okStateOn_sound hr ((below_iff (g := okStatesOn reps) rfl fun _ => rfl).mp h q hq)

theorem cert_ok : okStates 108 = true := by
  have h : okStatesOn reps 108 = true := by decide +kernel
  exact okStatesOn_sound (mkReps_spec (fun b => by simp only [sameByte, Nat.beq_refl, Bool.and_self]) 256 []).2 h

end Libconfig.C01L
