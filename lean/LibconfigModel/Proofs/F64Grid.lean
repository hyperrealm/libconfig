import LibconfigModel.Proofs.F64Round
/-
  Rendering a double on a decimal grid, and reading the rendering back.  `printf` writes `q` units
  of a grid `A/B` (`%.{p}f`: `1/10^p`; `%.{P}g`: `10^(x0-P+1)`), `q` being the magnitude rounded
  half-even on that grid; `strtod` rounds `q·A/B` to the nearest double.  `reread`: that double is
  at least as near to `q·A/B` as the double written, so it rounds to `q` again on the same grid
  (`reread_round`).  `lt_thr_of_half`: `q·A/B` is below the overflow threshold of `strtod` when a
  grid unit is below an ulp of DBL_MAX.
-/
namespace Libconfig.C01I
open Libconfig F64 C08P
open Libconfig.F64R

theorem pow10_pos (n : Nat) : 0 < 10 ^ n := Nat.pow_pos (by omega)

theorem cross_pow (D d z y a c : Nat) (h : D * 10 ^ z = d * 10 ^ y) (he : a + y = c + z) :
    D * 10 ^ a = d * 10 ^ c := by
  apply Nat.eq_of_mul_eq_mul_right (pow10_pos z)
  calc D * 10 ^ a * 10 ^ z = D * 10 ^ z * 10 ^ a := Nat.mul_right_comm _ _ _
    _ = d * 10 ^ y * 10 ^ a := by rw [h]
    _ = d * (10 ^ y * 10 ^ a) := Nat.mul_assoc ..
    _ = d * (10 ^ c * 10 ^ z) := by rw [pow_mul_pow_eq 10 (a := y) (c := a) (a' := c) (c' := z) (by omega)]
    _ = d * 10 ^ c * 10 ^ z := (Nat.mul_assoc ..).symm

/-- `2^1074`: the scale of `sMag` -/
def T74 : Nat := 2 ^ 1074
theorem T74_pos : 0 < T74 := Nat.two_pow_pos _
theorem T74_def : 2 ^ 1074 = T74 := rfl

attribute [irreducible] T74

/-- `%.{p}f` prints `round-half-even(|b|·10^p)`, with `|b| = sMag b / 2^1074` -/
theorem scaledRound_eq (b p : Nat) : scaledRound b p = divRoundEven (sMag b * 10 ^ p) (2 ^ 1074) := by
  have he := expo_ge b
  unfold scaledRound sMag
  simp only []
  split
  · have e : (expo b + 1074).toNat = (expo b).toNat + 1074 := by omega
    rw [e, Nat.pow_add, ← Nat.mul_assoc, Nat.mul_right_comm _ (2 ^ 1074) (10 ^ p),
      dre_exact _ _ (Nat.two_pow_pos 1074)]
  · have e : 2 ^ 1074 = 2 ^ (-expo b).toNat * 2 ^ (expo b + 1074).toNat := by
      rw [← Nat.pow_add]; congr 1; omega
    rw [e, Nat.mul_right_comm (mant b) _ (10 ^ p), dre_scale _ _ _ (Nat.two_pow_pos _) (Nat.two_pow_pos _)]

/-! ### the rounding error of `ofRat` -/

theorem ofRat_err (neg : Bool) (num den : Nat) (hn : num > 0) (hd : den > 0)
    (hfinite : isFinite (ofRat neg num den) = true) :
    2 ^ 53 * errR num den (ofRat neg num den) ≤ num * 2 ^ 1074 ∨
      2 * errR num den (ofRat neg num den) ≤ den := by
  obtain ⟨k, n, d, D, hDpos, hdpos, hdD, e1, hQ53, hk1, hb⟩ := ofRat_scaled neg num den hn hd
  have hm53 : divRoundEven n d ≤ 2 ^ 53 := dre_le_of n d _ hQ53
  have hmge : 1 ≤ k → 2 ^ 52 ≤ divRoundEven n d := fun h => dre_ge_of n d _ hdpos (hk1 h)
  rw [hb] at hfinite ⊢
  by_cases hF : (divRoundEven n d < 2 ^ 53 ∧ k ≤ 2045) ∨ k ≤ 2044
  · obtain ⟨-, -, -, f4, -⟩ := finish_finite neg (divRoundEven n d) k hm53
      (fun h => by false_or_by_contra; omega) hF
    have hhalf := (dre_half n d hdpos).1
    -- the error, at the scale of the rounding: `|n − m·d|·2^k`
    have herr : errR num den (finish neg (divRoundEven n d) (1074 - k)) * D =
        dist n (divRoundEven n d * d) * 2 ^ k := by
      rw [errR_scaled hdD e1, f4, dist_mul_right, Nat.mul_right_comm]
    generalize errR num den (finish neg (divRoundEven n d) (1074 - k)) = er at *
    by_cases hk0 : k = 0
    · right
      subst hk0
      rw [Nat.pow_zero, Nat.mul_one] at herr
      have : 2 * er * D ≤ den * D := by rw [Nat.mul_assoc, herr, ← hdD]; exact hhalf
      exact Nat.le_of_mul_le_mul_right this hDpos
    · left
      apply Nat.le_of_mul_le_mul_right _ hDpos
      calc 2 ^ 53 * er * D = 2 ^ 52 * (2 * dist n (divRoundEven n d * d)) * 2 ^ k := by
            rw [Nat.mul_assoc, herr, show (2 : Nat) ^ 53 = 2 ^ 52 * 2 from rfl]
            ac_rfl
        _ ≤ 2 ^ 52 * d * 2 ^ k := Nat.mul_le_mul_right _ (Nat.mul_le_mul_left _ hhalf)
        _ ≤ n * 2 ^ k := Nat.mul_le_mul_right _ (hk1 (by omega))
        _ = num * 2 ^ 1074 * D := e1.symm
  · exfalso
    rw [finish_inf neg (divRoundEven n d) k (hmge (by omega)) (by omega),
      (mkBits_inf neg).2.1] at hfinite
    cases hfinite

/-! ### reading back -/

/-- **reading back on a grid.**  A text denotes `N/Dn = q·A/B`: `q` units of the decimal grid
`A/B`.  The double `strtod` makes of it (`ofRat`), unless it is an infinity, is finite, has the
sign asked for, is at least as close to `q·A/B` as any double `c`, and within half a unit in the
last place of it.  (Everything scaled by `2^1074·B`.) -/
theorem reread (neg : Bool) (N Dn q A B : Nat) (hDn : 0 < Dn) (hA : 0 < A)
    (hval : N * B = q * A * Dn) (hinf : isInf (ofRat neg N Dn) = false) :
    isFinite (ofRat neg N Dn) = true ∧ signBit (ofRat neg N Dn) = neg ∧
    (∀ c, dist (q * (T74 * A)) (sMag (ofRat neg N Dn) * B) ≤ dist (q * (T74 * A)) (sMag c * B)) ∧
    (2 ^ 53 * dist (q * (T74 * A)) (sMag (ofRat neg N Dn) * B) ≤ q * (T74 * A) ∨
      2 * dist (q * (T74 * A)) (sMag (ofRat neg N Dn) * B) ≤ B) := by
  by_cases hN : N = 0
  · -- the signed zero, at distance 0 from `q = 0`
    have hq : q = 0 := by
      rw [hN, Nat.zero_mul] at hval
      rcases Nat.mul_eq_zero.mp hval.symm with h | h
      · rcases Nat.mul_eq_zero.mp h with h | h <;> omega
      · omega
    obtain ⟨a1, a2, -, -, -⟩ := mkBits_finite neg 0 0 (by omega) (by omega)
    rw [hN, ofRat_zero, sMag_zero, hq, Nat.zero_mul, Nat.zero_mul]
    exact ⟨a2, a1, fun c => Nat.zero_le _, .inl (Nat.le_refl _)⟩
  · obtain ⟨hfinite, hsg, hnear⟩ := ofRat_near neg N Dn (by omega) hDn hinf
    have herr := ofRat_err neg N Dn (by omega) hDn hfinite
    rw [errR_eq] at herr
    rw [T74_def] at hnear herr
    generalize ofRat neg N Dn = b' at *
    -- the same distances at the scale `Dn` of the text and at the scale `B` of the grid
    have hN' : N * T74 * B = q * (T74 * A) * Dn := by
      calc N * T74 * B = N * B * T74 := Nat.mul_right_comm ..
        _ = q * A * Dn * T74 := by rw [hval]
        _ = q * (T74 * A) * Dn := by ac_rfl
    have key : ∀ c, dist (N * T74) (sMag c * Dn) * B = dist (q * (T74 * A)) (sMag c * B) * Dn :=
      fun c => dist_mul_eq hN' (Nat.mul_right_comm ..)
    refine ⟨hfinite, hsg, fun c => ?_, ?_⟩
    · have := Nat.mul_le_mul_right B (hnear c)
      rw [key, key] at this
      exact Nat.le_of_mul_le_mul_right this hDn
    · rcases herr with h | h
      · left
        have := Nat.mul_le_mul_right B h
        rw [Nat.mul_assoc, key, hN', ← Nat.mul_assoc] at this
        exact Nat.le_of_mul_le_mul_right this hDn
      · right
        have := Nat.mul_le_mul_right B h
        rw [Nat.mul_assoc, key, ← Nat.mul_assoc, Nat.mul_comm Dn] at this
        exact Nat.le_of_mul_le_mul_right this hDn

/-- … so when `q` is the magnitude `S` rounded on that grid, the double read back rounds to `q`
again (`dre_of_nearer`): all there is to the idempotence of a rendering whose grid does not
depend on the value -/
theorem reread_round (neg : Bool) (N Dn A B : Nat) (b : Nat) (hDn : 0 < Dn) (hA : 0 < A)
    (hval : N * B = divRoundEven (sMag b * B) (T74 * A) * A * Dn)
    (hinf : isInf (ofRat neg N Dn) = false) :
    divRoundEven (sMag (ofRat neg N Dn) * B) (T74 * A) = divRoundEven (sMag b * B) (T74 * A) :=
  dre_of_nearer _ _ _ (Nat.mul_pos T74_pos hA) ((reread neg N Dn _ A B hDn hA hval hinf).2.2.1 b)

/-! ### no overflow -/

/-- the largest finite magnitude (DBL_MAX), scaled by 2^1074 -/
def sMax : Nat := (2 ^ 53 - 1) * 2 ^ (971 + 1074)

theorem sMag_le_max (b : Nat) (hfin : isFinite b = true) : sMag b ≤ sMax := by
  have h1 := mant_lt b
  have h2 := expo_le b hfin
  unfold sMag sMax
  have : 2 ^ (expo b + 1074).toNat ≤ 2 ^ (971 + 1074) :=
    Nat.pow_le_pow_right (by decide) (by omega)
  exact Nat.mul_le_mul (by omega) this

/-- twice the overflow threshold is twice DBL_MAX and one unit in its last place -/
theorem two_thr : 2 * F64R.thr = 2 * sMax + 2 ^ 2045 := by decide +kernel

/-- **no overflow on a grid.**  `N/Dn = q·A/B`, where `q` is a magnitude `S ≤ Smax` rounded on
the grid `A/B`: the value exceeds `S` by at most half a grid unit, and stays below the threshold
`thr = Smax + U/2` when the grid unit is below `U`.  (`T = 2^1074`, `Smax` = DBL_MAX, `U = 2^971`
an ulp of DBL_MAX, scaled.) -/
theorem lt_thr_of_half {N Dn q A B S T Smax thr U : Nat} (hDn : 0 < Dn)
    (hval : N * B = q * A * Dn) (hhalf : 2 * dist (S * B) (q * (T * A)) ≤ T * A)
    (hS : S ≤ Smax) (hthr : 2 * thr = 2 * Smax + U) (hgrid : T * A < U * B) : N * T < thr * Dn := by
  have a1 : 2 * (q * (T * A)) ≤ 2 * (S * B) + T * A := (two_dist_le.mp hhalf).2
  have a2 : 2 * (S * B) + T * A < 2 * (Smax * B) + U * B :=
    Nat.add_lt_add_of_le_of_lt (Nat.mul_le_mul_left 2 (Nat.mul_le_mul_right B hS)) hgrid
  apply Nat.lt_of_mul_lt_mul_right (a := 2 * B)
  calc N * T * (2 * B) = 2 * (N * B) * T := by ac_rfl
    _ = 2 * (q * A * Dn) * T := by rw [hval]
    _ = 2 * (q * (T * A)) * Dn := by ac_rfl
    _ ≤ (2 * (S * B) + T * A) * Dn := Nat.mul_le_mul_right _ a1
    _ < (2 * (Smax * B) + U * B) * Dn := Nat.mul_lt_mul_of_pos_right a2 hDn
    _ = (2 * Smax + U) * B * Dn := by rw [Nat.add_mul (2 * Smax) U B, Nat.mul_assoc 2 Smax B]
    _ = thr * Dn * (2 * B) := by rw [← hthr]; ac_rfl

/-- a grid of unit at most one -/
theorem unit_grid (B : Nat) (hB : 0 < B) : 2 ^ 1074 * 1 < 2 ^ 2045 * B :=
  Nat.lt_of_lt_of_le (by rw [Nat.mul_one]; exact Nat.pow_lt_pow_right (by decide) (by decide))
    (Nat.le_mul_of_pos_right _ hB)

end Libconfig.C01I
