import LibconfigModel.Properties.C18
import LibconfigModel.Scanner
import LibconfigModel.Proofs.FlexRun
/-
  Helper lemmas for Properties/C10Splice.lean, scanner side.

  * the compiled automaton on the pieces of a directive line: `^[ \t]*@include[ \t]+"`
    is matched as rule 22 up to the opening quote, a path without `"` and `\` as one
    match of rule 23, the closing quote as rule 27 (each piece a stage list of
    Proofs/FlexRun.lean, checked against the translated tables by the kernel: `directive_ok`);
  * in the start conditions INITIAL and SINGLE_LINE_COMMENT no lexeme other than the
    one-byte lexeme `\n` contains a newline, and the only rule that depends on the
    beginning-of-line flag needs a `"`: the match at the head of a quote-free line does not
    depend on what follows the line nor on the flag (from `C18_flex_longest_first`,
    `C18_flex_never_skipped` and the documented rule list);
  * the rules that can be selected on such a line have "simple" actions (skip, change
    between INITIAL and SINGLE_LINE_COMMENT, return a token computed from the lexeme):
    `next_plain`.
-/
set_option autoImplicit false

namespace Libconfig.C10S

open Libconfig Flex ScanSpec

/-! ### the pieces of a directive line under the compiled automaton -/

abbrev T : FlexTables := Generated.scanner
abbrev acts : List ScanAct := Generated.scanActions

def blanks : List Nat := [32, 9]
/-- `@include` -/
def kw : Bytes := [64, 105, 110, 99, 108, 117, 100, 101]

/-- the bytes an include path may consist of as far as rule 23 `[^\"\\]+` is concerned -/
def pathBytes : List Nat := (List.range 256).filter fun c => c != 34 && c != 92

theorem mem_pathBytes {c : Nat} (h : c < 256 ∧ c ≠ 34 ∧ c ≠ 92) : c ∈ pathBytes := by
  simpa only [pathBytes, List.mem_filter, List.mem_range, Bool.and_eq_true, bne_iff_ne, ne_eq]

theorem mem_blanks {c : Nat} (h : c = 32 ∨ c = 9) : c ∈ blanks := by
  rcases h with rfl | rfl <;> simp [blanks]

/-- INITIAL at the beginning of a line -/
def q0 : Nat := startState 0 true
/-- states while reading the leading blanks -/
def S1 : List Nat := [q0, step T q0 32, step T (step T q0 32) 32]
/-- state after `@include` -/
def qKw : Nat := (run T q0 kw).getD 0
/-- states while reading the blanks before the quote -/
def S2 : List Nat := [step T qKw 32, step T (step T qKw 32) 32]
/-- state after the opening quote -/
def qOpen : Nat := step T (step T qKw 32) 34

/-- INCLUDE away from the beginning of a line -/
def p0 : Nat := startState 4 false
/-- states while reading the path -/
def SP : List Nat := [step T p0 97, step T (step T p0 97) 97]
/-- state after the closing quote -/
def qClose : Nat := step T p0 34

/-- the pattern `include_open` of lib/scanner.l, `^[ \t]*@include[ \t]+\"` (the `^` is the start
state `q0`) -/
def openStages : List Stage := .many blanks S1 :: lit kw ++ [.one blanks, .many blanks S2, .one [34]]
/-- `<INCLUDE>[^\"\\]+` -/
def pathStages : List Stage := [.one pathBytes, .many pathBytes SP]

/-- the translated tables on the pieces of a directive line: rule 22 up to the opening quote
and nothing longer; rule 23 on the path up to a quote; rule 27 on the closing quote -/
theorem directive_ok :
    (stagesOK T [q0] openStages [qOpen] = true ∧ landsOK T [qOpen] 22 (List.range 256) = true) ∧
    (stagesOK T [p0] pathStages SP = true ∧ landsOK T SP 23 [34] = true) ∧
    (stagesOK T [p0] [.one [34]] [qClose] = true ∧ landsOK T [qClose] 27 (List.range 256) = true) := by
  decide +kernel

/-- blanks, `@include`, at least one blank, a quote -/
theorem openStages_intro {b1 b2 : Bytes} (h1 : ∀ c ∈ b1, c = 32 ∨ c = 9)
    (h2 : ∀ c ∈ b2, c = 32 ∨ c = 9) (hne : b2 ≠ []) :
    Stages openStages (b1 ++ (kw ++ (b2 ++ [34]))) := by
  obtain ⟨c, b2', rfl⟩ := List.exists_cons_of_ne_nil hne
  exact ⟨b1, _, rfl, fun x hx => mem_blanks (h1 x hx),
    Stages.lit (st := [.one blanks, .many blanks S2, .one [34]])
      ⟨c, _, rfl, mem_blanks (h2 c (List.mem_cons_self ..)),
        b2', _, rfl, fun x hx => mem_blanks (h2 x (List.mem_cons_of_mem _ hx)),
        34, [], rfl, List.mem_singleton.mpr rfl, rfl⟩ kw⟩

theorem openStages_pos {pre : Bytes} (h : Stages openStages pre) : 0 < pre.length := by
  obtain ⟨a, u, rfl, -, c, u', rfl, -⟩ := h
  simp only [List.length_append, List.length_cons]
  omega

/-- **The directive prefix.**  At the beginning of a line in INITIAL, blanks, `@include`, at
least one blank and a quote are matched as rule 22 up to and including the quote, whatever
follows. -/
theorem next_include_open {pre v : Bytes} (h : Stages openStages pre)
    (hv : ∀ c, v.head? = some c → c < 256) : next T 0 true (pre ++ v) = some (22, pre.length) :=
  next_of_stages T directive_ok.1.1 directive_ok.1.2 (by decide) h
    fun x hx => List.mem_range.mpr (hv x hx)

/-- **The path.**  In INCLUDE a non-empty run of bytes other than `"` and `\` followed by a
quote is one match of rule 23. -/
theorem next_path (path v : Bytes) (hne : path ≠ [])
    (hp : ∀ c ∈ path, c < 256 ∧ c ≠ 34 ∧ c ≠ 92) :
    next T 4 false (path ++ 34 :: v) = some (23, path.length) := by
  obtain ⟨c, cs, rfl⟩ := List.exists_cons_of_ne_nil hne
  exact next_of_stages T directive_ok.2.1.1 directive_ok.2.1.2 (by decide) (st := pathStages)
    ⟨c, cs, rfl, mem_pathBytes (hp c (List.mem_cons_self ..)),
      cs, [], (List.append_nil cs).symm,
      fun x hx => mem_pathBytes (hp x (List.mem_cons_of_mem _ hx)), rfl⟩
    fun x hx => by cases hx; exact List.mem_singleton.mpr rfl

/-- **The closing quote.**  In INCLUDE a quote is rule 27, whatever follows. -/
theorem next_close (v : Bytes) (hv : ∀ c, v.head? = some c → c < 256) :
    next T 4 false (34 :: v) = some (27, 1) :=
  next_of_stages T directive_ok.2.2.1 directive_ok.2.2.2 (by decide) (u := [34])
    (st := [.one [34]]) ⟨34, [], rfl, List.mem_singleton.mpr rfl, rfl⟩ fun x hx => List.mem_range.mpr (hv x hx)

/-! ### the documented rule list: lexemes of INITIAL and SINGLE_LINE_COMMENT -/

/-- expressions all of whose words are one byte long -/
def isSingle : Rx → Bool
  | .cls _ => true
  | .alt a b => isSingle a && isSingle b
  | _ => false

theorem isSingle_length : ∀ {r : Rx}, isSingle r = true → ∀ {w : List Nat}, Rx.Matches r w →
    w.length = 1 := by
  intro r
  induction r with
  | empty => intro h; cases h
  | eps => intro h; cases h
  | cls m => intro _ w hm; obtain ⟨b, rfl, _⟩ := Rx.matches_cls_iff.mp hm; rfl
  | cat a b _ _ => intro h; cases h
  | alt a b iha ihb =>
    intro h w hm
    simp only [isSingle, Bool.and_eq_true] at h
    rcases Rx.matches_alt_iff.mp hm with hm | hm
    · exact iha h.1 hm
    · exact ihb h.2 hm
  | star a _ => intro h; cases h

/-- every word of the expression contains a byte of the class `m` (the class occurs
literally in a mandatory position) -/
def mustContain (m : Nat) : Rx → Bool
  | .empty => true
  | .eps => false
  | .cls c => Nat.beq c m
  | .cat a b => mustContain m a || mustContain m b
  | .alt a b => mustContain m a && mustContain m b
  | .star _ => false

theorem mustContain_spec {m : Nat} : ∀ {r : Rx} {w : List Nat}, Rx.Matches r w →
    mustContain m r = true → ∃ b, b ∈ w ∧ Rx.mem m b = true := by
  intro r w hm
  induction hm with
  | eps => intro h; cases h
  | cls hb =>
    intro h
    rw [← Nat.eq_of_beq_eq_true h]
    exact ⟨_, List.mem_singleton.mpr rfl, hb⟩
  | cat _ _ ih1 ih2 =>
    intro h
    simp only [mustContain, Bool.or_eq_true] at h
    rcases h with h | h
    · obtain ⟨b, hb, hm⟩ := ih1 h; exact ⟨b, List.mem_append_left _ hb, hm⟩
    · obtain ⟨b, hb, hm⟩ := ih2 h; exact ⟨b, List.mem_append_right _ hb, hm⟩
  | altL _ ih => intro h; simp only [mustContain, Bool.and_eq_true] at h; exact ih h.1
  | altR _ ih => intro h; simp only [mustContain, Bool.and_eq_true] at h; exact ih h.2
  | starNil => intro h; cases h
  | starCons _ _ _ _ => intro h; cases h

/-- actions that skip, switch between INITIAL and SINGLE_LINE_COMMENT, or return a token
computed from the lexeme alone -/
def simpleAct : ScanAct → Bool
  | .begin sc => Nat.beq sc 0 || Nat.beq sc 1
  | .ignore => true
  | .tok _ => true
  | .tokBool _ _ => true
  | .tokName _ => true
  | .tokFloat .. => true
  | .tokInteger .. => true
  | .tokInteger64 .. => true
  | .tokHex .. => true
  | .tokHex64 .. => true
  | _ => false

/-- the facts about the documented rule list used below:
* a rule active in INITIAL or SINGLE_LINE_COMMENT whose language has a word with a newline
  matches single bytes only;
* a rule anchored at the beginning of a line needs a `"`;
* the rules active in INITIAL or SINGLE_LINE_COMMENT away from the beginning of a line (so not
  the anchored rule 22) other than 4 (`/*`), 8 (`"`) and 48 (flex's default rule) have simple
  actions in the compiled scanner. -/
def rulesOK : Bool :=
  allRules (fun _ r => !(r.active 0 true || r.active 1 true) || !mentionsNl r.rx || isSingle r.rx)
    1 documented &&
  allRules (fun _ r => !r.bol || mustContain cQuote r.rx) 1 documented &&
  allRules (fun i r => !(r.active 0 false || r.active 1 false) || Nat.beq i 4 || Nat.beq i 8 ||
    Nat.beq i 48 || simpleAct (acts.getD i .unknown)) 1 documented

theorem rules_ok : rulesOK = true := by decide +kernel

theorem mem_cQuote : ∀ b, b < 256 → Rx.mem cQuote b = true → b = 34 := by decide +kernel
theorem mem_cSlash : ∀ b, b < 256 → Rx.mem cSlash b = true → b = 47 := by decide +kernel
theorem mem_cStar : ∀ b, b < 256 → Rx.mem cStar b = true → b = 42 := by decide +kernel

theorem active_mono {r : SpecRule} {sc : Nat} {bol : Bool} (h : r.active sc bol = true) :
    r.active sc true = true := by
  simp only [SpecRule.active, Bool.and_eq_true, Bool.or_eq_true, Bool.not_eq_true'] at h ⊢
  exact ⟨h.1, .inr trivial⟩

theorem active_false_mono {r : SpecRule} {sc : Nat} {bol : Bool} (h : r.active sc false = true) :
    r.active sc bol = true := by
  simp only [SpecRule.active, Bool.and_eq_true, Bool.or_eq_true, Bool.not_eq_true'] at h ⊢
  rcases h.2 with h2 | h2
  · exact ⟨h.1, .inl h2⟩
  · cases h2

theorem ruleMatches_of_false {sc : Nat} {bol : Bool} {i : Nat} {w : List Nat}
    (h : RuleMatches documented sc false i w) : RuleMatches documented sc bol i w := by
  obtain ⟨rule, h1, hget, ha, hm⟩ := h
  exact ⟨rule, h1, hget, active_false_mono ha, hm⟩

/-- a word matched by an anchored rule contains a quote: on quote-free words the
beginning-of-line flag does not matter -/
theorem ruleMatches_to_false {sc : Nat} {bol : Bool} {i : Nat} {w : List Nat}
    (hb : ∀ b ∈ w, b < 256) (hq : 34 ∉ w)
    (h : RuleMatches documented sc bol i w) : RuleMatches documented sc false i w := by
  obtain ⟨rule, h1, hget, ha, hm⟩ := h
  refine ⟨rule, h1, hget, ?_, hm⟩
  have hR := rules_ok
  simp only [rulesOK, Bool.and_eq_true] at hR
  have h2 := allRules_spec hR.1.2 i rule h1 hget
  simp only [Bool.or_eq_true, Bool.not_eq_true'] at h2
  simp only [SpecRule.active, Bool.and_eq_true, Bool.or_eq_true, Bool.not_eq_true'] at ha ⊢
  refine ⟨ha.1, .inl ?_⟩
  rcases h2 with h2 | h2
  · exact h2
  · obtain ⟨b, hbw, hmem⟩ := mustContain_spec hm h2
    rw [mem_cQuote b (hb b hbw) hmem] at hbw
    exact (hq hbw).elim

/-- in INITIAL and SINGLE_LINE_COMMENT a lexeme with a newline is one byte long -/
theorem ruleMatches_nl_single {sc : Nat} (hsc : sc = 0 ∨ sc = 1) {bol : Bool} {i : Nat}
    {w : List Nat} (h : RuleMatches documented sc bol i w) (hnl : 10 ∈ w) : w.length = 1 := by
  obtain ⟨rule, h1, hget, ha, hm⟩ := h
  have hR := rules_ok
  simp only [rulesOK, Bool.and_eq_true] at hR
  have h2 := allRules_spec hR.1.1 i rule h1 hget
  have ha' := active_mono ha
  have hmn := mentionsNl_of_matches hm hnl
  rcases hsc with rfl | rfl <;>
  · simp only [ha', hmn, Bool.or_true, Bool.true_or, Bool.not_true, Bool.false_or] at h2
    exact isSingle_length h2 hm

/-- what follows the current line: nothing, or a newline -/
def Follow (t : Bytes) : Prop := t = [] ∨ t.head? = some 10

theorem follow_cases {t : Bytes} (h : Follow t) : t = [] ∨ ∃ m, t = 10 :: m := by
  rcases h with h | h
  · exact .inl h
  · cases t with
    | nil => cases h
    | cons c m =>
      simp only [List.head?_cons, Option.some.injEq] at h
      exact .inr ⟨m, by rw [h]⟩

/-- the unit the next lexeme lies in: the newline itself, or the (non-empty) remainder of the
current line -/
def UnitOK (u t : Bytes) : Prop := u = [10] ∨ (10 ∉ u ∧ Follow t)

theorem selects_within {sc : Nat} (hsc : sc = 0 ∨ sc = 1) {bol : Bool} {u t : Bytes} {r n : Nat}
    (hune : u ≠ []) (hu : UnitOK u t) (h : Selects documented sc bol (u ++ t) r n) :
    n ≤ u.length := by
  apply Nat.le_of_not_lt
  intro hn
  have hle := h.le
  rw [List.length_append] at hle
  have hlen : ((u ++ t).take n).length = n := by
    rw [List.length_take, List.length_append]; omega
  have hnl : 10 ∈ (u ++ t).take n := by
    rw [List.take_append]
    rcases hu with rfl | ⟨_, hf⟩
    · apply List.mem_append_left
      rw [List.take_of_length_le (by simp only [List.length_cons, List.length_nil] at hn ⊢; omega)]
      simp
    · apply List.mem_append_right
      rcases follow_cases hf with rfl | ⟨t', rfl⟩
      · simp only [List.length_nil] at hle; omega
      · obtain ⟨k, hk⟩ : ∃ k, n - u.length = k + 1 := ⟨n - u.length - 1, by omega⟩
        rw [hk, List.take_succ_cons]
        exact List.mem_cons_self ..
  have h1 := ruleMatches_nl_single hsc h.matched hnl
  have hul : 0 < u.length := List.length_pos_iff.mpr hune
  omega

theorem selects_transfer {sc : Nat} {bol : Bool} {u t : Bytes} {r n : Nat}
    (hn : n ≤ u.length) (hq : 34 ∉ u) (hb : ∀ b ∈ u, b < 256)
    (h : Selects documented sc bol (u ++ t) r n) : Selects documented sc false u r n :=
  {
    pos := h.pos
    le := hn
    matched := by
      have := h.matched
      rw [List.take_append_of_le_length hn] at this
      exact ruleMatches_to_false (fun b hb' => hb b (List.mem_of_mem_take hb'))
        (fun hm => hq (List.mem_of_mem_take hm)) this
    longest := by
      intro m hm hle i hmm
      apply h.longest m hm (by rw [List.length_append]; omega) i
      rw [List.take_append_of_le_length hle]
      exact ruleMatches_of_false hmm
    first := by
      intro i hi hmm
      apply h.first i hi
      rw [List.take_append_of_le_length hn]
      exact ruleMatches_of_false hmm }

/-- **Lexemes stay within their line.**  In INITIAL or SINGLE_LINE_COMMENT, at the head of
a quote-free line remainder `u` (or of a newline) the match does not depend on what follows
the line, nor on the beginning-of-line flag. -/
theorem next_unit {sc : Nat} (hsc : sc = 0 ∨ sc = 1) (bol : Bool) {u t : Bytes} (hune : u ≠ [])
    (hu : UnitOK u t) (hq : 34 ∉ u) (hb : ∀ b ∈ u ++ t, b < 256) :
    next T sc bol (u ++ t) = next T sc false u := by
  have hsc5 : sc < 5 := by rcases hsc with rfl | rfl <;> decide
  obtain ⟨r, n, hnext, -⟩ := C18.C18_flex_never_skipped sc hsc5 bol (u ++ t)
    (by intro h; exact hune (List.append_eq_nil_iff.mp h).1) hb
  have hsel := (C18.C18_flex_longest_first sc hsc5 bol (u ++ t) hb r n).mp hnext
  have hbu : ∀ b ∈ u, b < 256 := fun b hb' => hb b (List.mem_append_left _ hb')
  have hsel' := selects_transfer (selects_within hsc hune hu hsel) hq hbu hsel
  rw [hnext, (C18.C18_flex_longest_first sc hsc5 false u hbu r n).mpr hsel']

/-- **What can be matched on a plain line.**  At the head of a non-empty line remainder
without newline, quote and `/*` at its head, some rule with a simple action is selected,
with a non-empty lexeme inside the remainder. -/
theorem next_plain {sc : Nat} (hsc : sc = 0 ∨ sc = 1) {u : Bytes} (hune : u ≠ [])
    (hq : 34 ∉ u) (hc : ¬ [47, 42] <+: u) (hb : ∀ b ∈ u, b < 256) :
    ∃ r n, next T sc false u = some (r, n) ∧ 0 < n ∧ n ≤ u.length ∧
      simpleAct (acts.getD r .unknown) = true := by
  have hsc5 : sc < 5 := by rcases hsc with rfl | rfl <;> decide
  obtain ⟨r, n, hnext, h48⟩ := C18.C18_flex_never_skipped sc hsc5 false u hune hb
  have hsel := (C18.C18_flex_longest_first sc hsc5 false u hb r n).mp hnext
  refine ⟨r, n, hnext, hsel.pos, hsel.le, ?_⟩
  obtain ⟨rule, h1, hget, ha, hm⟩ := hsel.matched
  have hR := rules_ok
  simp only [rulesOK, Bool.and_eq_true] at hR
  have h3 := allRules_spec hR.2 r rule h1 hget
  have hact : (rule.active 0 false || rule.active 1 false) = true := by
    rcases hsc with rfl | rfl <;> simp [ha]
  simp only [hact, Bool.not_true, Bool.false_or, Bool.or_eq_true] at h3
  have hbw : ∀ b ∈ u.take n, b < 256 := fun b hb' => hb b (List.mem_of_mem_take hb')
  rcases h3 with ((h3 | h3) | h3) | h3
  · -- rule 4 would be `/*`
    exfalso
    have hr : r = 4 := Nat.eq_of_beq_eq_true h3
    subst hr
    have : rule = ⟨.cat (.cls cSlash) (.cls cStar), [INITIAL], false⟩ := by
      simp [documented] at hget; exact hget.symm
    subst this
    obtain ⟨x, y, hw, hx, hy⟩ := Rx.matches_cat_iff.mp hm
    obtain ⟨a, rfl, ha'⟩ := Rx.matches_cls_iff.mp hx
    obtain ⟨b, rfl, hb'⟩ := Rx.matches_cls_iff.mp hy
    have ha47 := mem_cSlash a (hbw a (by rw [hw]; simp)) ha'
    have hb42 := mem_cStar b (hbw b (by rw [hw]; simp)) hb'
    subst ha47 hb42
    apply hc
    rw [← List.take_append_drop n u, hw]
    exact ⟨_, rfl⟩
  · -- rule 8 would be a quote
    exfalso
    have hr : r = 8 := Nat.eq_of_beq_eq_true h3
    subst hr
    have : rule = ⟨.cls cQuote, [INITIAL], false⟩ := by
      simp [documented] at hget; exact hget.symm
    subst this
    obtain ⟨a, hw, ha'⟩ := Rx.matches_cls_iff.mp hm
    have ha34 := mem_cQuote a (hbw a (by rw [hw]; simp)) ha'
    subst ha34
    apply hq
    apply List.mem_of_mem_take (i := n)
    rw [hw]; simp
  · exact (h48 (Nat.eq_of_beq_eq_true h3)).elim
  · exact h3

end Libconfig.C10S
