import LibconfigModel.Proofs.C02DenoteSem
import LibconfigModel.Proofs.C09LineSpec
/-
  C09L (the position of the offending token), machinery: a scanner run without include errors
  with the scan state after every token — `C02D.LexAt` / `C02D.InpAt` of
  Proofs/C02DenoteStep.lean for `plain = true`, as an inductive of its own (`LexQ`: the core
  statements of C09L and C10P are stated over it) — and the table facts that say which
  states consult the lookahead before they reduce (an action runs, and an abort happens, in the
  present scan state if the state does not, in the one right after the next token if it does).
-/
namespace Libconfig.C09L
open Libconfig C02P C05P C02C C01PP C02D

/-! ### the remaining input, with positions -/

/-- the scanner, started in `pos ks.length`, delivers the tokens `ks` (the end marker `(0, {})`
included; the empty list says nothing), passing through the states `pos (ks.length - 1)`, …,
`pos 0`; no include error occurs -/
inductive LexQ (E : ParserEnv) (pos : Nat → ScanState) : List (Nat × TokVal) → Prop where
  | nil : LexQ E pos []
  | eof : yylex E.T E.sacts E.w E.ic E.lexFuel (pos 1) = (pos 0, .eof) → LexQ E pos [(0, {})]
  | tok (t : Nat) (v : TokVal) (ks : List (Nat × TokVal)) :
      yylex E.T E.sacts E.w E.ic E.lexFuel (pos (ks.length + 1)) = (pos ks.length, .tok t v) →
      LexQ E pos ks → LexQ E pos ((t, v) :: ks)

/-- the tokens still to be consumed, given the lookahead; the scanner is in the state in which
those not yet fetched are still to come -/
def InpQ (E : ParserEnv) (pos : Nat → ScanState) (la : Lookahead) (sc : ScanState)
    (ks : List (Nat × TokVal)) : Prop :=
  match la with
  | none => sc = pos ks.length ∧ LexQ E pos ks
  | some tv => ∃ ks', ks = tv :: ks' ∧ sc = pos ks'.length ∧ LexQ E pos ks'

theorem LexQ.at {E : ParserEnv} {pos : Nat → ScanState} {ks : List (Nat × TokVal)}
    (h : LexQ E pos ks) : LexAt E true pos ks := by
  induction h with
  | nil => exact .nil
  | eof hy => exact .eof hy
  | tok t v ks hy _ ih => exact .tok t v ks hy ih

theorem lexQ_of_at {E : ParserEnv} {pos : Nat → ScanState} {ks : List (Nat × TokVal)}
    (h : LexAt E true pos ks) : LexQ E pos ks := by
  induction h with
  | nil => exact .nil
  | eof hy => exact .eof hy
  | tok t v ks hy _ ih => exact .tok t v ks hy ih
  | incl _ _ _ _ _ hp => cases hp

theorem inpQ_iff {E : ParserEnv} {pos : Nat → ScanState} {la : Lookahead} {sc : ScanState}
    {ks : List (Nat × TokVal)} : InpQ E pos la sc ks ↔ InpAt E true pos la sc ks := by
  cases la with
  | none => exact ⟨fun h => ⟨h.1, h.2.at⟩, fun h => ⟨h.1, lexQ_of_at h.2⟩⟩
  | some tv =>
    exact ⟨fun ⟨ks', h1, h2, h3⟩ => ⟨ks', h1, h2, h3.at⟩, fun ⟨ks', h1, h2, h3⟩ => ⟨ks', h1, h2, lexQ_of_at h3⟩⟩

/-! ### which states consult the lookahead -/

/-- a state that shifts some token has a row in the action table -/
theorem nn_of_shift {s k : Nat} {a : Int} (h : actAt P s k = some a) :
    P.pact.get s ≠ P.pactNinf := fun hn => by
  rw [actAt_ninf (by rw [hn]; exact beq_self_eq_true _)] at h
  cases h

theorem nn_2 : P.pact.get 2 ≠ P.pactNinf := nn_of_shift sh_2_eof
theorem nn_5 : P.pact.get 5 ≠ P.pactNinf := nn_of_shift sh_5_equals
theorem nn_8 : P.pact.get 8 ≠ P.pactNinf := nn_of_shift val_8.scal.boolean
theorem nn_22 : P.pact.get 22 ≠ P.pactNinf := nn_of_shift sh_22_string
theorem nn_34 : P.pact.get 34 ≠ P.pactNinf := nn_of_shift sh_34_arrayEnd
theorem nn_37 : P.pact.get 37 ≠ P.pactNinf := nn_of_shift sh_37_listEnd
theorem nn_39 : P.pact.get 39 ≠ P.pactNinf := nn_of_shift sh_39_groupEnd

/-- after NAME: `$@1` is run without looking at the next token.  The same holds of the other
default-only states (`DefaultOnly`, `dflt` of Proofs/C01ParseStatic.lean): behind a one-token
scalar (9 … 14) and behind `[`, `(`, `{` (16, 17, 18). -/
theorem ninf_1 : P.pact.get 1 = P.pactNinf := (dflt 1 (r := 11)).ninf

end Libconfig.C09L
