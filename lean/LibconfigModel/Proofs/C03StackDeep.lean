import LibconfigModel.Proofs.C01ParseDeep
/-
  C03S: the exact number of nested lists at which the parser stack is exhausted.

  `C01PP.deep_reaches` shows that `a = ( ( … ( ) … ) )` with 4998 or more nested lists reaches a
  stack of 10000 entries while the parentheses are still being opened (`4 + 2k` entries after the
  `k`-th `(` and its `$@3`).  That bound is not tight: the innermost list costs two MORE entries
  before anything is popped — the empty `value_list_optional` (reduced in state 26 on seeing `)`)
  and the `)` itself —, so the deepest point of `k` nested lists is `2k + 6` entries, and 4997
  nested lists reach 10000 too.  (4996 nested lists need 9998 entries and are accepted: observed
  on the compiled library — grammar.c with `YYDEBUG`, `Stack now …` lines: 9998 entries at most for
  4996 lists, "memory exhausted" for 4997 —, not proved here.)
-/
namespace Libconfig.C03SP

open Libconfig C02P C05P C02C C04R Denote C02D C09L C10Prov Libconfig.C01PP

section
variable {E : ParserEnv} (bufLen : Nat)

/-- the parse of `a = ( ( … ( ) … ) )` with exactly 4997 nested lists reaches a stack of 10000
entries: 9998 after the last `(` and its `$@3`, one more for the empty `value_list_optional`, and
the 10000th for `)` -/
theorem deep_reaches_4997 (hE : Compiled E) {s₀ : ScanState} {ctx₀ : ParseCtx}
    (hlex : LexT E s₀ (tokensOfConfig tk bufLen (deepConfig 4996) ++ [tEOF]))
    (hroot : stripPos ctx₀.cfg.root = { ty := T_GROUP }) (hpar : ctx₀.parent = some [])
    (hstr : ctx₀.str = none) :
    ∃ vv rest' la' sc' ctx', Reaches E ⟨[(0, {})], none, s₀, ctx₀⟩
        ⟨(43, vv) :: rest', la', sc', ctx'⟩ ∧ rest'.length + 1 = 10000 := by
  obtain ⟨pos, o, hinv, hI⟩ := inpI_deep bufLen 4996 hlex (ctx₀ := ctx₀)
  obtain ⟨d, hd⟩ : ∃ d : Nat, d = 4996 := ⟨_, rfl⟩
  rw [← hd, tokens_deep] at hI
  simp only [List.map_cons, List.map_append, List.map_replicate] at hI
  obtain ⟨vv, rest', la', sc', ctx', hR, hlen, hI⟩ := deep_open hE d (by omega) hI hroot hpar
    hstr hinv
  -- the innermost list is empty: `value_list_optional` on seeing `)`
  rw [List.replicate_succ, List.cons_append] at hI
  obtain ⟨la7, sc7, ctx7, vv7, hR7, hI7, _⟩ := hI.reduce0 hE (ctx := ctx') (pushed := []) (p := 26)
    (vp := vv) (rest := rest') rfl rfl (by dep) (by decide)
    (fun k h23 hn => red_26 k h23 (valStart_of_hk h23 hn rfl)) rule_33 rfl go_26_vlo
  -- `)`
  obtain ⟨v8, sc8, ctx8, hR8, -⟩ := hI7.shift hE (v0 := vv7) (rest := (26, vv) :: rest')
    (ctx := ctx7) (it := .listEnd) (k := 16) (by simp only [List.length_cons]; omega) (by decide)
    (fun _ h => h) sh_37_listEnd (by decide)
  refine ⟨_, _, _, _, _, (hR.trans hR7).trans hR8, ?_⟩
  simp only [List.length_cons]
  omega

/-- … so with enough fuel `yyparse` returns "memory exhausted" -/
theorem deep_exhausts_4997 (hE : Compiled E) {s₀ : ScanState} {ctx₀ : ParseCtx}
    (hlex : LexT E s₀ (tokensOfConfig tk bufLen (deepConfig 4996) ++ [tEOF]))
    (hroot : stripPos ctx₀.cfg.root = { ty := T_GROUP }) (hpar : ctx₀.parent = some [])
    (hstr : ctx₀.str = none) :
    ∃ N, ∀ fuel, N ≤ fuel → (yyparse E fuel s₀ ctx₀).2.2 = .exhausted := by
  obtain ⟨vv, rest', la', sc', ctx1, hR, hlen⟩ := deep_reaches_4997 bufLen hE hlex hroot hpar hstr
  obtain ⟨N, hN⟩ := hR.run_total (run_exhausted hE hlen)
  exact ⟨N, fun fuel hfuel => by rw [yyparse_eq_run, hN fuel hfuel]⟩

end

end Libconfig.C03SP
