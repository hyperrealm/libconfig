import LibconfigModel.Proofs.Actions
import LibconfigModel.Proofs.ReadCore
/-
  What a read depends on and what it leaves, above `readCore_eq`: configurations with the same
  `prep` are read alike but for the destructor log; a read that has an outcome keeps it with more
  fuel; a failing parse leaves a message and never touches `errType`.  Also the scanner side: what
  `nextIncludeFile` does to stack and events, and the invariant `NoFile` of a read without a file
  name.
-/
namespace Libconfig.C09P

open Libconfig Libconfig.C03P

theorem prep_congr {c₁ c₂ : Config}
    (h : (c₁.options, c₁.includeDir, c₁.tabWidth, c₁.floatPrecision, c₁.defaultFormat, c₁.hook,
            c₁.destructor, c₁.includeFn) =
         (c₂.options, c₂.includeDir, c₂.tabWidth, c₂.floatPrecision, c₂.defaultFormat, c₂.hook,
            c₂.destructor, c₂.includeFn)) : prep c₁ = prep c₂ := by
  cases c₁; cases c₂
  simp only [Prod.mk.injEq] at h
  simp only [prep, Config.setError, Config.clear, Config.mk.injEq]
  simp [h]

/-! ### the parser never touches `errType` -/

theorem parseOf_errType (w : World) (c0 : Config) (filename : Option Bytes) (inp : Bytes) (fuel : Nat) :
    (parseOf w c0 filename inp fuel).2.1.cfg.errType = c0.errType :=
  (congrArg Config.errType (yyparse_kept _ fuel _ { cfg := c0 }) :)

theorem start_errType (c : Config) (filename : Option Bytes) : (start c filename).errType = ERR_NONE := rfl

/-! ### every `abort` / `exhausted` exit of the parser leaves a message -/

theorem yyerror_isSome (c : ParseCtx) (line : Nat) (text : Bytes) :
    (c.yyerror line text).cfg.errText.isSome = true := by
  unfold ParseCtx.yyerror
  split
  · assumption
  · rfl

theorem runAction_abort (act : ParseAct) (c : ParseCtx) (v : TokVal) (line : Nat)
    (file : Option Bytes) (c' : ParseCtx) (h : runAction act c v line file = .abort c') :
    c'.cfg.errText.isSome = true := by
  have he := runAction_effect c v line file act
  rw [h] at he
  cases he <;> exact yyerror_isSome _ _ _

def Fails (r : ParseResult) : Prop := r = .abort ∨ r = .exhausted

theorem yyparseLoop_text (E : ParserEnv) (fuel : Nat) (stack : List (Nat × TokVal)) (la : Lookahead)
    (s : ScanState) (ctx : ParseCtx) :
    Fails (yyparseLoop E fuel stack la s ctx).2.2 →
      (yyparseLoop E fuel stack la s ctx).2.1.cfg.errText.isSome = true := by
  refine yyparseLoop_ind (K := fun _ => True)
    (Q := fun r => Fails r.2.2 → r.2.1.cfg.errText.isSome = true) (fun X _ => ?_)
    (fun _ _ h => by rcases h with h | h <;> cases h) fuel ⟨stack, la, s, ctx⟩ trivial
  have hs := yystep_spec E X
  generalize yystep E X = o at hs
  cases hs with
  | exhausted | syntaxError => exact fun _ => yyerror_isSome _ _ _
  | abort _ _ _ ha => exact fun _ => runAction_abort _ _ _ _ _ _ ha
  | reduce | shift => trivial
  | _ => exact fun h => by rcases h with h | h <;> cases h

/-! ### scanner invariants -/

/-- outside any named top-level file, a frame is on the include stack only if some file
name was recorded -/
def NoFile (s : ScanState) : Prop := s.topFile = none ∧ (s.filenames = [] → s.stack = [])

theorem nextIncludeFile_shape (w : World) (s : ScanState) (first : Bool) :
    (s.stack = [] ∧ nextIncludeFile w s first = (s, none, false)) ∨
    ∃ f fs cur' ev, s.stack = f :: fs ∧
      (nextIncludeFile w s first).1 =
        { s with stack := { f with cur := cur' } :: fs, events := s.events ++ ev } ∧
      (∀ e ∈ ev, ∀ p, e.path = some p → p ∈ f.files) ∧
      ∀ c, (nextIncludeFile w s first).2.1 = some c → ∃ p, w.open? p = some c := by
  unfold nextIncludeFile
  split
  · rename_i hst; exact .inl ⟨hst, rfl⟩
  rename_i f fs hst
  refine .inr ⟨f, fs, ?_⟩
  extract_lets cur ev
  have hev : ∀ e ∈ ev, ∀ p, e.path = some p → p ∈ f.files := by
    intro e he p hp
    simp only [ev] at he
    split at he
    · cases he
    split at he
    · rename_i q hq
      cases List.mem_singleton.mp he
      cases hp
      exact List.mem_of_getElem? hq
    · cases he
  clear_value ev
  split
  · exact ⟨cur, ev, hst, rfl, hev, nofun⟩
  rename_i p hp
  have hev' : ∀ b, ∀ e ∈ ev ++ [IOEvent.fopen p b], ∀ q, e.path = some q → q ∈ f.files := by
    intro b e he q hq
    rcases List.mem_append.mp he with he | he
    · exact hev e he q hq
    · cases List.mem_singleton.mp he
      cases hq
      exact List.mem_of_getElem? hp
  split
  · rename_i content ho
    exact ⟨cur, _, hst, by rw [List.append_assoc], hev' true, fun c h => by cases h; exact ⟨p, ho⟩⟩
  · exact ⟨cur, _, hst, by rw [List.append_assoc], hev' false, nofun⟩

theorem effect_noFile {T : FlexTables} {acts : List ScanAct} {w : World} {ic : IncludeCfg}
    {s : ScanState} {r : ScanState × Option LexOut} (he : LexEffect T acts w ic s r) (h : NoFile s) :
    NoFile r.1 := by
  -- a frame on the stack means that names were recorded, and names are never dropped
  have stacked : ∀ {f fs}, s.stack = f :: fs → s.filenames ≠ [] :=
    fun hst hf => by have := h.2 hf; rw [hst] at this; cases this
  have named : ∀ {s' : ScanState}, s'.topFile = none → s'.filenames ≠ [] → NoFile s' :=
    fun ht hs => ⟨ht, fun hf => absurd hf hs⟩
  cases he with
  | eof => exact h
  | act _ ha => rw [actOut_frame ha]; exact h
  | inclErr _ _ hm => subst hm; exact h
  | skip => exact h
  | next _ hst hf | stuck _ hst hf | pop _ hst hf =>
    rw [nextIncludeFile_frame hf]; exact named h.1 (stacked hst)
  | push _ _ hm _ _ hne hf =>
    subst hm; rw [nextIncludeFile_frame hf]
    exact named h.1 fun hf => hne (List.append_eq_nil_iff.1 (hf : _ ++ _ = [])).2
  | pushFail _ _ hm _ _ hne hf h3 =>
    subst hm h3; rw [nextIncludeFile_frame hf]
    exact named h.1 fun hf => hne (List.append_eq_nil_iff.1 (hf : _ ++ _ = [])).2

theorem yylex_noFile (T : FlexTables) (acts : List ScanAct) (w : World) (ic : IncludeCfg)
    (fuel : Nat) (s : ScanState) (h : NoFile s) : NoFile (yylex T acts w ic fuel s).1 :=
  yylex_walk NoFile effect_noFile fuel s h

/-! ### consequences for `readCore` -/

theorem parseOf_text (w : World) (c0 : Config) (filename : Option Bytes) (inp : Bytes) (fuel : Nat)
    (h : Fails (parseOf w c0 filename inp fuel).2.2) :
    (parseOf w c0 filename inp fuel).2.1.cfg.errText.isSome = true :=
  yyparseLoop_text _ fuel _ _ _ _ h

theorem parseOf_noFile (w : World) (c0 : Config) (inp : Bytes) (fuel : Nat) :
    NoFile (parseOf w c0 none inp fuel).1 :=
  yyparseLoop_scan _ NoFile (fun s hs => yylex_noFile _ _ _ _ _ s hs) fuel _ _ _ _ ⟨rfl, fun _ => rfl⟩

theorem start_congr {c₁ c₂ : Config} (filename : Option Bytes) (h : prep c₁ = prep c₂) :
    start c₁ filename = start c₂ filename := by
  unfold start; rw [h]

/-- `__config_read` starts from `prep c`; the destructor log is that of the tree that was there
before -/
theorem readCore_congr (w : World) {a b : Config} (filename : Option Bytes) (inp : Bytes)
    (fuel : Nat) (h : prep a = prep b) :
    readCore w a filename inp fuel =
      { readCore w b filename inp fuel with dtorLog := (readCore w a filename inp fuel).dtorLog } := by
  rw [readCore_eq, readCore_eq, start_congr filename h]
  rfl

/-- … and so through every entry point, unless the file does not open: then only the error
record is written, the same in both -/
theorem read_congr (w : World) {a b : Config} (src : Source) (fuel : Nat) (h : prep a = prep b) :
    (∃ p, src = .file p ∧ w.open? p = none ∧
      read w a src fuel = noOpen a p ∧ read w b src fuel = noOpen b p) ∨
    read w a src fuel = { read w b src fuel with dtorLog := (read w a src fuel).dtorLog } := by
  cases src with
  | string s => exact .inr (readCore_congr w none _ fuel h)
  | stream s => exact .inr (readCore_congr w none s fuel h)
  | file path =>
    simp only [read]
    cases hw : w.open? path with
    | none => exact .inl ⟨path, rfl, hw, rfl, rfl⟩
    | some content =>
      refine .inr ?_
      dsimp only
      rw [readCore_congr w (some path) content fuel h]

theorem read_file (w : World) (c : Config) (path content : Bytes) (fuel : Nat)
    (h : w.open? path = some content) :
    read w c (.file path) fuel =
      { readCore w c (some path) content fuel with
        events := [.fopen path true] ++ (readCore w c (some path) content fuel).events ++
          [.fclose path] } := by
  unfold read
  simp only [h]

theorem readCore_parse (w : World) (c : Config) (filename : Option Bytes) (inp : Bytes)
    (fuel : Nat) :
    ∃ s' ctx' r, parseOf w (start c filename) filename inp fuel = (s', ctx', r) ∧
      (readCore w c filename inp fuel).result = r ∧
      (readCore w c filename inp fuel).ok = (r == .accept) ∧
      (readCore w c filename inp fuel).cfg = finish (s', ctx', r) :=
  ⟨_, _, _, rfl, readCore_result .., readCore_ok .., readCore_cfg ..⟩

/-! ### more fuel -/

theorem parseOf_mono (w : World) (c0 : Config) (filename : Option Bytes) (inp : Bytes)
    {fuel fuel' : Nat} (h : (parseOf w c0 filename inp fuel).2.2 ≠ .outOfFuel) (hle : fuel ≤ fuel') :
    parseOf w c0 filename inp fuel' = parseOf w c0 filename inp fuel :=
  yyparseLoop_mono (theEnv w c0 fuel) hle fuel (initial _ _) h fuel' hle

theorem readCore_mono (w : World) (c : Config) (filename : Option Bytes) (inp : Bytes)
    {fuel fuel' : Nat} (h : (readCore w c filename inp fuel).result ≠ .outOfFuel)
    (hle : fuel ≤ fuel') : readCore w c filename inp fuel' = readCore w c filename inp fuel := by
  rw [readCore_result] at h
  rw [readCore_eq, readCore_eq, parseOf_mono w _ filename inp h hle]

/-- Above a fuel with which a read has an outcome, the fuel of the model is not observable,
whatever the source, the world and the include files. -/
theorem read_mono (w : World) (c : Config) (src : Source) {fuel fuel' : Nat}
    (h : (read w c src fuel).result ≠ .outOfFuel) (hle : fuel ≤ fuel') :
    read w c src fuel' = read w c src fuel := by
  cases src with
  | string b => exact readCore_mono w c none _ h hle
  | stream b => exact readCore_mono w c none b h hle
  | file path =>
    cases ho : w.open? path with
    | none => simp only [read, ho]
    | some content =>
      rw [read_file w c path content fuel ho] at h
      rw [read_file w c path content fuel ho, read_file w c path content fuel' ho,
        readCore_mono w c (some path) content h hle]

end Libconfig.C09P
