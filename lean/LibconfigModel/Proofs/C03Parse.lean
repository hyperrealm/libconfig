import LibconfigModel.Proofs.ParserLoop
/-
  Helper lemmas for property C03, parser half, read off the exits of one iteration
  (`Step`, Proofs/ParserLoop.lean): the stack bound; where `crash`, `.outOfFuel` and `.echo`
  can come from.
-/
namespace Libconfig.C03P

open Libconfig

/-! ### the stack bound -/

/-- a step that continues was taken below the limit and grows the stack by at most one entry;
the new stack is not empty -/
theorem yystep_stack (E : ParserEnv) (X Y : PState) (h : yystep E X = .inr Y) :
    X.stack.length < E.P.maxDepth ∧ Y.stack.length ≤ X.stack.length + 1 ∧ Y.stack ≠ [] := by
  have hs := yystep_spec E X
  rw [h] at hs
  cases hs with
  | reduce hl =>
    refine ⟨hl.lt, ?_, List.cons_ne_nil _ _⟩
    simp only [List.length_cons, List.length_drop]
    omega
  | shift hl => exact ⟨hl.lt, Nat.le_refl _, List.cons_ne_nil _ _⟩

/-- reaching the limit ends the parse: `yyexhaustedlab` -/
theorem yystep_limit (E : ParserEnv) (X : PState) (hne : X.stack ≠ [])
    (h : E.P.maxDepth ≤ X.stack.length) :
    yystep E X = .inl (X.s, X.ctx.yyerror X.s.buf.lineno Generated.ERR_EXHAUSTED, .exhausted) := by
  rcases X with ⟨stack, la, s, ctx⟩
  rcases stack with _ | ⟨⟨state, v0⟩, tail⟩
  · exact (hne rfl).elim
  unfold yystep
  dsimp -zeta only
  extract_lets P
  exact if_pos h

theorem reach_stack (E : ParserEnv) (s : ScanState) (ctx : ParseCtx) (X : PState)
    (h : Reach E (initial s ctx) X) : X.stack ≠ [] ∧ X.stack.length ≤ max 1 E.P.maxDepth := by
  induction h with
  | refl => exact ⟨by simp [initial], by simp [initial]; omega⟩
  | step _ hs ih =>
    obtain ⟨hlt, hle, hne⟩ := yystep_stack E _ _ hs
    refine ⟨hne, ?_⟩
    omega

/-- conversely `.exhausted` is reported only at the limit -/
theorem yystep_exhausted (E : ParserEnv) (X : PState) (s : ScanState) (ctx : ParseCtx)
    (h : yystep E X = .inl (s, ctx, .exhausted)) : E.P.maxDepth ≤ X.stack.length := by
  have hs := yystep_spec E X
  rw [h] at hs
  cases hs with
  | exhausted _ hge => exact hge

/-! ### where `crash` comes from -/

/-- A step ends in `crash` only if the stack is empty (never, by `reach_stack`) or a semantic
action reported it (`runAction` on an `.unknown` action, or on a NULL `ctx->setting` /
`ctx->parent`); the skeleton itself has no other crashing exit. -/
theorem yystep_crash (E : ParserEnv) (X : PState) (s : ScanState) (ctx : ParseCtx)
    (h : yystep E X = .inl (s, ctx, .crash)) :
    X.stack = [] ∨ ∃ rule c v line file, runAction (E.acts.getD rule .unknown) c v line file = .crash ctx := by
  have hs := yystep_spec E X
  rw [h] at hs
  cases hs with
  | empty h0 => exact .inl h0
  | crash _ _ _ ha => exact .inr ⟨_, _, _, _, _, ha⟩

/-- a step reports `.outOfFuel` or `.echo` only when `yylex` did -/
theorem yystep_lex (E : ParserEnv) (X : PState) (s : ScanState) (ctx : ParseCtx) (r : ParseResult)
    (h : yystep E X = .inl (s, ctx, r)) :
    (r = .outOfFuel → X.la = none ∧ yylex E.T E.sacts E.w E.ic E.lexFuel X.s = (s, .outOfFuel)) ∧
    (∀ b, r = .echo b → X.la = none ∧ yylex E.T E.sacts E.w E.ic E.lexFuel X.s = (s, .echo b)) := by
  have hs := yystep_spec E X
  rw [h] at hs
  cases hs with
  | echo _ hla hy => exact ⟨nofun, fun _ hb => by cases hb; exact ⟨hla, hy⟩⟩
  | fuel _ hla hy => exact ⟨fun _ => ⟨hla, hy⟩, nofun⟩
  | _ => exact ⟨nofun, nofun⟩

end Libconfig.C03P
