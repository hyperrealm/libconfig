import LibconfigModel.Proofs.C01IdemSciIdem
import LibconfigModel.Proofs.C01IdemTree
/-
  C01 idempotence (scientific notation) — the float condition of the tree lemma, discharged for
  `%.{p}g`: finite floats that are normal or zero at precisions up to 15, finite floats at
  precisions from 17 to 70.
-/
namespace Libconfig.C01I
open Libconfig F64 C01P C01L

/-- the condition on one float value under scientific notation with precision `p`: finite, and
normal or zero unless at least 17 digits are written -/
def sciFloatOK (p : Nat) (b : Nat) : Bool :=
  isFinite b && (decide (17 ≤ p) || (decide (p ≤ 15) && (expField b != 0 || mant b == 0)))

theorem floatIdem_sci (c : Config) (b : Nat) (hsci : c.opt OPT_SCIENTIFIC = true)
    (hp : c.floatPrecision ≤ 70) (h : sciFloatOK c.floatPrecision b = true) :
    floatIdem 341 c b = true := by
  unfold sciFloatOK at h
  simp only [Bool.and_eq_true, Bool.or_eq_true, decide_eq_true_eq, bne_iff_ne, ne_eq,
    beq_iff_eq] at h
  unfold floatIdem
  rw [hsci, formatDouble_idem_sci b _ h.1 hp (by
    rcases h.2 with h17 | ⟨h15, hn⟩
    · exact .inr (.inl h17)
    · exact .inl ⟨h15, hn⟩)]
  exact beq_self_eq_true _

end Libconfig.C01I

