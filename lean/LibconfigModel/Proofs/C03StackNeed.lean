import LibconfigModel.Proofs.C03StackSeeded
/-
  C03S, "only as large as needed": the stacks are extended only when the block in
  use has been filled.  `hwmOf` reads the deepest stack so far off the log (every entry is
  created by a store `*yyssp = …` into slot `idx`, which makes `idx + 1` entries); the invariant
  `Need`: the block allocated last was allocated because a stack of `YYINITDEPTH · 2^(k-1)`
  entries — the whole previous block — had been reached.
-/
namespace Libconfig.C03SP

open Libconfig Libconfig.BisonStack

variable {V : Type}

/-- the largest number of entries the stacks ever held, according to the log -/
def hwmOf : List Access → Nat
  | [] => 0
  | .storeS _ _ idx :: log => max (idx + 1) (hwmOf log)
  | _ :: log => hwmOf log

theorem hwmOf_cons_le (a : Access) (log : List Access) : hwmOf log ≤ hwmOf (a :: log) := by
  cases a <;> simp only [hwmOf, Nat.le_refl]
  exact Nat.le_max_right _ _

theorem hwmOf_append_le (new log : List Access) : hwmOf log ≤ hwmOf (new ++ log) := by
  induction new with
  | nil => exact Nat.le_refl _
  | cons a new ih => exact Nat.le_trans ih (hwmOf_cons_le a _)

theorem hwmOf_mem (b : Blk) (cap idx : Nat) : ∀ (log : List Access), .storeS b cap idx ∈ log →
    idx + 1 ≤ hwmOf log := by
  intro log
  induction log with
  | nil => intro h; cases h
  | cons a log ih =>
    intro h
    rcases List.mem_cons.mp h with rfl | h
    · exact Nat.le_max_left _ _
    · exact Nat.le_trans (ih h) (hwmOf_cons_le a log)

/-- the newest block was needed -/
def Need (P : Params) (s : State V) : Prop :=
  s.nextId = 0 ∨ P.I * 2 ^ (s.nextId - 1) ≤ hwmOf s.log

/-- steps that leave `nextId` alone and only add to the log keep `Need` -/
theorem need_mono (P : Params) (s t : State V) (h : Need P s)
    (ht : t.nextId = s.nextId ∧ ∃ new, t.log = new ++ s.log) : Need P t := by
  obtain ⟨h1, new, h2⟩ := ht
  unfold Need at h ⊢
  rw [h1, h2]
  exact h.imp_right fun h => Nat.le_trans h (hwmOf_append_le new s.log)

theorem setState_need (P : Params) (hP : P.OK) (st : Nat) (ok : Bool) (t : State V) (h : Pre P t)
    (hn : Need P t) : Need P (setState P st ok t) := by
  have hs : Need P (stored st t) := need_mono P t _ hn ⟨rfl, [_], rfl⟩
  rcases setState_out P hP st ok t h.room with ⟨-, e⟩ | ⟨heq, hM, -, e⟩ | ⟨u, -, -, hu, e⟩ <;> rw [e]
  · exact hs
  · right
    show P.I * 2 ^ (t.nextId + 1 - 1) ≤ hwmOf (grown P st t).log
    rw [Nat.add_sub_cancel]
    have hsz := h.size
    have h2 : P.I * 2 ^ t.nextId = t.ssp + 1 := by
      have : min (P.I * 2 ^ t.nextId) P.M < P.M := by rw [← hsz]; exact hM
      omega
    rw [h2]
    apply hwmOf_mem t.loc t.ss.length t.ssp
    simp [grown, relocated, stored]
  · refine need_mono P u _ ?_ (returnLab_frame ..)
    rcases hu with rfl | rfl
    · exact hs
    · exact need_mono P _ (failed P st t) hs ⟨rfl, [_], rfl⟩

theorem step_need (P : Params) (hP : P.OK) (s : State V) (e : Event V) (h : Inv P s)
    (hn : Need P s) : Need P (step P s e) := by
  have hmv {t : State V} (hm : Move s t) : Need P t :=
    need_mono P s t hn ⟨hm.nextId, hm.log.imp fun _ h => h.1⟩
  rcases step_shape P s e h with
    ⟨-, ⟨st, ok, t, e, ht, hm⟩ | ⟨r, len, u, e, -, -, -, hm⟩ | e | ⟨-, hm⟩⟩ | e
  · rw [e]; exact setState_need P hP st ok t ht (hmv hm)
  · rw [e]; exact need_mono P u _ (hmv hm) (returnLab_frame ..)
  · rw [e]; exact need_mono P s _ hn ⟨rfl, [], rfl⟩
  · exact hmv hm
  · rw [e]; exact hn

theorem run_need (P : Params) (hP : P.OK) : ∀ (es : List (Event V)) (s : State V), Inv P s →
    Need P s → Need P (run P es s)
  | [], _, _, hn => hn
  | e :: es, s, h, hn =>
    run_need P hP es (step P s e) (step_inv P hP s e h) (step_need P hP s e h hn)

theorem init_need (P : Params) (hP : P.OK) (ok : Bool) : Need P (init P ok : State V) :=
  setState_need P hP 0 ok _ (pre_start P hP) (.inl rfl)

/-- **Only as large as needed**: while the parser runs, `yystacksize` is `YYINITDEPTH`, or at most
twice the deepest stack so far. -/
theorem size_needed (P : Params) (s : State V) (h : Inv P s) (hn : Need P s)
    (hr : s.status = .running) : s.stacksize ≤ max P.I (2 * hwmOf s.log) := by
  rw [h.size hr]
  cases hk : s.nextId with
  | zero =>
    simp only [Nat.pow_zero, Nat.mul_one]
    omega
  | succ k =>
    have h1 : P.I * 2 ^ k ≤ hwmOf s.log := by
      rcases hn with h0 | h1
      · rw [hk] at h0; cases h0
      · rw [hk, Nat.add_sub_cancel] at h1; exact h1
    have e : P.I * 2 ^ (k + 1) = 2 * (P.I * 2 ^ k) := by rw [Nat.pow_succ]; ac_rfl
    rw [e]
    omega

end Libconfig.C03SP
