import LibconfigModel.Proofs.C02Static
import LibconfigModel.Proofs.ParserLoop
/-
  What the edge certificate (`C02P.staticOK`) says about a run of `yyparseLoop`: the state stack
  is a path of certificate edges from state 0 (`StackPath`), a shift pushes an edge into a state
  accessed by the token's kind (`StackPath.shift`), a reduction finds its right-hand side spelled
  by the accessing symbols of the entries it pops and pushes the goto edge of the entry it
  uncovers (`StackPath.reduce`).  Soundness (C02), the states in range (C03), termination and
  no-underflow (C03T) and the `$@1` argument of C04R are invariants on top of this one.
-/
namespace Libconfig.C02P
open Libconfig Grammar C03P

/-! ### Boolean helpers -/

theorem edgeB_mem {ed : List (Nat × Nat)} {p q : Nat} (h : edgeB ed p q = true) : (p, q) ∈ ed := by
  unfold edgeB at h
  rw [List.any_eq_true] at h
  obtain ⟨⟨a, b⟩, he, h2⟩ := h
  rw [Bool.and_eq_true] at h2
  have h3 : a = p := Nat.eq_of_beq_eq_true h2.1
  have h4 : b = q := Nat.eq_of_beq_eq_true h2.2
  subst h3; subst h4; exact he

theorem all_pred {ed : List (Nat × Nat)} {s : Nat} {f : Nat → Bool}
    (h : (ed.all fun e => !(Nat.beq e.2 s) || f e.1) = true) {p : Nat} (hp : (p, s) ∈ ed) :
    f p = true := by
  exact of_not_beq_or (List.all_eq_true.mp h _ hp)

/-! ### the facts established by the static check -/

/-- `staticOK P ed` as propositions.  `st` is read by `reduceBy_ruleOK` and `action_shiftOK` for the
action the loop takes. -/
structure Facts (P : LalrTables) (ed : List (Nat × Nat)) : Prop where
  ntok : P.ntokens = 23
  final_ne : P.final ≠ 0
  zero_lt : 0 < P.nstates
  ed_ok : ∀ p q, (p, q) ∈ ed → q ≠ 0 ∧ p < P.nstates ∧ q < P.nstates
  tr : ∀ i, i ≤ P.maxutok → (P.translate.get i).toNat < P.ntokens
  st : ∀ s, s < P.nstates → s ≠ P.final → stateOK P ed s = true

theorem facts_of_static {P : LalrTables} {ed : List (Nat × Nat)} (h : staticOK P ed = true) :
    Facts P ed := by
  simp only [staticOK, Bool.and_eq_true, allBelow_iff, List.all_eq_true, Nat.beq_eq,
    Nat.blt_eq, Bool.not_eq_true', Bool.or_eq_true, Nat.lt_succ_iff] at h
  obtain ⟨⟨⟨⟨⟨h1, h2⟩, h3⟩, h4⟩, h5⟩, h6⟩ := h
  exact ⟨h1, Nat.ne_of_beq_eq_false h2, h3,
    fun p q hpq => ⟨Nat.ne_of_beq_eq_false (h4 _ hpq).1.1, (h4 _ hpq).1.2, (h4 _ hpq).2⟩,
    h5, fun s hs hne => (h6 s hs).resolve_left hne⟩

theorem translateTok_lt {P : LalrTables} {ed : List (Nat × Nat)} (F : Facts P ed) (t : Nat) :
    translateTok P t < P.ntokens :=
  translateTok_lt_of (by rw [F.ntok]; decide) F.tr t

/-! ### from the dynamic description of an action to the static checks -/

theorem actAt_of_action {P : LalrTables} {s tok : Nat} {a : Int} (h : Action P s tok a) :
    actAt P s tok = some a := by
  obtain ⟨hp, h0, hl, hc, rfl⟩ := h
  unfold actAt
  simp only
  rw [if_neg (by simpa using hp), if_neg]
  simp only [Bool.or_eq_true, decide_eq_true_eq, bne_iff_ne, ne_eq, not_or, Int.not_lt,
    Decidable.not_not]
  exact ⟨⟨h0, hl⟩, hc⟩

theorem reduceBy_ruleOK {P : LalrTables} {ed : List (Nat × Nat)} (F : Facts P ed) {s rule : Nat}
    (hs : s < P.nstates) (hne : s ≠ P.final) (h : ReduceBy P s rule) : ruleOK P ed s rule = true := by
  have hst := F.st s hs hne
  unfold stateOK at hst
  simp only [Bool.and_eq_true, Bool.or_eq_true] at hst
  rcases h with ⟨rfl, h0⟩ | ⟨t, a, hact, hle, hn, rfl⟩
  · rcases hst.1 with h1 | h1
    · exact absurd (Nat.eq_of_beq_eq_true h1) h0
    · exact h1
  · have hent := allBelow_spec hst.2 _ (translateTok_lt F t)
    unfold entryOK at hent
    rw [actAt_of_action hact] at hent
    simp only at hent
    rw [if_pos hle] at hent
    simp only [Bool.or_eq_true] at hent
    rcases hent with h1 | h1
    · exact absurd (by simpa using h1) hn
    · exact h1

theorem action_shiftOK {P : LalrTables} {ed : List (Nat × Nat)} (F : Facts P ed) {s t : Nat}
    {a : Int} (hs : s < P.nstates) (hne : s ≠ P.final) (hact : Action P s (translateTok P t) a)
    (hpos : 0 < a) : shiftOK P ed s (translateTok P t) a.toNat = true := by
  have hst := F.st s hs hne
  unfold stateOK at hst
  simp only [Bool.and_eq_true] at hst
  have hent := allBelow_spec hst.2 _ (translateTok_lt F t)
  unfold entryOK at hent
  rw [actAt_of_action hact] at hent
  simp only at hent
  rw [if_neg (by omega)] at hent
  exact hent

end Libconfig.C02P

namespace Libconfig.C03T
open Libconfig Grammar C03P C02P

/-- the state stack (top first) is a path of certificate edges from state 0 at the bottom -/
inductive StackPath (ed : List (Nat × Nat)) : List (Nat × TokVal) → Prop where
  | base (v : TokVal) : StackPath ed [(0, v)]
  | push (p q : Nat) (v v' : TokVal) (rest : List (Nat × TokVal)) :
      StackPath ed ((p, v) :: rest) → (p, q) ∈ ed → StackPath ed ((q, v') :: (p, v) :: rest)

theorem StackPath.ne_nil {ed : List (Nat × Nat)} {stack : List (Nat × TokVal)} (h : StackPath ed stack) :
    stack ≠ [] := by
  cases h <;> simp

theorem StackPath.top_lt {P : LalrTables} {ed : List (Nat × Nat)} (F : Facts P ed)
    {stack : List (Nat × TokVal)} (h : StackPath ed stack) : topState stack < P.nstates := by
  cases h with
  | base => exact F.zero_lt
  | push p q v v' rest h0 he => exact (F.ed_ok _ _ he).2.2

theorem StackPath.states {P : LalrTables} {ed : List (Nat × Nat)} (F : Facts P ed)
    {stack : List (Nat × TokVal)} (h : StackPath ed stack) : ∀ e ∈ stack, e.1 < P.nstates := by
  induction h with
  | base v => intro e he; rw [List.mem_singleton.mp he]; exact F.zero_lt
  | push p q v v' rest _ hedge ih =>
    intro e he
    rcases List.mem_cons.mp he with rfl | he
    · exact (F.ed_ok _ _ hedge).2.2
    · exact ih e he

/-- state 0 occurs at the bottom only: no certificate edge leads into it -/
theorem StackPath.bottom {P : LalrTables} {ed : List (Nat × Nat)} (F : Facts P ed) {v : TokVal}
    {rest : List (Nat × TokVal)} (h : StackPath ed ((0, v) :: rest)) : rest = [] := by
  cases h with
  | base => rfl
  | push p _ v0 _ rest0 h0 he => exact absurd rfl (F.ed_ok _ _ he).1

theorem pop_spells {P : LalrTables} {ed : List (Nat × Nat)} {k : Nat → Bool} :
    ∀ (βr : List Nat) (s : Nat) (v : TokVal) (rest : List (Nat × TokVal)),
      StackPath ed ((s, v) :: rest) → spellsRev P ed k βr s = true →
      (((s, v) :: rest).take βr.length).map (fun e => stosN P e.1) = βr ∧
      ∃ p v' rest', ((s, v) :: rest).drop βr.length = (p, v') :: rest' ∧
        StackPath ed ((p, v') :: rest') ∧ k p = true := by
  intro βr
  induction βr with
  | nil =>
    intro s v rest hp hs
    exact ⟨rfl, s, v, rest, rfl, hp, hs⟩
  | cons X βr ih =>
    intro s v rest hp hs
    rw [spellsRev] at hs
    simp only [Bool.and_eq_true] at hs
    obtain ⟨⟨hX, hs0⟩, hall⟩ := hs
    cases hp with
    | base => exact absurd rfl (not_beq hs0)
    | push p _ v0 _ rest0 h0 he =>
      obtain ⟨hsyms, p', v', rest', hd, hpath, hk⟩ := ih p v0 rest0 h0 (all_pred hall he)
      refine ⟨?_, p', v', rest', by simpa using hd, hpath, hk⟩
      rw [List.length_cons, List.take_succ_cons, List.map_cons, hsyms, Nat.eq_of_beq_eq_true hX]

/-- what a reduction by `rule` finds on a certificate path (`syms`: the entries popped spell the
right-hand side) and leaves behind (`below`: the goto of the entry uncovered is a certificate edge) -/
structure Handle (P : LalrTables) (ed : List (Nat × Nat)) (stack : List (Nat × TokVal))
    (rule : Nat) : Prop where
  ge : 1 ≤ rule
  lt : rule < rules.length
  lhs : (P.r1.get rule).toNat = (rules.getD rule (0, [])).1
  syms : (stack.take (P.r2.get rule).toNat).map (fun e => stosN P e.1) =
    (rules.getD rule (0, [])).2.reverse
  below : ∃ p v' rest', stack.drop (P.r2.get rule).toNat = (p, v') :: rest' ∧
    StackPath ed ((p, v') :: rest') ∧ (p, gotoTarget P rule p) ∈ ed ∧
    stosN P (gotoTarget P rule p) = (P.r1.get rule).toNat ∧ gotoTarget P rule p ≠ P.final

theorem StackPath.reduce {P : LalrTables} {ed : List (Nat × Nat)} (F : Facts P ed)
    {stack : List (Nat × TokVal)} (hp : StackPath ed stack) (hne : topState stack ≠ P.final)
    {rule : Nat} (h : ReduceBy P (topState stack) rule) : Handle P ed stack rule := by
  have hr := reduceBy_ruleOK F (hp.top_lt F) hne h
  unfold ruleOK at hr
  simp only [Bool.and_eq_true] at hr
  obtain ⟨⟨⟨⟨hr1, hr2⟩, hlen⟩, hlhs⟩, hsp⟩ := hr
  have hlen := Nat.eq_of_beq_eq_true hlen
  have hlhs := Nat.eq_of_beq_eq_true hlhs
  rcases stack with _ | ⟨⟨s, v⟩, rest⟩
  · exact absurd rfl hp.ne_nil
  obtain ⟨hsyms, p, v', rest', hd, hpath, hk⟩ := pop_spells _ _ _ _ hp hsp
  rw [List.length_reverse, ← hlen] at hd hsyms
  unfold gotoOK at hk
  simp only [Bool.and_eq_true] at hk
  obtain ⟨⟨hedge, hstos⟩, hnf⟩ := hk
  rw [← hlhs] at hedge hstos hnf
  exact ⟨Nat.le_of_ble_eq_true hr1, Nat.le_of_ble_eq_true hr2, hlhs, hsyms, p, v', rest', hd, hpath,
    edgeB_mem hedge, Nat.eq_of_beq_eq_true hstos, not_beq hnf⟩

theorem Handle.path {P : LalrTables} {ed : List (Nat × Nat)} {stack : List (Nat × TokVal)}
    {rule : Nat} (H : Handle P ed stack rule) (yyval : TokVal) :
    StackPath ed ((gotoTarget P rule (topState (stack.drop (P.r2.get rule).toNat)), yyval) ::
      stack.drop (P.r2.get rule).toNat) := by
  obtain ⟨p, v', rest', hd, hpath, hedge, _⟩ := H.below
  rw [hd]
  exact .push _ _ _ _ _ hpath hedge

/-- The end marker is shifted only into the final state, and only when the stack is the bottom
and one entry accessed by `configuration`; no other token is shifted into the final state. -/
theorem StackPath.shift {P : LalrTables} {ed : List (Nat × Nat)} (F : Facts P ed)
    {stack : List (Nat × TokVal)} (hp : StackPath ed stack) (hne : topState stack ≠ P.final)
    {t : Nat} {a : Int} (hact : Action P (topState stack) (translateTok P t) a) (hpos : 0 < a)
    (v : TokVal) :
    StackPath ed ((a.toNat, v) :: stack) ∧ stosN P a.toNat = translateTok P t ∧
    (translateTok P t = 0 → a.toNat = P.final ∧ stosN P (topState stack) = configuration ∧
      ∃ v0 v1, stack = [(topState stack, v0), (0, v1)]) ∧
    (translateTok P t ≠ 0 → a.toNat ≠ P.final) := by
  have hsh := action_shiftOK F (hp.top_lt F) hne hact hpos
  unfold shiftOK at hsh
  simp only [Bool.and_eq_true] at hsh
  obtain ⟨⟨hedge, hstos⟩, hcase⟩ := hsh
  have hedge := edgeB_mem hedge
  refine ⟨?_, Nat.eq_of_beq_eq_true hstos, fun h0 => ?_, fun h0 => ?_⟩
  · rcases hX : stack with _ | ⟨⟨s0, v0⟩, rest⟩
    · exact absurd hX hp.ne_nil
    · rw [hX] at hp hedge
      exact .push _ _ _ _ _ hp hedge
  · rw [h0] at hcase
    simp only [Nat.beq_refl, if_true, Bool.and_eq_true] at hcase
    obtain ⟨⟨⟨hq, hconf⟩, hp0⟩, hall⟩ := hcase
    refine ⟨Nat.eq_of_beq_eq_true hq, Nat.eq_of_beq_eq_true hconf, ?_⟩
    cases hp with
    | base => exact absurd rfl (not_beq hp0)
    | push p _ v1 v0 rest1 h1 he =>
      have hp0 : p = 0 := Nat.eq_of_beq_eq_true (all_pred (f := fun x => Nat.beq x 0) hall he)
      subst hp0
      rw [h1.bottom F]
      exact ⟨v0, v1, rfl⟩
  · rw [if_neg fun h => h0 (Nat.eq_of_beq_eq_true h)] at hcase
    exact not_beq hcase

theorem step_path {E : ParserEnv} {ed : List (Nat × Nat)} (F : Facts E.P ed) {X Y : PState}
    (hp : StackPath ed X.stack) (h : yystep E X = .inr Y) : StackPath ed Y.stack := by
  have hs := yystep_spec E X
  rw [h] at hs
  cases hs with
  | reduce hl _ hrule => exact (hp.reduce F hl.notFinal hrule).path _
  | shift hl _ hact hpos => exact (hp.shift F hl.notFinal hact hpos _).1

theorem reach_path {E : ParserEnv} {ed : List (Nat × Nat)} (F : Facts E.P ed)
    (s : ScanState) (ctx : ParseCtx) (X : PState) (h : Reach E (initial s ctx) X) :
    StackPath ed X.stack := by
  induction h with
  | refl => exact .base _
  | step _ hs ih => exact step_path F ih hs

end Libconfig.C03T
