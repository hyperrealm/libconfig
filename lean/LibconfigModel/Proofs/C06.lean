import LibconfigModel.LookupSpec
import LibconfigModel.WF
import LibconfigModel.Step
import LibconfigModel.Proofs.Digits
/-
  Helper lemmas for property C06 (path lookup); before them, addressing by index path,
  `Node.All`, a property of every setting of a tree, and `C06.Denotes`, the declarative meaning of
  a path that the soundness statements of Properties/C06.lean are phrased with.
-/
namespace Libconfig

theorem get?_nil (n : Node) : n.get? [] = some n := by rw [Node.get?]

theorem get?_cons (n : Node) (i : Nat) (p : Path) :
    n.get? (i :: p) = (n.kids[i]?).bind (fun k => k.get? p) := by
  rw [Node.get?]
  cases n.kids[i]? <;> rfl

/-- `P` holds of every setting of the tree `n`.  `Node.WF` is `All Node.LocalWF`, written out. -/
def Node.All (P : Node → Prop) (n : Node) : Prop := ∀ p m, n.get? p = some m → P m

theorem Node.all_iff {P : Node → Prop} (n : Node) : n.All P ↔ P n ∧ ∀ k ∈ n.kids, k.All P := by
  constructor
  · refine fun h => ⟨h [] n (get?_nil n), fun k hk p m hm => ?_⟩
    obtain ⟨i, hi⟩ := List.getElem?_of_mem hk
    exact h (i :: p) m (by rw [get?_cons, hi]; exact hm)
  · rintro ⟨h0, hk⟩ p m hm
    cases p with
    | nil => rw [get?_nil] at hm; cases hm; exact h0
    | cons i p =>
      rw [get?_cons] at hm
      cases hki : n.kids[i]? with
      | none => rw [hki] at hm; cases hm
      | some k => rw [hki] at hm; exact hk k (List.mem_of_getElem? hki) p m hm

theorem Node.All.child {P : Node → Prop} {n k : Node} {i : Nat} (h : n.All P)
    (hk : n.kids[i]? = some k) : k.All P :=
  ((Node.all_iff n).mp h).2 k (List.mem_of_getElem? hk)

/-! ### `__config_list_search` -/

theorem listSearch_some {ks : List Node} {nm : Bytes} {off j : Nat} {k : Node}
    (h : listSearch ks nm off = some (j, k)) :
    ∃ i, j = off + i ∧ ks[i]? = some k ∧ k.name = some nm := by
  induction ks generalizing off with
  | nil => simp [listSearch] at h
  | cons x xs ih =>
    rw [listSearch] at h
    split at h
    · rename_i hx
      simp only [Option.some.injEq, Prod.mk.injEq] at h
      obtain ⟨rfl, rfl⟩ := h
      exact ⟨0, rfl, rfl, by simpa using hx⟩
    · obtain ⟨i, h1, h2, h3⟩ := ih h
      exact ⟨i + 1, by omega, by simpa using h2, h3⟩

theorem listSearch_none_of_forall (kids : List Node) (nm : Bytes) (i0 : Nat)
    (h : ∀ k ∈ kids, k.name ≠ some nm) : listSearch kids nm i0 = none := by
  induction kids generalizing i0 with
  | nil => simp [listSearch]
  | cons x xs ih =>
    have hx : x.name ≠ some nm := h x (by simp)
    simp only [listSearch]
    rw [if_neg (by simpa using hx)]
    exact ih (i0 + 1) (fun k hk => h k (by simp [hk]))

theorem listSearch_of_nodup {ks : List Node} {nm : Bytes} {off i : Nat} {k : Node}
    (hnd : (ks.map (·.name)).Nodup) (hk : ks[i]? = some k) (hn : k.name = some nm) :
    listSearch ks nm off = some (off + i, k) := by
  induction ks generalizing off i with
  | nil => simp at hk
  | cons x xs ih =>
    rw [listSearch]
    cases i with
    | zero =>
      simp at hk; subst hk
      simp [hn]
    | succ i =>
      simp only [List.getElem?_cons_succ] at hk
      simp only [List.map_cons, List.nodup_cons] at hnd
      have hx : x.name ≠ some nm := by
        intro hx
        apply hnd.1
        rw [hx, ← hn]
        exact List.mem_map.mpr ⟨k, List.mem_of_getElem? hk, rfl⟩
      have : (x.name == some nm) = false := by simpa using hx
      rw [this]
      simp only [Bool.false_eq_true, if_false]
      rw [ih hnd.2 hk]
      congr 2
      omega

end Libconfig

namespace Libconfig.C06

/-- Declarative meaning of a step sequence: each name step is the exact name of a member
of a group, each index step an existing position of an aggregate. -/
inductive Denotes : Node → List PStep → Path → Prop where
  | nil (n : Node) : Denotes n [] []
  | name (n k : Node) (nm : Bytes) (i : Nat) (rest : List PStep) (q : Path) :
      n.ty = T_GROUP → n.kids[i]? = some k → k.name = some nm → Denotes k rest q →
      Denotes n (.name nm :: rest) (i :: q)
  | index (n k : Node) (i : Nat) (rest : List PStep) (q : Path) :
      n.isAggregate = true → n.kids[i]? = some k → Denotes k rest q →
      Denotes n (.index i :: rest) (i :: q)

end Libconfig.C06

namespace Libconfig.C06P
open Digits

/-! ### `lookupFrom` = `resolve` -/

/-- No setting of the tree has a member with the empty name.  The walker searches a group for an
empty component (`a..b`, a trailing separator) like for any other, where the specification
refuses: the two agree only if that search finds nothing (`NoEmpty.search`). -/
def NoEmpty (n : Node) : Prop :=
  ∀ p m, n.get? p = some m → ∀ k ∈ m.kids, k.name ≠ some []

theorem NoEmpty.child {n k : Node} {i : Nat} (h : NoEmpty n) (hk : n.kids[i]? = some k) : NoEmpty k :=
  Node.All.child h hk

theorem NoEmpty.search {n : Node} (h : NoEmpty n) (i0 : Nat) : listSearch n.kids [] i0 = none :=
  listSearch_none_of_forall _ _ _ (h [] n rfl)

/-- The body of the loop, given the text `p1` after the optional separator. -/
def loopBody (fuel : Nat) (cur : Node) (acc : Path) (p1 : Bytes) : Option Path :=
    match p1 with
    | 91 :: r =>
      let (v, used) := strtol10 r
      if used == 0 then none else
      match r.drop used with
      | 93 :: r' =>
        if v < 0 || v > INT_MAX then none else
        match getElem cur v.toNat with
        | none => none
        | some k => lookupLoop fuel k (acc ++ [v.toNat]) r'
      | _ => none
    | _ =>
      if cur.ty == T_GROUP then
        let nm := p1.takeWhile notSep
        let rest := p1.dropWhile notSep
        match listSearch cur.kids nm 0 with
        | none => none
        | some (i, k) => lookupLoop fuel k (acc ++ [i]) rest
      else
        if !p1.isEmpty || acc.isEmpty then none else some acc

theorem lookupLoop_cons (fuel : Nat) (cur : Node) (acc : Path) (c : Nat) (cs : Bytes) :
    lookupLoop (fuel+1) cur acc (c :: cs) = loopBody fuel cur acc (if isPathSep c then cs else c :: cs) := by
  rfl

theorem lookupLoop_nil (fuel : Nat) (cur : Node) (acc : Path) :
    lookupLoop fuel cur acc [] = if acc.isEmpty then none else some acc := by
  cases fuel <;> rfl

/-- the body of `parseSteps`, given the text `p1` after the optional separator -/
def parseBody (fuel : Nat) (p1 : Bytes) : Option (List PStep × Bool) :=
    match p1 with
    | [] => some ([], true)
    | 91 :: r =>
      let (v, used) := strtol10 r
      if used == 0 then none else
      match r.drop used with
      | 93 :: r' =>
        if v < 0 || v > INT_MAX then none else
        (parseSteps fuel r').map fun (steps, t) => (.index v.toNat :: steps, t)
      | _ => none
    | _ =>
      let nm := p1.takeWhile notSep
      if nm.isEmpty then none else
      (parseSteps fuel (p1.dropWhile notSep)).map fun (steps, t) => (.name nm :: steps, t)

theorem parseSteps_cons (fuel : Nat) (c : Nat) (cs : Bytes) :
    parseSteps (fuel+1) (c :: cs) = parseBody fuel (if isPathSep c then cs else c :: cs) := by
  rfl

theorem parseSteps_nil (fuel : Nat) : parseSteps fuel [] = some ([], false) := by
  cases fuel <;> rfl

/-- What `resolve` makes of the steps still to be parsed when the walker stands at `cur` with the
index path `acc` behind it, with `resolve`'s two refusals (the base itself; a trailing separator
below a group). -/
def contSpec (cur : Node) (acc : Path) : Option (List PStep × Bool) → Option Path
  | none => none
  | some (steps, trailing) =>
    match walk cur steps with
    | none => none
    | some (q, m) =>
      if (acc ++ q).isEmpty then none
      else if trailing && m.ty == T_GROUP then none else some (acc ++ q)

/-- `resolve` from the middle of a path: the specification of `lookupLoop fuel cur acc p` -/
def specLoop (fuel : Nat) (cur : Node) (acc : Path) (p : Bytes) : Option Path :=
  contSpec cur acc (parseSteps fuel p)

theorem contSpec_step (cur : Node) (acc : Path) (st : PStep) (o : Option (List PStep × Bool)) :
    contSpec cur acc (o.map fun (steps, t) => (st :: steps, t)) =
      match walkStep cur st with
      | none => none
      | some (i, k) => contSpec k (acc ++ [i]) o := by
  cases o with
  | none => cases walkStep cur st <;> simp [contSpec]
  | some o =>
    obtain ⟨steps, t⟩ := o
    simp only [Option.map_some, contSpec, walk]
    cases walkStep cur st with
    | none => rfl
    | some ik =>
      obtain ⟨i, k⟩ := ik
      simp only
      cases walk k steps with
      | none => rfl
      | some qm =>
        obtain ⟨q, m⟩ := qm
        simp


theorem loopBody_nil (fuel : Nat) (cur : Node) (acc : Path) :
    loopBody fuel cur acc [] =
      if cur.ty == T_GROUP then
        match listSearch cur.kids [] 0 with
        | none => none
        | some (i, k) => lookupLoop fuel k (acc ++ [i]) []
      else if acc.isEmpty then none else some acc := by
  simp [loopBody]

theorem loopBody_name (fuel : Nat) (cur : Node) (acc : Path) (x : Nat) (r : Bytes) (hx : x ≠ 91) :
    loopBody fuel cur acc (x :: r) =
      if cur.ty == T_GROUP then
        match listSearch cur.kids ((x :: r).takeWhile notSep) 0 with
        | none => none
        | some (i, k) => lookupLoop fuel k (acc ++ [i]) ((x :: r).dropWhile notSep)
      else none := by
  unfold loopBody
  split
  · rename_i h; cases h; exact absurd rfl hx
  · simp

theorem parseBody_name (fuel : Nat) (x : Nat) (r : Bytes) (hx : x ≠ 91) :
    parseBody fuel (x :: r) =
      if ((x :: r).takeWhile notSep).isEmpty then none else
      (parseSteps fuel ((x :: r).dropWhile notSep)).map fun (steps, t) =>
        (.name ((x :: r).takeWhile notSep) :: steps, t) := by
  unfold parseBody
  split
  · rename_i h; cases h
  · rename_i h; cases h; exact absurd rfl hx
  · rfl

theorem loopBody_idx (fuel : Nat) (cur : Node) (acc : Path) (r : Bytes) :
    loopBody fuel cur acc (91 :: r) =
      if (strtol10 r).2 == 0 then none else
      match r.drop (strtol10 r).2 with
      | 93 :: r' =>
        if (strtol10 r).1 < 0 || (strtol10 r).1 > INT_MAX then none else
        match getElem cur (strtol10 r).1.toNat with
        | none => none
        | some k => lookupLoop fuel k (acc ++ [(strtol10 r).1.toNat]) r'
      | _ => none := by
  rfl

theorem parseBody_idx (fuel : Nat) (r : Bytes) :
    parseBody fuel (91 :: r) =
      if (strtol10 r).2 == 0 then none else
      match r.drop (strtol10 r).2 with
      | 93 :: r' =>
        if (strtol10 r).1 < 0 || (strtol10 r).1 > INT_MAX then none else
        (parseSteps fuel r').map fun (steps, t) => (.index (strtol10 r).1.toNat :: steps, t)
      | _ => none := by
  rfl

/-- `loopBody` and `parseBody` branch alike on the text (`[`, a name, the end); in each branch
`contSpec_step` turns the step `parseBody` has just parsed into the move the walker makes. -/
theorem loop_eq_spec (fuel : Nat) : ∀ (cur : Node) (acc : Path) (p : Bytes), NoEmpty cur →
    lookupLoop fuel cur acc p = specLoop fuel cur acc p := by
  induction fuel with
  | zero =>
    intro cur acc p _
    cases p with
    | nil => simp [lookupLoop_nil, specLoop, contSpec, parseSteps_nil, walk]
    | cons c cs => simp [lookupLoop, specLoop, contSpec, parseSteps]
  | succ fuel ih =>
    intro cur acc p hne
    cases p with
    | nil => simp [lookupLoop_nil, specLoop, contSpec, parseSteps_nil, walk]
    | cons c cs =>
      rw [lookupLoop_cons, specLoop, parseSteps_cons]
      generalize (if isPathSep c then cs else c :: cs) = p1
      cases p1 with
      | nil =>
        rw [loopBody_nil, hne.search]
        simp only [parseBody, contSpec, walk, List.append_nil, Bool.true_and]
        by_cases hg : (cur.ty == T_GROUP) = true <;> by_cases ha : acc.isEmpty = true <;> simp [hg, ha]
      | cons x r =>
        by_cases hx : x = 91
        · subst hx
          rw [loopBody_idx, parseBody_idx]
          split
          · rfl
          · split
            · split
              · rfl
              · rw [contSpec_step]
                simp only [walkStep, getElem]
                by_cases hagg : cur.isAggregate = true
                · simp only [hagg, if_true]
                  cases hk : cur.kids[(strtol10 r).1.toNat]? with
                  | none => rfl
                  | some k =>
                    simp only [Option.map_some]
                    exact ih _ _ _ (hne.child hk)
                · simp only [hagg]; rfl
            · rfl
        · rw [loopBody_name _ _ _ _ _ hx, parseBody_name _ _ _ hx]
          generalize (x :: r).takeWhile notSep = nm
          generalize (x :: r).dropWhile notSep = rest
          by_cases hnm : nm.isEmpty = true
          · have : nm = [] := by simpa using hnm
            subst this
            simp [hne.search, contSpec]
          · rw [if_neg hnm, contSpec_step]
            simp only [walkStep]
            split
            · cases hs : listSearch cur.kids nm 0 with
              | none => rfl
              | some ik =>
                obtain ⟨i, k⟩ := ik
                obtain ⟨j, _, hk, _⟩ := listSearch_some hs
                exact ih _ _ _ (hne.child hk)
            · rfl

theorem walk_length : ∀ (steps : List PStep) (n : Node) (q : Path) (m : Node),
    walk n steps = some (q, m) → q.length = steps.length := by
  intro steps
  induction steps with
  | nil => intro n q m h; simp [walk] at h; simp [h.1]
  | cons st rest ih =>
    intro n q m h
    simp only [walk] at h
    split at h
    · cases h
    · rename_i i k _
      cases hw : walk k rest with
      | none => simp [hw] at h
      | some qm =>
        obtain ⟨q', m'⟩ := qm
        simp only [hw, Option.map_some, Option.some.injEq, Prod.mk.injEq] at h
        obtain ⟨rfl, rfl⟩ := h
        simp [ih k q' m' hw]

theorem lookupFrom_eq_resolve (n : Node) (h : NoEmpty n) (path : Bytes) :
    lookupFrom n path = resolve n path := by
  rw [lookupFrom, loop_eq_spec _ _ _ _ h, specLoop, resolve]
  cases parseSteps (path.length + 1) path with
  | none => rfl
  | some st =>
    obtain ⟨steps, t⟩ := st
    simp only [contSpec, List.nil_append]
    cases hw : walk n steps with
    | none => simp
    | some qm =>
      obtain ⟨q, m⟩ := qm
      have hl := walk_length _ _ _ _ hw
      have : q.isEmpty = steps.isEmpty := by
        cases q <;> cases steps <;> simp_all
      simp [this]

/-! ### soundness -/

theorem walk_denotes : ∀ (steps : List PStep) (n : Node) (q : Path) (m : Node),
    walk n steps = some (q, m) → C06.Denotes n steps q ∧ n.get? q = some m := by
  intro steps
  induction steps with
  | nil =>
    intro n q m h
    simp only [walk, Option.some.injEq, Prod.mk.injEq] at h
    obtain ⟨rfl, rfl⟩ := h
    exact ⟨.nil _, rfl⟩
  | cons st rest ih =>
    intro n q m h
    simp only [walk] at h
    cases hs : walkStep n st with
    | none => simp [hs] at h
    | some ik =>
      obtain ⟨i, k⟩ := ik
      simp only [hs] at h
      cases hw : walk k rest with
      | none => simp [hw] at h
      | some qm =>
        obtain ⟨q', m'⟩ := qm
        simp only [hw, Option.map_some, Option.some.injEq, Prod.mk.injEq] at h
        obtain ⟨rfl, rfl⟩ := h
        obtain ⟨hd, hg⟩ := ih k q' m' hw
        cases st with
        | name nm =>
          simp only [walkStep] at hs
          split at hs
          · rename_i hty
            obtain ⟨j, hj, hk, hn⟩ := listSearch_some hs
            have : i = j := by omega
            subst this
            refine ⟨.name n k nm i rest q' (by simpa using hty) hk hn hd, ?_⟩
            simp [Node.get?, hk, hg]
          · cases hs
        | index j =>
          simp only [walkStep] at hs
          split at hs
          · rename_i hagg
            cases hk : n.kids[j]? with
            | none => simp [hk] at hs
            | some k' =>
              simp only [hk, Option.map_some, Option.some.injEq, Prod.mk.injEq] at hs
              obtain ⟨rfl, rfl⟩ := hs
              refine ⟨.index n k' j rest q' hagg hk hd, ?_⟩
              simp [Node.get?, hk, hg]
          · cases hs

theorem sound_walk (n : Node) (hn : NoEmpty n) (path : Bytes) (q : Path)
    (h : lookupFrom n path = some q) :
    ∃ steps trailing m, parseSteps (path.length + 1) path = some (steps, trailing) ∧ steps ≠ [] ∧
      walk n steps = some (q, m) ∧ q ≠ [] := by
  rw [lookupFrom_eq_resolve n hn, resolve] at h
  cases hp : parseSteps (path.length + 1) path with
  | none => simp [hp] at h
  | some st =>
    obtain ⟨steps, t⟩ := st
    simp only [hp] at h
    split at h
    · cases h
    · rename_i hse
      cases hw : walk n steps with
      | none => simp [hw] at h
      | some qm =>
        obtain ⟨q', m⟩ := qm
        simp only [hw] at h
        split at h
        · cases h
        · simp only [Option.some.injEq] at h
          subst h
          have hl := walk_length _ _ _ _ hw
          refine ⟨steps, t, m, rfl, ?_, hw, ?_⟩
          · simpa using hse
          · intro hq; subst hq; cases steps <;> simp_all

/-! ### decimal rendering and `strtol` -/

theorem isDigit_not_space (c : Nat) (h : isDigit c = true) : isSpace c = false := by
  simp only [isDigit, Bool.and_eq_true, decide_eq_true_eq] at h
  simp only [isSpace, Bool.or_eq_false_iff, Bool.and_eq_false_iff, decide_eq_false_iff_not, beq_eq_false_iff_ne]
  omega

theorem strtol10_digits (ds rest : Bytes) (hne : ds ≠ []) (hd : ∀ c ∈ ds, isDigit c = true)
    (hmax : (digitsVal 10 ds : Int) ≤ INT_MAX) :
    strtol10 (ds ++ 93 :: rest) = ((digitsVal 10 ds : Int), ds.length) := by
  cases ds with
  | nil => exact absurd rfl hne
  | cons d ds' =>
    have hdd : isDigit d = true := hd d (by simp)
    have hsp : isSpace d = false := isDigit_not_space d hdd
    have htw : List.takeWhile isDigit (d :: (ds' ++ 93 :: rest)) = d :: ds' := by
      rw [← List.cons_append, List.takeWhile_append_of_pos hd]
      simp [List.takeWhile, isDigit]
    have h1 : ¬ ((digitsVal 10 (d :: ds') : Int) > LLONG_MAX) := by
      simp only [INT_MAX, LLONG_MAX] at *; omega
    have h2 : ¬ ((digitsVal 10 (d :: ds') : Int) < LLONG_MIN) := by
      simp only [LLONG_MIN] at *; omega
    unfold strtol10
    simp only [List.cons_append, List.takeWhile_cons, hsp, List.dropWhile_cons, Bool.false_eq_true,
      if_false, List.length_nil]
    split
    · rename_i h; cases h; simp [isDigit] at hdd
    · rename_i h; cases h; simp [isDigit] at hdd
    · simp [htw, h1, h2]

/-! ### completeness -/

def okChar (c : Nat) : Bool := isAlpha c || isDigit c || c == 42 || c == 95 || c == 45

theorem okChar_notSep (c : Nat) (h : okChar c = true) : notSep c = true := by
  simp only [okChar, isAlpha, isUpper, isLower, isDigit, Bool.or_eq_true, Bool.and_eq_true,
    decide_eq_true_eq, beq_iff_eq] at h
  simp only [notSep, isPathSep, Bool.not_eq_true', Bool.or_eq_false_iff, beq_eq_false_iff_ne]
  omega

theorem validName_spec (nm : Bytes) (h : validName nm = true) :
    ∃ c cs, nm = c :: cs ∧ c ≠ 91 ∧ isPathSep c = false ∧ ∀ x ∈ nm, notSep x = true := by
  cases nm with
  | nil => simp [validName] at h
  | cons c cs =>
    simp only [validName, Bool.and_eq_true, List.all_eq_true] at h
    obtain ⟨hc, hcs⟩ := h
    have hc' : okChar c = true := by
      simp only [okChar, Bool.or_eq_true] at hc ⊢
      rcases hc with hc | hc <;> simp [hc]
    have hns := okChar_notSep c hc'
    refine ⟨c, cs, rfl, ?_, ?_, ?_⟩
    · intro h91; subst h91
      simp [isAlpha, isUpper, isLower] at hc
    · simpa [notSep] using hns
    · intro x hx
      simp only [List.mem_cons] at hx
      rcases hx with rfl | hx
      · exact hns
      · exact okChar_notSep x (hcs x hx)

/-- a text that is empty or begins with a path separator -/
def SepStart (t : Bytes) : Prop := ∀ c t', t = c :: t' → isPathSep c = true

theorem loopBody_name_step (fuel : Nat) (cur k : Node) (acc : Path) (nm rest : Bytes) (i : Nat)
    (hty : cur.ty = T_GROUP) (hs : listSearch cur.kids nm 0 = some (i, k))
    (hv : validName nm = true) (hr : SepStart rest) :
    loopBody fuel cur acc (nm ++ rest) = lookupLoop fuel k (acc ++ [i]) rest := by
  obtain ⟨c, cs, rfl, h91, _, hall⟩ := validName_spec nm hv
  obtain ⟨h1, h2⟩ := span_append (r := rest) hall fun x hx => by
    cases rest with
    | nil => cases hx
    | cons y t => cases hx; simpa [notSep] using hr x t rfl
  rw [List.cons_append, loopBody_name _ _ _ _ _ h91, ← List.cons_append, h1, h2, hs]
  simp [hty]

theorem loopBody_idx_step (fuel : Nat) (cur k : Node) (acc : Path) (rest : Bytes) (i : Nat)
    (hagg : cur.isAggregate = true) (hk : cur.kids[i]? = some k) (hi : (i : Int) ≤ INT_MAX) :
    loopBody fuel cur acc (91 :: (natToDec i ++ 93 :: rest)) = lookupLoop fuel k (acc ++ [i]) rest := by
  have hst := strtol10_digits (natToDec i) rest (natToDec_ne_nil i) (natToDec_digits i)
    (by rw [digitsVal_natToDec]; exact hi)
  rw [digitsVal_natToDec] at hst
  rw [loopBody_idx, hst]
  have hlen : (natToDec i).length ≠ 0 := by
    have := natToDec_ne_nil i
    cases h : natToDec i <;> simp_all
  simp only [beq_iff_eq, hlen, if_false, List.drop_left, Int.toNat_natCast]
  have h1 : ¬ ((i : Int) < 0) := by omega
  have h2 : ¬ ((i : Int) > INT_MAX) := by omega
  simp [h1, h2, getElem, hagg, hk]


theorem WF.child {n k : Node} {i : Nat} (h : n.WF) (hk : n.kids[i]? = some k) : k.WF :=
  Node.All.child h hk

theorem wf_agg {n k : Node} {i : Nat} (h : n.LocalWF) (hk : n.kids[i]? = some k) :
    n.isAggregate = true := by
  cases hagg : n.isAggregate with
  | true => rfl
  | false =>
    have := h.scalarNoKids hagg
    rw [this] at hk
    simp at hk

theorem wf_named {n k : Node} {i : Nat} {nm : Bytes} (h : n.LocalWF) (hk : n.kids[i]? = some k)
    (hn : k.name = some nm) :
    n.ty = T_GROUP ∧ validName nm = true ∧ listSearch n.kids nm 0 = some (i, k) := by
  have hmem : k ∈ n.kids := List.mem_of_getElem? hk
  have hagg := wf_agg h hk
  have hty : n.ty = T_GROUP := by
    simp only [Node.isAggregate, isAggregateTy, Bool.or_eq_true, beq_iff_eq] at hagg
    rcases hagg with (ha | hl) | hg
    · have := h.arrayNameless ha k hmem
      rw [this] at hn; cases hn
    · have := h.listNameless hl k hmem
      rw [this] at hn; cases hn
    · exact hg
  obtain ⟨nm', hnm', hv⟩ := h.groupNames hty k hmem
  have : nm' = nm := by rw [hn] at hnm'; cases hnm'; rfl
  subst this
  refine ⟨hty, hv, ?_⟩
  have := listSearch_of_nodup (off := 0) (h.groupDistinct hty) hk hn
  simpa using this

theorem renderPath_nil (n : Node) (chs : List Choice) (lead : Bool) :
    renderPath n [] chs lead = some [] := by
  cases chs <;> rfl

theorem renderPath_cons {n : Node} {i : Nat} {ip : Path} {chs : List Choice} {lead : Bool} {txt : Bytes}
    (h : renderPath n (i :: ip) chs lead = some txt) :
    ∃ ch chs' k rest, chs = ch :: chs' ∧ n.kids[i]? = some k ∧ renderPath k ip chs' true = some rest ∧
      txt = (if lead then [ch.sep] else []) ++
        (match k.name, ch.useName with
          | some nm, true => nm
          | _, _ => [91] ++ natToDec i ++ [93]) ++ rest := by
  cases chs with
  | nil => simp [renderPath] at h
  | cons ch chs' =>
    simp only [renderPath] at h
    cases hk : n.kids[i]? with
    | none => simp [hk] at h
    | some k =>
      simp only [hk] at h
      cases hr : renderPath k ip chs' true with
      | none => simp [hr] at h
      | some rest =>
        simp only [hr, Option.map_some, Option.some.injEq] at h
        exact ⟨ch, chs', k, rest, rfl, rfl, hr, h.symm⟩

theorem render_sepStart {n : Node} {ip : Path} {chs : List Choice} {txt : Bytes}
    (hsep : ∀ c ∈ chs, isPathSep c.sep = true)
    (h : renderPath n ip chs true = some txt) : SepStart txt := by
  intro c t' ht
  cases ip with
  | nil =>
    rw [renderPath_nil] at h
    cases h; cases ht
  | cons i ip =>
    obtain ⟨ch, chs', k, rest, rfl, _, _, rfl⟩ := renderPath_cons h
    simp only [if_true, List.cons_append, List.nil_append, List.cons.injEq] at ht
    rw [← ht.1]
    exact hsep ch (by simp)

theorem complete_aux : ∀ (ip : Path) (n : Node) (chs : List Choice) (lead : Bool) (txt : Bytes)
    (fuel : Nat) (acc : Path), n.WF → (∀ i ∈ ip, (i : Int) ≤ INT_MAX) →
    (∀ c ∈ chs, isPathSep c.sep = true) → renderPath n ip chs lead = some txt →
    txt.length < fuel → acc ++ ip ≠ [] → lookupLoop fuel n acc txt = some (acc ++ ip) := by
  intro ip
  induction ip with
  | nil =>
    intro n chs lead txt fuel acc _ _ _ hr _ hne
    rw [renderPath_nil] at hr
    cases hr
    rw [lookupLoop_nil]
    have : acc ≠ [] := by simpa using hne
    cases acc <;> simp_all
  | cons i ip ih =>
    intro n chs lead txt fuel acc hwf hidx hsep hr hfuel _
    obtain ⟨ch, chs', k, rest, rfl, hk, hrest, rfl⟩ := renderPath_cons hr
    have hlwf : n.LocalWF := hwf [] n rfl
    have hwfk : k.WF := WF.child hwf hk
    have hss : SepStart rest := render_sepStart (fun c hc => hsep c (by simp [hc])) hrest
    have hchsep : isPathSep ch.sep = true := hsep ch (by simp)
    have hi : (i : Int) ≤ INT_MAX := hidx i (by simp)
    generalize hcomp : (match k.name, ch.useName with
          | some nm, true => nm
          | _, _ => [91] ++ natToDec i ++ [93]) = comp at hfuel ⊢
    have hshape : comp = [91] ++ natToDec i ++ [93] ∨ (k.name = some comp) := by
      cases hkn : k.name with
      | none => rw [hkn] at hcomp; exact Or.inl hcomp.symm
      | some nm =>
        cases hu : ch.useName with
        | false => rw [hkn, hu] at hcomp; exact Or.inl hcomp.symm
        | true => rw [hkn, hu] at hcomp; simp only at hcomp; subst hcomp; exact Or.inr rfl
    have hhead : ∃ x t, comp = x :: t ∧ isPathSep x = false := by
      rcases hshape with rfl | hkn
      · exact ⟨91, natToDec i ++ [93], by simp, by decide⟩
      · obtain ⟨_, hv, _⟩ := wf_named hlwf hk hkn
        obtain ⟨c, cs, hc, _, hsepc, _⟩ := validName_spec comp hv
        exact ⟨c, cs, hc, hsepc⟩
    obtain ⟨x, t, hxt, hx⟩ := hhead
    cases fuel with
    | zero => omega
    | succ fuel =>
      have hrec : lookupLoop fuel k (acc ++ [i]) rest = some (acc ++ i :: ip) := by
        have := ih k chs' true rest fuel (acc ++ [i]) hwfk (fun j hj => hidx j (by simp [hj]))
          (fun c hc => hsep c (by simp [hc])) hrest
          (by subst hxt; simp only [List.length_append, List.length_cons] at hfuel; omega) (by simp)
        simpa using this
      have hb : loopBody fuel n acc (comp ++ rest) = some (acc ++ i :: ip) := by
        rcases hshape with rfl | hkn
        · have : [91] ++ natToDec i ++ [93] ++ rest = 91 :: (natToDec i ++ 93 :: rest) := by simp
          rw [this, loopBody_idx_step fuel n k acc rest i (wf_agg hlwf hk) hk hi, hrec]
        · obtain ⟨hty, hv, hs⟩ := wf_named hlwf hk hkn
          rw [loopBody_name_step fuel n k acc comp rest i hty hs hv hss, hrec]
      cases lead with
      | true =>
        simp only [if_true, List.cons_append, List.nil_append]
        rw [lookupLoop_cons, if_pos hchsep]
        exact hb
      | false =>
        subst hxt
        simp only [Bool.false_eq_true, if_false, List.nil_append, List.cons_append]
        rw [lookupLoop_cons, if_neg (ne_true_of_eq_false hx)]
        simpa using hb

theorem complete (n : Node) (hwf : n.WF) (ip : Path) (hne : ip ≠ [])
    (hidx : ∀ i ∈ ip, (i : Int) ≤ INT_MAX)
    (chs : List Choice) (hsep : ∀ c ∈ chs, isPathSep c.sep = true) (lead : Bool)
    (txt : Bytes) (hr : renderPath n ip chs lead = some txt) :
    lookupFrom n txt = some ip := by
  have := complete_aux ip n chs lead txt (txt.length + 1) [] hwf hidx hsep hr (by omega) (by simpa using hne)
  simpa [lookupFrom] using this

theorem render_exists : ∀ (ip : Path) (n m : Node) (lead : Bool) (f : Nat → Choice),
    n.get? ip = some m → ∃ txt, renderPath n ip (ip.map f) lead = some txt := by
  intro ip
  induction ip with
  | nil => intro n m lead f _; exact ⟨[], renderPath_nil _ _ _⟩
  | cons i ip ih =>
    intro n m lead f h
    simp only [Node.get?] at h
    cases hk : n.kids[i]? with
    | none => simp [hk] at h
    | some k =>
      simp only [hk] at h
      obtain ⟨rest, hrest⟩ := ih k m true f h
      simp only [List.map_cons, renderPath, hk, hrest, Option.map_some]
      exact ⟨_, rfl⟩

theorem getPath (n : Node) (hwf : n.WF) (ip : Path) (m : Node) (hne : ip ≠ [])
    (hv : n.get? ip = some m) (hidx : ∀ i ∈ ip, (i : Int) ≤ INT_MAX) :
    ∃ txt, cppGetPath n ip = some txt ∧ lookupFrom n txt = some ip := by
  obtain ⟨txt, htxt⟩ := render_exists ip n m false (fun _ => { useName := true, sep := 46 }) hv
  refine ⟨txt, htxt, ?_⟩
  refine complete n hwf ip hne hidx _ ?_ false txt htxt
  intro c hc
  simp only [List.mem_map] at hc
  obtain ⟨_, _, rfl⟩ := hc
  decide

theorem noEmpty_of_WF (n : Node) (h : n.WF) : NoEmpty n := by
  intro p m hm k hk hname
  have hl : m.LocalWF := h p m hm
  obtain ⟨i, hi⟩ := List.getElem?_of_mem hk
  obtain ⟨_, hv, _⟩ := wf_named hl hi hname
  simp [validName] at hv

end Libconfig.C06P
