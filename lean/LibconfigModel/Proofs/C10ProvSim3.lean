import LibconfigModel.Proofs.C10ProvSim2
/-
  The simulation, part 3: the rest of a list, the settings of a group (`$@1` runs by default
  reduction right after the NAME token: that is the position a named setting records — and keeps,
  whatever its value — and the scan state in which a duplicate name is reported), the induction on
  the fuel that ties the three statements together, and the settings of a whole text.
-/
namespace Libconfig.C10Prov
open Libconfig C02P C05P C02C C01PP C04 C04R Denote C02D C09L

section
variable {E : ParserEnv} {plain : Bool} {pos : Nat → ScanState} {o : Options} {tv : Nat × TokVal}

/-! ### the rest of a list -/

theorem listRest_step (hE : Compiled E) (fuel : Nat) (ihv : ValueSim E plain pos tv o fuel)
    (ihl : ListRestSim E plain pos tv o fuel) : ListRestSim E plain pos tv o (fuel + 1) := by
  intro acc items v36 v26 stk la sc ctx K pp a st d hf hd hI hV haty hacc hinv hnest hfol herr
  have he0 : ∀ {α : Type} {r : ResAt α}, (Rejects r → Rejects (listRestJ (stampAt pos) o (fuel + 1)
      acc items)) → Rejects r → endK tv = 0 := fun h hr => herr (h hr)
  have hd1 : d + 1 ≤ 1665 := Nat.le_trans (le_nestS _ _) hnest
  have hroom : stk.length + 9 < 10000 := by omega
  cases listRestView items with
  | done r' =>
    rw [listRestJ]
    -- `value_list_optional: value_list`
    obtain ⟨la1, sc1, ctx1, vv1, hR1, hI1, hS1⟩ := hI.reduce0 hE (ctx := ctx)
      (pushed := [(36, v36)]) (p := 26) (vp := v26) (rest := stk)
      rfl rfl (room 2 hroom) (by decide) (fun k h23 hn => red_36 k h23 (ne_of_hk hn rfl (by simp [hk])))
      rule_34 rfl go_26_vlo
    refine ⟨_, hR1, la1, sc1, ctx1, vv1, st, rfl, hI1, ?_, hinv.of_same hS1, hnest⟩
    rw [← hacc, ← node_kids_eq rfl]
    exact hV.of_same hS1.sem
  | comma rest' =>
    have hnest' : nestS (d + 1) rest' ≤ 1665 := by
      rw [nestS_flat rfl] at hnest; exact hnest
    obtain ⟨v, sc1, ctx1, hR1, hI1', hS1, -⟩ := hI.shift hE (v0 := v36)
      (rest := (26, v26) :: stk) (ctx := ctx) (it := .comma) (k := 17)
      (room 2 hroom) (by decide) (fun _ h => h) sh_36_comma (by decide)
    have hV1 := hV.of_same hS1.sem
    have hinv1 := hinv.of_same hS1
    -- a comma that is not followed by an element
    have skip : ((∃ r, rest' = .comma :: r) ∨ (∃ r, rest' = .listEnd :: r)) →
        Sim E plain pos ⟨(36, v36) :: (26, v26) :: stk, la, sc, ctx⟩
          (listRestJ (stampAt pos) o (fuel + 1) acc (.comma :: rest'))
          (fun elems rest b => ∃ la sc ctx vv st',
            b = ⟨(37, vv) :: (26, v26) :: stk, la, sc, ctx⟩ ∧
            InpI E plain pos tv la sc (.listEnd :: rest) ∧
            View ctx K pp { a with kids := elems } none st' ∧ Inv plain o ctx ∧
            nestS (d + 1) (.listEnd :: rest) ≤ 1665) := by
      intro hsk
      rw [listRestJ_skip _ _ _ _ _ hsk] at he0 ⊢
      have hvs : valStart (hkE (endK tv) rest') = false := by
        rcases hsk with ⟨r2, rfl⟩ | ⟨r2, rfl⟩ <;> rfl
      obtain ⟨la2, sc2, ctx2, vv2, hR2, hI2, hS2⟩ := hI1'.reduce0 hE (ctx := ctx1)
        (pushed := [(42, v), (36, v36)]) (p := 26) (vp := v26) (rest := stk)
        rfl rfl (room 3 hroom) (by decide) (fun k h23 hn => red_42 k h23 (valStart_of_hk h23 hn hvs))
        rule_32 rfl go_26_vl
      refine Sim.of_reaches (hR1.trans hR2) ?_
      exact ihl acc rest' vv2 v26 stk la2 sc2 ctx2 K pp a st d
        (Nat.lt_of_succ_lt_succ hf) hd hI2
        (hV1.of_same hS2.sem) haty hacc (hinv1.of_same hS2) hnest' hfol (he0 id)
    cases listRestView rest' with
    | done r2 => exact skip (.inr ⟨_, rfl⟩)
    | comma r2 => exact skip (.inl ⟨_, rfl⟩)
    | other _ h1 h2 =>
      rw [listRestJ_value _ _ _ _ _ h1 h2] at he0 ⊢
      have hel := ihv none none rest' 42 46 ((36, v36) :: (26, v26) :: stk)
        [17, 16] v none sc1 ctx1 _ _ a st a.kids (d + 1) val_42
        (Nat.lt_of_succ_lt_succ hf) (by dep) hI1'
        hV1 (SlotP.elem (.inl haty) rfl rfl) (by rw [haty]; decide) hinv1 hnest' hfol
        (fun hr => ⟨he0 (.imp fun _ _ h => by rw [h]) hr, .later _ _ _, by
          intro c hc
          simp only [List.mem_cons, List.not_mem_nil, or_false] at hc
          rcases hc with rfl | rfl
          · exact hk_ne_17 h2
          · exact hk_ne_16 h1⟩)
      cases hv : valueJ (stampAt pos) o fuel none none rest' with
      | error k w => rw [hv] at hel; exact AbortsAt.of_reaches hR1 hel
      | ok x rest1 =>
        rw [hv] at hel he0
        simp only at he0 ⊢
        obtain ⟨b, hR2, la2, sc2, ctx2, vv2, rfl, hI2, ⟨st2, hV2⟩, hinv2, hnest2⟩ := hel
        -- `value_list: value_list , value`
        obtain ⟨la3, sc3, ctx3, vv3, hR3, hI3, hS3⟩ := hI2.reduce0 hE (ctx := ctx2)
          (pushed := [(46, vv2), (42, v), (36, v36)]) (p := 26) (vp := v26) (rest := stk)
          rfl rfl (room 4 hroom) (by decide) (fun k h23 _ => red_46 k h23) rule_31 rfl go_26_vl
        refine Sim.of_reaches ((hR1.trans hR2).trans hR3) ?_
        exact ihl (acc ++ [x]) rest1 vv3 v26 stk la3 sc3 ctx3 K pp
          { a with kids := a.kids ++ [x] } st2 d
          (Nat.lt_trans (valueJ_length hv) (Nat.lt_of_succ_lt_succ hf))
          hd hI3 (hV2.of_same hS3.sem) haty (by rw [hacc])
          (hinv2.of_same hS3) hnest2 hfol (he0 id)
  | other _ h1 h2 =>
    rw [listRestJ_other _ _ _ _ _ h1 h2] at he0 ⊢
    have hz : ∀ l : List Denote.Item, l = [] → endK tv = 0 := fun _ _ => he0 id .error
    -- neither `,` nor `)`
    show AbortsAt E plain _ ErrKind.syntax.text _
    rw [text_syntax, reportAt_syntax]
    obtain ⟨la1, sc1, ctx1, vv1, hR1, hI1, hS1⟩ := hI.reduce0 hE (ctx := ctx)
      (pushed := [(36, v36)]) (p := 26) (vp := v26) (rest := stk)
      rfl rfl (room 2 hroom) (by decide)
      (fun k h23 hn => red_36 k h23 (kind_ne hn (hz _) (hk_ne_17 h2)))
      rule_34 rfl go_26_vlo
    refine AbortsAt.of_reaches hR1 ?_
    exact hI1.error hE (stk := (37, vv1) :: (26, v26) :: stk) rfl (room 2 hroom)
      (by decide) (fun k h23 hn => err_37 k h23 (kind_ne hn (hz _) (hk_ne_16 h1))) nn_37
      (hinv.of_same hS1).err

/-! ### the name of a setting -/

/-- NAME and `$@1`, which appends the typeless member (after removing the one it overrides) or
reports the duplicate — run right after the NAME -/
theorem sim_nameP (hE : Compiled E) {q0 q1 : Nat} (hM : MemCtx q0 q1) {v0 : TokVal}
    {stk0 stkS : List (Nat × TokVal)}
    (hshape : stkS = (q0, v0) :: stk0 ∨ ∃ v1, stkS = (q1, v1) :: (q0, v0) :: stk0)
    (hroom : stk0.length + 4 < 10000) {la : Lookahead} {sc : ScanState} {ctx : ParseCtx}
    {K : Node → Node} {pp : Path} {pn : Node} {st : Option Path} {nm : Bytes}
    {rest : List Denote.Item} (hI : InpI E plain pos tv la sc (.name nm :: rest))
    (hV : View ctx K pp pn none st) (hgty : pn.ty = T_GROUP) (hinv : Inv plain o ctx) :
    match enter o pn.kids nm with
    | none => AbortsAt E plain ⟨stkS, la, sc, ctx⟩ Generated.ERR_DUPLICATE_SETTING
        (pos (rest.length + 1))
    | some kids' => ∃ la2 sc2 ctx2 vv2 v1, Reaches E ⟨stkS, la, sc, ctx⟩
        ⟨(5, vv2) :: (1, v1) :: stkS, la2, sc2, ctx2⟩ ∧ InpI E plain pos tv la2 sc2 rest ∧
        View ctx2 K pp
          { pn with kids := kids' ++ [stamped { name := some nm } (stampAt pos (rest.length + 1))] }
          none (some (pp ++ [kids'.length])) ∧
        Inv plain o ctx2 := by
  have hlen : stkS.length ≤ stk0.length + 2 := by
    rcases hshape with rfl | ⟨v1', rfl⟩ <;> simp
  have hS : stkS.length + 1 < 10000 := by omega
  have hsh : ∃ v sc1 ctx1, Reaches E ⟨stkS, la, sc, ctx⟩ ⟨(1, v) :: stkS, none, sc1, ctx1⟩ ∧
      InpI E plain pos tv none sc1 rest ∧ Same plain ctx ctx1 ∧ ValRel (.name nm) v ∧
      sc1 = pos (rest.length + 1) ∧ ∀ s, Denote.Item.name nm = .name s → validName s = true := by
    rcases hshape with rfl | ⟨v1', rfl⟩
    · exact hI.shift hE (v0 := v0) (rest := stk0) (ctx := ctx) (k := 10) (room 1 hroom) hM.notFinal0
        (fun _ h => h) hM.name0 (by decide)
    · exact hI.shift hE (v0 := v1') (rest := (q0, v0) :: stk0) (ctx := ctx) (k := 10) (room 2 hroom)
        hM.notFinal1 (fun _ h => h) hM.name1 (by decide)
  obtain ⟨v, sc1, ctx1, hR1, hI1, hS1, hvr, hsc1, hvalid⟩ := hsh
  have hvs : v.sval = nm := hvr
  have hvalid := hvalid nm rfl
  subst hsc1
  have hV1 := hV.of_same hS1.sem
  have hinv1 := hinv.of_same hS1
  have hhere : pos (rest.length + 1) =
      (if (P.pact.get 1 == P.pactNinf) = true then pos (rest.length + 1) else pos rest.length) := by
    rw [if_pos (by rw [ninf_1]; exact beq_self_eq_true _)]
  -- `$@1`, run right after the NAME
  cases he : enter o pn.kids nm with
  | none =>
    refine AbortsAt.of_reaches hR1 ?_
    refine hI1.abort hE (stk := (1, v) :: stkS) rfl hS (by decide)
      (fun k h23 _ => red_1 k h23) rule_11 hhere (fun ctx₁ l f hs => ?_)
    have hinv₁ := hinv1.of_same hs
    have := act_settingName_gen ((hV1.of_same hs.sem)) hgty hvalid v hvs l f o hinv₁.ov
    rw [he] at this
    exact ⟨_, this, fun hp =>
      ⟨yyerror_text (ctx := { ctx₁ with setting := none }) (hinv₁.err hp) _ _,
        yyerror_line (ctx := { ctx₁ with setting := none }) (hinv₁.err hp) _ _⟩⟩
  | some kids' =>
    obtain ⟨la2, ctx2, vv2, hR2, hI2, hV2, hinv2⟩ := hI1.reduceAt hE (ctx := ctx1)
      (Post := fun c2 => View c2 K pp
        { pn with kids := kids' ++
          [stamped { name := some nm } (stampAt pos (rest.length + 1))] } none
        (some (pp ++ [kids'.length])))
      (pushed := []) (p := 1) (vp := v) (rest := stkS)
      rfl rfl hS (by decide) (fun k h23 _ => red_1 k h23) rule_11 rfl go_1_M1 hinv1 hhere
      (fun ctx₁ hs => by
        have hinv₁ := hinv1.of_same hs
        have := act_settingName_gen ((hV1.of_same hs.sem)) hgty hvalid v hvs
          (pos (rest.length + 1)).buf.lineno (pos (rest.length + 1)).currentFilename o hinv₁.ov
        rw [he] at this
        exact this)
    exact ⟨la2, _, ctx2, vv2, v, hR1.trans hR2, hI2, hV2, hinv2⟩

/-! ### the settings of a group -/

theorem settings_step (hE : Compiled E) (fuel : Nat) (ihv : ValueSim E plain pos tv o fuel)
    (ihs : SettingsSim E plain pos tv o fuel) : SettingsSim E plain pos tv o (fuel + 1) := by
  intro members items q0 q1 hM v0 stk0 stkS la sc ctx K pp pn st d hshape hf hd hI hV hgty hmem
    hinv hnest hfol herr hend
  subst hmem
  have he0 : ∀ {α : Type} {r : ResAt α}, (Rejects r → Rejects (settingsJ (stampAt pos) o (fuel + 1)
      pn.kids items)) → Rejects r → endK tv = 0 := fun h hr => herr (h hr)
  have hd0 : d ≤ 1665 := Nat.le_trans (le_nestS _ _) hnest
  have hlen : stkS.length ≤ stk0.length + 2 := by
    rcases hshape with rfl | ⟨v1', rfl⟩ <;> simp
  have hS : stkS.length + 2 < 10000 := by omega
  have hroom : stk0.length + 8 < 10000 := by omega
  cases settingsView items with
  | setting nm rest' =>
    have hnm := sim_nameP hE hM hshape (room 4 hroom) hI hV hgty hinv
    rw [settingsJ] at he0 hend ⊢
    cases he : enter o pn.kids nm with
    | none =>
      rw [he] at hnm
      show AbortsAt E plain _ ErrKind.duplicateName.text _
      rw [text_dup, reportAt_dup]
      exact hnm
    | some kids' =>
      rw [he] at hnm he0 hend
      simp only at he0 hend ⊢
      obtain ⟨la2, sc2, ctx2, vv2, v1, hR2, hI2, hV2, hinv2⟩ := hnm
      have hnest2 : nestS d rest' ≤ 1665 := by
        rw [nestS_flat rfl, nestS_flat rfl] at hnest; exact hnest
      obtain ⟨v3, sc3, ctx3, hR3, hI3, hS3, -⟩ := hI2.shift hE (v0 := vv2) (rest := (1, v1) :: stkS)
        (ctx := ctx2) (it := .assign) (k := 11) (room 2 hS) (by decide) (fun _ h => h) sh_5_equals
        (by decide)
      have hval := ihv (some nm) (some ((Item.assign :: rest').length + 1)) rest' 8 21
        ((5, vv2) :: (1, v1) :: stkS) [] v3 none sc3 ctx3 K pp _
        (some (pp ++ [kids'.length])) kids' d val_8
        (Nat.lt_of_succ_lt (Nat.lt_of_succ_lt_succ hf)) (by dep) hI3
        (hV2.of_same hS3.sem)
        (SlotP.member nm _ hgty rfl rfl rfl) (by rw [show _ = pn.ty from rfl, hgty]; decide)
        (hinv2.of_same hS3) hnest2 hfol
        (fun hr => ⟨he0 (.imp fun _ _ h => by rw [h]) hr, .member _, fun c hc => by cases hc⟩)
      cases hv : valueJ (stampAt pos) o fuel (some nm) (some ((Item.assign :: rest').length + 1))
          rest' with
      | error k w => rw [hv] at hval; exact AbortsAt.of_reaches (hR2.trans hR3) hval
      | ok x rest1 =>
        rw [hv] at hval he0 hend
        simp only at he0 hend ⊢
        obtain ⟨b, hR4, la4, sc4, ctx4, vv4, rfl, hI4, ⟨st4, hV4⟩, hinv4, hnest4⟩ := hval
        -- the terminator, `setting`, `setting_list`
        obtain ⟨la5, sc5, ctx5, vv5, hR5, hI5, hS5⟩ := sim_setting_end hE hM hshape
          (v21 := vv4) (v8 := v3) (v5 := vv2) (v1 := v1) (ctx := ctx4) hroom hI4
          (fun h => by
            subst h
            cases fuel with
            | zero => have := he0 id .error; omega
            | succ f => exact hend _ rfl)
        refine Sim.of_reaches (((hR2.trans hR3).trans hR4).trans hR5) ?_
        refine Sim.mono (Good := AfterSettingsP E plain pos tv o q0 q1 v0 stk0
            ((q1, vv5) :: (q0, v0) :: stk0) (skipTerminator rest1) K pp
            { pn with kids := kids' ++ [x] } d) ?_
          fun _ _ _ ⟨stkS', la', sc', ctx', st', hb, hsh, h⟩ =>
            ⟨stkS', la', sc', ctx', st', hb, .inr (hsh.elim (fun h' => ⟨_, h'.1⟩) id), h⟩
        exact ihs (kids' ++ [x]) (skipTerminator rest1) q0 q1 hM v0 stk0
          ((q1, vv5) :: (q0, v0) :: stk0) la5 sc5 ctx5 K pp
          { pn with kids := kids' ++ [x] } st4 d
          (.inr ⟨_, rfl⟩)
          (Nat.lt_of_le_of_lt (skipTerminator_length rest1) (Nat.lt_trans (valueJ_length hv)
            (Nat.lt_of_succ_lt (Nat.lt_of_succ_lt_succ hf))))
          hd hI5 (hV4.of_same hS5.sem) hgty rfl (hinv4.of_same hS5)
          (by rw [nestS_skipTerminator]; exact hnest4) hfol (he0 id) hend
  | noAssign nm rest' hne =>
    have hnm := sim_nameP hE hM hshape (room 4 hroom) hI hV hgty hinv
    rw [settingsJ_noAssign _ _ _ _ _ _ hne] at he0 ⊢
    cases he : enter o pn.kids nm with
    | none =>
      rw [he] at hnm
      show AbortsAt E plain _ ErrKind.duplicateName.text _
      rw [text_dup, reportAt_dup]
      exact hnm
    | some kids' =>
      rw [he] at hnm he0
      have hz : ∀ l : List Denote.Item, l = [] → endK tv = 0 := fun _ _ => he0 id .error
      obtain ⟨la2, sc2, ctx2, vv2, v1, hR2, hI2, hV2, hinv2⟩ := hnm
      -- no `=` / `:` after the NAME
      show AbortsAt E plain _ ErrKind.syntax.text _
      rw [text_syntax, reportAt_syntax]
      refine AbortsAt.of_reaches hR2 ?_
      exact hI2.error hE (stk := (5, vv2) :: (1, v1) :: stkS) rfl (room 2 hS) (by decide)
        (fun k h23 hn => err_5 k h23 (kind_ne hn (hz _) (hk_ne_11 hne))) nn_5
        hinv2.err
  | other _ hne =>
    rw [settingsJ_other _ _ _ _ _ hne]
    refine ⟨_, Reaches.refl _ _, stkS, la, sc, ctx, st, rfl, .inl ⟨rfl, rfl⟩, hI, ?_, hinv, hnest,
      hne⟩
    rw [← node_kids_eq rfl]
    exact hV

/-! ### the induction on the fuel -/

theorem sim_all (hE : Compiled E) (fuel : Nat) :
    ValueSim E plain pos tv o fuel ∧ ListRestSim E plain pos tv o fuel ∧
      SettingsSim E plain pos tv o fuel := by
  induction fuel with
  | zero =>
    refine ⟨?_, ?_, ?_⟩
    · intro nm mk items q qv stk ex vq la sc ctx K pp pn st pre d _ hf
      exact absurd hf (Nat.not_lt_zero _)
    · intro acc items v36 v26 stk la sc ctx K pp a st d hf
      exact absurd hf (Nat.not_lt_zero _)
    · intro members items q0 q1 _ v0 stk0 stkS la sc ctx K pp pn st d _ hf
      exact absurd hf (Nat.not_lt_zero _)
  | succ fuel ih =>
    obtain ⟨ihv, ihl, ihs⟩ := ih
    exact ⟨value_step hE fuel ihv ihl ihs, listRest_step hE fuel ihv ihl, settings_step hE fuel ihv ihs⟩

/-! ### the whole text -/

theorem root_of_strip {root : Node} (h : stripPos root = { ty := T_GROUP }) :
    root = stamped { ty := T_GROUP } (root.line, root.file) :=
  eq_of_stripPos h rfl

/-- the settings of the configuration, from the start of the text -/
theorem top_sim (hE : Compiled E) (toks : List (Nat × TokVal)) (hraw : RawOK toks)
    (hnest : nestS 0 (toks.map itemOf) ≤ 1665) {ctx₀ : ParseCtx}
    (hlex : LexAt E plain pos (toks ++ [tEOF]))
    (hroot : stripPos ctx₀.cfg.root = { ty := T_GROUP }) (hpar : ctx₀.parent = some [])
    (hstr : ctx₀.str = none) (hinv : Inv plain o ctx₀) :
    Sim E plain pos ⟨[(0, {})], none, pos (toks.length + 1), ctx₀⟩
      (settingsJ (stampAt pos) o (toks.length + 1) [] (toks.map itemOf))
      (AfterSettingsP E plain pos tEOF o 0 3 {} [] [(0, {})] (toks.map itemOf) (fun x => x) []
        ctx₀.cfg.root 0) := by
  have hr0 := root_of_strip hroot
  have hV : View ctx₀ (fun x => x) [] ctx₀.cfg.root none ctx₀.setting :=
    ⟨Hole.root, rfl, hpar, hstr, rfl⟩
  have hI : InpI E plain pos tEOF none (pos (toks.length + 1)) (toks.map itemOf) :=
    ⟨toks, ⟨by simp, hlex⟩, rfl, hraw⟩
  exact (sim_all (plain := plain) (pos := pos) (o := o) (tv := tEOF) hE (toks.length + 1)).2.2 []
    (toks.map itemOf) 0 3 mem_0 ({} : TokVal) [] [(0, {})] none (pos (toks.length + 1)) ctx₀
    (fun x => x) [] ctx₀.cfg.root ctx₀.setting 0 (.inl rfl) (by simp) (by simp) hI hV
    (by rw [hr0]; rfl) (by rw [hr0]; rfl) hinv hnest (by decide) (fun _ => rfl)
    (fun _ _ => by decide)

theorem config_sim (hE : Compiled E) (toks : List (Nat × TokVal)) (hraw : RawOK toks)
    (hnest : nestS 0 (toks.map itemOf) ≤ 1665) {ctx₀ : ParseCtx}
    (hlex : LexAt E plain pos (toks ++ [tEOF]))
    (hroot : stripPos ctx₀.cfg.root = { ty := T_GROUP }) (hpar : ctx₀.parent = some [])
    (hstr : ctx₀.str = none) (hinv : Inv plain o ctx₀) {members : List Node}
    {rest : List Denote.Item}
    (hs : settingsJ (stampAt pos) o (toks.length + 1) [] (toks.map itemOf) = .ok members rest) :
    ∃ la2 sc2 ctx2 v2, Reaches E ⟨[(0, {})], none, pos (toks.length + 1), ctx₀⟩
      ⟨[(2, v2), (0, {})], la2, sc2, ctx2⟩ ∧ InpI E plain pos tEOF la2 sc2 rest ∧ Inv plain o ctx2 ∧
      ctx2.cfg.root = stamped { ty := T_GROUP, kids := members }
        (ctx₀.cfg.root.line, ctx₀.cfg.root.file) := by
  have hr0 := root_of_strip hroot
  have hsim := top_sim hE toks hraw hnest hlex hroot hpar hstr hinv
  rw [hs] at hsim
  obtain ⟨b, hR1, stkS, la1, sc1, ctx1, st1, rfl, hshape, hI1, hV1, hinv1, _, hstop⟩ := hsim
  -- `configuration`
  have hconf : ∃ la2 sc2 ctx2 vv2, Reaches E ⟨stkS, la1, sc1, ctx1⟩
      ⟨[(2, vv2), (0, {})], la2, sc2, ctx2⟩ ∧
      InpI E plain pos tEOF la2 sc2 rest ∧ Same plain ctx1 ctx2 := by
    rcases hshape with ⟨rfl, -⟩ | ⟨v3, rfl⟩
    · exact hI1.reduce0 hE (ctx := ctx1)
        (pushed := []) (p := 0) (vp := ({} : TokVal)) (rest := [])
        rfl rfl (Nat.le_of_ble_eq_true rfl) (by decide)
        (fun k h23 hn => red_0 k h23 (kind_ne hn (fun _ => rfl) (hk_ne_10 hstop))) rule_2 rfl
        go_0_conf
    · exact hI1.reduce0 hE (ctx := ctx1)
        (pushed := [(3, v3)]) (p := 0) (vp := ({} : TokVal)) (rest := [])
        rfl rfl (Nat.le_of_ble_eq_true rfl) (by decide)
        (fun k h23 hn => red_3 k h23 (kind_ne hn (fun _ => rfl) (hk_ne_10 hstop))) rule_3 rfl
        go_0_conf
  obtain ⟨la2, sc2, ctx2, vv2, hR2, hI2, hS2⟩ := hconf
  refine ⟨la2, sc2, ctx2, vv2, hR1.trans hR2, hI2, hinv1.of_same hS2, ?_⟩
  rw [hS2.sem.1, hV1.root]
  show { ctx₀.cfg.root with kids := members } = _
  rw [hr0]
  rfl

theorem accept_sim (hE : Compiled E) (toks : List (Nat × TokVal)) (hraw : RawOK toks)
    (hnest : nestS 0 (toks.map itemOf) ≤ 1665) {ctx₀ : ParseCtx}
    (hlex : LexAt E plain pos (toks ++ [tEOF]))
    (hroot : stripPos ctx₀.cfg.root = { ty := T_GROUP }) (hpar : ctx₀.parent = some [])
    (hstr : ctx₀.str = none) (hinv : Inv plain o ctx₀) {members : List Node}
    (hs : settingsJ (stampAt pos) o (toks.length + 1) [] (toks.map itemOf) = .ok members []) :
    ∃ la1 sc1 ctx1 vv v2, Reaches E ⟨[(0, {})], none, pos (toks.length + 1), ctx₀⟩
      ⟨[(6, vv), (2, v2), (0, {})], la1, sc1, ctx1⟩ ∧
      ctx1.cfg.root = stamped { ty := T_GROUP, kids := members }
        (ctx₀.cfg.root.line, ctx₀.cfg.root.file) := by
  obtain ⟨la2, sc2, ctx2, vv2, hR2, hI2, -, hroot2⟩ :=
    config_sim hE toks hraw hnest hlex hroot hpar hstr hinv hs
  -- the end marker
  obtain ⟨t, v, ks, hin, -, hk23, hn, -⟩ := hI2.peek
  have hk0 : translateTok P t = 0 := normK_eq _ hk23 0 (by decide) (by decide) hn
  obtain ⟨sc3, ctx3, hR3, _, hS3⟩ := pshiftAt hE (v0 := vv2) (rest := [(0, ({} : TokVal))])
    (ctx := ctx2) (Nat.le_of_ble_eq_true rfl) (by decide) hk0 sh_2_eof (by decide) hin
  refine ⟨none, sc3, ctx3, _, vv2, hR2.trans hR3, ?_⟩
  rw [hS3.sem.1]
  exact hroot2

end

end Libconfig.C10Prov
