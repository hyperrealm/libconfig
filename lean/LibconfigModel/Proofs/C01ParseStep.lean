import LibconfigModel.Proofs.C02Complete
/-
  The parser loop, machinery: parser configurations, a fuel-free reachability relation over
  `yyparseLoop`, the remaining input as a token list, and the two kinds of single iteration
  (shift / reduce) given what the fetch returns.  Everything here holds for an arbitrary parser
  environment; the facts about the compiled tables are in C01ParseStatic.lean, the iterations
  over an input with positions in C02DenoteStep.lean.
-/
namespace Libconfig.C01PP
open Libconfig C02P C05P C02C

/-- a configuration of the parser loop -/
structure MC where
  stk : List (Nat × TokVal)
  la : Lookahead
  sc : ScanState
  ctx : ParseCtx

def run (E : ParserEnv) (fuel : Nat) (m : MC) : POut := yyparseLoop E fuel m.stk m.la m.sc m.ctx

theorem yyparse_eq_run (E : ParserEnv) (fuel : Nat) (s : ScanState) (ctx : ParseCtx) :
    yyparse E fuel s ctx = run E fuel ⟨[(0, {})], none, s, ctx⟩ := rfl

/-- stack-depth side conditions -/
macro "dep" : tactic =>
  `(tactic| (simp only [List.length_append, List.length_cons, List.length_nil]; omega))

/-- the same from a bound that leaves room: a term where the bound is at hand -/
theorem room {α : Type} {stk : List α} {k : Nat} (n : Nat) (h : stk.length + k < 10000)
    (hn : n ≤ k := by decide) : stk.length + n < 10000 :=
  Nat.lt_of_le_of_lt (Nat.add_le_add_left hn _) h

/-- From `a` the loop arrives in `b`: with whatever fuel it is started in `a`, it either runs
out of fuel or continues as from `b` (`part`); and it does arrive, after a fixed number of
iterations (`steps`). -/
structure Reaches (E : ParserEnv) (a b : MC) : Prop where
  part : ∀ fuel, (run E fuel a).2.2 = .outOfFuel ∨ ∃ fuel', run E fuel a = run E fuel' b
  steps : ∃ n, ∀ fuel, run E (fuel + n) a = run E fuel b

theorem Reaches.refl (E : ParserEnv) (a : MC) : Reaches E a a :=
  ⟨fun fuel => .inr ⟨fuel, rfl⟩, ⟨0, fun _ => rfl⟩⟩

theorem Reaches.trans {E : ParserEnv} {a b c : MC} (h1 : Reaches E a b) (h2 : Reaches E b c) :
    Reaches E a c := by
  constructor
  · intro fuel
    rcases h1.part fuel with h | ⟨f1, h⟩
    · exact .inl h
    · rcases h2.part f1 with h' | ⟨f2, h'⟩
      · left; rw [h]; exact h'
      · right; exact ⟨f2, h.trans h'⟩
  · obtain ⟨n1, hn1⟩ := h1.steps
    obtain ⟨n2, hn2⟩ := h2.steps
    refine ⟨n2 + n1, fun fuel => ?_⟩
    rw [← Nat.add_assoc, hn1, hn2]

theorem run_zero (E : ParserEnv) (a : MC) : run E 0 a = (a.sc, a.ctx, .outOfFuel) := by
  unfold run
  rw [yyparseLoop]

theorem run_succ (E : ParserEnv) (n : Nat) (a : MC) :
    run E (n + 1) a = bodyK E (yyparseLoop E n) a.stk a.la a.sc a.ctx := rfl

theorem Reaches.of_body {E : ParserEnv} {a b : MC}
    (h : ∀ rec, bodyK E rec a.stk a.la a.sc a.ctx = rec b.stk b.la b.sc b.ctx) : Reaches E a b := by
  have step : ∀ n, run E (n + 1) a = run E n b := fun n => (run_succ E n a).trans (h _)
  constructor
  · intro fuel
    cases fuel with
    | zero => left; rw [run_zero]
    | succ n => right; exact ⟨n, step n⟩
  · exact ⟨1, step⟩

/-- Let the loop arrive in `b` from `a` and return `out` from `b` as soon as it has fuel.  Then
whatever it returns from `a`, unless the fuel runs out, is `out` (`run_eq`), and with enough fuel
it does return (`run_total`). -/
theorem Reaches.run_eq {E : ParserEnv} {a b : MC} {out : POut} (hR : Reaches E a b)
    (hb : ∀ f, run E (f + 1) b = out) {fuel : Nat} (hr : (run E fuel a).2.2 ≠ .outOfFuel) :
    run E fuel a = out := by
  rcases hR.part fuel with hout | ⟨fuel', heq⟩
  · exact absurd hout hr
  · cases fuel' with
    | zero =>
      rw [heq, run_zero] at hr
      exact absurd rfl hr
    | succ f => rw [heq, hb]

theorem Reaches.run_total {E : ParserEnv} {a b : MC} {out : POut} (hR : Reaches E a b)
    (hb : ∀ f, run E (f + 1) b = out) : ∃ N, ∀ fuel, N ≤ fuel → run E fuel a = out := by
  obtain ⟨n, hn⟩ := hR.steps
  refine ⟨n + 1, fun fuel hfuel => ?_⟩
  obtain ⟨f, rfl⟩ : ∃ f, fuel = (f + 1) + n := ⟨fuel - (n + 1), by omega⟩
  rw [hn, hb]

/-! ### the remaining input -/

/-- the tokens (number and value, the end marker `(0, {})` included) that the scanner will
deliver from `sc` on start with the list `ks` (the empty list says nothing); an include error
is handed over as its error token with an empty value, as `yyparseLoop` does -/
inductive LexT (E : ParserEnv) : ScanState → List (Nat × TokVal) → Prop where
  | nil (sc : ScanState) : LexT E sc []
  | eof (sc sc' : ScanState) : yylex E.T E.sacts E.w E.ic E.lexFuel sc = (sc', .eof) →
      LexT E sc [(0, {})]
  | tok (sc sc' : ScanState) (t : Nat) (v : TokVal) (ks : List (Nat × TokVal)) :
      yylex E.T E.sacts E.w E.ic E.lexFuel sc = (sc', .tok t v) → LexT E sc' ks →
      LexT E sc ((t, v) :: ks)
  | incl (sc sc' : ScanState) (t : Nat) (text : Bytes) (file : Option Bytes) (line : Nat)
      (ks : List (Nat × TokVal)) :
      yylex E.T E.sacts E.w E.ic E.lexFuel sc = (sc', .includeError t text file line) →
      LexT E sc' ks → LexT E sc ((t, {}) :: ks)

/-- the tokens still to be consumed, given the lookahead -/
def Inp (E : ParserEnv) (la : Lookahead) (sc : ScanState) (ks : List (Nat × TokVal)) : Prop :=
  match la with
  | none => LexT E sc ks
  | some tv => ∃ ks', ks = tv :: ks' ∧ LexT E sc ks'

/-- two parse contexts agree on everything the semantic actions build on (an include error
changes the error fields of the configuration only) -/
def SameSem (a b : ParseCtx) : Prop :=
  b.cfg.root = a.cfg.root ∧ b.parent = a.parent ∧ b.setting = a.setting ∧ b.str = a.str

theorem SameSem.refl (a : ParseCtx) : SameSem a a := ⟨rfl, rfl, rfl, rfl⟩

theorem SameSem.trans {a b c : ParseCtx} (h1 : SameSem a b) (h2 : SameSem b c) : SameSem a c :=
  ⟨h2.1.trans h1.1, h2.2.1.trans h1.2.1, h2.2.2.1.trans h1.2.2.1, h2.2.2.2.trans h1.2.2.2⟩

/-! ### single iterations -/

section
variable {E : ParserEnv} {s : Nat} {v0 : TokVal} {rest : List (Nat × TokVal)} {la : Lookahead}
  {sc : ScanState} {ctx : ParseCtx}

theorem not_deep (hdepth : rest.length + 1 < E.P.maxDepth) :
    ¬ ((s, v0) :: rest).length ≥ E.P.maxDepth := Nat.not_le.mpr hdepth

theorem bodyK_dflt (hdepth : rest.length + 1 < E.P.maxDepth) (hfin : s ≠ E.P.final)
    (hp : (E.P.pact.get s == E.P.pactNinf) = true) (rec : PRec) :
    bodyK E rec ((s, v0) :: rest) la sc ctx = dfltK E rec ((s, v0) :: rest) s la sc ctx := by
  rw [bodyK_cons, if_neg (not_deep hdepth), if_neg (by simpa using hfin), if_pos hp]

theorem bodyK_act {t : Nat} {v : TokVal} {sc' : ScanState} {ctx' : ParseCtx}
    (hdepth : rest.length + 1 < E.P.maxDepth) (hfin : s ≠ E.P.final)
    (hp : ¬ (E.P.pact.get s == E.P.pactNinf) = true)
    (hf : fetchK E la sc ctx = (sc', some (t, v), none, ctx')) (rec : PRec) :
    bodyK E rec ((s, v0) :: rest) la sc ctx =
      (actAt E.P s (translateTok E.P t)).elim
        (dfltK E rec ((s, v0) :: rest) s (some (t, v)) sc' ctx')
        fun a =>
          if a ≤ 0 then
            if a == E.P.tableNinf then syntaxErrorK sc' ctx'
            else reduceK E rec ((s, v0) :: rest) (-a).toNat (some (t, v)) sc' ctx'
          else rec ((a.toNat, v) :: (s, v0) :: rest) none sc' ctx' := by
  rw [bodyK_cons, if_neg (not_deep hdepth), if_neg (by simpa using hfin), if_neg hp, hf]
  unfold actK actAt
  simp only
  rw [if_neg hp, apply_ite (Option.elim · _ _)]
  rfl

theorem shift_of_fetch {t : Nat} {v : TokVal} {sc' : ScanState} {ctx' : ParseCtx} {q : Int}
    (hdepth : rest.length + 1 < E.P.maxDepth) (hfin : s ≠ E.P.final)
    (hact : actAt E.P s (translateTok E.P t) = some q) (hq : 0 < q)
    (hf : fetchK E la sc ctx = (sc', some (t, v), none, ctx')) :
    Reaches E ⟨(s, v0) :: rest, la, sc, ctx⟩ ⟨(q.toNat, v) :: (s, v0) :: rest, none, sc', ctx'⟩ := by
  refine Reaches.of_body (fun rec => ?_)
  have hp : ¬ (E.P.pact.get s == E.P.pactNinf) = true := fun hp => by
    rw [actAt_ninf hp] at hact
    cases hact
  show bodyK E rec ((s, v0) :: rest) la sc ctx = _
  rw [bodyK_act hdepth hfin hp hf, hact]
  exact if_neg (Int.not_le.mpr hq)

/-- the value `$$ = $1` of a reduction of length `n` (the top of the stack for an empty rule) -/
def yyvalOf (stk : List (Nat × TokVal)) (n : Nat) : TokVal :=
  if n == 0 then (stk.headD (0, {})).2 else ((stk.drop (n - 1)).headD (0, {})).2

theorem reduceK_drop {stk : List (Nat × TokVal)} {p : Nat} {vp : TokVal} {r : Nat}
    {ctx' : ParseCtx} (hdrop : stk.drop (E.P.r2.get r).toNat = (p, vp) :: rest)
    (hact : runAction (E.acts.getD r .unknown) ctx (stk.headD (0, {})).2 sc.buf.lineno
      sc.currentFilename = .ok ctx') (rec : PRec) :
    reduceK E rec stk r la sc ctx =
      rec ((gotoTo E.P p (E.P.r1.get r).toNat, yyvalOf stk (E.P.r2.get r).toNat) :: (p, vp) :: rest)
        la sc ctx' := by
  unfold reduceK
  simp only
  rw [hact]
  simp only
  rw [hdrop]
  rfl

theorem reduceK_eq {stk pushed : List (Nat × TokVal)} {p : Nat}
    {vp : TokVal} {r : Nat} {ctx' : ParseCtx}
    (hstk : stk = pushed ++ (p, vp) :: rest)
    (hlen : (E.P.r2.get r).toNat = pushed.length)
    (hact : runAction (E.acts.getD r .unknown) ctx (stk.headD (0, {})).2 sc.buf.lineno
      sc.currentFilename = .ok ctx') (rec : PRec) :
    reduceK E rec stk r la sc ctx =
      rec ((gotoTo E.P p (E.P.r1.get r).toNat, yyvalOf stk pushed.length) :: (p, vp) :: rest)
        la sc ctx' := by
  rw [← hlen]
  exact reduceK_drop (by rw [hstk, hlen, List.drop_left]) hact rec

/-- an iteration that reduces by `r` in front of the next token, given what the fetch returns, up
to the action: it runs in the present scan state if the state reduces without consulting the
lookahead, behind the fetch otherwise -/
theorem bodyK_reduce_of_fetch {t : Nat} {v : TokVal} {sc' : ScanState} {ctx' : ParseCtx} {r : Nat}
    (hdepth : rest.length + 1 < E.P.maxDepth) (hfin : s ≠ E.P.final)
    (hred : redOK E.P s (translateTok E.P t) r = true)
    (hf : fetchK E la sc ctx = (sc', some (t, v), none, ctx')) (rec : PRec) :
    bodyK E rec ((s, v0) :: rest) la sc ctx =
      if (E.P.pact.get s == E.P.pactNinf) = true then reduceK E rec ((s, v0) :: rest) r la sc ctx
      else reduceK E rec ((s, v0) :: rest) r (some (t, v)) sc' ctx' := by
  unfold redOK at hred
  rw [Bool.and_eq_true] at hred
  have hr0 : ¬ (r == 0) = true := by simpa using not_beq hred.1
  have dflt : ∀ (la₁ : Lookahead) (sc₁ : ScanState) (ctx₁ : ParseCtx),
      Nat.beq (E.P.defact.get s).toNat r = true →
      dfltK E rec ((s, v0) :: rest) s la₁ sc₁ ctx₁ =
        reduceK E rec ((s, v0) :: rest) r la₁ sc₁ ctx₁ := by
    intro la₁ sc₁ ctx₁ hdef
    unfold dfltK
    simp only
    rw [Nat.eq_of_beq_eq_true hdef, if_neg hr0]
  by_cases hp : (E.P.pact.get s == E.P.pactNinf) = true
  · rw [actAt_ninf hp] at hred
    rw [if_pos hp, bodyK_dflt hdepth hfin hp]
    exact dflt _ _ _ hred.2
  · rw [if_neg hp, bodyK_act hdepth hfin hp hf]
    cases ha : actAt E.P s (translateTok E.P t) with
    | none =>
      rw [ha] at hred
      exact dflt _ _ _ hred.2
    | some a =>
      rw [ha] at hred
      simp only [Bool.and_eq_true, decide_eq_true_eq] at hred
      obtain ⟨⟨hle, hninf⟩, hrule⟩ := hred.2
      rw [Option.elim, if_pos hle, if_neg (by simpa using hninf), Nat.eq_of_beq_eq_true hrule]

theorem run_final {v : TokVal} (hdepth : rest.length + 1 < E.P.maxDepth) (fuel : Nat) :
    run E (fuel + 1) ⟨(E.P.final, v) :: rest, la, sc, ctx⟩ = (sc, ctx, .accept) := by
  unfold run
  rw [yyparseLoop_succ, bodyK_cons, if_neg (not_deep hdepth), if_pos (beq_self_eq_true _)]

end

end Libconfig.C01PP
