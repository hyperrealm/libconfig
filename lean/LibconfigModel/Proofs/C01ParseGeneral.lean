import LibconfigModel.Proofs.C02DenoteMain
import LibconfigModel.Proofs.C01ParseDenote
/-
  C01 (parsing half) from the simulation of the reference interpreter (Proofs/C10ProvSim*.lean).
  For a whole configuration this is the general theorem (`C02D.denote_ok_core`) at the tokens of the
  written form, which the interpreter reads as the expected tree (Proofs/C01ParseDenote.lean):
  `parse_rebuilds_core`, `parse_accepts_core`.

  The statements of Properties/C01Parse.lean about a single value, the elements of a list and the
  members of a group speak of a token prefix with an arbitrary continuation (`Inp`), a slot without
  a position (`Slot`) and a bound by the depth of the tree.  This file changes vocabulary: the
  token list is cut behind the token that follows the part in question — the end token of the
  simulation — and given positions (`Inp.cut`); the fresh member's position, which no token of
  this run needs to have, is put at an index the run does not reach (`SlotP.at`); the stack stands
  for a level from which the written tokens stay within the bound on the nesting (`level`,
  `shallow`); the stamped tree read is the expected one once positions are forgotten
  (`valueJ_of_value`).  `value_general` and `members_general` are then `ValueSim` and
  `SettingsSim`; `elements_general` walks over the elements with `ValueSim`.
-/
namespace Libconfig.C01PP
open Libconfig C02P C05P C02C C04 C04R Denote C02D C09L C10Prov

/-! ### a token list that goes on, cut behind one token and given positions -/

theorem LexAt.toLexT {E : ParserEnv} {pos : Nat → ScanState} {l : List (Nat × TokVal)}
    (h : LexAt E false pos l) : LexT E (pos l.length) l := by
  induction h with
  | nil => exact .nil _
  | eof hy => exact .eof _ _ hy
  | tok t v ks hy _ ih => exact .tok _ _ t v ks hy ih
  | incl t text file line ks _ hy _ ih => exact .incl _ _ t text file line ks hy ih

theorem LexAt.split {E : ParserEnv} {plain : Bool} {pos : Nat → ScanState}
    (ks : List (Nat × TokVal)) : ∀ l : List (Nat × TokVal), LexAt E plain pos (l ++ ks) →
    LexAt E plain (fun n => pos (n + ks.length)) l ∧ LexAt E plain pos ks := by
  intro l
  induction l with
  | nil => exact fun h => ⟨.nil, h⟩
  | cons a l ih =>
    intro h
    have hlen : (l ++ ks).length = l.length + ks.length := List.length_append
    have h' : LexAt E plain pos (a :: (l ++ ks)) := h
    generalize hl0 : l ++ ks = m at h' hlen
    cases h' with
    | eof hy =>
      obtain ⟨rfl, rfl⟩ := List.append_eq_nil_iff.mp hl0
      exact ⟨.eof hy, .nil⟩
    | tok t v _ hy hl =>
      subst hl0
      obtain ⟨h1, h2⟩ := ih hl
      refine ⟨.tok t v l ?_ h1, h2⟩
      show yylex _ _ _ _ _ (pos (l.length + 1 + ks.length)) = (pos (l.length + ks.length), _)
      rw [Nat.add_right_comm, ← hlen]
      exact hy
    | incl t text file line _ hp hy hl =>
      subst hl0
      obtain ⟨h1, h2⟩ := ih hl
      refine ⟨.incl t text file line l hp ?_ h1, h2⟩
      show yylex _ _ _ _ _ (pos (l.length + 1 + ks.length)) = (pos (l.length + ks.length), _)
      rw [Nat.add_right_comm, ← hlen]
      exact hy

theorem LexT.cut {E : ParserEnv} (tv : Nat × TokVal) (ks pre : List (Nat × TokVal))
    (sc : ScanState) (h : LexT E sc (pre ++ tv :: ks)) :
    ∃ pos, pos (pre.length + 1) = sc ∧ LexAt E false pos (pre ++ [tv]) ∧
      LexT E (pos 1) (tv :: ks) ∧ LexT E (pos 0) ks := by
  obtain ⟨pos, hp, hl⟩ := h.at
  obtain ⟨-, h1⟩ := LexAt.split (tv :: ks) pre hl
  obtain ⟨h2, h0⟩ := LexAt.split ks (pre ++ [tv]) (by simpa using hl)
  refine ⟨fun n => pos (n + ks.length), ?_, h2, ?_, ?_⟩
  · rw [← hp]; simp [Nat.add_right_comm, Nat.add_assoc]
  · have := LexAt.toLexT h1
    rwa [List.length_cons, Nat.add_comm] at this
  · have := LexAt.toLexT h0
    rwa [← Nat.zero_add ks.length] at this

/-- in front of `toks` and then `tv`: positions for the run up to and including `tv`, and the
way back from what is left in front of `tv` (if `tv` is all there is, it must not be numbered 0:
nothing can be said about what follows an end marker that was only looked at) -/
theorem Inp.cut {E : ParserEnv} {la : Lookahead} {sc : ScanState} (tv : Nat × TokVal)
    (ks toks : List (Nat × TokVal)) (h : Inp E la sc (toks ++ tv :: ks))
    (h0 : toks = [] → tv.1 ≠ 0) :
    ∃ pos, InpAt E false pos la sc (toks ++ [tv]) ∧
      ∀ la' sc', InpAt E false pos la' sc' [tv] → Inp E la' sc' (tv :: ks) := by
  have back : ∀ pos : Nat → ScanState, (InpAt E false pos none (pos 1) [tv] →
      LexT E (pos 1) (tv :: ks)) → LexT E (pos 0) ks →
      ∀ la' sc', InpAt E false pos la' sc' [tv] → Inp E la' sc' (tv :: ks) := by
    intro pos h1 h0 la' sc' hi
    cases la' with
    | none => exact hi.1 ▸ h1 (hi.1 ▸ hi)
    | some x =>
      obtain ⟨ks', he, hs, -⟩ := hi
      injection he with he1 he2
      subst he1
      subst he2
      exact ⟨ks, rfl, hs ▸ h0⟩
  cases la with
  | none =>
    obtain ⟨pos, h1, h2, h3, h4⟩ := LexT.cut tv ks toks sc h
    refine ⟨pos, ⟨?_, h2⟩, back pos (fun _ => h3) h4⟩
    rw [← h1]
    simp
  | some x =>
    obtain ⟨ks', he, hl⟩ := h
    cases toks with
    | cons p pre =>
      injection he with he1 he2
      subst he1
      subst he2
      obtain ⟨pos, h1, h2, h3, h4⟩ := LexT.cut tv ks pre sc hl
      refine ⟨pos, ⟨pre ++ [tv], rfl, ?_, h2⟩, back pos (fun _ => h3) h4⟩
      rw [← h1]
      simp
    | nil =>
      injection he with he1 he2
      subst he1
      subst he2
      refine ⟨fun _ => sc, ⟨[], rfl, rfl, .nil⟩, back _ (fun hi => ?_) hl⟩
      -- had `x` been read from `sc` leaving `sc`, it would be read again
      cases hi.2 with
      | eof hy => exact absurd rfl (h0 rfl)
      | tok t v _ hy _ => exact .tok _ _ t v _ hy hl
      | incl t text file line _ _ hy _ => exact .incl _ _ t text file line _ hy hl

/-! ### the position of the fresh member -/

/-- a scan state in which a grammar action records the position `p` -/
def stateAt (p : Stamp) : ScanState := { buf := { rest := [], lineno := p.1 }, topFile := p.2 }

theorem SlotP.at {st : Option Path} {pp : Path} {pn : Node} {pre : List Node} {nm : Option Bytes}
    (h : Slot st pp pn pre nm) (pos : Nat → ScanState) (N : Nat) :
    ∃ (pos' : Nat → ScanState) (mk : Option Nat), (∀ n, n ≤ N → pos' n = pos n) ∧
      SlotP st pp pn pre nm (mk.map (stampAt pos')) := by
  obtain ⟨ms, hP⟩ := h.toP
  cases ms with
  | none => exact ⟨pos, none, fun _ _ => rfl, hP⟩
  | some p =>
    refine ⟨fun n => if n = N + 1 then stateAt p else pos n, some (N + 1),
      fun n hn => if_neg (Nat.ne_of_lt (Nat.lt_succ_of_le hn)), ?_⟩
    have : stampAt (fun n => if n = N + 1 then stateAt p else pos n) (N + 1) = p := by
      show stampOf (if N + 1 = N + 1 then stateAt p else pos (N + 1)) = p
      rw [if_pos rfl]
      rfl
    rw [Option.map_some, this]
    exact hP

/-! ### what the stamped interpreter reads, positions forgotten -/

theorem valueJ_of_value {σ : Nat → Stamp} {o : Options} {fuel : Nat} {nm : Option Bytes}
    (mk : Option Nat) {items rest : List Denote.Item} {y : Node}
    (h : value o fuel nm items = .ok y rest) :
    ∃ x, valueJ σ o fuel nm mk items = .ok x rest ∧ stripPos x = y := by
  rw [valueP_erase σ o fuel nm mk, (joint_erase σ o).1] at h
  cases hJ : valueJ σ o fuel nm mk items with
  | ok x r =>
    rw [hJ] at h
    injection h with h1 h2
    exact ⟨x, by rw [h2], h1⟩
  | error k w => rw [hJ] at h; cases h

theorem settingsJ_of_settings {σ : Nat → Stamp} {o : Options} {fuel : Nat} {m : List Node}
    {items rest : List Denote.Item} {r : List Node}
    (h : settings o fuel (stripPosList m) items = .ok r rest) :
    ∃ r', settingsJ σ o fuel m items = .ok r' rest ∧ stripPosList r' = r := by
  rw [settingsP_erase σ o fuel m, (joint_erase σ o).2.1] at h
  cases hJ : settingsJ σ o fuel m items with
  | ok x r =>
    rw [hJ] at h
    injection h with h1 h2
    exact ⟨x, by rw [h2], h1⟩
  | error k w => rw [hJ] at h; cases h

/-! ### a written value -/

theorem InpAt.congr {E : ParserEnv} {plain : Bool} {pos pos' : Nat → ScanState} {la : Lookahead}
    {sc : ScanState} {ks : List (Nat × TokVal)} (h : InpAt E plain pos la sc ks)
    (he : ∀ n, n ≤ ks.length → pos' n = pos n) : InpAt E plain pos' la sc ks := by
  cases la with
  | none => exact ⟨(he _ (Nat.le_refl _)).symm ▸ h.1, h.2.congr he⟩
  | some x =>
    obtain ⟨ks', h1, h2, h3⟩ := h
    subst h1
    exact ⟨ks', rfl, (he _ (Nat.le_succ _)).symm ▸ h2, h3.congr fun n hn => he n (Nat.le_succ_of_le hn)⟩

theorem endK_ne {t : Nat} {v : TokVal} {c : Nat} (h : translateTok P t ≠ c) (hc : c ≠ 2) :
    endK (t, v) ≠ c := by
  unfold endK normK
  split
  · exact fun h' => hc h'.symm
  · exact h

/-- the level a stack of `L` entries stands for (six entries a level), when `D` more levels fit;
`b` and `N` are chosen per caller so that the bounds of `C10Prov.ValueSim` / `SettingsSim` (see
there for the constants) come out -/
theorem level {L D a : Nat} (b N : Nat) (h : L + 6 * D + a < 10000)
    (hN : 9999 + b ≤ 6 * N + 5 + a := by decide) :
    (L + b) / 6 + D ≤ N ∧ L + b ≤ 6 * ((L + b) / 6) + 5 := by
  omega

section
variable {E : ParserEnv} (hE : Compiled E) (bufLen : Nat) (c : Config)
include hE

theorem value_items {pos : Nat → ScanState} {o : Options} {tv : Nat × TokVal} (n : Node)
    (hok : okNode n = true) {R : List Denote.Item} (hR : NotString R) {q qv : Nat}
    (hq : ValCtx q qv) {vq : TokVal} {stk : List (Nat × TokVal)} {la : Lookahead} {sc : ScanState}
    {ctx : ParseCtx} {K : Node → Node} {pp : Path} {pn : Node} {st : Option Path}
    {pre : List Node} {mk : Option Nat} {d : Nat} (hd : stk.length + 1 ≤ 6 * d + 5)
    (hnest : nestS d (its (tokValue bufLen c n) ++ R) ≤ 1665)
    (hI : InpI E false pos tv la sc (its (tokValue bufLen c n) ++ R))
    (hV : View ctx K pp pn none st) (hS : SlotP st pp pn pre n.name (mk.map (stampAt pos)))
    (hna : pn.ty ≠ T_ARRAY) (hinv : Inv false o ctx) (hfol : endK tv ≠ 9) :
    ∃ la' sc' ctx' vv x st',
      Reaches E ⟨(q, vq) :: stk, la, sc, ctx⟩ ⟨(qv, vv) :: (q, vq) :: stk, la', sc', ctx'⟩ ∧
      InpI E false pos tv la' sc' R ∧ View ctx' K pp { pn with kids := pre ++ [x] } none st' ∧
      stripPos x = expNode bufLen c n ∧ Inv false o ctx' := by
  obtain ⟨x, hJ, hx⟩ := valueJ_of_value (σ := stampAt pos) mk
    (all_den bufLen c o n hok _ R hR (Nat.lt_succ_self _))
  have hsim := (sim_all (plain := false) (pos := pos) (o := o) (tv := tv) hE _).1 n.name mk _ q qv
    stk [] vq la sc ctx K pp pn st pre d hq (Nat.lt_succ_self _) hd hI hV hS hna hinv hnest hfol
    (fun h => by rw [hJ] at h; exact h.not_ok.elim)
  rw [hJ] at hsim
  obtain ⟨b, hR, la', sc', ctx', vv, rfl, hI', ⟨st', hV'⟩, hinv', -⟩ := hsim
  exact ⟨la', sc', ctx', vv, x, st', hR, hI', hV', hx, hinv'⟩

/-- **A written value**, in any place for a value, in front of any token that is no string: the
loop arrives with `value` pushed, in front of that token, the slot filled with the expected
setting. -/
theorem value_general (n : Node) (hok : okNode n = true) {q qv : Nat} (hq : ValCtx q qv)
    {vq : TokVal} {rest : List (Nat × TokVal)} {la : Lookahead} {sc : ScanState} {ctx : ParseCtx}
    {K : Node → Node} {pp : Path} {pn : Node} {st : Option Path} {pre : List Node} {t : Nat}
    {v : TokVal} {ks : List (Nat × TokVal)}
    (hdepth : rest.length + 6 * nodeDepth n + 5 < 10000) (hview : View ctx K pp pn none st)
    (hslot : Slot st pp pn pre n.name) (hparent : pn.ty ≠ T_ARRAY)
    (hfollow : translateTok P t ≠ 9) (hinp : Inp E la sc (tokValue bufLen c n ++ (t, v) :: ks)) :
    ∃ la' sc' ctx' vv,
      Reaches E ⟨(q, vq) :: rest, la, sc, ctx⟩ ⟨(qv, vv) :: (q, vq) :: rest, la', sc', ctx'⟩ ∧
      Inp E la' sc' ((t, v) :: ks) ∧ Built bufLen c K pp pn pre n ctx' := by
  obtain ⟨pos, hat, back⟩ := Inp.cut (t, v) ks _ hinp fun h => by
    have := its_tokValue_pos bufLen c n hok
    rw [h] at this
    cases this
  obtain ⟨pos', mk, hagree, hSP⟩ := SlotP.at hslot pos ((tokValue bufLen c n ++ [(t, v)]).length)
  have hI : InpI E false pos' (t, v) la sc (its (tokValue bufLen c n)) :=
    ⟨_, InpAt.congr hat hagree, rfl, tokOK_value bufLen c n hok⟩
  obtain ⟨o, ho⟩ : ∃ o : Options, ctx.cfg.opt OPT_ALLOW_OVERRIDES = o.allowOverrides := ⟨⟨_⟩, rfl⟩
  obtain ⟨hlev, hstk⟩ := level 1 1665 hdepth
  have hsh := shallow bufLen c n hok _ 1665 [] hlev (Nat.le_trans (Nat.le_add_right _ _) hlev)
  rw [← List.append_nil (its _)] at hI
  obtain ⟨la', sc', ctx', vv, x, st', hR, ⟨raw, hat', hmap, -⟩, hV', hx, -⟩ :=
    value_items hE bufLen c n hok (fun _ _ h => by cases h) hq (vq := vq) (stk := rest)
      hstk hsh hI hview hSP hparent ⟨ho, fun h => by cases h⟩
      (endK_ne hfollow (by decide))
  obtain rfl : raw = [] := List.map_eq_nil_iff.mp hmap
  refine ⟨la', sc', ctx', vv, hR, back la' sc' (InpAt.congr hat' fun n hn => ?_), x, st', hV', hx⟩
  exact (hagree n (Nat.le_trans hn (by simp))).symm

/-- **Written elements** of a list, in front of its closing parenthesis: the loop arrives with
`value_list_optional` pushed, in front of the parenthesis, and the list has the expected elements
appended.  (`listRestJ` reads the parenthesis as well; here it is the end token, which is all that
is known of the input from there on: so the elements are walked one by one.) -/
theorem elements_general (kids : List Node) (hok : ∀ k ∈ kids, okNode k = true)
    (hnameless : ∀ k ∈ kids, k.name = none) {v26 : TokVal} {rest : List (Nat × TokVal)}
    {la : Lookahead} {sc : ScanState} {ctx : ParseCtx} {K : Node → Node} {pp : Path} {a : Node}
    {st : Option Path} {tvs : List (Nat × TokVal)}
    (hdepth : rest.length + 6 * listDepth kids + 1 < 10000)
    (hview : View ctx K pp a none st) (hlist : a.ty = T_LIST)
    (hinp : Inp E la sc (tokElems bufLen c kids ++ tLE :: tvs)) :
    ∃ la' sc' ctx' vv ks2 st',
      Reaches E ⟨(26, v26) :: rest, la, sc, ctx⟩ ⟨(37, vv) :: (26, v26) :: rest, la', sc', ctx'⟩ ∧
      Inp E la' sc' (tLE :: tvs) ∧
      View ctx' K pp { a with kids := a.kids ++ ks2 } none st' ∧
      stripPosList ks2 = expList bufLen c kids := by
  obtain ⟨pos, hat, back⟩ := Inp.cut tLE tvs _ hinp fun _ => by decide
  obtain ⟨o, ho⟩ : ∃ o : Options, ctx.cfg.opt OPT_ALLOW_OVERRIDES = o.allowOverrides := ⟨⟨_⟩, rfl⟩
  have hkok : ∀ k ∈ kids, ∀ x ∈ tokValue bufLen c k, TokOK x :=
    fun k hk => tokOK_value bufLen c k (hok k hk)
  have hI : InpI E false pos tLE la sc (its (tokElems bufLen c kids)) :=
    ⟨_, hat, rfl, tokOK_elems bufLen c kids hkok⟩
  have he : endK tLE = 16 := by
    unfold endK
    rw [show tLE.1 = tk.listEnd from rfl, kind_listEnd]
    rfl
  have hinv : Inv false o ctx := ⟨ho, fun h => by cases h⟩
  have hR : ∀ ks : List Node, NotString (its (tokRest bufLen c ks)) := fun ks s r h => by
    cases ks with
    | nil => cases h
    | cons k ks => rw [tokRest_cons] at h; cases h
  obtain ⟨hlev, hstk⟩ := level 3 1666 hdepth
  generalize (rest.length + 3) / 6 = e at hlev hstk
  have hne : ∀ (k : Node) (ks : List Node), okNode k = true → (∀ x ∈ ks, okNode x = true) →
      e + listDepth (k :: ks) ≤ 1666 →
      nestS e (its (tokValue bufLen c k) ++ its (tokRest bufLen c ks)) ≤ 1665 := by
    intro k ks hk hks hb
    have hb' : ∀ x ∈ k :: ks, e + nodeDepth x ≤ 1665 := fun x hx =>
      Nat.le_of_succ_le_succ (Nat.le_trans (Nat.add_le_add_left (listDepth_mem hx) e) hb)
    rw [List.forall_mem_cons] at hb'
    have h2 := nestS_rest bufLen c ks (fun x hx => shallow bufLen c x (hks x hx)) e 1665 [] hb'.2
      (Nat.le_trans (Nat.le_add_right _ _) hb'.1)
    rw [List.append_nil] at h2
    exact shallow bufLen c k hk e 1665 _ hb'.1 h2
  have walk : rest.length + 7 < 10000 →
      ∀ ks : List Node, (∀ k ∈ ks, okNode k = true) → (∀ k ∈ ks, k.name = none) →
      e + listDepth ks ≤ 1666 →
      ∀ (v36 : TokVal) (la : Lookahead) (sc : ScanState) (ctx : ParseCtx) (a : Node)
        (st : Option Path), InpI E false pos tLE la sc (its (tokRest bufLen c ks)) →
      View ctx K pp a none st → a.ty = T_LIST → Inv false o ctx →
      ∃ la' sc' ctx' vv ks2 st', Reaches E ⟨(36, v36) :: (26, v26) :: rest, la, sc, ctx⟩
          ⟨(36, vv) :: (26, v26) :: rest, la', sc', ctx'⟩ ∧ InpI E false pos tLE la' sc' [] ∧
        View ctx' K pp { a with kids := a.kids ++ ks2 } none st' ∧
        stripPosList ks2 = expList bufLen c ks ∧ Inv false o ctx' := by
    intro hroom ks
    induction ks with
    | nil =>
      intro _ _ _ v36 la sc ctx a st hI hV _ hinv
      exact ⟨la, sc, ctx, v36, [], st, Reaches.refl _ _, hI, view_kids_nil hV, rfl, hinv⟩
    | cons k ks ih =>
      intro hok hnl hb v36 la sc ctx a st hI hV hty hinv
      rw [List.forall_mem_cons] at hok hnl
      have hb' : e + listDepth ks ≤ 1666 := Nat.le_trans (Nat.add_le_add_left
        (listDepth_cons_le k ks) e) hb
      rw [tokRest_cons] at hI
      simp only [its, List.map_cons, List.map_append, List.cons_append] at hI
      obtain ⟨v, sc1, ctx1, hR1, hI1, hS1, -⟩ := hI.shift hE (v0 := v36)
        (rest := (26, v26) :: rest) (ctx := ctx) (it := .comma) (k := 17)
        (room 2 hroom) (by decide) (fun _ h => h) sh_36_comma (by decide)
      obtain ⟨la2, sc2, ctx2, vv2, x, st2, hR2, hI2, hV2, hx, hinv2⟩ := value_items hE bufLen c k
        hok.1 (hR ks) val_42 (vq := v) (stk := (36, v36) :: (26, v26) :: rest) (mk := none)
        (d := e) hstk (hne k ks hok.1 hok.2 hb) hI1
        (hV.of_same hS1.sem) (SlotP.elem (.inl hty) rfl hnl.1) (by rw [hty]; decide)
        (hinv.of_same hS1) (by rw [he]; decide)
      -- `value_list: value_list , value`
      obtain ⟨la3, sc3, ctx3, vv3, hR3, hI3, hS3⟩ := hI2.reduce0 hE (ctx := ctx2)
        (pushed := [(46, vv2), (42, v), (36, v36)]) (p := 26) (vp := v26) (rest := rest)
        rfl rfl (room 4 hroom) (by decide) (fun k h23 _ => red_46 k h23) rule_31 rfl go_26_vl
      obtain ⟨la4, sc4, ctx4, vv4, ks2, st4, hR4, hI4, hV4, hks, hinv4⟩ := ih hok.2 hnl.2 hb' vv3
        la3 sc3 ctx3 _ st2 hI3 (hV2.of_same hS3.sem) hty (hinv2.of_same hS3)
      refine ⟨la4, sc4, ctx4, vv4, x :: ks2, st4, ((hR1.trans hR2).trans hR3).trans hR4, hI4, ?_,
        ?_, hinv4⟩
      · rw [List.append_cons]; exact hV4
      · rw [stripPosList, expList, hx, hks]
  -- back to the token list that goes on
  have done : ∀ la' sc', InpI E false pos tLE la' sc' [] → Inp E la' sc' (tLE :: tvs) := by
    intro la' sc' ⟨raw, hat', hmap, _⟩
    obtain rfl : raw = [] := List.map_eq_nil_iff.mp hmap
    exact back la' sc' hat'
  cases kids with
  | nil =>
    -- `value_list_optional:` empty
    have hI0 : InpI E false pos tLE la sc [] := hI
    obtain ⟨la1, sc1, ctx1, vv1, hR1, hI1, hS1⟩ := hI0.reduce0 hE (ctx := ctx)
      (pushed := []) (p := 26) (vp := v26) (rest := rest) rfl rfl (by dep) (by decide)
      (fun k h23 hn => red_26 k h23 (valStart_of_hk h23 hn (by rw [hkE, he]; rfl)))
      rule_33 rfl go_26_vlo
    exact ⟨la1, sc1, ctx1, vv1, [], st, hR1, done _ _ hI1, view_kids_nil (hview.of_same hS1.sem),
      rfl⟩
  | cons k0 tl =>
    rw [List.forall_mem_cons] at hok hnameless
    have hroom : rest.length + 7 < 10000 := by rw [listDepth] at hdepth; omega
    rw [tokElems_cons] at hI
    simp only [its, List.map_append] at hI
    obtain ⟨la1, sc1, ctx1, vv1, x, st1, hR1, hI1, hV1, hx, hinv1⟩ := value_items hE bufLen c k0
      hok.1 (hR tl) val_26 (vq := v26) (stk := rest) (mk := none) (d := e)
      (Nat.le_trans (Nat.add_le_add_left (by decide) _) hstk) (hne k0 tl hok.1 hok.2 hlev) hI hview (SlotP.elem (.inl hlist) rfl hnameless.1)
      (by rw [hlist]; decide) hinv (by rw [he]; decide)
    -- `value_list: value`
    obtain ⟨la2, sc2, ctx2, vv2, hR2, hI2, hS2⟩ := hI1.reduce0 hE (ctx := ctx1)
      (pushed := [(35, vv1)]) (p := 26) (vp := v26) (rest := rest) rfl rfl (room 2 hroom) (by decide)
      (fun k h23 _ => red_35 k h23) rule_30 rfl go_26_vl
    obtain ⟨la3, sc3, ctx3, vv3, ks2, st3, hR3, hI3, hV3, hks, -⟩ := walk hroom tl hok.2
      hnameless.2 (Nat.le_trans (Nat.add_le_add_left (listDepth_cons_le k0 tl) e) hlev) vv2 la2 sc2
      ctx2 _ st1 hI2 (hV1.of_same hS2.sem) hlist (hinv1.of_same hS2)
    -- `value_list_optional: value_list`
    obtain ⟨la4, sc4, ctx4, vv4, hR4, hI4, hS4⟩ := hI3.reduce0 hE (ctx := ctx3)
      (pushed := [(36, vv3)]) (p := 26) (vp := v26) (rest := rest) rfl rfl (room 2 hroom) (by decide)
      (fun k h23 hn => red_36 k h23 (ne_of_hk hn rfl (by rw [hkE, he]; decide))) rule_34 rfl
      go_26_vlo
    refine ⟨la4, sc4, ctx4, vv4, x :: ks2, st3, ((hR1.trans hR2).trans hR3).trans hR4,
      done _ _ hI4, ?_, ?_⟩
    · rw [List.append_cons]; exact hV3.of_same hS4.sem
    · rw [stripPosList, expList, hx, hks]

/-- the follow condition of a setting: the next token is not a string, a comma or a semicolon -/
def MemFollow (t : Nat) : Prop :=
  translateTok P t ≠ 9 ∧ translateTok P t ≠ 17 ∧ translateTok P t ≠ 20

/-- **Written members** of a group that is still empty, in front of any token that neither
continues nor ends a setting: the loop arrives with `setting_list` pushed, in front of that token,
and the group has the expected members. -/
theorem members_general {q0 q1 : Nat} (hq : MemCtx q0 q1) (k : Node) (ks : List Node)
    (hok : ∀ x ∈ k :: ks, okNode x = true) (hnames : ∀ x ∈ k :: ks, nameOKB x = true)
    (hdistinct : ((k :: ks).map (·.name)).Nodup) {v0 : TokVal} {rest : List (Nat × TokVal)}
    {la : Lookahead} {sc : ScanState} {ctx : ParseCtx} {K : Node → Node} {pp : Path} {pn : Node}
    {st : Option Path} {t : Nat} {v : TokVal} {ks' : List (Nat × TokVal)}
    (hdepth : rest.length + 6 * listDepth (k :: ks) + 3 < 10000)
    (hview : View ctx K pp pn none st) (hgroup : pn.ty = T_GROUP) (hempty : pn.kids = [])
    (hfollow : MemFollow t)
    (hinp : Inp E la sc (tokMembers bufLen c (k :: ks) ++ (t, v) :: ks')) :
    ∃ la' sc' ctx' vv ks2 st',
      Reaches E ⟨(q0, v0) :: rest, la, sc, ctx⟩ ⟨(q1, vv) :: (q0, v0) :: rest, la', sc', ctx'⟩ ∧
      Inp E la' sc' ((t, v) :: ks') ∧
      View ctx' K pp { pn with kids := pn.kids ++ ks2 } none st' ∧
      stripPosList ks2 = expList bufLen c (k :: ks) := by
  obtain ⟨nm, hnm, -⟩ := nameOKB_spec (hnames k List.mem_cons_self)
  have htoks : tokMembers bufLen c (k :: ks) ≠ [] := by
    rw [tokMembers_cons, hnm]
    exact fun h => by cases h
  obtain ⟨pos, hat, back⟩ := Inp.cut (t, v) ks' _ hinp fun h => absurd h htoks
  have hI : InpI E false pos (t, v) la sc (its (tokMembers bufLen c (k :: ks))) :=
    ⟨_, hat, rfl, tokOK_members bufLen c _ hnames fun x hx => tokOK_value bufLen c x (hok x hx)⟩
  obtain ⟨o, ho⟩ : ∃ o : Options, ctx.cfg.opt OPT_ALLOW_OVERRIDES = o.allowOverrides := ⟨⟨_⟩, rfl⟩
  have hden := settings_written bufLen c o (k :: ks) (fun x _ => all_den bufLen c o x) hok hnames
    hdistinct ((its (tokMembers bufLen c (k :: ks))).length + 1) [] []
    ⟨fun _ _ h => (by cases h), fun _ h => (by cases h), fun _ h => (by cases h)⟩
    (fun _ _ h => by cases h) (fun _ _ _ hx => by cases hx) (by simp)
  rw [List.append_nil, List.nil_append] at hden
  obtain ⟨r', hJ, hr'⟩ := settingsJ_of_settings (σ := stampAt pos) (m := []) hden
  obtain ⟨hlev, hstk⟩ := level 5 1666 hdepth
  have hx : ∀ x ∈ k :: ks, (rest.length + 5) / 6 + nodeDepth x ≤ 1665 := fun x hx =>
    Nat.le_of_succ_le_succ (Nat.le_trans (Nat.add_le_add_left (listDepth_mem hx) _) hlev)
  have hsh := nestS_members bufLen c (k :: ks) hnames (fun x hx => shallow bufLen c x (hok x hx))
    _ 1665 [] hx (Nat.le_trans (Nat.le_add_right _ _) (hx k List.mem_cons_self))
  rw [List.append_nil] at hsh
  have hsim := (sim_all (plain := false) (pos := pos) (o := o) (tv := (t, v)) hE
    ((its (tokMembers bufLen c (k :: ks))).length + 1)).2.2 [] _ q0 q1 hq v0 rest
    ((q0, v0) :: rest) la sc ctx K pp pn st ((rest.length + 5) / 6) (.inl rfl) (Nat.lt_succ_self _)
    (Nat.succ_le_succ (Nat.le_of_add_le_add_right hstk)) hI hview hgroup hempty
    ⟨ho, fun h => by cases h⟩ hsh
    (endK_ne hfollow.1 (by decide)) (fun h => by rw [hJ] at h; exact h.not_ok.elim)
    (fun _ _ => ⟨endK_ne hfollow.2.1 (by decide), endK_ne hfollow.2.2 (by decide)⟩)
  rw [hJ] at hsim
  obtain ⟨b, hR, stkS, la', sc', ctx', st', rfl, hshape, ⟨raw, hat', hmap, -⟩, hV', -, -, -⟩ := hsim
  obtain rfl : raw = [] := List.map_eq_nil_iff.mp hmap
  obtain ⟨vv, rfl⟩ : ∃ vv, stkS = (q1, vv) :: (q0, v0) :: rest := by
    rcases hshape with ⟨-, h⟩ | h
    · exact absurd (List.map_eq_nil_iff.mp h.symm) htoks
    · exact h
  refine ⟨la', sc', ctx', vv, r', st', hR, back la' sc' hat', ?_, hr'⟩
  rw [hempty]
  exact hV'

end

/-! ### a written configuration -/

section
variable {E : ParserEnv} (hE : Compiled E) (bufLen : Nat) (c : Config)
  (hok : okNode c.root = true) (hname : c.root.name = none) (hty : c.root.ty = T_GROUP)
  (hdepth : nodeDepth c.root ≤ 1666) {s₀ : ScanState} {ctx₀ : ParseCtx}
  (hlex : LexT E s₀ (tokensOfConfig tk bufLen c ++ [tEOF]))
  (hroot : stripPos ctx₀.cfg.root = { ty := T_GROUP }) (hpar : ctx₀.parent = some [])
  (hstr : ctx₀.str = none)
include hE hok hname hty hdepth hlex hroot hpar hstr

/-- The core of C01_parse_rebuilds: the general theorem (`C02D.denote_ok_core`) at the tokens of
the written form, which denote the expected tree. -/
theorem parse_rebuilds_core {fuel : Nat} {s' : ScanState} {ctx' : ParseCtx} {r : ParseResult}
    (h : yyparse E fuel s₀ ctx₀ = (s', ctx', r)) (hr : r ≠ .outOfFuel) :
    r = .accept ∧ stripPos ctx'.cfg.root = expNode bufLen c c.root := by
  obtain ⟨o, ho⟩ : ∃ o : Options, ctx₀.cfg.opt OPT_ALLOW_OVERRIDES = o.allowOverrides := ⟨⟨_⟩, rfl⟩
  obtain ⟨pos, rfl, hl⟩ := hlex.atText
  exact denote_ok_core (o := o) hE _ (tokOK_config bufLen c hok hname hty)
    (Nat.le_trans (nestS_config bufLen c hok hname hty) (Nat.sub_le_of_le_add hdepth)) hl hroot hpar
    hstr ⟨ho, fun h => by cases h⟩ h hr (denote_written bufLen c o hok hname hty)

theorem parse_accepts_core :
    ∃ N s' ctx', (∀ fuel, N ≤ fuel → yyparse E fuel s₀ ctx₀ = (s', ctx', .accept)) ∧
      stripPos ctx'.cfg.root = expNode bufLen c c.root := by
  obtain ⟨o, ho⟩ : ∃ o : Options, ctx₀.cfg.opt OPT_ALLOW_OVERRIDES = o.allowOverrides := ⟨⟨_⟩, rfl⟩
  obtain ⟨pos, rfl, hl⟩ := hlex.atText
  exact denote_ok_total (o := o) hE _ (tokOK_config bufLen c hok hname hty)
    (Nat.le_trans (nestS_config bufLen c hok hname hty) (Nat.sub_le_of_le_add hdepth)) hl hroot hpar
    hstr ⟨ho, fun h => by cases h⟩ (denote_written bufLen c o hok hname hty)

end

end Libconfig.C01PP
