import LibconfigModel.Proofs.C02DenoteMain
/-
  C09L, the whole parse — the rejecting direction of Proofs/C02DenoteMain.lean for a scanner run
  without include errors, in the terms of Properties/C09Line.lean: `yyparse` over the compiled
  tables, started on a cleared configuration in front of the tokens of a text that the reference
  interpreter rejects, aborts with the denoted message IN THE SCAN STATE RIGHT AFTER THE TOKEN
  `reportAt` NAMES, and records the line counter of that state — unless the fuel of the model runs
  out.
-/
namespace Libconfig.C09L
open Libconfig C02P C05P C02C C01PP C04 C04R Denote C02D

section
variable {E : ParserEnv} {pos : Nat → ScanState} {o : Options}

/-- **The position of the offence, core statement**: under the hypotheses of
`C02D.denote_error_core` with a scanner run without include errors whose scan states are `pos`
(`pos n`: the state in which `n` tokens, the end marker included, are still to come): if the
interpreter of DenotePos.lean rejects the text for `k`, the items not yet read at the offence
being `w`, then whatever `yyparse` returns with enough fuel is 1, with the message of `k`, in the
scan state right after the token `reportAt k w` begins with, and the error line recorded is the
line counter of that state. -/
theorem offence_core (hE : Compiled E) (toks : List (Nat × TokVal)) (hraw : RawOK toks)
    (hnest : nestS 0 (toks.map itemOf) ≤ 1665) {fuel : Nat} {s' : ScanState} {ctx₀ ctx' : ParseCtx}
    {r : ParseResult} (hlex : LexQ E pos (toks ++ [tEOF]))
    (hroot : stripPos ctx₀.cfg.root = { ty := T_GROUP }) (hpar : ctx₀.parent = some [])
    (hstr : ctx₀.str = none) (hinv : Inv true o ctx₀)
    (h : yyparse E fuel (pos (toks.length + 1)) ctx₀ = (s', ctx', r)) (hr : r ≠ .outOfFuel)
    {k : ErrKind} {w : List Denote.Item} (hd : offenceAt o toks = some (k, w)) :
    r = .abort ∧ ctx'.cfg.errText = some k.text ∧
      ctx'.cfg.errLine = (pos (reportAt k w).length).buf.lineno ∧
      s' = pos (reportAt k w).length := by
  have hsim := parse_sim (o := o) hE toks hraw hnest hlex.at hroot hpar hstr hinv
  have hab : AbortsAt E true ⟨[(0, {})], none, pos (toks.length + 1), ctx₀⟩ k.text
      (pos (reportAt k w).length) := by
    unfold offenceAt at hd
    cases hs : settingsAt o (toks.length + 1) [] (toks.map itemOf) with
    | error k' w' =>
      rw [hs] at hd hsim
      cases hd
      exact hsim
    | ok m rest =>
      rw [hs] at hd hsim
      cases rest with
      | nil => cases hd
      | cons it tl =>
        cases hd
        rw [reportAt_syntax]
        exact hsim
  have := hab.part fuel
  rw [← yyparse_eq_run, h] at this
  rcases this with hout | ⟨h1, h2, h3⟩
  · exact absurd hout hr
  · exact ⟨h1, (h3 rfl).1, (h3 rfl).2, h2⟩

end

end Libconfig.C09L
