import LibconfigModel.Denote
import LibconfigModel.Proofs.C02DenoteStep
import LibconfigModel.Proofs.C02DenoteSpec
/-
  C02D, static part: the facts about the compiled LALR tables that the simulation needs beyond
  those of Proofs/C01ParseStatic.lean (trailing commas, `,` as a setting terminator, adjacent
  strings, what every state does on a token it does not expect), and the kind (`YYTRANSLATE`) of
  the token behind each item of the reference interpreter.  Closed statements about
  `Generated.parser`, evaluated by the kernel.
-/
namespace Libconfig.C02D
open Libconfig C02P C05P C02C C01PP Denote

/-! ### more shifts, reductions, rules -/

theorem sh_21_comma : actAt P 21 17 = some 28 := by decide +kernel
theorem sh_22_string : actAt P 22 9 = some 31 := by decide +kernel

theorem red_28 : ∀ k < 23, redOK P 28 k 10 = true := fun k _ => (dflt 28).red k
theorem red_31 : ∀ k < 23, redOK P 31 k 22 = true := fun k _ => (dflt 31).red k

def scalStart (k : Nat) : Bool := Nat.ble 3 k && Nat.ble k 9
def valStart (k : Nat) : Bool := scalStart k || Nat.beq k 13 || Nat.beq k 15 || Nat.beq k 18

/-- what the states that expect something do on a kind they do not shift: reduce by default -/
theorem red_0 : ∀ k < 23, k ≠ 10 → redOK P 0 k 2 = true := by decide +kernel
theorem red_3 : ∀ k < 23, k ≠ 10 → redOK P 3 k 3 = true := by decide +kernel
theorem red_27 : ∀ k < 23, k ≠ 10 → redOK P 27 k 6 = true := by decide +kernel
theorem red_38 : ∀ k < 23, k ≠ 10 → redOK P 38 k 7 = true := by decide +kernel
theorem red_25 : ∀ k < 23, scalStart k = false → redOK P 25 k 38 = true := by decide +kernel
theorem red_33 : ∀ k < 23, k ≠ 17 → redOK P 33 k 39 = true := by decide +kernel
theorem red_40 : ∀ k < 23, scalStart k = false → redOK P 40 k 37 = true := by decide +kernel
theorem red_26 : ∀ k < 23, valStart k = false → redOK P 26 k 33 = true := by decide +kernel
theorem red_36 : ∀ k < 23, k ≠ 17 → redOK P 36 k 34 = true := by decide +kernel
theorem red_42 : ∀ k < 23, valStart k = false → redOK P 42 k 32 = true := by decide +kernel

/-- … or report a syntax error -/
theorem err_2 : ∀ k < 23, k ≠ 0 → errOK P 2 k = true := by decide +kernel
theorem err_5 : ∀ k < 23, k ≠ 11 → errOK P 5 k = true := by decide +kernel
theorem err_8 : ∀ k < 23, valStart k = false → errOK P 8 k = true := by decide +kernel
theorem err_34 : ∀ k < 23, k ≠ 14 → errOK P 34 k = true := by decide +kernel
theorem err_37 : ∀ k < 23, k ≠ 16 → errOK P 37 k = true := by decide +kernel
theorem err_39 : ∀ k < 23, k ≠ 19 → errOK P 39 k = true := by decide +kernel

theorem rule_10 : RuleIs 10 27 1 .none := by decide +kernel
theorem rule_22 : RuleIs 22 35 2 .stringNext := by decide +kernel
theorem rule_32 : RuleIs 32 37 2 .none := by decide +kernel
theorem rule_37 : RuleIs 37 39 2 .none := by decide +kernel

/-! ### items and kinds -/

/-- the kinds of the tokens that are no item of the language: `error`, `$undefined`, TOK_NEWLINE,
TOK_GARBAGE, TOK_ERROR -/
def isJunk (k : Nat) : Bool :=
  Nat.beq k 1 || Nat.beq k 2 || Nat.beq k 12 || Nat.beq k 21 || Nat.beq k 22

/-- `k` is the kind of a token that stands for the item -/
def KindRel : Denote.Item → Nat → Prop
  | .boolean _, k => k = 3
  | .integer _, k => k = 4
  | .hex _, k => k = 5
  | .integer64 _, k => k = 6
  | .hex64 _, k => k = 7
  | .float _, k => k = 8
  | .string _, k => k = 9
  | .name _, k => k = 10
  | .assign, k => k = 11
  | .arrayStart, k => k = 13
  | .arrayEnd, k => k = 14
  | .listStart, k => k = 15
  | .listEnd, k => k = 16
  | .comma, k => k = 17
  | .groupStart, k => k = 18
  | .groupEnd, k => k = 19
  | .semicolon, k => k = 20
  | .other, k => isJunk k = true

/-- the semantic value of a token that stands for the item -/
def ValRel : Denote.Item → TokVal → Prop
  | .boolean i, v => v.ival = i
  | .integer i, v => v.ival = i
  | .hex i, v => v.ival = i
  | .integer64 i, v => v.ival = i
  | .hex64 i, v => v.ival = i
  | .float b, v => v.fval = b
  | .string s, v => v.sval = s
  | .name s, v => v.sval = s
  | _, _ => True

/-- the token numbers of the seventeen items of the language, in the order of `itemOf` -/
def itemToks : List Nat :=
  [tk.boolean, tk.integer, tk.integer64, tk.hex, tk.hex64, tk.float, tk.string, tk.name, tk.equals,
   tk.arrayStart, tk.arrayEnd, tk.listStart, tk.listEnd, tk.groupStart, tk.groupEnd, tk.comma,
   tk.semicolon]

/-- every token number up to `YYMAXUTOK` other than 0 and the seventeen of the language
translates to a junk kind -/
def junkCheck : Bool :=
  allBelow 278 fun t => Nat.beq t 0 || itemToks.contains t || isJunk (translateTok P t)

theorem junkCheck_ok : junkCheck = true := by decide +kernel

theorem itemOf_eq (t : Nat) (v : TokVal) :
    itemOf (t, v) =
      if t = tk.boolean then .boolean v.ival
      else if t = tk.integer then .integer v.ival
      else if t = tk.integer64 then .integer64 v.ival
      else if t = tk.hex then .hex v.ival
      else if t = tk.hex64 then .hex64 v.ival
      else if t = tk.float then .float v.fval
      else if t = tk.string then .string v.sval
      else if t = tk.name then .name v.sval
      else if t = tk.equals then .assign
      else if t = tk.arrayStart then .arrayStart
      else if t = tk.arrayEnd then .arrayEnd
      else if t = tk.listStart then .listStart
      else if t = tk.listEnd then .listEnd
      else if t = tk.groupStart then .groupStart
      else if t = tk.groupEnd then .groupEnd
      else if t = tk.comma then .comma
      else if t = tk.semicolon then .semicolon
      else .other := rfl

/-- a fact about a chain of `if`s, branch by branch (`split` does not get through the seventeen
conditions of `itemOf`: its `simp` call unfolds the token numbers) -/
theorem ite_ind {α} {p : α → Prop} {c : Prop} [Decidable c] {a b : α} (ha : c → p a)
    (hb : ¬ c → p b) : p (if c then a else b) := by
  by_cases h : c
  · rw [if_pos h]; exact ha h
  · rw [if_neg h]; exact hb h

/-- one branch of `itemOf`: the item of token `c` has the kind of `c` -/
theorem kindRel_ite {t c : Nat} {a b : Denote.Item} (ha : KindRel a (translateTok P c))
    (hb : t ≠ c → KindRel b (translateTok P t)) :
    KindRel (if t = c then a else b) (translateTok P t) :=
  ite_ind (p := (KindRel · _)) (fun h => h ▸ ha) hb

theorem junk_of_not_item {t : Nat} (h0 : t ≠ 0) (h : t ∉ itemToks) :
    isJunk (translateTok P t) = true := by
  by_cases hle : t ≤ 277
  · have := allBelow_spec junkCheck_ok t (by omega)
    simp only [Bool.or_eq_true, Nat.beq_eq, List.contains_eq_mem, decide_eq_true_eq] at this
    exact this.resolve_left fun h' => h'.elim h0 h
  · rw [translateTok_above hle]
    rfl

theorem kindRel_itemOf (t : Nat) (v : TokVal) (h0 : t ≠ 0) :
    KindRel (itemOf (t, v)) (translateTok P t) := by
  rw [itemOf_eq]
  refine kindRel_ite kind_boolean fun h1 => kindRel_ite kind_integer fun h2 =>
    kindRel_ite kind_integer64 fun h3 => kindRel_ite kind_hex fun h4 =>
    kindRel_ite kind_hex64 fun h5 => kindRel_ite kind_float fun h6 =>
    kindRel_ite kind_string fun h7 => kindRel_ite kind_name fun h8 =>
    kindRel_ite kind_equals fun h9 => kindRel_ite kind_arrayStart fun h10 =>
    kindRel_ite kind_arrayEnd fun h11 => kindRel_ite kind_listStart fun h12 =>
    kindRel_ite kind_listEnd fun h13 => kindRel_ite kind_groupStart fun h14 =>
    kindRel_ite kind_groupEnd fun h15 => kindRel_ite kind_comma fun h16 =>
    kindRel_ite kind_semicolon fun h17 => junk_of_not_item h0 ?_
  simp only [itemToks, List.mem_cons, List.not_mem_nil, or_false, not_or]
  exact ⟨h1, h2, h3, h4, h5, h6, h7, h8, h9, h10, h11, h12, h13, h14, h15, h16, h17⟩

theorem valRel_itemOf (t : Nat) (v : TokVal) : ValRel (itemOf (t, v)) v := by
  rw [itemOf_eq]
  repeat' refine ite_ind (p := (ValRel · v)) (fun _ => ?_) (fun _ => ?_)
  all_goals first | rfl | trivial

theorem itemOf_name {t : Nat} {v : TokVal} {s : Bytes} (h : itemOf (t, v) = .name s) :
    t = tk.name ∧ v.sval = s := by
  rw [itemOf_eq] at h
  revert h
  repeat'
    refine ite_ind (p := (· = Item.name s → t = tk.name ∧ v.sval = s))
      (fun hc h => ?_) (fun _ => ?_)
  all_goals first | exact ⟨hc, Item.name.inj h⟩ | nomatch h | exact nofun

/-! ### kinds up to junk -/

/-- the kinds of the tokens that are no items of the language are all treated alike -/
def normK (k : Nat) : Nat := if isJunk k = true then 2 else k

theorem kindRel_norm {it : Denote.Item} {k : Nat} (h : KindRel it k) :
    normK k = hk (it :: []) := by
  cases it
  case other =>
    have h' : isJunk k = true := h
    unfold normK
    rw [if_pos h']
    rfl
  all_goals
    have h' : k = _ := h
    subst h'
    rfl

theorem hk_cons (it : Denote.Item) (l l' : List Denote.Item) : hk (it :: l) = hk (it :: l') := by
  cases it <;> rfl

theorem valStart_norm : ∀ k < 23, valStart (normK k) = valStart k := by decide
theorem scalStart_norm : ∀ k < 23, scalStart (normK k) = scalStart k := by decide
theorem normK_eq : ∀ k < 23, ∀ c < 23, isJunk c = false → normK k = c → k = c := by decide
theorem scalStart_iff (k : Nat) : scalStart k = true ↔ (3 ≤ k ∧ k ≤ 9) := by
  unfold scalStart
  rw [Bool.and_eq_true]
  constructor
  · intro h; exact ⟨Nat.le_of_ble_eq_true h.1, Nat.le_of_ble_eq_true h.2⟩
  · intro h; exact ⟨Nat.ble_eq_true_of_le h.1, Nat.ble_eq_true_of_le h.2⟩

end Libconfig.C02D
