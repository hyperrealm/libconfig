import LibconfigModel.Proofs.C09LineLex
import LibconfigModel.Proofs.C10ProvSim3
/-
  C10P (provenance of the tree), the whole parse — the accepting direction of
  Proofs/C02DenoteMain.lean with the tree kept exactly: `yyparse` over the compiled tables, started
  on a cleared configuration in front of the tokens of a text that the stamped interpreter of
  DenoteProv.lean accepts, accepts and leaves EXACTLY the tree that interpreter builds when every
  token is stamped with the line counter and the current file of the scan state right after it —
  unless the fuel of the model runs out.  Then: from the position function to a run with positions
  (`LexesToPos`) and token indices (`denoteAt`), and the corollaries of naturality on the level of
  whole texts (`denoteAt` against `denote`, against `denoteProv`, path by path).
-/
namespace Libconfig.C10Prov
open Libconfig C02P C05P C02C C01PP C04 C04R Denote C02D C09L

section
variable {E : ParserEnv} {pos : Nat → ScanState} {o : Options}

theorem prov_sim (hE : Compiled E) (toks : List (Nat × TokVal)) (hraw : RawOK toks)
    (hnest : nestS 0 (toks.map itemOf) ≤ 1665) {ctx₀ : ParseCtx}
    (hlex : LexQ E pos (toks ++ [tEOF]))
    (hroot : stripPos ctx₀.cfg.root = { ty := T_GROUP }) (hpar : ctx₀.parent = some [])
    (hstr : ctx₀.str = none) (hinv : Inv true o ctx₀) {members : List Node}
    (hs : settingsP (stampAt pos) o (toks.length + 1) [] (toks.map itemOf) = .ok members []) :
    ∃ la1 sc1 ctx1 vv v2, Reaches E ⟨[(0, {})], none, pos (toks.length + 1), ctx₀⟩
      ⟨[(6, vv), (2, v2), (0, {})], la1, sc1, ctx1⟩ ∧
      ctx1.cfg.root = stamped { ty := T_GROUP, kids := members }
        (ctx₀.cfg.root.line, ctx₀.cfg.root.file) :=
  accept_sim hE toks hraw hnest hlex.at hroot hpar hstr hinv
    (erase_ok.mp (by rw [← (joint_erase (stampAt pos) o).2.1]; exact hs))

/-- **The provenance of the tree, core statement**: under the hypotheses of
`C02D.denote_ok_core` with a scanner run without include errors whose scan states are `pos`: if the
stamped interpreter accepts the text, then whatever `yyparse` returns with enough fuel is: accept,
with exactly the tree that interpreter builds from the stamps `stampAt pos`. -/
theorem prov_core (hE : Compiled E) (toks : List (Nat × TokVal)) (hraw : RawOK toks)
    (hnest : nestS 0 (toks.map itemOf) ≤ 1665) {fuel : Nat} {s' : ScanState} {ctx₀ ctx' : ParseCtx}
    {r : ParseResult} (hlex : LexQ E pos (toks ++ [tEOF]))
    (hroot : stripPos ctx₀.cfg.root = { ty := T_GROUP }) (hpar : ctx₀.parent = some [])
    (hstr : ctx₀.str = none) (hinv : Inv true o ctx₀)
    (h : yyparse E fuel (pos (toks.length + 1)) ctx₀ = (s', ctx', r)) (hr : r ≠ .outOfFuel)
    {members : List Node}
    (hs : settingsP (stampAt pos) o (toks.length + 1) [] (toks.map itemOf) = .ok members []) :
    r = .accept ∧ ctx'.cfg.root = stamped { ty := T_GROUP, kids := members }
      (ctx₀.cfg.root.line, ctx₀.cfg.root.file) := by
  obtain ⟨la1, sc1, ctx1, vv, v2, hR, hroot1⟩ :=
    prov_sim (o := o) hE toks hraw hnest hlex hroot hpar hstr hinv hs
  obtain ⟨h1, h2⟩ := accepts_part hE hR h hr
  exact ⟨h1, by rw [h2]; exact hroot1⟩

theorem prov_total (hE : Compiled E) (toks : List (Nat × TokVal)) (hraw : RawOK toks)
    (hnest : nestS 0 (toks.map itemOf) ≤ 1665) {ctx₀ : ParseCtx} (hlex : LexQ E pos (toks ++ [tEOF]))
    (hroot : stripPos ctx₀.cfg.root = { ty := T_GROUP }) (hpar : ctx₀.parent = some [])
    (hstr : ctx₀.str = none) (hinv : Inv true o ctx₀) {members : List Node}
    (hs : settingsP (stampAt pos) o (toks.length + 1) [] (toks.map itemOf) = .ok members []) :
    ∃ N s' ctx', (∀ fuel, N ≤ fuel →
        yyparse E fuel (pos (toks.length + 1)) ctx₀ = (s', ctx', .accept)) ∧
      ctx'.cfg.root = stamped { ty := T_GROUP, kids := members }
        (ctx₀.cfg.root.line, ctx₀.cfg.root.file) := by
  obtain ⟨la1, sc1, ctx1, vv, v2, hR, hroot1⟩ :=
    prov_sim (o := o) hE toks hraw hnest hlex hroot hpar hstr hinv hs
  obtain ⟨N, hN⟩ := accepts_total hE hR
  exact ⟨N, sc1, ctx1, hN, hroot1⟩

end

/-! ### on the level of whole texts -/

theorem stamped_stamped (n : Node) (p q : Stamp) : stamped (stamped n p) q = stamped n q := rfl

theorem stamped_line (n : Node) (p : Stamp) : (stamped n p).line = p.1 := rfl
theorem stamped_file (n : Node) (p : Stamp) : (stamped n p).file = p.2 := rfl
theorem stamped_kids (n : Node) (p : Stamp) : (stamped n p).kids = n.kids := rfl

theorem denoteAt_ok {o : Options} {σ : Nat → Stamp} {root : Stamp} {toks : List (Nat × TokVal)}
    {T : Node} (h : denoteAt o σ root toks = .ok T) :
    ∃ members, settingsP (fun k => σ (toks.length - k)) o (toks.length + 1) [] (toks.map itemOf) =
        .ok members [] ∧ T = stamped { ty := T_GROUP, kids := members } root := by
  unfold denoteAt at h
  split at h
  · cases h
  · rename_i members heq
    injection h with h
    exact ⟨members, heq, h.symm⟩
  · cases h

theorem denoteAt_erase (o : Options) (σ : Nat → Stamp) (root : Stamp)
    (toks : List (Nat × TokVal)) :
    denote o toks =
      match denoteAt o σ root toks with
      | .ok T => .ok (stripPos T)
      | .error k => .error k := by
  unfold denote denoteAt
  have := settingsP_erase (fun k => σ (toks.length - k)) o (toks.length + 1) [] (toks.map itemOf)
  rw [show stripPosList [] = [] from rfl] at this
  rw [this]
  cases settingsP (fun k => σ (toks.length - k)) o (toks.length + 1) [] (toks.map itemOf) with
  | error k => rfl
  | ok members rest =>
    cases rest with
    | nil =>
      show Denote.Result.ok _ = Denote.Result.ok _
      rw [stripPos_eq]
      rfl
    | cons it tl => rfl

theorem denoteAt_of_denote {o : Options} (σ : Nat → Stamp) (root : Stamp)
    {toks : List (Nat × TokVal)} {t : Node} (h : denote o toks = .ok t) :
    ∃ T, denoteAt o σ root toks = .ok T ∧ stripPos T = t := by
  have := denoteAt_erase o σ root toks
  rw [h] at this
  cases hd : denoteAt o σ root toks with
  | ok T =>
    rw [hd] at this
    injection this with this
    exact ⟨T, rfl, this.symm⟩
  | error k => rw [hd] at this; cases this

/-- **`denoteAt` is the provenance tree, re-stamped**: every setting of `denoteAt o σ root toks`
carries the stamp `σ i`, `i` the index the provenance tree holds in its place -/
theorem denoteAt_nat (o : Options) (σ : Nat → Stamp) (root : Stamp) (toks : List (Nat × TokVal)) :
    denoteAt o σ root toks =
      match denoteProv o toks with
      | .ok T => .ok (stamped (restamp (fun p => σ p.1) T) root)
      | .error k => .error k := by
  unfold denoteProv denoteAt
  have := settingsP_nat (g := fun p => σ p.1) (σ := fun k => (toks.length - k, none))
    (σ' := fun k => σ (toks.length - k)) (N := (toks.map itemOf).length) (fun _ _ => rfl) o
    (toks.length + 1) [] (toks.map itemOf) (Nat.le_refl _)
  rw [show restampList (fun p : Stamp => σ p.1) [] = [] from rfl] at this
  rw [this]
  cases settingsP (fun k => ((toks.length - k, none) : Stamp)) o (toks.length + 1) []
      (toks.map itemOf) with
  | error k => rfl
  | ok members rest =>
    cases rest with
    | nil =>
      show Denote.Result.ok _ = Denote.Result.ok _
      rw [restamp_stamped, stamped_stamped]
    | cons it tl => rfl

theorem get?_stamped (n : Node) (q : Stamp) (i : Nat) (p : Path) :
    (stamped n q).get? (i :: p) = n.get? (i :: p) := by
  rw [get?_cons, get?_cons, stamped_kids]

/-- **path by path**: the setting at a proper path of `denoteAt o σ root toks` carries the stamp of
the token `provIndex` names; the root carries `root` -/
theorem denoteAt_path {o : Options} {σ : Nat → Stamp} {root : Stamp} {toks : List (Nat × TokVal)}
    {T : Node} (h : denoteAt o σ root toks = .ok T) :
    T.line = root.1 ∧ T.file = root.2 ∧
    ∀ (p : Path) (n : Node), p ≠ [] → T.get? p = some n →
      ∃ i, provIndex o toks p = some i ∧ n.line = (σ i).1 ∧ n.file = (σ i).2 := by
  rw [denoteAt_nat] at h
  cases hp : denoteProv o toks with
  | error k => rw [hp] at h; cases h
  | ok Tp =>
    rw [hp] at h
    injection h with h
    subst h
    refine ⟨rfl, rfl, fun p n hne hn => ?_⟩
    cases p with
    | nil => exact absurd rfl hne
    | cons i p =>
      rw [get?_stamped, get?_restamp] at hn
      unfold provIndex
      rw [hp]
      simp only
      cases hg : Tp.get? (i :: p) with
      | none => rw [hg] at hn; cases hn
      | some m =>
        rw [hg] at hn
        simp only [Option.map_some, Option.some.injEq] at hn
        refine ⟨m.line, rfl, ?_, ?_⟩
        · rw [← hn, restamp_eq]
        · rw [← hn, restamp_eq]

theorem provIndex_isSome {o : Options} {toks : List (Nat × TokVal)} {t : Node}
    (h : denote o toks = .ok t) (i : Nat) (p : Path) :
    (provIndex o toks (i :: p)).isSome = (t.get? (i :: p)).isSome := by
  obtain ⟨T, hT, hst⟩ := denoteAt_of_denote (fun i => (i, none)) (0, none) h
  have hT' : denoteProv o toks = .ok T := hT
  unfold provIndex
  rw [hT']
  simp only
  rw [← hst, stripPos_restamp, get?_restamp]
  simp only [Option.isSome_map]

/-! ### the core statement, in terms of a run and of indices -/

/-- the stamps of a run, by token index -/
def runStamp (ptoks : List ((Nat × TokVal) × ScanState)) (sEnd : ScanState) : Nat → Stamp :=
  fun i => stampOf (stateAfter ptoks sEnd i)

theorem settingsP_posOf (o : Options) (s₀ s₁ : ScanState)
    (ptoks : List ((Nat × TokVal) × ScanState)) :
    settingsP (stampAt (posOf s₀ ptoks s₁)) o ((tokensOf ptoks).length + 1) []
        ((tokensOf ptoks).map itemOf) =
      settingsP (fun k => runStamp ptoks s₁ ((tokensOf ptoks).length - k)) o
        ((tokensOf ptoks).length + 1) [] ((tokensOf ptoks).map itemOf) := by
  refine settingsP_congr o _ [] _ (fun k hk => ?_)
  rw [List.length_map, tokensOf_length] at hk
  show stampOf (posOf s₀ ptoks s₁ k) = stampOf (stateAfter ptoks s₁ ((tokensOf ptoks).length - k))
  rw [posOf_le hk, tokensOf_length]

theorem provenance_core {E : ParserEnv} {o : Options} (hE : Compiled E)
    (ptoks : List ((Nat × TokVal) × ScanState)) (hraw : RawOK (tokensOf ptoks))
    (hnest : nestS 0 ((tokensOf ptoks).map itemOf) ≤ 1665) {fuel : Nat} {s₀ s₁ s' : ScanState}
    {ctx₀ ctx' : ParseCtx} {r : ParseResult} (hlex : LexesToPos E s₀ ptoks s₁)
    (hroot : stripPos ctx₀.cfg.root = { ty := T_GROUP }) (hpar : ctx₀.parent = some [])
    (hstr : ctx₀.str = none) (hinv : Inv true o ctx₀)
    (h : yyparse E fuel s₀ ctx₀ = (s', ctx', r)) (hr : r ≠ .outOfFuel) {T : Node}
    (hd : denoteAt o (runStamp ptoks s₁) (ctx₀.cfg.root.line, ctx₀.cfg.root.file)
      (tokensOf ptoks) = .ok T) :
    r = .accept ∧ ctx'.cfg.root = T := by
  obtain ⟨members, hs, rfl⟩ := denoteAt_ok hd
  rw [← posOf_start s₀ s₁ ptoks] at h
  exact prov_core (pos := posOf s₀ ptoks s₁) (o := o) hE (tokensOf ptoks) hraw hnest
    (lexQ_posOf hlex) hroot hpar hstr hinv h hr ((settingsP_posOf o s₀ s₁ ptoks).trans hs)

theorem provenance_total {E : ParserEnv} {o : Options} (hE : Compiled E)
    (ptoks : List ((Nat × TokVal) × ScanState)) (hraw : RawOK (tokensOf ptoks))
    (hnest : nestS 0 ((tokensOf ptoks).map itemOf) ≤ 1665) {s₀ s₁ : ScanState}
    {ctx₀ : ParseCtx} (hlex : LexesToPos E s₀ ptoks s₁)
    (hroot : stripPos ctx₀.cfg.root = { ty := T_GROUP }) (hpar : ctx₀.parent = some [])
    (hstr : ctx₀.str = none) (hinv : Inv true o ctx₀) {T : Node}
    (hd : denoteAt o (runStamp ptoks s₁) (ctx₀.cfg.root.line, ctx₀.cfg.root.file)
      (tokensOf ptoks) = .ok T) :
    ∃ N s' ctx', (∀ fuel, N ≤ fuel → yyparse E fuel s₀ ctx₀ = (s', ctx', .accept)) ∧
      ctx'.cfg.root = T := by
  obtain ⟨members, hs, rfl⟩ := denoteAt_ok hd
  have := prov_total (pos := posOf s₀ ptoks s₁) (o := o) hE (tokensOf ptoks) hraw hnest
    (lexQ_posOf hlex) hroot hpar hstr hinv ((settingsP_posOf o s₀ s₁ ptoks).trans hs)
  rw [posOf_start] at this
  exact this

end Libconfig.C10Prov
