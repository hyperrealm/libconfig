import LibconfigModel.Basic
/-
  Two's complement for a modulus `N = 2 * M`: the signed reading `sread M N m` of a residue `m`
  and its two inverse laws.  `wrap32 v` and `wrap64 v` of Basic.lean unfold to `sread` of `v % N`
  at 2^31 / 2^32 and 2^63 / 2^64, so the facts about them below are the two laws as terms, typed at
  `wrap32` / `wrap64` (`M` and `N` are both arguments so that `N = 2 * M` is `rfl` on the
  numerals); the decimal and hexadecimal integer formats (C01, C08) and the C view of the `value`
  union (CSource) use these.
-/
namespace Libconfig

/-- the value in `[-M, M)` congruent to the residue `m` -/
def sread (M N m : Int) : Int := if m ≥ M then m - N else m

section
variable {M N v u : Int}

theorem sread_emod (hN : N = 2 * M) (hl : -M ≤ v) (hu : v < M) : sread M N (v % N) = v := by
  subst hN
  unfold sread
  by_cases hv : 0 ≤ v
  · rw [Int.emod_eq_of_lt hv (by omega), if_neg (by omega)]
  · have e : v % (2 * M) = v + 2 * M := by
      rw [← Int.add_emod_right, Int.emod_eq_of_lt (by omega) (by omega)]
    rw [e, if_pos (by omega)]; omega

theorem emod_sread (hN : N = 2 * M) (h0 : 0 ≤ u) (hu : u < N) :
    sread M N u % N = u ∧ -M ≤ sread M N u ∧ sread M N u < M := by
  subst hN
  unfold sread
  by_cases h : u ≥ M
  · rw [if_pos h, ← Int.add_emod_right, Int.sub_add_cancel, Int.emod_eq_of_lt h0 hu]
    exact ⟨rfl, by omega, by omega⟩
  · rw [if_neg h, Int.emod_eq_of_lt h0 hu]
    exact ⟨rfl, by omega, by omega⟩

end

/-! ### 32 and 64 bits -/

theorem fits32_iff (v : Int) : fits32 v = true ↔ (-2147483648 ≤ v ∧ v ≤ 2147483647) := by
  unfold fits32
  rw [Bool.and_eq_true, decide_eq_true_eq, decide_eq_true_eq]; exact Iff.rfl
theorem fits64_iff (v : Int) : fits64 v = true ↔ (-9223372036854775808 ≤ v ∧ v ≤ 9223372036854775807) := by
  unfold fits64
  rw [Bool.and_eq_true, decide_eq_true_eq, decide_eq_true_eq]; exact Iff.rfl
theorem fits64_of_fits32 {v : Int} (h : fits32 v = true) : fits64 v = true := by
  have := (fits32_iff v).1 h
  exact (fits64_iff v).2 (by omega)

theorem wrap32_of_fits {v : Int} (h : fits32 v = true) : wrap32 v = v :=
  have := (fits32_iff v).1 h
  sread_emod (M := 2147483648) rfl this.1 (Int.lt_add_one_iff.2 this.2)
theorem wrap64_of_fits {v : Int} (h : fits64 v = true) : wrap64 v = v :=
  have := (fits64_iff v).1 h
  sread_emod (M := 9223372036854775808) rfl this.1 (Int.lt_add_one_iff.2 this.2)

/-- only the residue is read -/
theorem wrap32_emod_arg (v : Int) : wrap32 (v % 4294967296) = wrap32 v :=
  congrArg (sread 2147483648 4294967296) (Int.emod_emod_of_dvd v (Int.dvd_refl _))
theorem wrap64_emod_arg (v : Int) : wrap64 (v % 18446744073709551616) = wrap64 v :=
  congrArg (sread 9223372036854775808 18446744073709551616) (Int.emod_emod_of_dvd v (Int.dvd_refl _))

theorem wrap32_emod (v : Int) : wrap32 v % 4294967296 = v % 4294967296 ∧ fits32 (wrap32 v) = true :=
  have := emod_sread (M := 2147483648) (N := 4294967296) rfl (Int.emod_nonneg v (by decide))
    (Int.emod_lt_of_pos v (by decide))
  ⟨this.1, (fits32_iff _).2 ⟨this.2.1, Int.lt_add_one_iff.1 this.2.2⟩⟩
theorem wrap64_emod (v : Int) :
    wrap64 v % 18446744073709551616 = v % 18446744073709551616 ∧ fits64 (wrap64 v) = true :=
  have := emod_sread (M := 9223372036854775808) (N := 18446744073709551616) rfl
    (Int.emod_nonneg v (by decide)) (Int.emod_lt_of_pos v (by decide))
  ⟨this.1, (fits64_iff _).2 ⟨this.2.1, Int.lt_add_one_iff.1 this.2.2⟩⟩

end Libconfig
