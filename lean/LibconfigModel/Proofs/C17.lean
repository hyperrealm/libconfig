import LibconfigModel.Cpp
import LibconfigModel.Proofs.C06
import LibconfigModel.Proofs.C16
import LibconfigModel.Proofs.C04
/-
  Helper lemmas for property C17 (statements live in Properties/C17.lean).
-/
namespace Libconfig.C17P

open Libconfig.Cpp

/-! ### type codes -/

theorem isNumberTy_iff (t : Nat) : isNumberTy t = true ↔ t = T_INT ∨ t = T_INT64 ∨ t = T_FLOAT := by
  unfold isNumberTy; simp [Bool.or_eq_true, beq_iff_eq, or_assoc]

theorem ite_le {c : Prop} [Decidable c] {a b k : Nat} (ha : a ≤ k) (hb : b ≤ k) : ite c a b ≤ k := by
  split <;> assumption

theorem toTypeCode_le (t : Nat) : toTypeCode t ≤ 8 := by
  unfold toTypeCode
  repeat' apply ite_le
  all_goals decide

/-- a statement about every type code: the nine codes by evaluation, and whatever lies above them -/
theorem forall_ty {P : Nat → Prop} (small : ∀ ty, ty ≤ 8 → P ty) (big : ∀ ty, 9 ≤ ty → P ty) (ty : Nat) : P ty :=
  (Nat.lt_or_ge ty 9).elim (fun h => small ty (Nat.le_of_lt_succ h)) (big ty)

theorem beq_of_big {ty k : Nat} (h : 9 ≤ ty) (hk : k < 9) : (ty == k) = false :=
  beq_false_of_ne (Nat.ne_of_gt (Nat.lt_of_lt_of_le hk h))

theorem cppType_big (ty : Nat) (h : 9 ≤ ty) : cppType ty = TypeNone := by
  unfold cppType
  repeat' rw [if_neg (by rw [beq_of_big h (by decide)]; decide)]

/-- `Setting::isAggregate()` (`_type >= TypeGroup` on the C++ enumeration) is
`config_setting_is_aggregate` -/
theorem cppIsAggregate_eq : ∀ ty, cppIsAggregate ty = isAggregateTy ty :=
  forall_ty (by decide) fun ty h => by
    rw [cppIsAggregate, cppType_big ty h, isAggregateTy, beq_of_big h (by decide), beq_of_big h (by decide),
      beq_of_big h (by decide)]
    rfl

/-- the two enumerations name the same types: `cppType ty` is the C++ code `c` exactly when `ty` is
the C code of `c` -/
theorem cppType_beq (c : Nat) (hc : c ≤ 8) (h0 : c ≠ 0) : ∀ ty, (cppType ty == c) = (ty == toTypeCode c) :=
  forall_ty (by revert c; decide) fun ty h => by
    rw [cppType_big ty h, beq_of_big h (Nat.lt_succ_of_le (toTypeCode_le c))]
    exact beq_false_of_ne h0.symm

theorem cpp_isScalar : ∀ ty : Nat,
    (decide (cppType ty > TypeNone) && decide (cppType ty < TypeGroup)) = isScalarTy (ty : Int) :=
  forall_ty (by decide) fun ty h => by
    rw [cppType_big ty h, isScalarTy, decide_eq_false (fun h6 : (ty : Int) ≤ 6 => by omega), Bool.and_false]
    rfl

theorem cpp_isNumber : ∀ ty,
    (cppType ty == TypeInt || cppType ty == TypeInt64 || cppType ty == TypeFloat) = isNumberTy ty :=
  forall_ty (by decide) fun ty h => by
    rw [cppType_big ty h, isNumberTy, beq_of_big h (by decide), beq_of_big h (by decide), beq_of_big h (by decide)]
    rfl

/-! ### the path text -/

theorem component_ne_nil (k : Node) (i : Nat) (h : k.name ≠ some []) : component k i ≠ [] := by
  unfold component
  cases hn : k.name with
  | none => simp
  | some nm =>
    simp only
    intro he; subst he; exact h hn

/-- `__constructPath` writes exactly the text that `renderPath` gives for "names where there are
names, dots as separators, no leading dot" — provided no setting on the way has an empty name -/
theorem constructPathAux_render : ∀ (ip : Path) (n : Node) (acc txt : Bytes) (lead : Bool),
    C06P.NoEmpty n → (lead = !acc.isEmpty) →
    renderPath n ip (ip.map fun _ => { useName := true, sep := 46 }) lead = some txt →
    constructPathAux n ip acc = acc ++ txt := by
  intro ip
  induction ip with
  | nil =>
    intro n acc txt lead _ _ h
    simp only [renderPath] at h
    cases h; simp [constructPathAux]
  | cons i ip ih =>
    intro n acc txt lead hne hl h
    simp only [List.map_cons, renderPath] at h
    cases hk : n.kids[i]? with
    | none => simp [hk] at h
    | some k =>
      simp only [hk] at h
      have hkname : k.name ≠ some [] := by
        have := hne [] n (by simp [Node.get?]) k (List.mem_of_getElem? hk)
        exact this
      cases hr : renderPath k ip (ip.map fun _ => { useName := true, sep := 46 }) true with
      | none => simp [hr] at h
      | some rest =>
        simp only [hr, Option.map_some, Option.some.injEq] at h
        replace h : ((if lead = true then [46] else []) ++ component k i) ++ rest = txt := by
          rw [← h]; unfold component; cases k.name <;> rfl
        rw [constructPathAux]
        simp only [hk]
        have hne' : ((if acc.isEmpty then acc else acc ++ [46]) ++ component k i) ≠ [] := by
          intro he
          have := List.append_eq_nil_iff.mp he
          exact component_ne_nil k i hkname this.2
        have hl' : (true = !((if acc.isEmpty then acc else acc ++ [46]) ++ component k i).isEmpty) := by
          cases hx : ((if acc.isEmpty then acc else acc ++ [46]) ++ component k i) with
          | nil => exact absurd hx hne'
          | cons a b => rfl
        rw [ih k _ rest true (C06P.NoEmpty.child hne hk) hl' hr, ← h]
        cases ha : acc.isEmpty with
        | true =>
          have : acc = [] := List.isEmpty_iff.mp ha
          subst this
          simp [hl]
        | false =>
          simp [hl, ha, List.append_assoc]

theorem constructPath_eq_cppGetPath (n : Node) (hne : C06P.NoEmpty n) (ip : Path) (txt : Bytes)
    (h : cppGetPath n ip = some txt) : constructPath n ip = txt := by
  unfold constructPath
  have := constructPathAux_render ip n [] txt false hne rfl h
  simpa using this


/-! ### wrapping changes nothing but hooks -/

theorem wrapNode_kids (n : Node) : (wrapNode n).kids = n.kids := by unfold wrapNode; split <;> rfl
theorem wrapNode_name (n : Node) : (wrapNode n).name = n.name := by unfold wrapNode; split <;> rfl
theorem wrapNode_ty (n : Node) : (wrapNode n).ty = n.ty := by unfold wrapNode; split <;> rfl
theorem wrapNode_ival (n : Node) : (wrapNode n).ival = n.ival := by unfold wrapNode; split <;> rfl
theorem wrapNode_fval (n : Node) : (wrapNode n).fval = n.fval := by unfold wrapNode; split <;> rfl
theorem wrapNode_sval (n : Node) : (wrapNode n).sval = n.sval := by unfold wrapNode; split <;> rfl
theorem wrapNode_fmt (n : Node) : (wrapNode n).fmt = n.fmt := by unfold wrapNode; split <;> rfl
theorem wrapNode_line (n : Node) : (wrapNode n).line = n.line := by unfold wrapNode; split <;> rfl
theorem wrapNode_file (n : Node) : (wrapNode n).file = n.file := by unfold wrapNode; split <;> rfl

/-- a second `wrapSetting` finds the wrapper and creates nothing -/
theorem wrapNode_idem (n : Node) : wrapNode (wrapNode n) = wrapNode n := by
  unfold wrapNode
  by_cases h : n.hook = 0 <;> simp [h]

theorem wrapNode_hook_ne (n : Node) : (wrapNode n).hook ≠ 0 := by
  unfold wrapNode
  by_cases h : n.hook = 0 <;> simp [h]

theorem wrapAlong_name : ∀ (p : Path) (n : Node), (wrapAlong n p).name = n.name := by
  intro p n
  cases p with
  | nil => simp [wrapAlong, wrapNode_name]
  | cons i p =>
    rw [wrapAlong]
    split <;> simp [wrapNode_name]

/-- the setting addressed by `p` is the same setting, now with a wrapper -/
theorem get?_wrapAlong_self : ∀ (p : Path) (n m : Node), n.get? p = some m →
    (wrapAlong n p).get? p = some (wrapNode m) := by
  intro p
  induction p with
  | nil => intro n m h; simp [Node.get?] at h; subst h; simp [wrapAlong, Node.get?]
  | cons i p ih =>
    intro n m h
    rw [Node.get?] at h
    cases hk : n.kids[i]? with
    | none => simp [hk] at h
    | some k =>
      simp only [hk] at h
      rw [wrapAlong]
      simp only [wrapNode_kids, hk]
      rw [Node.get?]
      have hi : i < n.kids.length := by
        rcases List.getElem?_eq_some_iff.mp hk with ⟨hlt, _⟩; exact hlt
      simp [List.getElem?_set_self hi, ih k m h]

/-- `__constructPath` does not look at hooks -/
theorem constructPathAux_wrapAlong : ∀ (q p : Path) (n : Node) (acc : Bytes),
    constructPathAux (wrapAlong n p) q acc = constructPathAux n q acc := by
  intro q
  induction q with
  | nil => intro p n acc; simp [constructPathAux]
  | cons j q ih =>
    intro p n acc
    cases p with
    | nil =>
      simp only [wrapAlong]
      rw [constructPathAux, constructPathAux, wrapNode_kids]
    | cons i p =>
      rw [wrapAlong]
      simp only [wrapNode_kids]
      cases hk : n.kids[i]? with
      | none =>
        simp only []
        rw [constructPathAux, constructPathAux, wrapNode_kids]
      | some k =>
        simp only []
        rw [constructPathAux, constructPathAux]
        simp only []
        by_cases hji : j = i
        · subst hji
          have hi : j < n.kids.length := by
            rcases List.getElem?_eq_some_iff.mp hk with ⟨hlt, _⟩; exact hlt
          simp only [List.getElem?_set_self hi, hk]
          have hc : component (wrapAlong k p) j = component k j := by
            unfold component; rw [wrapAlong_name]
          rw [hc, ih]
        · have : (n.kids.set i (wrapAlong k p))[j]? = n.kids[j]? := by
            rw [List.getElem?_set_ne]; exact fun h => hji h.symm
          rw [this]

theorem constructPath_wrapAlong (root : Node) (p q : Path) :
    constructPath (wrapAlong root p) q = constructPath root q :=
  constructPathAux_wrapAlong q p root []

theorem excPath_wrapAlong (root : Node) (p q : Path) (w : Where) :
    excPath (wrapAlong root p) q w = excPath root q w := by
  cases w <;> simp [excPath, constructPath_wrapAlong]

/-- an exception of a member function called on the setting at `p` comes from the body run on that
setting, and carries the path text of the tree as it was before the call wrapped anything -/
theorem settingStep_exc {s : State} {p : Path} {op : SOp} {e : Exc}
    (h : (settingStep s p op).2.res = .exc e) :
    ∃ n k w, s.cfg.root.get? p = some n ∧
      (settingBody (s.withRoot (wrapAlong s.cfg.root p)) p (wrapNode n) op).2.1 = .err k w ∧
      e = mkExc k (excPath s.cfg.root p w) := by
  unfold settingStep at h
  cases hn : s.cfg.root.get? p with
  | none => rw [hn] at h; cases h
  | some n =>
    have hw : (s.withRoot (wrapAlong s.cfg.root p)).cfg.root.get? p = some (wrapNode n) :=
      get?_wrapAlong_self p s.cfg.root n hn
    simp only [hn, hw] at h
    cases hr : (settingBody (s.withRoot (wrapAlong s.cfg.root p)) p (wrapNode n) op).2.1 with
    | err k w =>
      rw [hr] at h
      exact ⟨n, k, w, rfl, hr, by cases h; exact congrArg _ (excPath_wrapAlong _ _ _ _)⟩
    | _ => rw [hr] at h; cases h

/-! ### the first element -/

theorem elemOf_zero (n : Node) (h : n.length > 0) : elemOf n 0 = .ok 0 := by
  unfold Node.length at h
  cases ha : n.isAggregate with
  | false => simp [ha] at h
  | true =>
    simp only [ha, if_true] at h
    unfold elemOf getElem toUnsigned
    simp only [ha]
    cases hk : n.kids with
    | nil => simp [hk] at h
    | cons k ks => simp

/-! ### `assertType` against the C getters -/

variable {auto : Bool} {n : Node}

/-- outside the numbers there is no conversion: the assertion is an equality test -/
theorem assertType_eq {want : Nat} (hw : isNumberTy want = false) :
    assertType auto n want = (n.ty == want) := by
  rw [assertType, hw, Bool.and_false, Bool.or_false, Bool.beq_comm]

theorem assertGroup (auto : Bool) (n : Node) : assertType auto n T_GROUP = (n.ty == T_GROUP) :=
  assertType_eq rfl

/-- for a number the assertion passes exactly when the C getter delivers; the one exception, an
`int64` read as `int` (and an `int` read as `int64`), is taken care of in the operators before they
assert -/
theorem assertType_getFloat : assertType auto n T_FLOAT = (n.getFloat auto).isSome := by
  unfold assertType isNumberTy Node.getFloat
  rw [Bool.beq_comm (a := _) (b := n.ty)]
  by_cases h4 : n.ty = T_FLOAT
  · rw [h4]; rfl
  by_cases h2 : n.ty = T_INT
  · rw [h2]; cases auto <;> rfl
  by_cases h3 : n.ty = T_INT64
  · rw [h3]; cases auto <;> rfl
  rw [beq_false_of_ne h4, beq_false_of_ne h2, beq_false_of_ne h3]; rfl

theorem assertType_getInt (h : n.ty ≠ T_INT64) : assertType auto n T_INT = (n.getInt auto).isSome := by
  unfold assertType isNumberTy Node.getInt
  rw [Bool.beq_comm (a := _) (b := n.ty)]
  by_cases h2 : n.ty = T_INT
  · rw [h2]; rfl
  by_cases h4 : n.ty = T_FLOAT
  · rw [h4]; cases auto <;> rfl
  rw [beq_false_of_ne h4, beq_false_of_ne h2, beq_false_of_ne h]; rfl

theorem assertType_getInt64 (h : n.ty ≠ T_INT) : assertType auto n T_INT64 = (n.getInt64 auto).isSome := by
  unfold assertType isNumberTy Node.getInt64
  rw [Bool.beq_comm (a := _) (b := n.ty)]
  by_cases h3 : n.ty = T_INT64
  · rw [h3]; rfl
  by_cases h4 : n.ty = T_FLOAT
  · rw [h4]; cases auto <;> rfl
  rw [beq_false_of_ne h4, beq_false_of_ne h3, beq_false_of_ne h]; rfl

theorem cGetInt64_int64 (h : n.ty = T_INT64) : cGetInt64 auto n = n.ival := by
  rw [cGetInt64, Node.getInt64, h]; rfl

theorem cGetInt_int (h : n.ty = T_INT) : cGetInt auto n = n.ival := by
  rw [cGetInt, Node.getInt, h]; rfl

/-- an error of a chain of `if`s is an error of one of its candidates -/
theorem ite_error {ε α} {P : ε → Prop} {c : Prop} [Decidable c] {a b : Except ε α}
    (ha : ∀ e, a = .error e → P e) (hb : ∀ e, b = .error e → P e) (e : ε) (h : ite c a b = .error e) : P e := by
  split at h
  · exact ha e h
  · exact hb e h

/-! ### `add` / `remove`: the member function with the result of the C call taken apart -/

theorem settingBody_remove (s : State) (p : Path) (n : Node) (name : Option Bytes) :
    settingBody s p n (.remove name) =
      if !assertType (s.cfg.opt OPT_AUTOCONVERT) n T_GROUP then (s, .err .type .self, [])
      else ((step s (.remove p name)).1,
        (match (step s (.remove p name)).2.res with
         | .flag true => SRes.ok .unit
         | _ => .err .notFound (.name name)),
        (step s (.remove p name)).2.log) := by
  simp only [settingBody]
  split
  · rfl
  · cases step s (.remove p name) with
    | mk s' o =>
      obtain ⟨res, log⟩ := o
      cases res with
      | flag b => cases b <;> rfl
      | _ => rfl

theorem settingBody_removeIdx (s : State) (p : Path) (n : Node) (idx : Nat) :
    settingBody s p n (.removeIdx idx) =
      if !n.isAggregate then (s, .err .type (.idx (wrap32 idx)), [])
      else ((step s (.removeElem p idx)).1,
        (match (step s (.removeElem p idx)).2.res with
         | .flag true => SRes.ok .unit
         | _ => .err .notFound (.idx (wrap32 idx))),
        (step s (.removeElem p idx)).2.log) := by
  simp only [settingBody]
  split
  · rfl
  · cases step s (.removeElem p idx) with
    | mk s' o =>
      obtain ⟨res, log⟩ := o
      cases res with
      | flag b => cases b <;> rfl
      | _ => rfl

theorem settingBody_add (s : State) (p : Path) (n : Node) (name : Option Bytes) (ty : Nat) :
    (settingBody s p n (.add name ty)).2.1 =
      if !assertType (s.cfg.opt OPT_AUTOCONVERT) n T_GROUP then .err .type .self
      else if toTypeCode ty == T_NONE then .err .type (.name name)
      else
        match (step s (.add p name (toTypeCode ty))).2.res with
        | .ptr (some q) => .ok (.setting q)
        | _ => .err .name (.name name) := by
  simp only [settingBody]
  split
  · rfl
  split
  · rfl
  · cases step s (.add p name (toTypeCode ty)) with
    | mk s' o =>
      obtain ⟨res, log⟩ := o
      cases res with
      | ptr q => cases q <;> rfl
      | _ => rfl

theorem out_of_int (v : Int) : (decide (v < INT_MIN) || decide (v > INT_MAX)) = !fits32 v := by
  simp only [fits32, Bool.not_and, ← decide_not, Int.not_le, gt_iff_lt]

theorem add_list (dtor ov : Bool) (n : Node) (tc : Nat) (hl : n.ty = T_LIST) (hle : tc ≤ 8) :
    (n.add dtor ov none (tc : Int)).isSome = true := by
  have h1 : ¬ ((tc : Int) < 0) := by omega
  have h2 : ¬ ((tc : Int) > 8) := by omega
  simp [Node.add, hl, Node.create, Node.isAggregate, isAggregateTy, h1, h2, T_LIST, T_ARRAY, T_GROUP]

theorem add_array (dtor ov : Bool) (n : Node) (tc : Nat) (ha : n.ty = T_ARRAY) (hs : isScalarTy (tc : Int) = true)
    (hk : ∀ k0 ks, n.kids = k0 :: ks → k0.ty = tc) :
    (n.add dtor ov none (tc : Int)).isSome = true := by
  have hs' := hs
  simp only [isScalarTy, Bool.and_eq_true, decide_eq_true_eq] at hs'
  have h1 : ¬ ((tc : Int) < 0) := by omega
  have h2 : ¬ ((tc : Int) > 8) := by omega
  have hc : checkType n tc = true := by
    unfold checkType
    cases hkids : n.kids with
    | nil => rfl
    | cons k0 ks => simp [ha, hk k0 ks hkids, T_ARRAY, T_LIST]
  simp [Node.add, ha, Node.create, Node.isAggregate, isAggregateTy, h1, h2, hs, hc, T_LIST, T_ARRAY, T_GROUP]

end Libconfig.C17P
