import LibconfigModel.Proofs.C01ParseStep
/-
  C01 (parsing half), static part: the facts about the compiled LALR tables that the
  simulation needs — which state each token is shifted into, where the gotos lead, which rule
  each state reduces by, lengths / left-hand sides / actions of the rules.  Every fact is a
  closed statement about `Generated.parser` (read with `actAt` / `gotoTo` / `redOK`, the readers
  that mirror `yyparseLoop`) and is evaluated by the kernel.
-/
namespace Libconfig.C01PP
open Libconfig C02P C05P C02C

abbrev P : LalrTables := Generated.parser
abbrev tk : TokenNums := Generated.tokens

/-! ### kinds of the token numbers -/

theorem kind_lt (t : Nat) : translateTok P t < 23 := by
  have F := facts_of_static edges_ok
  have := translateTok_lt F t
  rw [F.ntok] at this
  exact this

theorem kind_eof : translateTok P 0 = 0 := by decide +kernel
theorem kind_boolean : translateTok P tk.boolean = 3 := by decide +kernel
theorem kind_integer : translateTok P tk.integer = 4 := by decide +kernel
theorem kind_hex : translateTok P tk.hex = 5 := by decide +kernel
theorem kind_integer64 : translateTok P tk.integer64 = 6 := by decide +kernel
theorem kind_hex64 : translateTok P tk.hex64 = 7 := by decide +kernel
theorem kind_float : translateTok P tk.float = 8 := by decide +kernel
theorem kind_string : translateTok P tk.string = 9 := by decide +kernel
theorem kind_name : translateTok P tk.name = 10 := by decide +kernel
theorem kind_equals : translateTok P tk.equals = 11 := by decide +kernel
theorem kind_arrayStart : translateTok P tk.arrayStart = 13 := by decide +kernel
theorem kind_arrayEnd : translateTok P tk.arrayEnd = 14 := by decide +kernel
theorem kind_listStart : translateTok P tk.listStart = 15 := by decide +kernel
theorem kind_listEnd : translateTok P tk.listEnd = 16 := by decide +kernel
theorem kind_comma : translateTok P tk.comma = 17 := by decide +kernel
theorem kind_groupStart : translateTok P tk.groupStart = 18 := by decide +kernel
theorem kind_groupEnd : translateTok P tk.groupEnd = 19 := by decide +kernel
theorem kind_semicolon : translateTok P tk.semicolon = 20 := by decide +kernel

theorem maxDepth_eq : P.maxDepth = 10000 := rfl
theorem final_eq : P.final = 6 := rfl

/-! ### contexts -/

/-- `q` is a state in which a scalar may start; `qs` is its goto on `simple_value` -/
structure ScalCtx (q qs : Nat) : Prop where
  boolean : actAt P q 3 = some 9
  integer : actAt P q 4 = some 10
  hex : actAt P q 5 = some 11
  integer64 : actAt P q 6 = some 12
  hex64 : actAt P q 7 = some 13
  float : actAt P q 8 = some 14
  string : actAt P q 9 = some 15
  gSimple : gotoTo P q 36 = qs
  gString : gotoTo P q 35 = 22
  notFinal : q ≠ 6

/-- `q` is a state in which any value may start; `qv` is its goto on `value` -/
structure ValCtx (q qv : Nat) : Prop where
  scal : ScalCtx q 23
  arrayStart : actAt P q 13 = some 16
  listStart : actAt P q 15 = some 17
  groupStart : actAt P q 18 = some 18
  gValue : gotoTo P q 34 = qv
  gArray : gotoTo P q 30 = 19
  gList : gotoTo P q 32 = 20
  gGroup : gotoTo P q 41 = 24

theorem scal_8 : ScalCtx 8 23 := by constructor <;> decide +kernel
theorem scal_26 : ScalCtx 26 23 := by constructor <;> decide +kernel
theorem scal_42 : ScalCtx 42 23 := by constructor <;> decide +kernel
theorem scal_25 : ScalCtx 25 32 := by constructor <;> decide +kernel
theorem scal_40 : ScalCtx 40 45 := by constructor <;> decide +kernel

theorem val_8 : ValCtx 8 21 := by constructor <;> first | exact scal_8 | decide +kernel
theorem val_26 : ValCtx 26 35 := by constructor <;> first | exact scal_26 | decide +kernel
theorem val_42 : ValCtx 42 46 := by constructor <;> first | exact scal_42 | decide +kernel

/-- `q0` is a state in which a list of settings may start (state 0 at top level, state 27 in a
group), `q1` the state after `setting_list` -/
structure MemCtx (q0 q1 : Nat) : Prop where
  name0 : actAt P q0 10 = some 1
  name1 : actAt P q1 10 = some 1
  gSetting0 : gotoTo P q0 28 = 4
  gSetting1 : gotoTo P q1 28 = 7
  gList : gotoTo P q0 25 = q1
  notFinal0 : q0 ≠ 6
  notFinal1 : q1 ≠ 6

theorem mem_0 : MemCtx 0 3 := by constructor <;> decide +kernel
theorem mem_27 : MemCtx 27 38 := by constructor <;> decide +kernel

/-! ### shifts that do not depend on the context -/

theorem sh_5_equals : actAt P 5 11 = some 8 := by decide +kernel
theorem sh_21_semicolon : actAt P 21 20 = some 29 := by decide +kernel
theorem sh_33_comma : actAt P 33 17 = some 40 := by decide +kernel
theorem sh_34_arrayEnd : actAt P 34 14 = some 41 := by decide +kernel
theorem sh_36_comma : actAt P 36 17 = some 42 := by decide +kernel
theorem sh_37_listEnd : actAt P 37 16 = some 43 := by decide +kernel
theorem sh_39_groupEnd : actAt P 39 19 = some 44 := by decide +kernel
theorem sh_2_eof : actAt P 2 0 = some 6 := by decide +kernel

/-! ### gotos that do not depend on the context -/

theorem go_1_M1 : gotoTo P 1 29 = 5 := by decide +kernel
theorem go_21_term : gotoTo P 21 27 = 30 := by decide +kernel
theorem go_16_M2 : gotoTo P 16 31 = 25 := by decide +kernel
theorem go_17_M3 : gotoTo P 17 33 = 26 := by decide +kernel
theorem go_18_M4 : gotoTo P 18 42 = 27 := by decide +kernel
theorem go_25_svl : gotoTo P 25 39 = 33 := by decide +kernel
theorem go_25_svlo : gotoTo P 25 40 = 34 := by decide +kernel
theorem go_26_vl : gotoTo P 26 37 = 36 := by decide +kernel
theorem go_26_vlo : gotoTo P 26 38 = 37 := by decide +kernel
theorem go_27_slo : gotoTo P 27 26 = 39 := by decide +kernel
theorem go_0_conf : gotoTo P 0 24 = 2 := by decide +kernel

/-! ### reductions -/

/-- State `s` has no row in the action table (`yypact[s] == YYPACT_NINF`): `yybackup` goes to
`yydefault` without reading a token, and reduces by rule `r`.  So the action of `r` runs in the
scan state right after the last token shifted. -/
structure DefaultOnly (s r : Nat) : Prop where
  ninf : P.pact.get s = P.pactNinf
  rule : (P.defact.get s).toNat = r
  ne : r ≠ 0

theorem DefaultOnly.red {s r : Nat} (h : DefaultOnly s r) (k : Nat) : redOK P s k r = true := by
  have hr : Nat.beq r 0 = false := by
    cases hb : Nat.beq r 0 with
    | false => rfl
    | true => exact absurd (Nat.eq_of_beq_eq_true hb) h.ne
  unfold redOK
  rw [actAt_ninf (by rw [h.ninf]; exact beq_self_eq_true _), h.rule, hr]
  simp

/-- the rule by which each default-only state of the libconfig grammar reduces; `0` for the
states that consult the lookahead -/
def dfltRule : Nat → Nat
  | 1 => 11
  | 4 => 4
  | 6 => 1
  | 7 => 5
  | 9 => 23
  | 10 => 24
  | 11 => 26
  | 12 => 25
  | 13 => 27
  | 14 => 28
  | 15 => 21
  | 16 => 13
  | 17 => 15
  | 18 => 40
  | 19 => 18
  | 20 => 19
  | 23 => 17
  | 24 => 20
  | 28 => 10
  | 29 => 9
  | 30 => 12
  | 31 => 22
  | 32 => 35
  | 35 => 30
  | 41 => 14
  | 43 => 16
  | 44 => 41
  | 45 => 36
  | 46 => 31
  | _ => 0

theorem dfltRule_ok : ∀ s < 47, dfltRule s = 0 ∨
    (P.pact.get s = P.pactNinf ∧ (P.defact.get s).toNat = dfltRule s) := by decide +kernel

theorem dflt (s : Nat) {r : Nat}
    (h : (Nat.blt s 47 && Nat.beq (dfltRule s) r && !Nat.beq r 0) = true := by decide +kernel) :
    DefaultOnly s r := by
  simp only [Bool.and_eq_true, Nat.blt_eq, Bool.not_eq_true'] at h
  obtain ⟨⟨hs, he⟩, hr⟩ := h
  have hr : r ≠ 0 := fun h0 => by rw [h0] at hr; cases hr
  cases Nat.eq_of_beq_eq_true he
  exact (dfltRule_ok s hs).elim (absurd · hr) fun h => ⟨h.1, h.2, hr⟩

theorem red_1 : ∀ k < 23, redOK P 1 k 11 = true := fun k _ => (dflt 1).red k
theorem red_4 : ∀ k < 23, redOK P 4 k 4 = true := fun k _ => (dflt 4).red k
theorem red_7 : ∀ k < 23, redOK P 7 k 5 = true := fun k _ => (dflt 7).red k
theorem red_15 : ∀ k < 23, redOK P 15 k 21 = true := fun k _ => (dflt 15).red k
theorem red_19 : ∀ k < 23, redOK P 19 k 18 = true := fun k _ => (dflt 19).red k
theorem red_20 : ∀ k < 23, redOK P 20 k 19 = true := fun k _ => (dflt 20).red k
theorem red_23 : ∀ k < 23, redOK P 23 k 17 = true := fun k _ => (dflt 23).red k
theorem red_24 : ∀ k < 23, redOK P 24 k 20 = true := fun k _ => (dflt 24).red k
theorem red_29 : ∀ k < 23, redOK P 29 k 9 = true := fun k _ => (dflt 29).red k
theorem red_30 : ∀ k < 23, redOK P 30 k 12 = true := fun k _ => (dflt 30).red k
theorem red_32 : ∀ k < 23, redOK P 32 k 35 = true := fun k _ => (dflt 32).red k
theorem red_35 : ∀ k < 23, redOK P 35 k 30 = true := fun k _ => (dflt 35).red k
theorem red_41 : ∀ k < 23, redOK P 41 k 14 = true := fun k _ => (dflt 41).red k
theorem red_43 : ∀ k < 23, redOK P 43 k 16 = true := fun k _ => (dflt 43).red k
theorem red_44 : ∀ k < 23, redOK P 44 k 41 = true := fun k _ => (dflt 44).red k
theorem red_45 : ∀ k < 23, redOK P 45 k 36 = true := fun k _ => (dflt 45).red k
theorem red_46 : ∀ k < 23, redOK P 46 k 31 = true := fun k _ => (dflt 46).red k

/- two states that shift one kind (22: a further string literal; 21: a terminator) and reduce by
default on every other -/
theorem red_22 : ∀ k < 23, k ≠ 9 → redOK P 22 k 29 = true := by decide +kernel
theorem red_21 : ∀ k < 23, k ≠ 17 → k ≠ 20 → redOK P 21 k 8 = true := by decide +kernel

/-! ### rules: left-hand side, length, action -/

/-- left-hand side, length and action of rule `r` -/
@[reducible] def RuleIs (r lhs len : Nat) (act : ParseAct) : Prop :=
  (P.r1.get r).toNat = lhs ∧ (P.r2.get r).toNat = len ∧ Generated.parseActions.getD r .unknown = act

theorem rule_2 : RuleIs 2 24 0 .none := by decide +kernel
theorem rule_3 : RuleIs 3 24 1 .none := by decide +kernel
theorem rule_4 : RuleIs 4 25 1 .none := by decide +kernel
theorem rule_5 : RuleIs 5 25 2 .none := by decide +kernel
theorem rule_6 : RuleIs 6 26 0 .none := by decide +kernel
theorem rule_7 : RuleIs 7 26 1 .none := by decide +kernel
theorem rule_8 : RuleIs 8 27 0 .none := by decide +kernel
theorem rule_9 : RuleIs 9 27 1 .none := by decide +kernel
theorem rule_11 : RuleIs 11 29 0 .settingName := by decide +kernel
theorem rule_12 : RuleIs 12 28 5 .none := by decide +kernel
theorem rule_13 : RuleIs 13 31 0 .arrayStart := by decide +kernel
theorem rule_14 : RuleIs 14 30 4 .aggEnd := by decide +kernel
theorem rule_15 : RuleIs 15 33 0 .listStart := by decide +kernel
theorem rule_16 : RuleIs 16 32 4 .aggEnd := by decide +kernel
theorem rule_17 : RuleIs 17 34 1 .none := by decide +kernel
theorem rule_18 : RuleIs 18 34 1 .none := by decide +kernel
theorem rule_19 : RuleIs 19 34 1 .none := by decide +kernel
theorem rule_20 : RuleIs 20 34 1 .none := by decide +kernel
theorem rule_21 : RuleIs 21 35 1 .stringFirst := by decide +kernel
theorem rule_23 : RuleIs 23 36 1 .valBool := by decide +kernel
theorem rule_24 : RuleIs 24 36 1 .valInt := by decide +kernel
theorem rule_25 : RuleIs 25 36 1 .valInt64 := by decide +kernel
theorem rule_26 : RuleIs 26 36 1 .valHex := by decide +kernel
theorem rule_27 : RuleIs 27 36 1 .valHex64 := by decide +kernel
theorem rule_28 : RuleIs 28 36 1 .valFloat := by decide +kernel
theorem rule_29 : RuleIs 29 36 1 .valString := by decide +kernel
theorem rule_30 : RuleIs 30 37 1 .none := by decide +kernel
theorem rule_31 : RuleIs 31 37 3 .none := by decide +kernel
theorem rule_33 : RuleIs 33 38 0 .none := by decide +kernel
theorem rule_34 : RuleIs 34 38 1 .none := by decide +kernel
theorem rule_35 : RuleIs 35 39 1 .none := by decide +kernel
theorem rule_36 : RuleIs 36 39 3 .none := by decide +kernel
theorem rule_38 : RuleIs 38 40 0 .none := by decide +kernel
theorem rule_39 : RuleIs 39 40 1 .none := by decide +kernel
theorem rule_40 : RuleIs 40 42 0 .groupStart := by decide +kernel
theorem rule_41 : RuleIs 41 41 4 .aggEnd := by decide +kernel

/-! ### an environment over the compiled tables -/

/-- the environment uses the compiled parser tables and actions -/
structure Compiled (E : ParserEnv) : Prop where
  tables : E.P = Generated.parser
  acts : E.acts = Generated.parseActions

theorem compiled_theEnv (w : World) (c : Config) (fuel : Nat) : Compiled (theEnv w c fuel) :=
  ⟨rfl, rfl⟩

/-- with the final state on top of a short stack, the loop accepts as soon as it has fuel -/
theorem run_accept {E : ParserEnv} (hE : Compiled E) (vv v2 : TokVal) (la : Lookahead)
    (sc : ScanState) (ctx : ParseCtx) (f : Nat) :
    run E (f + 1) ⟨[(6, vv), (2, v2), (0, {})], la, sc, ctx⟩ = (sc, ctx, .accept) := by
  have := run_final (E := E) (v := vv) (rest := [(2, v2), (0, {})]) (la := la) (sc := sc)
    (ctx := ctx) (by rw [hE.tables]; show 2 + 1 < 10000; omega) f
  rw [hE.tables] at this
  exact this

end Libconfig.C01PP
