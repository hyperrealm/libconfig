import LibconfigModel.Bisim
import LibconfigModel.Proofs.ByteReps
/-
  For Properties/C18.lean.  Two bytes that no byte class of an expression tells apart give the same
  derivative, and a derivative has no new byte classes; hence the bisimulation of Bisim.lean needs
  only one byte of each class of bytes that neither the flex tables nor the rules tell apart
  (`sig`, `Covers`), and the relation is the closure of the start pairs under those bytes.
  `coverOn` (the last rule, a single-byte class, is never selected) is checked on the flex tables
  and carried over by the equivalence of the two automata; `mentionsNl` is what flex's
  `yy_rule_can_match_eol` table is checked against.
-/
namespace Libconfig
namespace Rx

/-- the byte classes that occur in an expression -/
def masks : Rx → List Nat
  | .cls m => [m]
  | .cat a b => masks a ++ masks b
  | .alt a b => masks a ++ masks b
  | .star a => masks a
  | _ => []

theorem masks_mkCat {a b : Rx} {m : Nat} (h : m ∈ masks (mkCat a b)) :
    m ∈ masks a ∨ m ∈ masks b := by
  unfold mkCat at h
  split at h
  · cases h
  · exact .inr h
  · cases h
  · exact .inl h
  · exact List.mem_append.mp h

theorem masks_altCons {a b : Rx} {m : Nat} (h : m ∈ masks (altCons a b)) :
    m ∈ masks a ∨ m ∈ masks b := by
  unfold altCons at h
  split at h
  · exact .inr h
  · exact .inl h
  · split at h
    · exact .inr h
    · simpa [masks] using h

theorem masks_mkAlt {a b : Rx} {m : Nat} (h : m ∈ masks (mkAlt a b)) :
    m ∈ masks a ∨ m ∈ masks b := by
  induction a generalizing b with
  | alt x y ihx ihy =>
    simp only [mkAlt] at h
    simp only [masks, List.mem_append]
    cases ihx h with
    | inl h => exact .inl (.inl h)
    | inr h => exact (ihy h).elim (fun h => .inl (.inr h)) .inr
  | _ => simp only [mkAlt] at h; exact masks_altCons h

theorem masks_deriv {b m : Nat} {r : Rx} (h : m ∈ masks (deriv b r)) : m ∈ masks r := by
  induction r with
  | empty => exact h
  | eps => exact h
  | cls k => simp only [deriv] at h; split at h <;> cases h
  | cat x y ihx ihy =>
    simp only [masks, List.mem_append]
    have hcat : m ∈ masks (mkCat (deriv b x) y) → m ∈ masks x ∨ m ∈ masks y :=
      fun h => (masks_mkCat h).imp_left ihx
    simp only [deriv] at h
    split at h
    · exact (masks_mkAlt h).elim hcat (fun h => .inr (ihy h))
    · exact hcat h
  | alt x y ihx ihy =>
    simp only [masks, List.mem_append]
    exact (masks_mkAlt h).imp ihx ihy
  | star x ihx => exact (masks_mkCat h).elim ihx id

theorem deriv_congr {b c : Nat} {r : Rx} (h : ∀ m ∈ masks r, mem m b = mem m c) :
    deriv b r = deriv c r := by
  induction r with
  | empty => rfl
  | eps => rfl
  | cls k => simp only [deriv, h k (List.mem_singleton.mpr rfl)]
  | cat x y ihx ihy =>
    simp only [masks, List.mem_append] at h
    simp only [deriv, ihx (fun m hm => h m (.inl hm)), ihy (fun m hm => h m (.inr hm))]
  | alt x y ihx ihy =>
    simp only [masks, List.mem_append] at h
    simp only [deriv, ihx (fun m hm => h m (.inl hm)), ihy (fun m hm => h m (.inr hm))]
  | star x ihx => simp only [deriv, ihx h]

end Rx

namespace ScanSpec
open Rx

/-! ### byte classes of a derivative vector -/

def VecAll (P : Nat → Prop) (v : Vec) : Prop := ∀ p ∈ v, ∀ m ∈ p.2.masks, P m

theorem vecAll_derivVec {P : Nat → Prop} {b : Nat} {v : Vec} (h : VecAll P v) :
    VecAll P (derivVec b v) := by
  induction v with
  | nil => exact h
  | cons x v ih =>
    obtain ⟨i, r⟩ := x
    have hv : VecAll P (derivVec b v) := ih (fun p hp => h p (List.mem_cons_of_mem _ hp))
    simp only [derivVec]
    split
    · exact hv
    · intro p hp m hm
      cases hp with
      | head => exact h (i, r) (List.Mem.head _) m (masks_deriv hm)
      | tail _ hp => exact hv p hp m hm

theorem derivVec_congr {b c : Nat} {v : Vec} (h : VecAll (fun m => mem m b = mem m c) v) :
    derivVec b v = derivVec c v := by
  induction v with
  | nil => rfl
  | cons x v ih =>
    obtain ⟨i, r⟩ := x
    simp only [derivVec, deriv_congr (h (i, r) (List.Mem.head _)),
      ih (fun p hp => h p (List.mem_cons_of_mem _ hp))]

theorem vecAll_startVecFrom {P : Nat → Prop} {sc : Nat} {bol : Bool} {rules : List SpecRule}
    (h : ∀ rule ∈ rules, ∀ m ∈ rule.rx.masks, P m) {k : Nat} :
    VecAll P (startVecFrom sc bol k rules) := by
  induction rules generalizing k with
  | nil => intro p hp; cases hp
  | cons r rs ih =>
    have hrs : ∀ {k}, VecAll P (startVecFrom sc bol k rs) :=
      ih (fun rule hr => h rule (List.mem_cons_of_mem _ hr))
    simp only [startVecFrom]
    split
    · intro p hp m hm
      cases hp with
      | head => exact h r (List.Mem.head _) m hm
      | tail _ hp => exact hrs p hp m hm
    · exact hrs


/-! ### the last (default) rule is never selected -/

theorem ruleMatches_of_specNext {rules : List SpecRule} {sc : Nat} {bol : Bool} {c r k : Nat}
    (h : specNext rules sc bol [c] = some (r, k)) : RuleMatches rules sc bol r [c] := by
  have hsel := specNext_eq_some_iff.mp h
  have hk : k = 1 := Nat.le_antisymm hsel.le hsel.pos
  subst hk
  exact hsel.matched

theorem never_last {rules : List SpecRule} {sc : Nat} {bol : Bool} {N : Nat}
    (hN : ∀ rule, rules[N - 1]? = some rule → ∃ m, rule.rx = .cls m)
    (hcov : ∀ c, c < 256 → ∃ r, r < N ∧ RuleMatches rules sc bol r [c])
    (inp : List Nat) (hne : inp ≠ []) (hb : ∀ b ∈ inp, b < 256) :
    ∃ r n, specNext rules sc bol inp = some (r, n) ∧ r ≠ N := by
  cases inp with
  | nil => exact (hne rfl).elim
  | cons c cs =>
    obtain ⟨r0, hr0, hm0⟩ := hcov c (hb c (List.Mem.head _))
    have htake1 : (c :: cs).take 1 = [c] := by simp
    cases hs : specNext rules sc bol (c :: cs) with
    | none =>
      have := specNext_eq_none_iff.mp hs 1 (by omega) (by simp) r0
      rw [htake1] at this
      exact (this hm0).elim
    | some p =>
      obtain ⟨r, n⟩ := p
      refine ⟨r, n, rfl, ?_⟩
      intro hrN
      subst hrN
      have hsel := specNext_eq_some_iff.mp hs
      obtain ⟨rule, _, hget, _, hmatch⟩ := hsel.matched
      obtain ⟨m, hm⟩ := hN rule hget
      rw [hm] at hmatch
      obtain ⟨b, hw, _⟩ := matches_cls_iff.mp hmatch
      have hlen : ((c :: cs).take n).length = 1 := by rw [hw]; rfl
      rw [List.length_take, Nat.min_eq_left hsel.le] at hlen
      subst hlen
      rw [← htake1] at hm0
      exact hsel.first r0 hr0 hm0

/-! ### rules that can match a newline -/

def mentionsNl : Rx → Bool
  | .empty => false
  | .eps => false
  | .cls m => mem m 10
  | .cat a b => mentionsNl a || mentionsNl b
  | .alt a b => mentionsNl a || mentionsNl b
  | .star a => mentionsNl a

theorem mentionsNl_of_matches {r : Rx} {w : List Nat} (h : Matches r w) :
    10 ∈ w → mentionsNl r = true := by
  induction h with
  | eps => intro h; cases h
  | cls hm =>
    intro h
    simp only [List.mem_singleton] at h
    subst h
    exact hm
  | cat _ _ ih1 ih2 =>
    intro h
    simp only [mentionsNl, Bool.or_eq_true]
    exact (List.mem_append.mp h).elim (fun h => .inl (ih1 h)) (fun h => .inr (ih2 h))
  | altL _ ih => intro h; simp only [mentionsNl, Bool.or_eq_true]; exact .inl (ih h)
  | altR _ ih => intro h; simp only [mentionsNl, Bool.or_eq_true]; exact .inr (ih h)
  | starNil => intro h; cases h
  | starCons _ _ ih1 ih2 =>
    intro h
    exact (List.mem_append.mp h).elim ih1 ih2

/-- a check of every rule of a list, with its number (the first rule has number `i`) -/
def allRules (f : Nat → SpecRule → Bool) : Nat → List SpecRule → Bool
  | _, [] => true
  | i, r :: rs => f i r && allRules f (i + 1) rs

theorem allRules_spec {f : Nat → SpecRule → Bool} : ∀ {rules : List SpecRule} {k : Nat},
    allRules f k rules = true → ∀ i rule, k ≤ i → rules[i - k]? = some rule → f i rule = true := by
  intro rules
  induction rules with
  | nil => intro k _ i rule _ hget; simp at hget
  | cons r rs ih =>
    intro k h i rule hk hget
    simp only [allRules, Bool.and_eq_true] at h
    rcases (getElem?_cons_sub hk).mp hget with ⟨rfl, rfl⟩ | ⟨hk', hget'⟩
    · exact h.1
    · exact ih h.2 i rule hk' hget'

end ScanSpec

namespace Bisim
open ScanSpec Rx

/-! ### bytes that neither automaton tells apart -/

def uniq : List Nat → List Nat
  | [] => []
  | m :: l => if memNat m (uniq l) then uniq l else m :: uniq l

theorem mem_uniq {m : Nat} : ∀ {l : List Nat}, m ∈ l → m ∈ uniq l
  | m' :: l, h => by
    unfold uniq
    split
    · next hm =>
      cases h with
      | head => exact memNat_iff.mp hm
      | tail _ h => exact mem_uniq h
    · cases h with
      | head => exact List.mem_cons_self
      | tail _ h => exact List.mem_cons_of_mem _ (mem_uniq h)

/-- What the two automata see of a byte: its flex equivalence class, then its bit in every byte
class of the rules.  The operations are spelled without the type classes, which the kernel would
unfold at every one of the ≈ 256 · 60 uses. -/
def sig (T : FlexTables) (rules : List SpecRule) (b : Nat) : Nat :=
  (uniq (rules.flatMap fun rule => rule.rx.masks)).foldl
    (fun acc m => Nat.add (Nat.mul 2 acc) (Nat.mod (Nat.shiftRight m b) 2)) (Flex.classOf T b)

theorem sig_spec {T : FlexTables} {rules : List SpecRule} {b c : Nat}
    (h : sig T rules b = sig T rules c) :
    Flex.classOf T b = Flex.classOf T c ∧ ∀ rule ∈ rules, ∀ m ∈ rule.rx.masks, mem m b = mem m c := by
  have key : ∀ (l : List Nat) (x y : Nat),
      l.foldl (fun acc m => Nat.add (Nat.mul 2 acc) (Nat.mod (Nat.shiftRight m b) 2)) x =
        l.foldl (fun acc m => Nat.add (Nat.mul 2 acc) (Nat.mod (Nat.shiftRight m c) 2)) y →
      x = y ∧ ∀ m ∈ l, (m >>> b) % 2 = (m >>> c) % 2 := by
    intro l
    induction l with
    | nil => intro x y h; exact ⟨h, nofun⟩
    | cons m l ih =>
      intro x y h
      obtain ⟨h1, h2⟩ := ih _ _ h
      have h1 : 2 * x + (m >>> b) % 2 = 2 * y + (m >>> c) % 2 := h1
      have hm : x = y ∧ (m >>> b) % 2 = (m >>> c) % 2 := by
        have hb := Nat.mod_lt (m >>> b) (show 0 < 2 by decide)
        have hc := Nat.mod_lt (m >>> c) (show 0 < 2 by decide)
        generalize (m >>> b) % 2 = p at h1 hb ⊢
        generalize (m >>> c) % 2 = q at h1 hc ⊢
        omega
      refine ⟨hm.1, fun m' hm' => ?_⟩
      cases hm' with
      | head => exact hm.2
      | tail _ hm' => exact h2 m' hm'
  obtain ⟨h1, h2⟩ := key _ _ _ h
  refine ⟨h1, fun rule hr m hm => ?_⟩
  unfold mem
  rw [h2 m (mem_uniq (List.mem_flatMap.mpr ⟨rule, hr, hm⟩))]

def sameSig (T : FlexTables) (rules : List SpecRule) (b c : Nat) : Bool :=
  Nat.beq (sig T rules b) (sig T rules c)

def Covers (T : FlexTables) (rules : List SpecRule) (reps : List Nat) : Prop :=
  ∀ b, b < 256 → ∃ c ∈ reps, sig T rules b = sig T rules c

theorem covers_mkReps (T : FlexTables) (rules : List SpecRule) :
    Covers T rules (mkReps (sameSig T rules) 256 []) := fun b hb => by
  obtain ⟨c, hc, h⟩ := (mkReps_spec (same := sameSig T rules) (fun _ => Nat.beq_refl _) 256 []).2 b hb
  exact ⟨c, hc, Nat.eq_of_beq_eq_true h⟩

/-! ### every byte begins a lexeme of a rule below `N` -/

def belowN (N : Nat) : Option (Nat × Nat) → Bool
  | some (r, _) => Nat.blt r N
  | none => false

theorem belowN_spec {N : Nat} {o : Option (Nat × Nat)} (h : belowN N o = true) :
    ∃ r k, r < N ∧ o = some (r, k) := by
  cases o with
  | none => cases h
  | some p => exact ⟨p.1, p.2, Nat.le_of_ble_eq_true h, rfl⟩

/-- on the one-byte input `[c]`, for every byte `c` of `reps`, the matcher selects a rule numbered
below `N`: in the start conditions `0 … n-1`, at and away from the beginning of a line -/
def coverOn (T : FlexTables) (N : Nat) (reps : List Nat) : Nat → Bool
  | 0 => true
  | sc + 1 =>
    reps.all (fun c => belowN N (Flex.next T sc false [c]) && belowN N (Flex.next T sc true [c])) &&
      coverOn T N reps sc

theorem coverOn_lt {T : FlexTables} {N : Nat} {reps : List Nat} {n : Nat}
    (h : coverOn T N reps n = true) (sc : Nat) (hsc : sc < n) (bol : Bool) :
    ∀ c ∈ reps, belowN N (Flex.next T sc bol [c]) = true := fun c hc => by
  have := List.all_eq_true.mp ((below_iff (g := coverOn T N reps) rfl fun _ => rfl).mp h sc hsc) c hc
  rw [Bool.and_eq_true] at this
  cases bol
  · exact this.1
  · exact this.2

theorem next_congr {T : FlexTables} {sc : Nat} {bol : Bool} {b c : Nat}
    (h : Flex.classOf T b = Flex.classOf T c) : Flex.next T sc bol [b] = Flex.next T sc bol [c] := by
  have hs : Flex.step T (Flex.startState sc bol) b = Flex.step T (Flex.startState sc bol) c := by
    unfold Flex.step; rw [h]
  unfold Flex.next
  rw [Flex.scan, Flex.scan, hs]
  rfl

/-! ### the closure of the start pairs, with every pair looked at once

A work list: a pair that is not known yet must have equal labels, and its successors under one
byte of each class — both automata jam, or neither does — are put on the list.  What comes out
is closed under these bytes, hence (`Covers`) under all bytes: a bisimulation. -/

/-- the successors `(next b, der b)` for `b` in `bytes`, in front of `acc`; `none`: one side
jams alone -/
def pushSuccs (jam : Nat) (next : Nat → Nat) (der : Nat → Vec) : List Nat → Cert → Option Cert
  | [], acc => some acc
  | b :: bytes, acc =>
    match Nat.beq (next b) jam, der b with
    | true, [] => pushSuccs jam next der bytes acc
    | false, x :: v' => pushSuccs jam next der bytes ((next b, x :: v') :: acc)
    | _, _ => none

def closure (T : FlexTables) (reps : List Nat) : Nat → Cert → Cert → Option Cert
  | 0, _, _ => none
  | _ + 1, [], seen => some seen
  | fuel + 1, (s, v) :: todo, seen =>
    if memPair seen s v then closure T reps fuel todo seen
    else if labEq (T.accept.getN s) (acceptLabel v) then
      match pushSuccs T.jamState (Flex.step T s) (fun b => derivVec b v) reps todo with
      | some todo' => closure T reps fuel todo' ((s, v) :: seen)
      | none => none
    else none

def ClosedAt (T : FlexTables) (bytes : List Nat) (R : Cert) (p : Nat × Vec) : Prop :=
  labEq (T.accept.getN p.1) (acceptLabel p.2) = true ∧
    ∀ b ∈ bytes, SuccRel (fun s v => (s, v) ∈ R) T.jamState (Flex.step T p.1 b) (derivVec b p.2)

theorem pushSuccs_spec {jam : Nat} {next : Nat → Nat} {der : Nat → Vec} :
    ∀ {bytes : List Nat} {acc acc' : Cert}, pushSuccs jam next der bytes acc = some acc' →
      (∀ p ∈ acc, p ∈ acc') ∧
      ∀ b ∈ bytes, SuccRel (fun s v => (s, v) ∈ acc') jam (next b) (der b) := by
  intro bytes
  induction bytes with
  | nil =>
    intro acc acc' h
    simp only [pushSuccs, Option.some.injEq] at h
    subst h
    exact ⟨fun _ hp => hp, nofun⟩
  | cons b bytes ih =>
    intro acc acc' h
    unfold pushSuccs at h
    have hbeq := nat_beq_eq (next b) jam
    cases h1 : Nat.beq (next b) jam <;> cases h2 : der b <;> simp only [h1, h2] at h hbeq
    · cases h
    · obtain ⟨i1, i2⟩ := ih h
      refine ⟨fun p hp => i1 p (List.mem_cons_of_mem _ hp), fun b' hb' => ?_⟩
      cases hb' with
      | head => exact .inr ⟨hbeq, _, _, h2, i1 _ (h2 ▸ List.mem_cons_self)⟩
      | tail _ hb' => exact i2 b' hb'
    · obtain ⟨i1, i2⟩ := ih h
      refine ⟨i1, fun b' hb' => ?_⟩
      cases hb' with
      | head => exact .inl ⟨hbeq, h2⟩
      | tail _ hb' => exact i2 b' hb'
    · cases h

theorem closure_spec {T : FlexTables} {reps : List Nat} : ∀ {fuel : Nat} {todo seen R : Cert},
    closure T reps fuel todo seen = some R →
      (∀ p ∈ todo, p ∈ R) ∧ (∀ p ∈ seen, p ∈ R) ∧ ∀ p ∈ R, p ∈ seen ∨ ClosedAt T reps R p := by
  intro fuel
  induction fuel with
  | zero => intro _ _ _ h; simp [closure] at h
  | succ fuel ih =>
    intro todo seen R h
    cases todo with
    | nil =>
      simp only [closure, Option.some.injEq] at h
      subst h
      exact ⟨nofun, fun _ hp => hp, fun _ hp => .inl hp⟩
    | cons p todo =>
      obtain ⟨s, v⟩ := p
      unfold closure at h
      split at h
      · next hm =>
        obtain ⟨i1, i2, i3⟩ := ih h
        refine ⟨fun p hp => ?_, i2, i3⟩
        cases hp with
        | head => exact i2 _ (memPair_mem hm)
        | tail _ hp => exact i1 p hp
      · split at h
        · next hl =>
          split at h
          · next todo' hs =>
            obtain ⟨j1, j2⟩ := pushSuccs_spec hs
            obtain ⟨i1, i2, i3⟩ := ih h
            refine ⟨fun p hp => ?_, fun p hp => i2 p (List.mem_cons_of_mem _ hp), fun p hp => ?_⟩
            · cases hp with
              | head => exact i2 _ List.mem_cons_self
              | tail _ hp => exact i1 p (j1 p hp)
            · rcases i3 p hp with hps | hc
              · cases hps with
                | head =>
                  refine .inr ⟨hl, fun b hb => ?_⟩
                  rcases j2 b hb with hj | ⟨hj, x, v', hd, hmem⟩
                  · exact .inl hj
                  · exact .inr ⟨hj, x, v', hd, i1 _ hmem⟩
                | tail _ hps => exact .inl hps
              · exact .inr hc
          · cases h
        · cases h

/-- the work list from the start pairs ends, and no start state accepts -/
def checkClosure (T : FlexTables) (rules : List SpecRule) (reps : List Nat) (fuel : Nat) : Bool :=
  match closure T reps fuel (startPairs rules 5) [] with
  | some R => checkStarts T rules R 5
  | none => false

theorem checkClosure_sound {T : FlexTables} {rules : List SpecRule} {reps : List Nat} {fuel : Nat}
    (hreps : Covers T rules reps) (h : checkClosure T rules reps fuel = true) :
    ∀ sc, sc < 5 → ∀ (bol : Bool) (inp : List Nat), (∀ b ∈ inp, b < 256) →
      Flex.next T sc bol inp = specNext rules sc bol inp := by
  unfold checkClosure at h
  split at h
  case h_2 => cases h
  next R hR =>
  obtain ⟨-, -, hclosed⟩ := closure_spec hR
  -- the relation: in `R`, and no byte class tells apart what `sig` does not
  let P : Nat → Prop := fun m => ∀ b c, sig T rules b = sig T rules c → mem m b = mem m c
  have hP : ∀ rule ∈ rules, ∀ m ∈ rule.rx.masks, P m :=
    fun rule hr m hm b c hbc => (sig_spec hbc).2 rule hr m hm
  have hB : IsBisim T (fun s v => (s, v) ∈ R ∧ VecAll P v) := by
    refine ⟨fun hm => ?_, fun hm b hb => ?_⟩
    · exact ((hclosed _ hm.1).resolve_left (fun h => nomatch h)).1
    · rename_i s v
      obtain ⟨c, hc, hbc⟩ := hreps b hb
      have hstep : Flex.step T s b = Flex.step T s c := by
        unfold Flex.step; rw [(sig_spec hbc).1]
      have hder : derivVec b v = derivVec c v :=
        derivVec_congr (fun p hp m hm' => hm.2 p hp m hm' b c hbc)
      rw [hstep, hder]
      rcases ((hclosed _ hm.1).resolve_left (fun h => nomatch h)).2 c hc with hjam | ⟨hj, x, v', hd, hmem⟩
      · exact .inl hjam
      · exact .inr ⟨hj, x, v', hd, hmem, hd ▸ vecAll_derivVec hm.2⟩
  intro sc hsc bol inp hb
  have hs := checkStarts_lt h sc hsc bol
  simp only [checkStart, Bool.and_eq_true] at hs
  exact hB.next_eq (Nat.eq_of_beq_eq_true hs.1) ⟨memPair_mem hs.2, vecAll_startVecFrom hP⟩ inp hb

end Bisim
end Libconfig
