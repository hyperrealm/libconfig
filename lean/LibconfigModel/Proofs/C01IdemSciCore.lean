import LibconfigModel.Proofs.C01IdemSciErr
/-
  C01 idempotence (scientific notation) — the arithmetic core of idempotence for `%.{P}g`.
-/
namespace Libconfig.C01I
open Libconfig F64 C01P C01L
open Libconfig.F64R

/-- what the three cases deliver: `X'` lies in a decade `[10^(P-1)·M₂, 10^P·M₂)` and rounds, on
the grid of spacing `M₂`, to `q` -/
structure Landing (X' M₂ P q : Nat) : Prop where
  lo : 10 ^ (P - 1) * M₂ ≤ X'
  hi : X' < 10 ^ P * M₂
  q : divRoundEven X' M₂ = q

theorem pow10_succ_pred (P : Nat) (hP : 1 ≤ P) : 10 ^ P = 10 * 10 ^ (P - 1) := by
  rw [Nat.mul_comm, ← Nat.pow_succ]; congr 1; omega

theorem pow10_even (P : Nat) (hP : 1 ≤ P) : 10 ^ P % 2 = 0 := by
  rw [pow10_succ_pred P hP]; omega

/-- **same decade, carry up, or drop down.**  `X = S·W` lies in the decade `[10^(P-1)·M, 10^P·M)`
and rounds (grid `M`) to `d0`; `X'` is at least as close to `d0·M` as `X` is, and within
`M/20` of it (the spacing of doubles at `P ≤ 15`).  Then `X'` lands in the same decade with the same
digits, or — when `d0·M` is the upper / lower end of the decade — in the decade above (grid `10·M`,
digits `10^(P-1)`) or below (grid `M/10`, digits `10^P`). -/
theorem core15 (X X' M M' P : Nat) (hP : 1 ≤ P) (hM' : 0 < M') (hMM : M = 10 * M')
    (hlo : 10 ^ (P - 1) * M ≤ X) (hhi : X < 10 ^ P * M)
    (hnear : dist (divRoundEven X M * M) X' ≤ dist (divRoundEven X M * M) X)
    (hfine : divRoundEven X M = 10 ^ (P - 1) → 20 * dist (divRoundEven X M * M) X' ≤ M) :
    Landing X' M P (divRoundEven X M) ∨
    (divRoundEven X M = 10 ^ P ∧ Landing X' (10 * M) P (10 ^ (P - 1))) ∨
    (divRoundEven X M = 10 ^ (P - 1) ∧ Landing X' M' P (10 ^ P)) := by
  have hM : 0 < M := by omega
  have hsame := dre_of_nearer X X' M hM hnear
  have hh1 := (dre_half X M hM).1
  have hq1 : 10 ^ (P - 1) ≤ divRoundEven X M := dre_ge_of X M _ hM hlo
  have hq2 : divRoundEven X M ≤ 10 ^ P := dre_le_of X M _ hhi
  have hpp := pow10_succ_pred P hP
  have hApos : 0 < 10 ^ (P - 1) := pow10_pos _
  generalize divRoundEven X M = d0 at *
  -- the centre `d0·M`, and `X'` within `M/2` of it
  rw [dist_comm] at hh1
  obtain ⟨hc1, hc2⟩ := two_dist_le.mp (show 2 * dist (d0 * M) X' ≤ M by omega)
  have hBA : 10 ^ P * M = 10 * (10 ^ (P - 1) * M) := by rw [hpp, Nat.mul_assoc]
  by_cases hX1 : X' < 10 ^ (P - 1) * M
  · -- below the decade: `d0·M` is its lower end, which is `10^P·M'`
    right; right
    have hd0 : d0 = 10 ^ (P - 1) := by
      false_or_by_contra
      have := Nat.mul_le_mul_right M (show 10 ^ (P - 1) + 1 ≤ d0 by omega)
      rw [Nat.add_mul, Nat.one_mul] at this
      omega
    have hC : d0 * M = 10 ^ P * M' := by rw [hd0, hMM, hpp]; ac_rfl
    have hfine := hfine hd0
    have hAM' : M' ≤ 10 ^ (P - 1) * M' := Nat.le_mul_of_pos_left _ hApos
    have hBM' : 10 ^ P * M' = 10 * (10 ^ (P - 1) * M') := by rw [hpp, Nat.mul_assoc]
    rw [← hd0, hC] at hX1
    rw [hC] at hfine hc1
    refine ⟨hd0, by omega, hX1, dre_at X' M' _ _ hM' rfl (by omega) (fun _ => pow10_even P hP)⟩
  · by_cases hX2 : X' < 10 ^ P * M
    · exact .inl ⟨by omega, hX2, hsame⟩
    · -- above the decade: `d0·M` is its upper end, which is `10^(P-1)·(10·M)`
      right; left
      have hd0 : d0 = 10 ^ P := by
        false_or_by_contra
        have := Nat.mul_le_mul_right M (show d0 + 1 ≤ 10 ^ P by omega)
        rw [Nat.add_mul, Nat.one_mul] at this
        omega
      have hC : d0 * M = 10 ^ (P - 1) * (10 * M) := by rw [hd0, hpp]; ac_rfl
      have hBM : M ≤ 10 ^ P * M := Nat.le_mul_of_pos_left _ (pow10_pos _)
      have hB10 : 10 ^ P * (10 * M) = 10 * (10 ^ P * M) := Nat.mul_left_comm ..
      rw [hd0] at hc2
      refine ⟨hd0, by rw [← hC, hd0]; omega, by omega,
        dre_at X' (10 * M) _ _ (by omega) hC (by omega) (fun h => by omega)⟩

/-- **seventeen digits are exact.**  `X = S·W` lies at or above `10^(P-1)·M` with `10^(P-1) > 2^53`,
`X` and `X'` are both within `M/2` of the same grid point, and two different doubles are a
relative `2^-53` apart: then `S' = S`. -/
theorem core17 (S S' W M P C : Nat) (hM : 0 < M) (hP : 17 ≤ P)
    (hlo : 10 ^ (P - 1) * M ≤ S * W) (h1 : 2 * dist C (S * W) ≤ M) (h2 : 2 * dist C (S' * W) ≤ M)
    (hsp : S' ≠ S → S ≤ dist S' S * 2 ^ 53) : S' = S := by
  false_or_by_contra
  rename_i hne
  have hsp := hsp hne
  have htri : dist (S' * W) (S * W) ≤ M := by
    have := dist_tri (S' * W) C (S * W)
    rw [dist_comm (S' * W) C] at this
    omega
  rw [← dist_mul_right] at htri
  have h16 : 2 ^ 53 < 10 ^ (P - 1) :=
    Nat.lt_of_lt_of_le (by decide : 2 ^ 53 < 10 ^ 16) (Nat.pow_le_pow_right (by omega) (by omega))
  have c1 : 10 ^ (P - 1) * M ≤ 2 ^ 53 * M := by
    calc 10 ^ (P - 1) * M ≤ S * W := hlo
      _ ≤ dist S' S * 2 ^ 53 * W := Nat.mul_le_mul_right _ hsp
      _ = 2 ^ 53 * (dist S' S * W) := by ac_rfl
      _ ≤ 2 ^ 53 * M := Nat.mul_le_mul_left _ htri
  have := Nat.le_of_mul_le_mul_right c1 hM
  omega

end Libconfig.C01I
