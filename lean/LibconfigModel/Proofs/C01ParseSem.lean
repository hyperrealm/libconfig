import LibconfigModel.Proofs.C01ParseSpec
import LibconfigModel.Proofs.C04ReadAct
import LibconfigModel.DenoteProv
/-
  What each grammar action does to the tree under construction, in the situations in which a
  parse runs it (the outcomes of Proofs/Actions.lean read forwards).

  The tree is described locally: `Hole K pp` says that `K x` is the whole tree with `x` plugged
  in at the index path `pp`; `View ctx K pp pn str st` says that the parse context has
  `ctx->parent` at `pp`, the node there is `pn`, `ctx->string` is `str` and `ctx->setting` is
  `st`.  `Slot st pp pn pre nm` describes where the next value goes: into the fresh member
  (of type NONE, created by `$@1`) behind the finished members `pre` of a group, or behind the
  finished elements `pre` of a list or array; `SlotP` also tells the position the fresh member
  carries.

  The actions that create or fill a setting are stated with the exact node they build, source
  position included (`act_aggStartP`, `act_valueP`, `act_scalarP`: for the provenance of the
  tree, C10P).  A value that fills the fresh member of a group keeps the position the member was
  given when its NAME was read; a value that becomes a new element of a list or an array gets the
  position the action is given.
-/
namespace Libconfig.C01PP
open Libconfig C04 C04R C05P

/-! ### holes -/

structure Hole (K : Node → Node) (pp : Path) : Prop where
  get : ∀ x, (K x).get? pp = some x
  mod : ∀ x f, (K x).modify f pp = K (f x)

theorem Hole.root : Hole (fun x => x) [] :=
  ⟨fun x => get?_nil x, fun x f => modify_nil f x⟩

theorem get?_last (pn : Node) (pre : List Node) (y : Node) :
    Node.get? { pn with kids := pre ++ [y] } [pre.length] = some y := by
  rw [get?_cons]
  simp [get?_nil]

theorem Hole.kid {K : Node → Node} {pp : Path} (h : Hole K pp) (pn : Node) (pre : List Node) :
    Hole (fun y => K { pn with kids := pre ++ [y] }) (pp ++ [pre.length]) := by
  constructor
  · intro x
    show (K _).get? _ = _
    rw [get?_append, h.get, Option.bind_some, get?_last]
  · intro x f
    show (K _).modify f _ = K _
    rw [modify_append, h.mod, modify_last]

/-! ### views -/

structure View (ctx : ParseCtx) (K : Node → Node) (pp : Path) (pn : Node) (str : Option Bytes)
    (st : Option Path) : Prop where
  hole : Hole K pp
  root : ctx.cfg.root = K pn
  parent : ctx.parent = some pp
  str : ctx.str = str
  setting : ctx.setting = st

theorem View.of_same {ctx ctx₁ : ParseCtx} {K : Node → Node} {pp : Path} {pn : Node}
    {str : Option Bytes} {st : Option Path} (hV : View ctx K pp pn str st)
    (hs : SameSem ctx ctx₁) : View ctx₁ K pp pn str st :=
  ⟨hV.hole, hs.1.trans hV.root, hs.2.1.trans hV.parent, hs.2.2.2.trans hV.str,
    hs.2.2.1.trans hV.setting⟩

theorem View.nodeAt {ctx : ParseCtx} {K : Node → Node} {pp : Path} {pn : Node}
    {str : Option Bytes} {st : Option Path} (hV : View ctx K pp pn str st) :
    ctx.nodeAt ctx.parent = some pn := by
  rw [hV.parent]
  show ctx.cfg.root.get? pp = some pn
  rw [hV.root, hV.hole.get]

theorem View.inTy {ctx : ParseCtx} {K : Node → Node} {pp : Path} {pn : Node}
    {str : Option Bytes} {st : Option Path} (hV : View ctx K pp pn str st) (ty : Nat) :
    ctx.inTy ty = (pn.ty == ty) := by
  unfold ParseCtx.inTy
  rw [hV.nodeAt]

theorem View.get {ctx : ParseCtx} {K : Node → Node} {pp : Path} {pn : Node}
    {str : Option Bytes} {st : Option Path} (hV : View ctx K pp pn str st) :
    ctx.cfg.root.get? pp = some pn := by rw [hV.root, hV.hole.get]

theorem View.inAggregate {ctx : ParseCtx} {K : Node → Node} {pp : Path} {pn : Node}
    {str : Option Bytes} {st : Option Path} (hV : View ctx K pp pn str st)
    (h : pn.ty = T_LIST ∨ pn.ty = T_ARRAY) : (ctx.inTy T_ARRAY || ctx.inTy T_LIST) = true := by
  rw [hV.inTy, hV.inTy]
  rcases h with h | h <;> simp [h, T_ARRAY, T_LIST]

theorem View.replace {ctx : ParseCtx} {K : Node → Node} {pp : Path} {pn : Node}
    {str : Option Bytes} {st : Option Path} (hV : View ctx K pp pn str st) (pn' : Node) :
    (ctx.modify pp fun _ => pn').cfg.root = K pn' := by
  show ctx.cfg.root.modify _ pp = _
  rw [hV.root, hV.hole.mod]

/-- the slot the next value goes into -/
inductive Slot (st : Option Path) (pp : Path) (pn : Node) (pre : List Node) (nm : Option Bytes) :
    Prop where
  | member (m : Node) (nm' : Bytes) : pn.ty = T_GROUP → pn.kids = pre ++ [m] →
      stripPos m = { name := some nm' } → nm = some nm' → st = some (pp ++ [pre.length]) →
      Slot st pp pn pre nm
  | elem : (pn.ty = T_LIST ∨ pn.ty = T_ARRAY) → pn.kids = pre → nm = none → Slot st pp pn pre nm

/-! ### small facts about `stripPos` -/

theorem stripPosList_eq_nil {ks : List Node} (h : stripPosList ks = []) : ks = [] := by
  cases ks with
  | nil => rfl
  | cons k ks => rw [stripPosList] at h; cases h

theorem eq_of_stripPos {m r : Node} (h : stripPos m = r) (hk : r.kids = []) :
    m = { r with line := m.line, file := m.file } := by
  cases m with
  | mk name ty fmt ival fval sval kids hook line file =>
    rw [stripPos] at h
    subst h
    simp only at hk
    have := stripPosList_eq_nil hk
    subst this
    rfl

theorem stripPos_leaf (r : Node) (hk : r.kids = []) (l : Nat) (f : Option Bytes) :
    stripPos { r with line := l, file := f } = { r with line := 0, file := none } := by
  cases r with
  | mk name ty fmt ival fval sval kids hook line file =>
    simp only at hk
    subst hk
    simp [stripPos, stripPosList]

theorem node_kids_eq {pn : Node} {ks : List Node} (h : pn.kids = ks) :
    pn = { pn with kids := ks } := by
  subst h; cases pn; rfl

theorem view_kids_nil {ctx : ParseCtx} {K : Node → Node} {pp : Path} {pn : Node}
    {str : Option Bytes} {st : Option Path} (hV : View ctx K pp pn str st) :
    View ctx K pp { pn with kids := pn.kids ++ [] } str st := by
  have : pn = { pn with kids := pn.kids ++ [] } := node_kids_eq (List.append_nil _).symm
  rw [← this]
  exact hV

end Libconfig.C01PP

/-! ### `$@1`: the name of a setting -/

namespace Libconfig.C02D
open Libconfig C01PP C04R Denote

theorem add_group {dtor ov : Bool} {pn : Node} {nm : Bytes} (hg : pn.ty = T_GROUP)
    (hvalid : validName nm = true) :
    match enter { allowOverrides := ov } pn.kids nm with
    | some kids' => ∃ log, pn.add dtor ov (some nm) (T_NONE : Nat) =
        some ({ pn with kids := kids' ++ [{ name := some nm, ty := T_NONE }] }, kids'.length, log)
    | none => pn.add dtor ov (some nm) (T_NONE : Nat) = none := by
  rw [add_refines]
  unfold Spec.add enter
  show match (match Spec.memberIdx pn.kids nm with
    | none => some pn.kids
    | some i => if ov = true then some (pn.kids.eraseIdx i) else none) with
    | some kids' => _
    | none => _
  cases hm : Spec.memberIdx pn.kids nm with
  | none =>
    simp only
    refine ⟨[], ?_⟩
    simp [hg, Node.isAggregate, isAggregateTy, T_GROUP, T_ARRAY, T_LIST, hvalid, hm]
  | some i =>
    simp only
    cases ov with
    | true =>
      simp only [if_true]
      refine ⟨match pn.kids[i]? with | some old => destroyLog dtor old | none => [], ?_⟩
      simp [hg, Node.isAggregate, isAggregateTy, T_GROUP, T_ARRAY, T_LIST, hvalid, hm]
      rfl
    | false =>
      simp [hg, Node.isAggregate, isAggregateTy, T_GROUP, T_ARRAY, T_LIST, hvalid, hm]

/-- `$@1` when the name may be taken already: the new (typeless) member is appended behind the
members that remain — or the parse is aborted with "duplicate setting name" -/
theorem act_settingName_gen {ctx : ParseCtx} {K : Node → Node} {pp : Path} {pn : Node}
    {str : Option Bytes} {st : Option Path} (hV : View ctx K pp pn str st) (hg : pn.ty = T_GROUP)
    {nm : Bytes} (hvalid : validName nm = true) (v : TokVal) (hv : v.sval = nm) (l : Nat)
    (f : Option Bytes) (o : Options) (hov : ctx.cfg.opt OPT_ALLOW_OVERRIDES = o.allowOverrides) :
    match enter o pn.kids nm with
    | some kids' => ∃ ctx₂, runAction .settingName ctx v l f = .ok ctx₂ ∧
        View ctx₂ K pp
          { pn with kids := kids' ++ [{ name := some nm, ty := T_NONE, line := l, file := f }] }
          str (some (pp ++ [kids'.length]))
    | none => runAction .settingName ctx v l f =
        .abort ({ ctx with setting := none }.yyerror l Generated.ERR_DUPLICATE_SETTING) := by
  have hadd := add_group (dtor := ctx.cfg.destructor) (ov := ctx.cfg.opt OPT_ALLOW_OVERRIDES) hg hvalid
  have ho : ({ allowOverrides := ctx.cfg.opt OPT_ALLOW_OVERRIDES } : Options) = o := by
    cases o; simp only at hov; rw [hov]
  subst hv
  rw [ho] at hadd
  split at hadd
  · obtain ⟨log, hadd⟩ := hadd
    refine ⟨_, runAction_named hV.parent hV.get hadd, hV.hole, ?_, hV.parent, hV.str, rfl⟩
    refine (hV.replace _).trans ?_
    rw [Node.editKid, modify_last]
    rfl
  · exact runAction_duplicate hV.parent hV.get hadd

end Libconfig.C02D

namespace Libconfig.C01PP
open Libconfig C04 C04R C05P

theorem enter_fresh (o : Denote.Options) {kids : List Node} {nm : Bytes}
    (h : ∀ k ∈ kids, k.name ≠ some nm) : Denote.enter o kids nm = some kids := by
  unfold Denote.enter
  rw [List.findIdx?_eq_none_iff.mpr fun x hx => by simpa using h x hx]

/-! ### the end of an aggregate -/

theorem act_aggEnd {ctx : ParseCtx} {K : Node → Node} {pp : Path} {pn : Node} {pre : List Node}
    {a : Node} {str : Option Bytes} {st : Option Path} (hH : Hole K pp)
    (hV : View ctx (fun y => K { pn with kids := pre ++ [y] }) (pp ++ [pre.length]) a str st)
    (v : TokVal) (l : Nat) (f : Option Bytes) :
    ∃ ctx₂, runAction .aggEnd ctx v l f = .ok ctx₂ ∧
      View ctx₂ K pp { pn with kids := pre ++ [a] } str st := by
  refine ⟨_, runAction_aggEnd, hH, hV.root, ?_, hV.str, hV.setting⟩
  show upPath ctx.parent = some pp
  rw [hV.parent, upPath_snoc]

/-! ### strings -/

theorem act_stringFirst {ctx : ParseCtx} {K : Node → Node} {pp : Path} {pn : Node}
    {st : Option Path} (hV : View ctx K pp pn none st) (v : TokVal) (l : Nat) (f : Option Bytes) :
    ∃ ctx₂, runAction .stringFirst ctx v l f = .ok ctx₂ ∧ View ctx₂ K pp pn (some v.sval) st := by
  refine ⟨_, runAction_piece (.inl rfl), hV.hole, hV.root, hV.parent, ?_, hV.setting⟩
  show some (ctx.str.getD [] ++ v.sval) = some v.sval
  rw [hV.str]
  rfl

/-! ### what `config_setting_add` and `config_setting_set_*_elem` return in a slot -/

theorem add_elem {dtor ov : Bool} {pn : Node} (hl : pn.ty = T_LIST) (ty : Nat) (hty : ty ≤ 8) :
    pn.add dtor ov none (ty : Nat) =
      some ({ pn with kids := pn.kids ++ [{ ty := ty }] }, pn.kids.length, []) := by
  rw [add_refines]
  unfold Spec.add
  have h1 : ¬ ((ty : Int) < 0 ∨ (ty : Int) > 8) := by omega
  simp [hl, Node.isAggregate, isAggregateTy, T_GROUP, T_ARRAY, T_LIST, h1]

theorem checkType_list {pn : Node} (hl : pn.ty = T_LIST) (ty : Nat) : checkType pn ty = true := by
  unfold checkType
  cases pn.kids with
  | nil => rfl
  | cons k ks => simp [hl]

theorem setElem_append {setter : Node → Option Node} {ty : Nat} {pn y : Node}
    (hl : pn.ty = T_LIST ∨ pn.ty = T_ARRAY) (hck : checkType pn ty = true)
    (hset : setter { name := none, ty := ty } = some y) :
    pn.setElem setter ty (-1) = some ({ pn with kids := pn.kids ++ [y] }, pn.kids.length) := by
  unfold Node.setElem
  have h1 : ¬ ((pn.ty != T_ARRAY && pn.ty != T_LIST) = true) := by
    rcases hl with hl | hl <;> simp [hl, T_ARRAY, T_LIST]
  rw [if_neg h1, if_pos (by decide), hck]
  simp only [Bool.not_true, Bool.false_eq_true, if_false]
  have hagg : pn.isAggregate = true := isAggregate_of_array_or_list (hl.symm)
  unfold Node.create
  rw [hagg]
  simp only [Bool.not_true, Bool.false_eq_true, if_false]
  simp [hset]

end Libconfig.C01PP

namespace Libconfig.C10Prov
open Libconfig C01PP C04 C04R Denote

/-! ### the slot, with the position of the fresh member -/

/-- `Slot` telling the position the fresh member carries (`some p`), or
that the value will be a new element (`none`) -/
inductive SlotP (st : Option Path) (pp : Path) (pn : Node) (pre : List Node) (nm : Option Bytes) :
    Option Stamp → Prop where
  | member (nm' : Bytes) (p : Stamp) : pn.ty = T_GROUP →
      pn.kids = pre ++ [stamped { name := some nm' } p] → nm = some nm' →
      st = some (pp ++ [pre.length]) → SlotP st pp pn pre nm (some p)
  | elem : (pn.ty = T_LIST ∨ pn.ty = T_ARRAY) → pn.kids = pre → nm = none →
      SlotP st pp pn pre nm none

theorem SlotP.slot {st : Option Path} {pp : Path} {pn : Node} {pre : List Node}
    {nm : Option Bytes} {ms : Option Stamp} (h : SlotP st pp pn pre nm ms) :
    Slot st pp pn pre nm := by
  cases h with
  | member nm' p hg hk hnm hst => exact .member _ nm' hg hk rfl hnm hst
  | elem hl hk hnm => exact .elem hl hk hnm

/-- the position the value gets: the member's, or the one the action is given -/
def slotStamp (ms : Option Stamp) (l : Nat) (f : Option Bytes) : Stamp :=
  match ms with
  | some p => p
  | none => (l, f)

theorem SlotP.member_get {st : Option Path} {pp : Path} {pn : Node} {pre : List Node}
    {nm : Option Bytes} {p : Stamp} (h : SlotP st pp pn pre nm (some p)) {ctx : ParseCtx}
    {K : Node → Node} {str : Option Bytes} (hV : View ctx K pp pn str st) :
    ∃ nm', nm = some nm' ∧ ctx.setting = some (pp ++ [pre.length]) ∧
      ctx.cfg.root = K { pn with kids := pre ++ [stamped { name := some nm' } p] } ∧
      ctx.inTy T_LIST = false ∧ (ctx.inTy T_ARRAY || ctx.inTy T_LIST) = false := by
  cases h with
  | member nm' p hg hk hnm hst =>
    refine ⟨nm', hnm, hV.setting.trans hst, hV.root.trans (congrArg K (node_kids_eq hk)), ?_, ?_⟩ <;>
      (simp only [hV.inTy, hg]; rfl)

/-! ### `$@2`, `$@3`, `$@4`: an aggregate starts -/

theorem act_aggStartP {ctx : ParseCtx} {K : Node → Node} {pp : Path} {pn : Node}
    {st : Option Path} {pre : List Node} {nm : Option Bytes} {ms : Option Stamp}
    (hV : View ctx K pp pn none st) (hS : SlotP st pp pn pre nm ms) (hna : pn.ty ≠ T_ARRAY)
    {act : ParseAct} {ty : Nat} (hact : aggTy act = some ty) (v : TokVal) (l : Nat)
    (f : Option Bytes) :
    ∃ ctx₂ st', runAction act ctx v l f = .ok ctx₂ ∧
      View ctx₂ (fun y => K { pn with kids := pre ++ [y] }) (pp ++ [pre.length])
        (stamped { name := nm, ty := ty } (slotStamp ms l f)) none st' := by
  have hty : ty ≤ 8 := by cases act <;> cases hact <;> decide
  rw [runAction_agg ctx v l f hact]
  cases ms with
  | some p =>
    obtain ⟨nm', rfl, hst, hroot, hin, -⟩ := hS.member_get hV
    have hH := hV.hole.kid pn pre
    refine ⟨_, none, actAggStart_retyped hin hst (hroot ▸ hH.get _), hH, ?_, rfl, hV.str, rfl⟩
    show ctx.cfg.root.modify _ _ = _
    rw [hroot]
    exact hH.mod _ _
  | none =>
    cases hS with
    | elem hl hk hnm =>
      have hl : pn.ty = T_LIST := hl.resolve_right hna
      subst hk hnm
      refine ⟨_, st, actAggStart_opened (by rw [hV.inTy, hl]; rfl) hV.parent hV.get
        (add_elem hl ty hty), hV.hole.kid pn pn.kids, ?_, rfl, hV.str, hV.setting⟩
      refine (hV.replace _).trans ?_
      rw [Node.editKid, modify_last]
      rfl

/-! ### scalar values -/

/-- a `simple_value` action fills the slot with exactly the node its setter makes of the fresh
setting: `R nm` with the position of the slot -/
theorem act_valueP {ctx : ParseCtx} {K : Node → Node} {pp : Path} {pn : Node} {st : Option Path}
    {pre : List Node} {nm : Option Bytes} {ms : Option Stamp} (hV : View ctx K pp pn none st)
    (hS : SlotP st pp pn pre nm ms) {setter : Node → Option Node} {ty : Nat} {fmt : Option Nat}
    {R : Option Bytes → Node} (hck : pn.ty = T_ARRAY → checkType pn ty = true)
    (hset : ∀ (nm : Option Bytes) (t0 l0 : Nat) (f0 : Option Bytes), (t0 = T_NONE ∨ t0 = ty) →
      ∃ y, setter { name := nm, ty := t0, line := l0, file := f0 } = some y ∧
        setFmtF fmt y = stamped (R nm) (l0, f0))
    (l : Nat) (f : Option Bytes) (e : Bytes) :
    ∃ ctx₂, actValue ctx setter ty fmt l f e = .ok ctx₂ ∧
      ∃ st', View ctx₂ K pp { pn with kids := pre ++ [stamped (R nm) (slotStamp ms l f)] } none st' := by
  cases ms with
  | some p =>
    obtain ⟨nm', rfl, hst, hroot, -, hin⟩ := hS.member_get hV
    have hH := hV.hole.kid pn pre
    obtain ⟨y, hy, hR⟩ := hset (some nm') T_NONE p.1 p.2 (.inl rfl)
    have hsm : setter (stamped { name := some nm' } p) = some y := hy
    refine ⟨_, actValue_assigned hin hst (hroot ▸ hH.get _), st, hV.hole, ?_, hV.parent, hV.str,
      hV.setting⟩
    show ctx.cfg.root.modify _ _ = _
    rw [hroot, hH.mod, hsm]
    show K { pn with kids := pre ++ [setFmtF fmt y] } = _
    rw [hR]
    rfl
  | none =>
    cases hS with
    | elem hl hk hnm =>
      subst hk hnm
      obtain ⟨y, hy, hR⟩ := hset none ty 0 none (.inr rfl)
      have hck' : checkType pn ty = true := hl.elim (checkType_list · _) hck
      refine ⟨_, actValue_elem (hV.inAggregate hl) hV.parent hV.get (setElem_append hl hck' hy), st,
        hV.hole, ?_, hV.parent, hV.str, hV.setting⟩
      rw [hV.replace, Node.editKid, modify_last]
      show K { pn with kids := pn.kids ++ [cap l f (setFmtF fmt y)] } = _
      rw [hR]
      rfl

section
variable {ctx : ParseCtx} {K : Node → Node} {pp : Path} {pn : Node} {st : Option Path}
  {pre : List Node} {nm : Option Bytes} {ms : Option Stamp}

/-- the slot is filled with exactly the setting `x` -/
def FilledP (K : Node → Node) (pp : Path) (pn : Node) (pre : List Node) (x : Node)
    (ctx₂ : ParseCtx) : Prop :=
  ∃ st', View ctx₂ K pp { pn with kids := pre ++ [x] } none st'

/-- the node a `simple_value` action builds under the name `nm`, without its position -/
def builtBy (ctx : ParseCtx) (v : TokVal) (nm : Option Bytes) : ParseAct → Node
  | .valBool => { name := nm, ty := T_BOOL, ival := v.ival }
  | .valInt => { name := nm, ty := T_INT, ival := v.ival, fmt := FMT_DEFAULT }
  | .valHex => { name := nm, ty := T_INT, ival := v.ival, fmt := FMT_HEX }
  | .valInt64 => { name := nm, ty := T_INT64, ival := v.ival, fmt := FMT_DEFAULT }
  | .valHex64 => { name := nm, ty := T_INT64, ival := v.ival, fmt := FMT_HEX }
  | .valFloat => { name := nm, ty := T_FLOAT, fval := v.fval }
  | .valString => { name := nm, ty := T_STRING, sval := ctx.str }
  | _ => { name := nm }

/-- the seven `simple_value` actions at once; `ctx->string` is empty afterwards (it was before,
or the action took it) -/
theorem act_scalarP {str : Option Bytes} (hV : View ctx K pp pn str st) (hS : SlotP st pp pn pre nm ms)
    {act : ParseAct} {v : TokVal} {σ : ValueSpec} (hσ : valueSpec ctx v act = some σ)
    (hstr : act ≠ .valString → str = none)
    (hck : pn.ty = T_ARRAY → checkType pn σ.ty = true) (l : Nat) (f : Option Bytes) :
    ∃ ctx₂, runAction act ctx v l f = .ok ctx₂ ∧
      FilledP K pp pn pre (stamped (builtBy ctx v nm act) (slotStamp ms l f)) ctx₂ := by
  have ht : (ctx.taken act).str = none := by
    by_cases h : act = .valString
    · rw [h]; rfl
    · exact (by cases act <;> first | rfl | exact absurd rfl h : (ctx.taken act).str = ctx.str).trans
        (hV.str.trans (hstr h))
  rw [runAction_value ctx v l f hσ]
  refine act_valueP (ctx := ctx.taken act) ⟨hV.hole, hV.root, hV.parent, ht, hV.setting⟩ hS
    (R := fun nm => builtBy ctx v nm act) hck ?_ l f _
  intro nm t0 l0 f0 h
  cases act <;> cases hσ <;> rcases h with rfl | rfl <;> exact ⟨_, rfl, rfl⟩

end

end Libconfig.C10Prov

namespace Libconfig.C01PP
open Libconfig C04 C04R C05P

/-! ### the same up to `stripPos` -/

theorem Slot.toP {st : Option Path} {pp : Path} {pn : Node} {pre : List Node} {nm : Option Bytes}
    (h : Slot st pp pn pre nm) : ∃ ms, C10Prov.SlotP st pp pn pre nm ms := by
  cases h with
  | member m nm' hg hk hm hnm hst =>
    refine ⟨some (m.line, m.file), .member nm' _ hg ?_ hnm hst⟩
    rw [hk, eq_of_stripPos hm rfl]
    rfl
  | elem hl hk hnm => exact ⟨none, .elem hl hk hnm⟩

/-! ### what has been built, against the expected node -/

section
variable (bufLen : Nat) (c : Config)

/-- the outcome of reading the value `n` into the slot: the parent has one more finished child,
which is `n` as expected -/
def Built (K : Node → Node) (pp : Path) (pn : Node) (pre : List Node) (n : Node)
    (ctx₂ : ParseCtx) : Prop :=
  ∃ n' st', View ctx₂ K pp { pn with kids := pre ++ [n'] } none st' ∧
    stripPos n' = expNode bufLen c n

end

end Libconfig.C01PP
