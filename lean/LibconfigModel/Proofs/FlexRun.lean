import LibconfigModel.Flex
/-
  Facts about the matching loop `Flex.scan` for any tables.  Scan locality (`next_of_run`): what
  `Flex.next` returns on `u ++ v` is decided by a run of `Flex.step` over `u`; if the run never
  jams, ends in an accepting state, and the first byte of `v` (or the end of the input) jams
  there, the match is that state's rule with length `u.length`, whatever else `v` holds.  For a
  family of lexemes given as a list of stages (`Stage`) that is a finite check, evaluated on
  concrete tables (`next_of_stages`).
-/
set_option autoImplicit false

namespace Libconfig.Flex

/-- where a result of the matching loop comes from: it is the backup `last`, or it was
recorded at or after `pos` (strictly after unless the state `s` itself is accepting) -/
theorem scan_spec (T : FlexTables) : ∀ (inp : Bytes) (s pos : Nat) (last : Option (Nat × Nat)) (r n : Nat),
    scan T s inp pos last = some (r, n) →
    last = some (r, n) ∨ (pos ≤ n ∧ n ≤ pos + inp.length ∧ (T.accept.getN s ≠ 0 ∨ pos < n)) := by
  have hlast' : ∀ (s pos len : Nat) (last : Option (Nat × Nat)) (r n : Nat),
      (if (T.accept.getN s != 0) = true then some (T.accept.getN s, pos) else last) = some (r, n) →
      last = some (r, n) ∨ (pos ≤ n ∧ n ≤ pos + len ∧ (T.accept.getN s ≠ 0 ∨ pos < n)) := by
    intro s pos len last r n hl
    split at hl
    · rename_i hacc
      simp only [Option.some.injEq, Prod.mk.injEq] at hl
      exact .inr ⟨by omega, by omega, .inl (by simpa using hacc)⟩
    · exact .inl hl
  intro inp
  induction inp with
  | nil =>
    intro s pos last r n h
    simp only [scan] at h
    exact hlast' _ _ _ _ _ _ h
  | cons c cs ih =>
    intro s pos last r n h
    simp only [scan] at h
    split at h
    · exact hlast' _ _ _ _ _ _ h
    · rcases ih _ _ _ _ _ h with h1 | ⟨h1, h2, _⟩
      · exact hlast' _ _ _ _ _ _ h1
      · right
        refine ⟨by omega, by simp only [List.length_cons]; omega, Or.inr (by omega)⟩

/-- run the automaton over `u`; `none` when it jams on the way -/
def run (T : FlexTables) : Nat → Bytes → Option Nat
  | s, [] => some s
  | s, c :: cs => if step T s c == T.jamState then none else run T (step T s c) cs

variable (T : FlexTables)

theorem run_cons {s c : Nat} (cs : Bytes) (h : step T s c ≠ T.jamState) :
    run T s (c :: cs) = run T (step T s c) cs := by
  simp only [run, beq_iff_eq, h, ↓reduceIte]

theorem run_append : ∀ (u v : Bytes) (s : Nat),
    run T s (u ++ v) = (run T s u).bind fun s' => run T s' v
  | [], _, _ => rfl
  | c :: cs, v, s => by
    simp only [List.cons_append, run]
    split
    · rfl
    · exact run_append cs v _

/-- while the automaton does not jam, the matching loop just goes on (what it remembers as
the last accepting position is overridden by whatever accepts later) -/
theorem scan_run (u v : Bytes) : ∀ (s s' pos : Nat) (last : Option (Nat × Nat)),
    run T s u = some s' →
    ∃ last', scan T s (u ++ v) pos last = scan T s' v (pos + u.length) last' := by
  induction u with
  | nil =>
    intro s s' pos last h
    cases h
    exact ⟨last, rfl⟩
  | cons c cs ih =>
    intro s s' pos last h
    simp only [run] at h
    split at h
    · cases h
    · rename_i hj
      obtain ⟨last', hl⟩ := ih (step T s c) s' (pos + 1)
        (if T.accept.getN s != 0 then some (T.accept.getN s, pos) else last) h
      refine ⟨last', ?_⟩
      simp only [List.cons_append, scan, hj, Bool.false_eq_true, ↓reduceIte, List.length_cons]
      rw [hl, Nat.add_assoc, Nat.add_comm 1]

theorem scan_stop (s pos : Nat) (last : Option (Nat × Nat)) (v : Bytes)
    (hacc : T.accept.getN s ≠ 0) (hjam : ∀ c, v.head? = some c → step T s c = T.jamState) :
    scan T s v pos last = some (T.accept.getN s, pos) := by
  cases v with
  | nil => simp [scan, hacc]
  | cons c cs => simp [scan, hacc, hjam c rfl]

theorem next_of_run (sc : Nat) (bol : Bool) (u v : Bytes) (q : Nat)
    (hrun : run T (startState sc bol) u = some q) (hacc : T.accept.getN q ≠ 0)
    (hjam : ∀ c, v.head? = some c → step T q c = T.jamState) :
    next T sc bol (u ++ v) = some (T.accept.getN q, u.length) := by
  obtain ⟨last', hl⟩ := scan_run T u v _ q 0 none hrun
  unfold next
  rw [hl, scan_stop T q _ last' v hacc hjam, Nat.zero_add]

/-! ### a family of texts given as stages, run through the automaton by a finite check -/

def closedUnder (S : List Nat) (cs : List Nat) : Bool :=
  S.all fun s => cs.all fun c => step T s c != T.jamState && S.contains (step T s c)

theorem run_closed {S cs : List Nat} (h : closedUnder T S cs = true) :
    ∀ (u : Bytes) (s : Nat), s ∈ S → (∀ c ∈ u, c ∈ cs) → ∃ s', s' ∈ S ∧ run T s u = some s'
  | [], s, hs, _ => ⟨s, hs, rfl⟩
  | c :: u, s, hs, hu => by
    have hc := h
    simp only [closedUnder, List.all_eq_true, Bool.and_eq_true, bne_iff_ne, ne_eq,
      List.contains_iff_mem] at hc
    replace hc := hc s hs c (hu c (List.mem_cons_self ..))
    obtain ⟨s', hs', hr⟩ := run_closed h u (step T s c) hc.2
      (fun x hx => hu x (List.mem_cons_of_mem _ hx))
    exact ⟨s', hs', by rw [run_cons T u hc.1, hr]⟩

/-- A family of texts is given as a list of stages, read left to right like a regular expression
without alternatives: `one cs` is exactly one byte of `cs`, `many cs S` any number of bytes of
`cs`.  `S` is a certificate for the check `stagesOK` and means nothing for the texts: a set of
states, containing those the automaton can be in when the stage begins, that is closed under the
bytes of `cs` without jamming (found by running the automaton, checked by `closedUnder`), so that
the automaton is in `S` after any number of them. -/
inductive Stage where
  | one (cs : List Nat)
  | many (cs S : List Nat)

/-- the texts of a list of stages -/
def Stages : List Stage → Bytes → Prop
  | [], u => u = []
  | .one cs :: st, u => ∃ c u', u = c :: u' ∧ c ∈ cs ∧ Stages st u'
  | .many cs _ :: st, u => ∃ a u', u = a ++ u' ∧ (∀ c ∈ a, c ∈ cs) ∧ Stages st u'

def lit (w : Bytes) : List Stage := w.map fun c => .one [c]

theorem Stages.lit {st : List Stage} {u : Bytes} (h : Stages st u) :
    ∀ w : Bytes, Stages (lit w ++ st) (w ++ u)
  | [] => h
  | c :: w => ⟨c, w ++ u, rfl, List.mem_singleton.mpr rfl, Stages.lit h w⟩

/-- from each state of `S` the automaton runs through the stages without jamming, into a state
of `E` -/
def stagesOK : List Nat → List Stage → List Nat → Bool
  | S, [], E => S.all E.contains
  | S, .one cs :: st, E => S.all (fun s => cs.all fun c => step T s c != T.jamState) &&
      stagesOK (S.flatMap fun s => cs.map (step T s)) st E
  | S, .many cs S' :: st, E => S.all S'.contains && closedUnder T S' cs && stagesOK S' st E

theorem run_stages : ∀ {st : List Stage} {S E : List Nat}, stagesOK T S st E = true →
    ∀ {u : Bytes} {s : Nat}, s ∈ S → Stages st u → ∃ s', s' ∈ E ∧ run T s u = some s'
  | [], S, E, h, _, s, hs, hu => by
    subst hu
    exact ⟨s, List.contains_iff_mem.mp (List.all_eq_true.mp h s hs), rfl⟩
  | .one cs :: st, S, E, h, _, s, hs, ⟨c, u', hu, hc, hu'⟩ => by
    subst hu
    simp only [stagesOK, Bool.and_eq_true, List.all_eq_true, bne_iff_ne, ne_eq] at h
    rw [run_cons T u' (h.1 s hs c hc)]
    exact run_stages h.2 (List.mem_flatMap.mpr ⟨s, hs, List.mem_map.mpr ⟨c, hc, rfl⟩⟩) hu'
  | .many cs S' :: st, S, E, h, _, s, hs, ⟨a, u', hu, ha, hu'⟩ => by
    subst hu
    simp only [stagesOK, Bool.and_eq_true, List.all_eq_true, List.contains_iff_mem] at h
    obtain ⟨s1, hs1, hr1⟩ := run_closed T h.1.2 a s (h.1.1 s hs) ha
    obtain ⟨s2, hs2, hr2⟩ := run_stages h.2 hs1 hu'
    exact ⟨s2, hs2, by rw [run_append, hr1, Option.bind_some, hr2]⟩

def landsOK (E : List Nat) (r : Nat) (stop : List Nat) : Bool :=
  E.all fun s => Nat.beq (T.accept.getN s) r && stop.all fun c => Nat.beq (step T s c) T.jamState

/-- **A checked family of lexemes.**  If the stages lead from the start state into states that
accept `r` and jam on the bytes of `stop`, every text of the stages, followed by nothing or by a
byte of `stop`, is matched as rule `r`, whole. -/
theorem next_of_stages {sc : Nat} {bol : Bool} {st : List Stage} {E : List Nat} {r : Nat}
    {stop : List Nat} (hst : stagesOK T [startState sc bol] st E = true)
    (hE : landsOK T E r stop = true) (hr : r ≠ 0) {u v : Bytes} (hu : Stages st u)
    (hv : ∀ c, v.head? = some c → c ∈ stop) : next T sc bol (u ++ v) = some (r, u.length) := by
  obtain ⟨q, hq, hrun⟩ := run_stages T hst (List.mem_singleton.mpr rfl) hu
  have hE' := List.all_eq_true.mp hE q hq
  simp only [Bool.and_eq_true, List.all_eq_true] at hE'
  have hacc : T.accept.getN q = r := Nat.eq_of_beq_eq_true hE'.1
  rw [← hacc] at hr ⊢
  exact next_of_run T sc bol u v q hrun hr fun c hc => Nat.eq_of_beq_eq_true (hE'.2 c (hv c hc))

end Libconfig.Flex
