import LibconfigModel.Proofs.C01IdemSciDigits
/-
  C01 idempotence (scientific notation) — the two shapes of the `%.{p}g` rendering, and its length:
  at most `max p 1 + 7` characters, so that with the library's buffer (341) nothing is cut for
  precisions up to 330 — the first of the two side conditions `C01L.floatOK` keeps as a
  hypothesis when `CONFIG_OPTION_ALLOW_SCIENTIFIC_NOTATION` is on.
-/
namespace Libconfig.C01I
open Libconfig F64 C01P C01L

/-! ### the two shapes of `gTail` -/

/-- the two-or-more-digit exponent `printf` writes -/
def expDigits (x : Int) : Bytes :=
  if (natToDec x.natAbs).length < 2 then 48 :: natToDec x.natAbs else natToDec x.natAbs

/-- exponent style: `d.ddd e±xx`, the digits being `d` padded to `p` places -/
theorem gTail_sci (sign : Bytes) (p d : Nat) (x : Int) (h : x < -4 ∨ x ≥ (p : Int)) :
    gTail sign p d x = sign ++ (pad0 p (natToDec d)).take 1 ++
      optFrac (stripZeros ((pad0 p (natToDec d)).drop 1)) ++
      101 :: (if x < 0 then 45 else 43) :: expDigits x := by
  unfold gTail
  rw [if_pos (by simpa using h)]
  simp only [optFrac, expDigits, List.append_assoc, List.cons_append, List.nil_append]

/-- fixed style: `ddd.ddd`, the digits `D` being `d` padded to `fd + 1` places, the last
`fd = p − 1 − x` of them behind the point -/
theorem gTail_fix (sign : Bytes) (p d : Nat) (x : Int) (h1 : -4 ≤ x) (h2 : x < (p : Int))
    (fd : Nat) (hfd : fd = ((p : Int) - 1 - x).toNat) (D : Bytes) (hD : D = pad0 (fd + 1) (natToDec d)) :
    gTail sign p d x =
      sign ++ D.take (D.length - fd) ++ optFrac (stripZeros (D.drop (D.length - fd))) := by
  subst hfd hD
  unfold gTail
  rw [if_neg (by simp only [Bool.or_eq_true, decide_eq_true_eq]; omega)]
  rfl

/-! ### lengths -/

theorem stripZeros_length_le (ds : Bytes) : (stripZeros ds).length ≤ ds.length := by
  obtain ⟨z, hz⟩ := stripZeros_spec ds
  have := congrArg List.length hz
  simp only [List.length_append, List.length_replicate] at this
  omega

theorem expDigits_length (x : Int) (hx1 : -1000 < x) (hx2 : x < 1000) : (expDigits x).length ≤ 3 := by
  have := natToDec_length x.natAbs 3 (by omega) (by omega)
  unfold expDigits
  split
  · simp only [List.length_cons]; omega
  · exact this

/-- the length of the rendering step of `%.{p}g`, given `d < 10^p` and a three-digit exponent -/
theorem gTail_length (sign : Bytes) (hs : sign.length ≤ 1) (p d : Nat) (x : Int) (hp : 1 ≤ p)
    (hd : d < 10 ^ p) (hx1 : -1000 < x) (hx2 : x < 1000) :
    (gTail sign p d x).length ≤ p + 7 := by
  have hdl : (natToDec d).length ≤ p := natToDec_length d p hd hp
  by_cases hst : x < -4 ∨ x ≥ (p : Int)
  · rw [gTail_sci sign p d x hst]
    have hlen : (pad0 p (natToDec d)).length = p := by rw [pad0_length_eq]; omega
    generalize pad0 p (natToDec d) = D at hlen ⊢
    have h2 := optFrac_length (stripZeros (D.drop 1))
    have h3 := stripZeros_length_le (D.drop 1)
    have h5 := expDigits_length x hx1 hx2
    simp only [List.length_append, List.length_cons, List.length_take, List.length_drop] at h2 h3 ⊢
    omega
  · have hfd : ((p : Int) - 1 - x).toNat ≤ p + 3 := by omega
    rw [gTail_fix sign p d x (by omega) (by omega) _ rfl _ rfl]
    generalize ((p : Int) - 1 - x).toNat = fd at hfd ⊢
    have hlen : (pad0 (fd + 1) (natToDec d)).length ≤ p + 4 := by rw [pad0_length_eq]; omega
    generalize pad0 (fd + 1) (natToDec d) = D at hlen ⊢
    have h2 := optFrac_length (stripZeros (D.drop (D.length - fd)))
    have h3 := stripZeros_length_le (D.drop (D.length - fd))
    simp only [List.length_append, List.length_take, List.length_drop] at h2 h3 ⊢
    omega

theorem sign_length (s : Bool) : (if s = true then [45] else ([] : Bytes)).length ≤ 1 := by
  cases s <;> simp

/-- `%.{p}g` of a finite double has at most `max p 1 + 7` characters -/
theorem fmtG_length (b p : Nat) (hfin : isFinite b = true) :
    (fmtG b p).length ≤ (if p = 0 then 1 else p) + 7 := by
  rw [fmtG_eq]
  simp only [hfin, Bool.not_true, Bool.false_eq_true, if_false]
  by_cases hm : mant b = 0
  · rw [if_pos hm]
    have := sign_length (signBit b)
    simp only [List.length_append, List.length_cons, List.length_nil]
    omega
  · rw [if_neg hm]
    have hp : 1 ≤ (if p = 0 then 1 else p) := by split <;> omega
    generalize (if p = 0 then 1 else p) = p' at hp ⊢
    obtain ⟨-, hdhi, hx, -⟩ := gDX_spec b p' hfin hm hp
    obtain ⟨-, -, hlo, hhi⟩ := gX0_spec b hfin hm
    exact gTail_length _ (sign_length _) p' _ _ hp hdhi (by omega) (by omega)

/-- the rendering before the cut, scientific notation allowed: `%.{p}g`, or `%.17g` -/
theorem rawText_sci_length (bufLen b p : Nat) (hfin : isFinite b = true) :
    (rawText bufLen b p true).length ≤ max p 17 + 7 := by
  unfold rawText
  simp only [if_true]
  have h1 := fmtG_length b p hfin
  have h2 := fmtG_length b 17 hfin
  simp only [show ¬ (17 = 0) by decide, if_false] at h2
  split
  · omega
  · split at h1 <;> omega

/-- with the library's buffer, precisions up to 330 are never cut -/
theorem rawText_sci_fits (b p : Nat) (hfin : isFinite b = true) (hp : p ≤ 330) :
    (rawText 341 b p true).length ≤ 341 - 4 := by
  have := rawText_sci_length 341 b p hfin
  omega

end Libconfig.C01I
