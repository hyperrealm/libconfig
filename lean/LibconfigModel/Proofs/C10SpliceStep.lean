import LibconfigModel.Proofs.C10SpliceText
import LibconfigModel.Proofs.C01LexYy
import LibconfigModel.Proofs.ScannerStep
/-
  Helper lemmas for Properties/C10Splice.lean: what the simple actions do in an iteration of
  the `yylex` loop (`actOut_simple`; the iterations themselves are `LexEffect.act`,
  `LexEffect.eof`, `yylex_eof_next` and `yylex_eof_pop` of Proofs/ScannerStep.lean), `Steps`
  (k iterations that return nothing; it is the hypothesis of `Returns.step`),
  and the run of the include machinery over one directive line (`directive_prefix`,
  `directive_close_skip`, `directive_close_push`).
-/
set_option autoImplicit false

namespace Libconfig.C10S

open Libconfig Libconfig.C10 Libconfig.C10P

/-- a non-empty match inside a line leaves the scanner away from the beginning of a line -/
theorem adv_bol_false (s : ScanState) (r n : Nat) {l t : Bytes} (hb : s.buf.rest = l ++ t) (hpos : 0 < n)
    (hn : n ≤ l.length) (hl : 10 ∉ l) : (advance T s r n).buf.bol = false := by
  have hne : l.take n ≠ [] := by
    intro h
    have := congrArg List.length h
    rw [List.length_take, Nat.min_eq_left hn] at this
    simp at this
    omega
  obtain ⟨c, hc⟩ := Option.isSome_iff_exists.mp (List.getLast?_isSome.mpr hne)
  rw [advance_bol (c := c) (by rw [hb, List.take_append_of_le_length hn]; exact hc)]
  have hcm : c ∈ l := List.mem_of_mem_take (List.mem_of_getLast? hc)
  exact beq_false_of_ne fun h10 => hl (h10 ▸ hcm)

/-- what a simple action does: it sets the start condition to some `sc'` — the
old one, INITIAL or SINGLE_LINE_COMMENT — and returns some `o`, both the same for every state in
the start condition `sc` -/
theorem actOut_simple {a : ScanAct} (h : simpleAct a = true) (sc : Nat) (text : Bytes) :
    ∃ sc' o, (sc' = sc ∨ sc' = 0 ∨ sc' = 1) ∧
      ∀ s : ScanState, s.sc = sc → actOut a s text = some ({ s with sc := sc' }, C01L.tokOut o) := by
  cases a <;> simp only [simpleAct] at h <;>
    first
    | exact ⟨sc, none, .inl rfl, fun s hs => by rw [← hs]; rfl⟩
    | exact ⟨sc, some (_, _), .inl rfl, fun s hs => by rw [← hs]; rfl⟩
    | cases h
    | skip
  rename_i sc'
  simp only [Bool.or_eq_true] at h
  exact ⟨sc', none, .inr (h.imp Nat.eq_of_beq_eq_true Nat.eq_of_beq_eq_true), fun s _ => rfl⟩

/-! ### silent progress of one `yylex` call -/

/-- `k` iterations of the loop of `yylex` lead from `s` to `s'` without returning -/
def Steps (w : World) (ic : IncludeCfg) (k : Nat) (s s' : ScanState) : Prop :=
  ∀ fuel, yylex T acts w ic (fuel + k) s = yylex T acts w ic fuel s'

theorem Steps.one {w : World} {ic : IncludeCfg} {s s' : ScanState}
    (h : ∀ fuel, yylex T acts w ic (fuel + 1) s = yylex T acts w ic fuel s') : Steps w ic 1 s s' := h

theorem Steps.trans {w : World} {ic : IncludeCfg} {a b : Nat} {s s' s'' : ScanState}
    (h1 : Steps w ic a s s') (h2 : Steps w ic b s' s'') : Steps w ic (a + b) s s'' := by
  intro fuel
  rw [show fuel + (a + b) = (fuel + b) + a by omega, h1, h2]

/-- from `s` the call of `yylex` goes on from `s'` with strictly less fuel, whenever it does not
run out of fuel: the iterations in between return nothing -/
def Silent (w : World) (ic : IncludeCfg) (s s' : ScanState) : Prop :=
  ∀ fuel, (yylex T acts w ic fuel s).2 ≠ .outOfFuel →
    ∃ fuel', fuel' < fuel ∧ yylex T acts w ic fuel s = yylex T acts w ic fuel' s'

theorem Steps.silent {w : World} {ic : IncludeCfg} {k : Nat} {s s' : ScanState} (hk : 0 < k)
    (h : Steps w ic k s s') : Silent w ic s s' := by
  intro fuel hne
  by_cases hlt : fuel < k
  · exact absurd (outOfFuel_of_lt h hlt) hne
  · refine ⟨fuel - k, by omega, ?_⟩
    rw [← h (fuel - k)]
    congr 1
    omega

/-- **A directive line, up to the closing quote.**  At the beginning of a line in INITIAL,
on a directive line `l` (followed by `tail`), the call of `yylex` matches the directive prefix
(rule 22, BEGIN INCLUDE) and the path (rule 23, appended to the string buffer) without
returning, and stands before the closing quote with the path in the string buffer. -/
theorem directive_prefix (w : World) (ic : IncludeCfg) (s : ScanState) (l tail path rest : Bytes)
    (hd : directive? l = some (path, rest)) (hrest : s.buf.rest = l ++ tail)
    (hb : ByteText (l ++ tail)) (hl : 10 ∉ l) (hsc : s.sc = 0) (hbol : s.buf.bol = true)
    (hstr : s.str = []) :
    ∃ s' k, 0 < k ∧ k ≤ 2 ∧ Steps w ic k s s' ∧ s'.sc = 4 ∧ s'.str = path ∧
      s'.buf.rest = 34 :: (rest ++ tail) ∧ s'.buf.bol = false ∧ s'.stack = s.stack := by
  obtain ⟨pre, rfl, hpre, hpath⟩ := directive?_shape hd
  have hbl := (byteText_append.mp hb).1
  -- step 1: the directive prefix
  have hn1 : Flex.next T s.sc s.buf.bol s.buf.rest = some (22, pre.length) := by
    rw [hsc, hbol, hrest, List.append_assoc]
    exact next_include_open hpre fun c hc =>
      (hb c (by rw [List.append_assoc]; exact List.mem_append_right _ (List.mem_of_mem_head? hc))).2
  let sa : ScanState := { advance T s 22 pre.length with sc := 4 }
  have h1 : Steps w ic 1 s sa :=
    Steps.one (LexEffect.act (r := (sa, none)) hn1 rfl).eq
  have hsa_rest : sa.buf.rest = path ++ 34 :: rest ++ tail := by
    show (s.buf.rest.drop _) = _
    rw [hrest, List.append_assoc, List.drop_left]
  have hsa_bol : sa.buf.bol = false :=
    adv_bol_false s 22 _ hrest (openStages_pos hpre) (by rw [List.length_append]; omega) hl
  -- step 2: the path
  by_cases hpe : path = []
  · subst hpe
    exact ⟨sa, 1, by omega, by omega, h1, rfl, hstr, by rw [hsa_rest]; simp, hsa_bol, rfl⟩
  · have hlp : 10 ∉ path ++ 34 :: rest := fun h => hl (List.mem_append_right _ h)
    have hpbt : ByteText path := fun c hc =>
      hbl c (List.mem_append_right _ (List.mem_append_left _ hc))
    have hn2 : Flex.next T sa.sc sa.buf.bol sa.buf.rest = some (23, path.length) := by
      rw [hsa_bol, hsa_rest, List.append_assoc]
      exact next_path path (rest ++ tail) hpe fun c hc => ⟨(hpbt c hc).2, hpath c hc⟩
    let sb : ScanState := { advance T sa 23 path.length with
                                    str := sa.str ++ cstr (sa.buf.rest.take path.length) }
    have h2 : Steps w ic 1 sa sb :=
      Steps.one (LexEffect.act (r := (sb, none)) hn2 rfl).eq
    refine ⟨sb, 2, by omega, by omega, h1.trans h2, rfl, ?_, ?_, ?_, rfl⟩
    · show s.str ++ cstr (sa.buf.rest.take path.length) = path
      rw [hstr, hsa_rest, List.append_assoc, List.take_left, cstr_of_byteText hpbt]
      rfl
    · show sa.buf.rest.drop path.length = _
      rw [hsa_rest, List.append_assoc, List.drop_left]
      simp
    · exact adv_bol_false sa 23 _ hsa_rest (List.length_pos_iff.mpr hpe)
        (by rw [List.length_append]; omega) hlp

theorem atDirective_close (sb : ScanState) (v : Bytes) (hsc : sb.sc = 4)
    (hrest : sb.buf.rest = 34 :: v) (hbol : sb.buf.bol = false)
    (hv : ∀ c, v.head? = some c → c < 256) :
    AtDirective T acts sb 27 1 Generated.tokens.error := by
  refine ⟨?_, C10_actions.2.1⟩
  rw [hsc, hbol, hrest]
  exact next_close v hv

theorem consumed_close_rest (sb : ScanState) (v : Bytes) (hrest : sb.buf.rest = 34 :: v) :
    (consumed T sb 27 1).buf.rest = v := by
  rw [consumed_eq]
  exact (advance_rest T sb 27 1).trans (by rw [hrest]; rfl)

theorem consumed_close_bol (sb : ScanState) (v : Bytes) (hrest : sb.buf.rest = 34 :: v) :
    (consumed T sb 27 1).buf.bol = false := by
  rw [consumed_eq]
  exact advance_bol (c := 34) (by rw [hrest]; rfl)

/-- **The closing quote, empty file list**: the directive is skipped. -/
theorem directive_close_skip (w : World) (ic : IncludeCfg) (sb : ScanState) (path v : Bytes)
    (hsc : sb.sc = 4) (hstr : sb.str = path) (hrest : sb.buf.rest = 34 :: v)
    (hbol : sb.buf.bol = false) (hv : ∀ c, v.head? = some c → c < 256) (hbt : ByteText path)
    (hd : sb.stack.length < 10) (hfn : includeFnEval ic.fn ic.dir path = (some [], none)) :
    ∃ s', Steps w ic 1 sb s' ∧ s'.sc = 0 ∧ s'.str = [] ∧ s'.buf.rest = v ∧ s'.buf.bol = false ∧
      s'.stack = sb.stack := by
  have hat := atDirective_close sb v hsc hrest hbol hv
  refine ⟨{ consumed T sb 27 1 with sc := Generated.SC_INITIAL },
    Steps.one fun fuel => C10_empty_list T acts w ic fuel sb 27 1 _ hat hd
      (.inr (by rw [hstr, cstr_of_byteText hbt]; exact hfn)),
    rfl, rfl, consumed_close_rest sb v hrest, consumed_close_bol sb v hrest, rfl⟩

/-- **The closing quote, first file opened**: a frame is pushed, scanning continues in the
file. -/
theorem directive_close_push (w : World) (ic : IncludeCfg) (sb : ScanState) (path v : Bytes)
    (hsc : sb.sc = 4) (hstr : sb.str = path) (hrest : sb.buf.rest = 34 :: v)
    (hbol : sb.buf.bol = false) (hv : ∀ c, v.head? = some c → c < 256) (hbt : ByteText path)
    (hd : sb.stack.length < 10) (p : Bytes) (ps : List Bytes) (content : Bytes)
    (hfn : includeFnEval ic.fn ic.dir path = (some (p :: ps), none))
    (hopen : w.open? p = some content) :
    ∃ s', Steps w ic 1 sb s' ∧ s'.sc = 0 ∧ s'.str = [] ∧ s'.buf.rest = content ∧
      s'.buf.bol = true ∧
      ∃ ln, s'.stack = { files := p :: ps, cur := 0, parent := ⟨v, false, ln⟩ } :: sb.stack := by
  have hat := atDirective_close sb v hsc hrest hbol hv
  refine ⟨_, Steps.one fun fuel => C10_push T acts w ic fuel sb 27 1 _ hat hd p ps content
      (by rw [hstr, cstr_of_byteText hbt]; exact hfn) hopen,
    rfl, rfl, rfl, rfl, (consumed T sb 27 1).buf.lineno, ?_⟩
  show _ :: _ = _
  congr 2
  have h1 := consumed_close_rest sb v hrest
  have h2 := consumed_close_bol sb v hrest
  generalize (consumed T sb 27 1).buf = b at h1 h2 ⊢
  cases b
  simp only at h1 h2
  subst h1 h2
  rfl

end Libconfig.C10S
