import LibconfigModel.Proofs.C03Lex
import LibconfigModel.Proofs.C02Complete
/-
  C02D, what the compiled scanner guarantees about the tokens it hands to the parser (used to
  discharge the side conditions of the main theorems for reads of byte strings):
    * a NAME token carries a valid setting name — the rule that returns NAME matches the regular
      expression `[A-Za-z\*][-A-Za-z0-9_\*]*` (`ScanSpec.rxName`; the flex tables implement the
      documented rules, Properties/C18.lean), and no other rule returns the NAME token;
    * an include error is handed over as a token of the kind of `error`, and TOK_ERROR is the
      only token number of that kind (`kind22_error`): a token sequence without TOK_ERROR was
      delivered without include error (`C02D_plain_of_no_error`, Properties/C02Denote.lean).
-/
namespace Libconfig.C02D
open Libconfig C03P ScanSpec

/-! ### what matches the pattern of names is a valid name -/

theorem star_cls_all {m : Nat} {r : Rx} {w : List Nat} (h : Rx.Matches r w) :
    r = .star (.cls m) → ∀ b ∈ w, Rx.mem m b = true := by
  induction h with
  | eps => intro hr; cases hr
  | cls _ => intro hr; cases hr
  | cat _ _ _ _ => intro hr; cases hr
  | altL _ _ => intro hr; cases hr
  | altR _ _ => intro hr; cases hr
  | starNil => intro _ b hb; cases hb
  | starCons h1 _ _ ih2 =>
    intro hr b hb
    injection hr with hr
    subst hr
    rcases List.mem_append.mp hb with hb | hb
    · obtain ⟨b', hw, hm⟩ := Rx.matches_cls_iff.mp h1
      rw [hw] at hb
      rw [List.mem_singleton.mp hb]
      exact hm
    · exact ih2 rfl b hb

theorem nameStart_ok : ∀ b, b < 256 → Rx.mem cNameStart b = true → (isAlpha b || b == 42) = true := by
  decide +kernel

theorem nameRest_ok : ∀ b, b < 256 → Rx.mem cNameRest b = true →
    (isAlpha b || isDigit b || b == 42 || b == 95 || b == 45) = true := by
  decide +kernel

theorem validName_of_matches {w : List Nat} (hb : BytesOK w) (h : Rx.Matches rxName w) :
    validName w = true := by
  unfold rxName at h
  obtain ⟨u, v, hw, hu, hv⟩ := Rx.matches_cat_iff.mp h
  obtain ⟨b, hub, hm⟩ := Rx.matches_cls_iff.mp hu
  subst hw
  subst hub
  show validName (b :: v) = true
  unfold validName
  rw [Bool.and_eq_true, List.all_eq_true]
  refine ⟨nameStart_ok b (hb b (by simp)) hm, fun c hc => ?_⟩
  exact nameRest_ok c (hb c (by simp [hc])) (star_cls_all hv rfl c hc)

/-! ### the rules and their actions -/

abbrev tkn : TokenNums := Generated.tokens

/-- an action that does not return the NAME token (the action of the rule for names apart) -/
def actNameOK : ScanAct → Bool
  | .endString t => t != tkn.name
  | .tok t => t != tkn.name
  | .tokBool t _ => t != tkn.name
  | .tokFloat t e => t != tkn.name && e != tkn.name
  | .tokInteger t32 t64 e => t32 != tkn.name && t64 != tkn.name && e != tkn.name
  | .tokInteger64 t e => t != tkn.name && e != tkn.name
  | .tokHex t e => t != tkn.name && e != tkn.name
  | .tokHex64 t e => t != tkn.name && e != tkn.name
  | _ => true

/-- rule `r` of the scanner: its action does not return NAME unless it is the action `tokName`,
and then the documented pattern of the rule is the pattern of names -/
def ruleNameOK (r : Nat) : Bool :=
  actNameOK (Generated.scanActions.getD r .unknown) &&
  match Generated.scanActions.getD r .unknown with
  | .tokName _ =>
    (match documented[r - 1]? with
     | some rule => Rx.beq rule.rx rxName
     | none => false)
  | _ => true

theorem rules_nameOK : ∀ r, r < 49 → ruleNameOK r = true := by decide +kernel

/-- the properties of the tables the induction over `yylex` uses -/
def NameActs (T : FlexTables) (acts : List ScanAct) : Prop :=
  ∀ sc, sc < 5 → ∀ (bol : Bool) (inp : Bytes), BytesOK inp → ∀ r n,
    Flex.next T sc bol inp = some (r, n) →
      actNameOK (acts.getD r .unknown) = true ∧
      ∀ t, acts.getD r .unknown = .tokName t → validName (inp.take n) = true

theorem gen_nameActs : NameActs Generated.scanner Generated.scanActions := by
  intro sc hsc bol inp hb r n h
  have hr := next_rule sc hsc bol inp hb r n h
  have hok := rules_nameOK r (by omega)
  unfold ruleNameOK at hok
  rw [Bool.and_eq_true] at hok
  refine ⟨hok.1, fun t ht => ?_⟩
  have h2 := hok.2
  rw [ht] at h2
  simp only at h2
  have hsel := (C18.C18_flex_longest_first sc hsc bol inp hb r n).mp h
  obtain ⟨rule, _, hget, _, hm⟩ := hsel.matched
  rw [hget] at h2
  simp only at h2
  rw [Rx.beq_eq h2] at hm
  exact validName_of_matches (fun x hx => hb x (List.mem_of_mem_take hx)) hm

theorem numericTok_ne (a : ScanAct) (text : Bytes) (ha : actNameOK a = true)
    (hnum : match a with
      | .tokFloat .. | .tokInteger .. | .tokInteger64 .. | .tokHex .. | .tokHex64 .. => True
      | _ => False) :
    (numericTok a text).1 ≠ tkn.name := by
  cases a <;> simp only at hnum
  all_goals
    simp only [actNameOK, Bool.and_eq_true, bne_iff_ne, ne_eq] at ha
    unfold numericTok
    simp only
    repeat' split
    all_goals first | exact ha.1 | exact ha.2 | exact ha.1.1 | exact ha.1.2

/-- a NAME token carries a valid name -/
def NameOut : LexOut → Prop
  | .tok t v => t = tkn.name → validName v.sval = true
  | _ => True

theorem actOut_name {a : ScanAct} {m m' : ScanState} {text : Bytes} {o : LexOut}
    (hok : actNameOK a = true) (hname : ∀ t, a = .tokName t → validName text = true)
    (h : actOut a m text = some (m', some o)) : NameOut o := by
  cases a
  case tokName t =>
    simp only [actOut, Option.some.injEq, Prod.mk.injEq] at h
    obtain ⟨-, rfl⟩ := h
    exact fun _ => hname t rfl
  case tokFloat | tokInteger | tokInteger64 | tokHex | tokHex64 =>
    simp only [actOut, Option.some.injEq, Prod.mk.injEq] at h
    obtain ⟨-, rfl⟩ := h
    exact fun ht => absurd ht (numericTok_ne _ text hok trivial)
  all_goals simp only [actOut, Option.some.injEq, Prod.mk.injEq, reduceCtorEq, and_false] at h
  all_goals
    obtain ⟨-, rfl⟩ := h
    first | trivial | (intro ht; simp [actNameOK, ht] at hok)

theorem yylex_names (T : FlexTables) (acts : List ScanAct) (hact : ActsOK T acts)
    (hname : NameActs T acts) (w : World) (hw : WorldOK w) (ic : IncludeCfg) (fuel : Nat)
    (s : ScanState) (h : ScanOK s) : NameOut (yylex T acts w ic fuel s).2 :=
  yylex_ind (K := fun _ => ScanOK) (Q := fun r => NameOut r.2)
    (fun _ _ _ hs he => effect_scanOK hact (fun _ _ => open_bytes hw) he hs)
    (fun _ s _ _ hs he => by
      rcases he.ret with rfl | ⟨_, _, rfl⟩ | ⟨rule, len, hn, ha⟩
      · trivial
      · trivial
      · have := hname s.sc hs.sc s.buf.bol s.buf.rest hs.buf rule len hn
        exact actOut_name this.1 this.2 ha)
    (fun _ _ => trivial) fuel s h

/-! ### token sequences -/

/-- only TOK_ERROR translates to the kind of the `error` token -/
def kind22Check : Bool :=
  C02P.allBelow 278 fun t => !(Nat.beq (translateTok Generated.parser t) 22) || Nat.beq t tkn.error

theorem kind22Check_ok : kind22Check = true := by decide +kernel

theorem kind22_error (t : Nat) (h : translateTok Generated.parser t = 22) : t = tkn.error := by
  by_cases hle : t ≤ 277
  · have := C02P.allBelow_spec kind22Check_ok t (by omega)
    rw [h] at this
    simpa using this
  · rw [C02P.translateTok_above hle] at h
    cases h

/-- the NAME tokens the compiled scanner delivers carry valid names -/
theorem lexes_namesValid (w : World) (hw : WorldOK w) (c : Config) (lexFuel : Nat) :
    ∀ (s : ScanState) (toks : List (Nat × TokVal)) (s' : ScanState),
      C02.LexesTo (theEnv w c lexFuel) s toks s' → ScanOK s →
      ∀ tv ∈ toks, tv.1 = tkn.name → validName tv.2.sval = true := by
  intro s toks s' h
  induction h with
  | eof s s' hy => intro _ tv h; cases h
  | tok s s₁ s' t v rest hy _ ih =>
    intro hs tv htv
    have hy' : yylex Generated.scanner Generated.scanActions w
        { fn := c.includeFn, dir := c.includeDir } lexFuel s = (s₁, .tok t v) := hy
    rcases List.mem_cons.mp htv with rfl | htv
    · have := yylex_names _ _ gen_actsOK gen_nameActs w hw { fn := c.includeFn, dir := c.includeDir }
        lexFuel s hs
      rw [hy'] at this
      exact this
    · have hs1 := yylex_scanOK w hw { fn := c.includeFn, dir := c.includeDir } lexFuel s hs
      unfold lex at hs1
      rw [hy'] at hs1
      exact ih hs1 tv htv
  | incl s s₁ s' t text file line rest hy _ ih =>
    intro hs tv htv
    have hy' : yylex Generated.scanner Generated.scanActions w
        { fn := c.includeFn, dir := c.includeDir } lexFuel s = (s₁, .includeError t text file line) := hy
    rcases List.mem_cons.mp htv with rfl | htv
    · intro hn
      have hk := C02C.inclKind_theEnv w c lexFuel _ _ _ _ _ _ hy
      have : t = tkn.name := hn
      rw [this] at hk
      have hk' : translateTok Generated.parser tkn.name = 22 := hk
      exact absurd hk' (by decide +kernel)
    · have hs1 := yylex_scanOK w hw { fn := c.includeFn, dir := c.includeDir } lexFuel s hs
      unfold lex at hs1
      rw [hy'] at hs1
      exact ih hs1 tv htv

end Libconfig.C02D
