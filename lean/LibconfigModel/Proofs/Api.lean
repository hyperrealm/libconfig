import LibconfigModel.TreeSpec
import LibconfigModel.Proofs.C06
/-
  What the operations of Api.lean and Step.lean do, stated once in terms of the model's own
  definitions; the property files project what they need from these.
-/
namespace Libconfig

/-! ### addressing by index path -/

theorem get?_append (n : Node) (p q : Path) :
    n.get? (p ++ q) = (n.get? p).bind (fun m => m.get? q) := by
  induction p generalizing n with
  | nil => simp [get?_nil]
  | cons i p ih =>
    simp only [List.cons_append, get?_cons]
    cases n.kids[i]? with
    | none => rfl
    | some k => simpa using ih k

theorem Node.All.get {P : Node → Prop} {n m : Node} {p : Path} (h : n.All P)
    (hm : n.get? p = some m) : m.All P :=
  fun q r hr => h (p ++ q) r (by rw [get?_append, hm]; exact hr)

theorem modify_nil (f : Node → Node) (n : Node) : n.modify f [] = f n := by rw [Node.modify]

theorem modify_cons (f : Node → Node) (n : Node) (i : Nat) (p : Path) :
    n.modify f (i :: p) =
      match n.kids[i]? with
      | some k => { n with kids := n.kids.set i (k.modify f p) }
      | none => n := by
  cases h : n.kids[i]? <;> simp [Node.modify, h]

theorem modify_append (f : Node → Node) (p r : Path) : ∀ n : Node,
    n.modify f (p ++ r) = n.modify (fun m => m.modify f r) p := by
  induction p with
  | nil => intro n; simp [modify_nil]
  | cons i p ih =>
    intro n
    rw [List.cons_append, modify_cons, modify_cons]
    cases n.kids[i]? with
    | none => rfl
    | some k => simp only [ih k]

theorem modify_modify (f g : Node → Node) (p : Path) : ∀ n : Node,
    (n.modify f p).modify g p = n.modify (fun m => g (f m)) p := by
  induction p with
  | nil => intro n; simp [modify_nil]
  | cons i p ih =>
    intro n
    rw [modify_cons f, modify_cons (fun m => g (f m))]
    cases hk : n.kids[i]? with
    | none => simp only; rw [modify_cons, hk]
    | some k =>
      simp only
      have hi : i < n.kids.length := (List.getElem?_eq_some_iff.mp hk).1
      rw [modify_cons]
      simp [hi, ih k]

theorem modify_modify_append (f g : Node → Node) (p r : Path) (n : Node) :
    (n.modify f p).modify g (p ++ r) = n.modify (fun m => (f m).modify g r) p := by
  rw [modify_append, modify_modify]

theorem map_eraseIdx {α β} (f : α → β) (l : List α) (i : Nat) :
    (l.eraseIdx i).map f = (l.map f).eraseIdx i := by
  induction l generalizing i with
  | nil => rfl
  | cons x xs ih =>
    cases i with
    | zero => rfl
    | succ i => simp [ih]

/-! ### the scalar setters -/

/-- What a successful `config_setting_set_*` / `config_setting_set_format` does to a setting:
it writes value fields only, and the type changes only from `NONE` to a scalar type. -/
structure Node.ScalarUpdate (n n' : Node) : Prop where
  name : n'.name = n.name
  kids : n'.kids = n.kids
  hook : n'.hook = n.hook
  line : n'.line = n.line
  file : n'.file = n.file
  ty : n'.ty = n.ty ∨ n.ty = T_NONE ∧ isScalarTy n'.ty = true

/-- `f` is one of the scalar setters: a successful call is a `ScalarUpdate`, and the call neither
reads nor writes the fields `name`, `kids`, `hook`, `line`, `file`. -/
structure ScalarSetter (f : Node → Option Node) : Prop where
  update : ∀ {n n'}, f n = some n' → n.ScalarUpdate n'
  frame : ∀ (n : Node) name kids hook line file,
    f { n with name := name, kids := kids, hook := hook, line := line, file := file } =
      (f n).map fun n' =>
        { n' with name := name, kids := kids, hook := hook, line := line, file := file }

/-- Every result of `o` is a scalar update of `n`.  A setter is a nest of `if`s whose leaves are a
failure, a write to the value fields, or the first assignment to a setting of type `NONE`; the
proof of its `update` is a term that mirrors that nest. -/
structure Upd (n : Node) (o : Option Node) : Prop where
  of : ∀ {n'}, o = some n' → n.ScalarUpdate n'

theorem Upd.none {n : Node} : Upd n none := ⟨nofun⟩

theorem Upd.ite {n : Node} {c : Prop} [Decidable c] {a b : Option Node} (ha : Upd n a)
    (hb : Upd n b) : Upd n (if c then a else b) := by
  split <;> assumption

theorem Upd.value {n : Node} {fmt ival fval sval} :
    Upd n (some { n with fmt := fmt, ival := ival, fval := fval, sval := sval }) :=
  ⟨fun h => by cases h; exact ⟨rfl, rfl, rfl, rfl, rfl, .inl rfl⟩⟩

theorem Upd.typed {n : Node} {t : Nat} (ht : isScalarTy t = true) {fmt ival fval sval b}
    (hb : Upd n b) :
    Upd n (if n.ty == T_NONE then
      some { n with ty := t, fmt := fmt, ival := ival, fval := fval, sval := sval } else b) := by
  split
  · exact ⟨fun h => by cases h; exact ⟨rfl, rfl, rfl, rfl, rfl, .inr ⟨eq_of_beq ‹_›, ht⟩⟩⟩
  · exact hb

theorem scalar_setInt (auto : Bool) (v : Int) : ScalarSetter (fun n => n.setInt auto v) where
  update := Upd.of <| .typed rfl <| .ite .value <| .ite .value <| .ite (.ite .value .none) .none
  frame n _ _ _ _ _ := by
    simp only [Node.setInt, apply_ite (Option.map _), Option.map_some, Option.map_none]

theorem scalar_setInt64 (auto : Bool) (v : Int) : ScalarSetter (fun n => n.setInt64 auto v) where
  update := Upd.of <| .typed rfl <| .ite .value <| .ite (.ite .value .none) <|
    .ite (.ite .value .none) .none
  frame n _ _ _ _ _ := by
    simp only [Node.setInt64, apply_ite (Option.map _), Option.map_some, Option.map_none]

theorem scalar_setFloat (auto : Bool) (b : Nat) : ScalarSetter (fun n => n.setFloat auto b) where
  update := Upd.of <| .typed rfl <| .ite .value <| .ite (.ite .value .none) <|
    .ite (.ite .value .none) .none
  frame n _ _ _ _ _ := by
    simp only [Node.setFloat, apply_ite (Option.map _), Option.map_some, Option.map_none]

theorem scalar_setBool (v : Int) : ScalarSetter (fun n => n.setBool v) where
  update := Upd.of <| .typed rfl <| .ite .value .none
  frame n _ _ _ _ _ := by
    simp only [Node.setBool, apply_ite (Option.map _), Option.map_some, Option.map_none]

theorem scalar_setString (v : Option Bytes) : ScalarSetter (fun n => n.setString v) where
  update := Upd.of <| .typed rfl <| .ite .value .none
  frame n _ _ _ _ _ := by
    simp only [Node.setString, apply_ite (Option.map _), Option.map_some, Option.map_none]

theorem scalar_setFormat (f : Nat) : ScalarSetter (fun n => n.setFormat f) where
  update := Upd.of <| .ite .none .value
  frame n _ _ _ _ _ := by
    simp only [Node.setFormat, apply_ite (Option.map _), Option.map_some, Option.map_none]

/-! ### `config_setting_remove`, `config_setting_remove_elem` -/

/-- A successful `config_setting_remove` erases one child `victim` of the setting at some path
`pp` below `parent` and logs the hooks of `victim`. -/
theorem remove_some {dtor : Bool} {parent n' : Node} {name : Option Bytes} {log : List Nat}
    (h : parent.remove dtor name = some (n', log)) :
    ∃ pp sp idx victim, parent.get? pp = some sp ∧ sp.kids[idx]? = some victim ∧
      n' = parent.modify (fun s => { s with kids := s.kids.eraseIdx idx }) pp ∧
      log = destroyLog dtor victim := by
  unfold Node.remove at h
  split at h
  · cases h
  split at h
  · cases h
  split at h
  · cases h
  dsimp only at h
  split at h
  · cases h
  split at h
  · cases h
  cases h
  obtain ⟨j, hj, hv, -⟩ := listSearch_some ‹_›
  exact ⟨_, _, _, _, ‹_›, by rwa [hj, Nat.zero_add], rfl, rfl⟩

theorem removeElem_some {dtor : Bool} {parent n' : Node} {idx : Nat} {log : List Nat}
    (h : parent.removeElem dtor idx = some (n', log)) :
    ∃ victim, parent.kids[idx]? = some victim ∧
      n' = { parent with kids := parent.kids.eraseIdx idx } ∧ log = destroyLog dtor victim := by
  unfold Node.removeElem at h
  split at h
  · cases h
  split at h
  · cases h
  cases h
  exact ⟨_, ‹_›, rfl, rfl⟩

/-! ### `lookupFrom` / `remove` on a valid member name -/

theorem lastComponent.go_nil (cand : Bytes) : lastComponent.go cand [] = cand := rfl

theorem lastComponent.go_sep (cand : Bytes) (c : Nat) (cs : Bytes) (h : isPathSep c = true) :
    lastComponent.go cand (c :: cs) = lastComponent.go cs cs := by
  rw [lastComponent.go, if_pos h]

theorem lastComponent.go_notSep (cand : Bytes) (c : Nat) (cs : Bytes) (h : isPathSep c = false) :
    lastComponent.go cand (c :: cs) = lastComponent.go cand cs := by
  rw [lastComponent.go, if_neg (by simp [h])]

theorem lastComponent.go_skip (cand a s : Bytes) (ha : ∀ x ∈ a, notSep x = true) :
    lastComponent.go cand (a ++ s) = lastComponent.go cand s := by
  induction a with
  | nil => rfl
  | cons c a ih =>
    have hc : isPathSep c = false := by simpa [notSep] using ha c (by simp)
    rw [List.cons_append, lastComponent.go_notSep _ _ _ hc]
    exact ih (fun x hx => ha x (by simp [hx]))

theorem lookupFrom_valid {n : Node} {nm : Bytes} {i : Nat} {k : Node}
    (hg : n.ty = T_GROUP) (hv : validName nm = true)
    (hs : listSearch n.kids nm 0 = some (i, k)) : lookupFrom n nm = some [i] := by
  obtain ⟨c, cs, rfl, -, hc, -⟩ := C06P.validName_spec _ hv
  rw [lookupFrom, List.length_cons, C06P.lookupLoop_cons, if_neg (ne_true_of_eq_false hc),
    ← List.append_nil (c :: cs), C06P.loopBody_name_step _ _ _ _ _ _ _ hg hs hv (fun _ _ h => by cases h),
    C06P.lookupLoop_nil]
  rfl

theorem remove_valid {dtor : Bool} {n : Node} {nm : Bytes} {i : Nat} {k : Node}
    (hg : n.ty = T_GROUP) (hv : validName nm = true)
    (hs : listSearch n.kids nm 0 = some (i, k)) :
    n.remove dtor (some nm) =
      some ({ n with kids := n.kids.eraseIdx i }, destroyLog dtor k) := by
  obtain ⟨c, cs, rfl, -, -, hsep⟩ := C06P.validName_spec _ hv
  have hlast : lastComponent (c :: cs) = c :: cs := by
    have := lastComponent.go_skip (c :: cs) (c :: cs) [] hsep
    rw [List.append_nil] at this
    exact this
  unfold Node.remove
  simp only [lookupFrom_valid hg hv hs, hlast]
  simp [hg, Node.get?, hs, Node.modify]

/-! ### `config_setting_add` -/

theorem listSearch_findIdx (ks : List Node) (nm : Bytes) (off : Nat) :
    listSearch ks nm off =
      match ks.findIdx? (fun k => k.name == some nm) with
      | none => none
      | some i => (ks[i]?).map fun k => (off + i, k) := by
  induction ks generalizing off with
  | nil => simp [listSearch]
  | cons x xs ih =>
    rw [listSearch, List.findIdx?_cons]
    by_cases hx : (x.name == some nm) = true
    · simp [hx]
    · simp only [hx, Bool.false_eq_true, if_false]
      rw [ih (off + 1)]
      cases List.findIdx? (fun k => k.name == some nm) xs with
      | none => simp
      | some i =>
        simp only [Option.map_some, List.getElem?_cons_succ]
        cases xs[i]? with
        | none => simp
        | some k => simp; omega

theorem memberIdx_of_search_none {ks : List Node} {nm : Bytes}
    (h : listSearch ks nm 0 = none) : Spec.memberIdx ks nm = none := by
  rw [listSearch_findIdx] at h
  unfold Spec.memberIdx
  cases hf : List.findIdx? (fun k => k.name == some nm) ks with
  | none => rfl
  | some i =>
    rw [hf] at h
    have hi := (List.findIdx?_eq_some_iff_getElem.mp hf).1
    simp [hi] at h

theorem memberIdx_of_search_some {ks : List Node} {nm : Bytes} {i : Nat} {k : Node}
    (h : listSearch ks nm 0 = some (i, k)) : Spec.memberIdx ks nm = some i ∧ ks[i]? = some k := by
  rw [listSearch_findIdx] at h
  unfold Spec.memberIdx
  cases hf : List.findIdx? (fun k => k.name == some nm) ks with
  | none => rw [hf] at h; cases h
  | some j =>
    rw [hf] at h
    simp only at h
    cases hk : ks[j]? with
    | none => rw [hk] at h; cases h
    | some k' =>
      rw [hk] at h
      simp only [Option.map_some, Nat.zero_add, Option.some.injEq, Prod.mk.injEq] at h
      obtain ⟨rfl, rfl⟩ := h
      exact ⟨rfl, hk⟩

theorem add_refines (dtor overrides : Bool) (parent : Node)
    (name : Option Bytes) (ty : Int) :
    parent.add dtor overrides name ty = Spec.add dtor overrides parent name ty := by
  unfold Node.add Spec.add
  split
  · rfl
  by_cases hA : parent.ty = 7
  · cases hk : parent.kids <;>
      simp [hA, hk, Node.isAggregate, isAggregateTy, Node.create, checkType, T_ARRAY, T_LIST, T_GROUP]
  by_cases hL : parent.ty = 8
  · simp [hL, Node.isAggregate, isAggregateTy, Node.create, checkType, T_ARRAY, T_LIST, T_GROUP]
  by_cases hG : parent.ty = 1
  · cases name with
    | none => simp [hG, Node.isAggregate, isAggregateTy, T_ARRAY, T_LIST, T_GROUP]
    | some nm =>
      cases hv : validName nm
      · simp [hG, hv, Node.isAggregate, isAggregateTy, T_ARRAY, T_LIST, T_GROUP]
      cases hs : listSearch parent.kids nm 0 with
      | none =>
        have hm := memberIdx_of_search_none hs
        simp [hG, hv, hs, hm, Node.isAggregate, isAggregateTy, Node.create, getMember, T_ARRAY, T_LIST, T_GROUP]
      | some ik =>
        obtain ⟨i, k⟩ := ik
        obtain ⟨hm, hk⟩ := memberIdx_of_search_some hs
        have hrm := remove_valid (dtor := dtor) hG hv hs
        cases overrides <;>
          simp [hG, hv, hs, hm, hk, hrm, Node.isAggregate, isAggregateTy, Node.create, getMember, T_ARRAY, T_LIST, T_GROUP]
  · cases name with
    | none => simp [hA, hL, hG, Node.isAggregate, isAggregateTy, Node.create, T_ARRAY, T_LIST, T_GROUP]
    | some nm => simp [hA, hL, hG, Node.isAggregate, isAggregateTy, Node.create, getMember, T_ARRAY, T_LIST, T_GROUP]

theorem memberIdx_none {ks : List Node} {nm : Bytes} (h : Spec.memberIdx ks nm = none) :
    ∀ k ∈ ks, k.name ≠ some nm := fun k hk => by
  simpa using List.findIdx?_eq_none_iff.mp h k hk

theorem memberIdx_some {ks : List Node} {nm : Bytes} {i : Nat} (h : Spec.memberIdx ks nm = some i) :
    ∃ k, ks[i]? = some k ∧ k.name = some nm := by
  obtain ⟨hi, hn, -⟩ := List.findIdx?_eq_some_iff_getElem.mp h
  exact ⟨ks[i], List.getElem?_eq_getElem hi, by simpa using hn⟩

theorem nodup_not_mem_eraseIdx {α} {l : List α} {i : Nat} {a : α} (hnd : l.Nodup)
    (hi : l[i]? = some a) : a ∉ l.eraseIdx i := by
  rw [List.mem_eraseIdx_iff_getElem?]
  rintro ⟨j, hne, hj⟩
  exact hne ((List.getElem?_inj (List.getElem?_eq_some_iff.mp hj).1 hnd).mp (hj.trans hi.symm))

/-- A successful `config_setting_add` appends one fresh setting `c`, after deleting the member it
overrides if there is one; and `c` is what its parent admits: a validly named member whose name
no other member has (as long as the members' names were distinct), an unnamed element, in an
array a scalar of the type of the others. -/
theorem add_some {dtor ov : Bool} {parent n' : Node} {name : Option Bytes} {ty : Int} {i : Nat}
    {log : List Nat} (h : parent.add dtor ov name ty = some (n', i, log)) :
    ∃ ks nm, n' = { parent with kids := ks ++ [{ name := nm, ty := ty.toNat }] } ∧ i = ks.length ∧
      (ks = parent.kids ∧ log = [] ∨ ∃ j old, name ≠ none ∧ parent.kids[j]? = some old ∧
        ks = parent.kids.eraseIdx j ∧ log = destroyLog dtor old) ∧
      (parent.ty = T_ARRAY → isScalarTy ty = true) ∧
      (0 ≤ ty ∧ ty ≤ 8) ∧ parent.isAggregate = true ∧
      (parent.ty = T_GROUP → ∃ x, nm = some x ∧ validName x = true ∧
        ((parent.kids.map (·.name)).Nodup → ∀ k ∈ ks, k.name ≠ some x)) ∧
      (parent.ty ≠ T_GROUP → nm = none) ∧
      (parent.ty = T_ARRAY → ks = parent.kids ∧ checkType parent ty.toNat = true) := by
  rw [add_refines] at h
  unfold Spec.add at h
  rw [Option.ite_none_left_eq_some, Option.ite_none_left_eq_some] at h
  obtain ⟨hrange, hagg, h⟩ := h
  have hrange : 0 ≤ ty ∧ ty ≤ 8 := by simpa using hrange
  have hagg : parent.isAggregate = true := by simpa using hagg
  split at h
  · have hg : parent.ty = T_GROUP := eq_of_beq ‹_›
    have hna : ∀ {P : Prop}, parent.ty = T_ARRAY → P := fun ha => by rw [hg] at ha; cases ha
    split at h
    · cases h
    rename_i x
    rw [Option.ite_none_left_eq_some] at h
    obtain ⟨hv, h⟩ := h
    have hv : validName x = true := by simpa using hv
    split at h
    · cases h
      exact ⟨parent.kids, _, rfl, rfl, .inl ⟨rfl, rfl⟩, hna, hrange, hagg,
        fun _ => ⟨x, rfl, hv, fun _ => memberIdx_none ‹_›⟩, fun hn => absurd hg hn, hna⟩
    · rw [Option.ite_none_left_eq_some] at h
      obtain ⟨-, h⟩ := h
      cases h
      rename_i j hjm
      obtain ⟨old, hj, hon⟩ := memberIdx_some hjm
      refine ⟨_, _, rfl, rfl, .inr ⟨j, old, nofun, hj, rfl, by rw [hj]⟩, hna, hrange, hagg,
        fun _ => ⟨x, rfl, hv, fun hnd k hk hkn => ?_⟩, fun hn => absurd hg hn, hna⟩
      -- the other members have other names, since the names of a group are distinct
      apply nodup_not_mem_eraseIdx hnd (a := some x) (i := j) (by simp [hj, hon])
      rw [← map_eraseIdx, ← hkn]
      exact List.mem_map.mpr ⟨k, hk, rfl⟩
  have hng : parent.ty ≠ T_GROUP := by simpa using ‹¬(parent.ty == T_GROUP) = true›
  split at h
  · have ha : parent.ty = T_ARRAY := eq_of_beq ‹_›
    rw [Option.ite_none_left_eq_some, Option.ite_none_left_eq_some] at h
    obtain ⟨hsc, hct, h⟩ := h
    cases h
    refine ⟨parent.kids, none, rfl, rfl, .inl ⟨rfl, rfl⟩, fun _ => by simpa using hsc, hrange, hagg,
      fun hg => absurd hg hng, fun _ => rfl, fun _ => ⟨rfl, ?_⟩⟩
    unfold checkType
    split
    · rfl
    · rename_i k ks hks
      simpa [hks, ha, T_ARRAY, T_LIST] using hct
  · cases h
    have hna : ∀ {P : Prop}, parent.ty = T_ARRAY → P := fun ha =>
      absurd ha (by simpa using ‹¬(parent.ty == T_ARRAY) = true›)
    exact ⟨parent.kids, none, rfl, rfl, .inl ⟨rfl, rfl⟩, hna, hrange, hagg,
      fun hg => absurd hg hng, fun _ => rfl, hna⟩

/-! ### `config_setting_set_*_elem` -/

/-- A successful `config_setting_set_*_elem` on an array or list: a negative index appends a
fresh element of type `ty` with the value set, any other index sets the element there. -/
theorem setElem_some {f : Node → Option Node} {ty : Nat} {n n' : Node} {idx : Int} {i : Nat}
    (h : n.setElem f ty idx = some (n', i)) :
    n.isAggregate = true ∧ n.ty ≠ T_GROUP ∧
    ((idx < 0 ∧ checkType n ty = true ∧ ∃ e', f { name := none, ty := ty } = some e' ∧
        n' = { n with kids := n.kids ++ [e'] } ∧ i = n.kids.length) ∨
     (¬ idx < 0 ∧ ∃ e e', n.kids[idx.toNat]? = some e ∧ f e = some e' ∧
        n' = { n with kids := n.kids.set idx.toNat e' } ∧ i = idx.toNat)) := by
  unfold Node.setElem at h
  split at h
  · cases h
  have hal : n.ty = T_ARRAY ∨ n.ty = T_LIST := by
    rename_i hal
    simp only [Bool.and_eq_true, bne_iff_ne, ne_eq, not_and, Decidable.not_not] at hal
    exact (Decidable.em (n.ty = T_ARRAY)).imp_right hal
  have hagg : n.isAggregate = true := by
    rcases hal with h | h <;> simp [Node.isAggregate, isAggregateTy, h]
  refine ⟨hagg, by rcases hal with h | h <;> rw [h] <;> decide, ?_⟩
  split at h
  · refine .inl ⟨‹_›, ?_⟩
    split at h
    · cases h
    simp only [Node.create, hagg, Bool.not_true, Bool.false_eq_true, if_false,
      List.length_append, List.length_singleton, Nat.add_sub_cancel,
      List.getElem?_concat_length] at h
    split at h
    · cases h
    cases h
    exact ⟨by simpa using ‹¬(!checkType n ty) = true›, _, ‹_›, by simp, rfl⟩
  · refine .inr ⟨‹_›, ?_⟩
    split at h
    · cases h
    split at h
    · cases h
    cases h
    exact ⟨_, _, by simpa [getElem, hagg] using ‹getElem n idx.toNat = some _›, ‹_›, rfl, rfl⟩

/-! ### the transition function -/

/-- The node-level calls behind the transitions that replace one setting, with the destructor
log of the call: `NodeOp dtor overrides n n' log`. -/
inductive NodeOp (dtor ov : Bool) : Node → Node → List Nat → Prop
  | add {n n' name ty i log} : n.add dtor ov name ty = some (n', i, log) → NodeOp dtor ov n n' log
  | remove {n n' name log} : n.remove dtor name = some (n', log) → NodeOp dtor ov n n' log
  | removeElem {n n' idx log} : n.removeElem dtor idx = some (n', log) → NodeOp dtor ov n n' log
  | set {n n'} : n.ScalarUpdate n' → NodeOp dtor ov n n' []
  | setElem {f} {ty : Nat} {n n' idx i} : ScalarSetter f → isScalarTy ty = true →
      n.setElem f ty idx = some (n', i) → NodeOp dtor ov n n' []

/-- What `step s op` can be.  Queries and every call that fails return the state as it was;
the structural operations and the assignments replace the setting at one path by the result of
a `NodeOp` and report success; the attribute setters and the file-system operations leave the
tree alone (`kept`); `config_clear` and `config_destroy` log the hooks of the whole tree and
start again from an empty root (`reset`); `config_write_file` writes nothing in the
configuration but its error record; a read is what `read` (Read.lean) makes of it. -/
inductive Effect (s : State) : Op → State × Out → Prop
  | same {op} (res : Res) : Effect s op (s, { res := res })
  | edit {op p n n' log} (res : Res) : s.cfg.root.get? p = some n →
      NodeOp s.cfg.destructor (s.cfg.opt OPT_ALLOW_OVERRIDES) n n' log →
      (res = .flag true ∨ ∃ q, res = .ptr (some q)) →
      Effect s op (s.withRoot (s.cfg.root.modify (fun _ => n') p), { res := res, log := log })
  | setHook {p h n} : s.cfg.root.get? p = some n →
      Effect s (.setHook p h)
        (s.withRoot (s.cfg.root.modify (fun n => { n with hook := h }) p), { res := .unit })
  | kept {op} (s' : State) : s'.cfg.root = s.cfg.root → Effect s op (s', { res := .unit })
  | reset {op} (c : Config) : c.root = { ty := T_GROUP } →
      Effect s op (s.withCfg c, { res := .unit, log := destroyLog s.cfg.destructor s.cfg.root })
  | writeFile (path : Bytes) (ret : Bool) (e : Nat) (text : Option Bytes) (w : World) :
      Effect s (.writeFile path) ({ cfg := s.cfg.setError e text, world := w }, { res := .flag ret })
  | read (src : Source) :
      Effect s (.read src) (s.withCfg (read s.world s.cfg src readFuel).cfg,
        { res := .readResult (read s.world s.cfg src readFuel).result,
          log := (read s.world s.cfg src readFuel).dtorLog })

theorem Effect.query (s : State) (op : Op) (p : Path) (f : Node → Res) :
    Effect s op (query s p f) := by
  unfold Libconfig.query
  split <;> exact .same _

theorem Effect.setAt (s : State) (op : Op) (p : Path) {f : Node → Option Node}
    (hf : ScalarSetter f) : Effect s op (setAt s p f) := by
  unfold Libconfig.setAt
  split
  · exact .same _
  split
  · exact .same _
  · exact .edit _ ‹_› (.set (hf.update ‹_›)) (.inl rfl)

theorem Effect.setElemAt (s : State) (op : Op) (p : Path) (idx : Int) {f : Node → Option Node}
    {ty : Nat} (hf : ScalarSetter f) (hty : isScalarTy ty = true) :
    Effect s op (setElemAt s p idx f ty) := by
  unfold Libconfig.setElemAt
  split
  · exact .same _
  split
  · exact .same _
  · exact .edit _ ‹_› (.setElem hf hty ‹_›) (.inr ⟨_, rfl⟩)

theorem Effect.ite {s : State} {op : Op} {c : Prop} [Decidable c] {a b : State × Out}
    (ha : Effect s op a) (hb : Effect s op b) : Effect s op (if c then a else b) := by
  split <;> assumption

theorem step_effect (s : State) (op : Op) : Effect s op (step s op) := by
  cases op with
  | add p name ty =>
    simp only [step]
    split
    · exact .same _
    split
    · exact .same _
    · exact .edit _ ‹_› (.add ‹_›) (.inr ⟨_, rfl⟩)
  | remove p name =>
    simp only [step]
    split
    · exact .same _
    split
    · exact .same _
    · exact .edit _ ‹_› (.remove ‹_›) (.inl rfl)
  | removeElem p idx =>
    simp only [step]
    split
    · exact .same _
    split
    · exact .same _
    · exact .edit _ ‹_› (.removeElem ‹_›) (.inl rfl)
  | setInt p v => exact .setAt s _ p (scalar_setInt _ v)
  | setInt64 p v => exact .setAt s _ p (scalar_setInt64 _ v)
  | setFloat p b =>
    simp only [step]
    split
    · exact .same _
    split
    · exact .same _
    · exact .setAt s _ p (scalar_setFloat _ b)
  | setBool p v => exact .setAt s _ p (scalar_setBool v)
  | setString p v => exact .setAt s _ p (scalar_setString v)
  | setFormat p f => exact .setAt s _ p (scalar_setFormat f)
  | setIntElem p idx v => exact .setElemAt s _ p idx (scalar_setInt _ v) (by decide)
  | setInt64Elem p idx v => exact .setElemAt s _ p idx (scalar_setInt64 _ v) (by decide)
  | setFloatElem p idx b =>
    exact .ite (.same _) (.setElemAt s _ p idx (scalar_setFloat _ b) (by decide))
  | setBoolElem p idx v => exact .setElemAt s _ p idx (scalar_setBool v) (by decide)
  | setStringElem p idx v => exact .setElemAt s _ p idx (scalar_setString v) (by decide)
  | setHook p h =>
    simp only [step]
    split
    · exact .same _
    · exact .setHook ‹_›
  | setOptions _ | setOption _ _ | setTabWidth _ | setFloatPrecision _ | setDefaultFormat _
  | setIncludeDir _ | setIncludeFn _ | setDestructor _ | setConfigHook _ | mkfile _ _ | mkdir _
  | rmfile _ => exact .kept _ rfl
  | clear | destroy => exact .reset _ rfl
  | read src => exact .read src
  | get _ _ | getElemVal _ _ _ | lookupVal _ _ _ | lookup _ _ | getElem _ _ | getMember _ _ | length _
  | index _ | getFormat _ => exact .query s _ _ _
  | clookupVal _ _ | getOption _ | write | cat _ => exact .same _
  | writeFile path =>
    simp only [step, (writeFile_of_ret _ _ _).1]
    split <;> exact .writeFile path _ _ _ _

end Libconfig
