import LibconfigModel.Proofs.C01LexTree
/-
  C01L — the bytes of a good item sequence contain no NUL, so `config_read_string` (which sees
  the C string up to the first NUL, `cstr`) sees all of the written text.
-/
namespace Libconfig.C01L

theorem digits_nz {ds : Bytes} (h : AllDigits ds) : ∀ b ∈ ds, b ≠ 0 := by
  intro b hb
  have := h b hb
  simp only [isDigit, Bool.and_eq_true, decide_eq_true_eq] at this
  omega

theorem hex_nz {ds : Bytes} (h : AllHex ds) : ∀ b ∈ ds, b ≠ 0 := by
  intro b hb
  have := h b hb
  simp only [isHexDigit, isDigit, Bool.or_eq_true, Bool.and_eq_true, decide_eq_true_eq] at this
  omega

theorem sign_nz (neg : Bool) : ∀ b ∈ signBytes neg, b ≠ 0 := by
  cases neg <;> decide

theorem append_nz {x y : Bytes} (hx : ∀ b ∈ x, b ≠ 0) (hy : ∀ b ∈ y, b ≠ 0) : ∀ b ∈ x ++ y, b ≠ 0 := by
  intro b hb
  rcases List.mem_append.mp hb with h | h
  · exact hx b h
  · exact hy b h

theorem digitChar_nz (d : Nat) : digitChar d ≠ 0 := by
  unfold digitChar; split <;> omega

theorem escByte_nz (c : Nat) (hc : c ≠ 0) : ∀ b ∈ C01P.escByte c, b ≠ 0 := by
  rcases C01P.escByte_cases c with ⟨_, e⟩ | ⟨_, x, r, hx, e⟩ | ⟨_, _, e⟩ <;> rw [e] <;> intro b hb <;>
    simp only [List.mem_cons, List.not_mem_nil, or_false] at hb
  · exact hb ▸ hc
  · rcases hb with rfl | rfl
    · decide
    · exact (by decide : ∀ e ∈ C01P.escTable, e.2.1 ≠ 0) _ hx
  · rcases hb with rfl | rfl | rfl | rfl
    · decide
    · decide
    · exact digitChar_nz _
    · exact digitChar_nz _

theorem escapeString_nz : ∀ (x : Bytes), (∀ b ∈ x, b ≠ 0) → ∀ b ∈ escapeString x, b ≠ 0
  | [], _ => fun _ hb => nomatch hb
  | c :: t, h => by
    rw [C01P.escapeString_cons]
    exact append_nz (escByte_nz c (h c (List.mem_cons_self ..)))
      (escapeString_nz t fun b hb => h b (List.mem_cons_of_mem _ hb))

theorem isBlank_nz {x : Nat} (h : isBlank x = true) : x ≠ 0 := by
  simp only [isBlank, Bool.or_eq_true, beq_iff_eq] at h
  omega

theorem nameChar_nz {x : Nat} (h : (isAlpha x || x == 42) = true ∨ nameRest x = true) : x ≠ 0 := by
  simp only [nameRest, isAlpha, isUpper, isLower, isDigit, Bool.or_eq_true, Bool.and_eq_true,
    decide_eq_true_eq, beq_iff_eq] at h
  omega

theorem good_nz (t : WTok) (hg : GoodTok t) : ∀ b ∈ t.bytes, b ≠ 0 := by
  cases t with
  | ws b =>
    rcases hg with rfl | ⟨_, hb⟩
    · decide
    · exact fun x hx => isBlank_nz (hb x hx)
  | name nm =>
    cases nm with
    | nil => cases hg.1
    | cons c cs =>
      have h1 := (Bool.and_eq_true _ _).mp hg.1
      intro x hx
      rcases List.mem_cons.mp hx with rfl | hx
      · exact nameChar_nz (.inl h1.1)
      · exact nameChar_nz (.inr (List.all_eq_true.mp h1.2 x hx))
  | assign c => rcases hg with rfl | rfl <;> decide
  | semi => decide
  | comma => decide
  | punct c => rcases hg with rfl | rfl | rfl | rfl | rfl | rfl <;> decide
  | bool v => rw [bool_bytes]; cases v <;> decide
  | int bits v hex =>
    obtain ⟨neg, ds, hds, _, hdig⟩ := intToDec_shape v
    rw [int_bytes bits v hex (hg.imp And.left And.left)]
    refine append_nz ?_ (by split <;> decide)
    cases hex
    · rw [if_neg Bool.false_ne_true, hds]
      exact append_nz (sign_nz neg) (digits_nz hdig)
    · exact append_nz (by decide) (hex_nz (C01P.natToHex_digits _))
  | float b text => exact fun x hx => Nat.ne_of_gt (C01P.fc_range (hg.1.allFc x hx)).1
  | str x =>
    exact append_nz (append_nz (by decide) (escapeString_nz x fun b hb => Nat.ne_of_gt (hg b hb).1))
      (by decide)
  | unknown => exact hg.elim

theorem goodSeq_nz : ∀ (ts : List WTok), GoodSeq ts → ∀ b ∈ bytesOf ts, b ≠ 0
  | [], _ => fun _ hb => nomatch hb
  | t :: ts, hg => by
    rw [bytesOf_cons]
    exact append_nz (good_nz t hg.1) (goodSeq_nz ts hg.2.2)

/-- the written text of a configuration satisfying `LexOK` has no NUL byte: as a C string it is
the whole text -/
theorem write_cstr (bufLen : Nat) (c : Config)
    (hok : nodeOK bufLen c c.root = true) : cstr (c.write bufLen) = c.write bufLen := by
  rw [C19.C19_bytes]
  exact cstr_of_ne_zero (goodSeq_nz _ (config_good bufLen c hok))

end Libconfig.C01L
