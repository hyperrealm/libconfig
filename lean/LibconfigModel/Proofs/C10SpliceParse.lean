import LibconfigModel.Proofs.C10SpliceSim
import LibconfigModel.Proofs.Restamp
/-
  Helper lemmas for Properties/C10Splice.lean, parser side: two parser runs whose scanner
  states are related by `Rel` (run with includes / run over the spliced text) and whose parse
  contexts agree up to source positions stay so, as long as the first does not run out of fuel.  Erasing
  the positions is re-stamping with `noPos` (Proofs/Restamp.lean), which supplies the parser side.
-/
set_option autoImplicit false

namespace Libconfig.C10S

open Libconfig Libconfig.C10 Libconfig.C05P Libconfig.C09P C10Prov

/-! ### erasure of source positions (the `stripPos` of Properties/C10.lean) -/

mutual
def eraseNode : Node → Node
  | .mk name ty fmt ival fval sval kids hook _ _ =>
    .mk name ty fmt ival fval sval (eraseList kids) hook 0 none
def eraseList : List Node → List Node
  | [] => []
  | k :: ks => eraseNode k :: eraseList ks
end

def eraseCfg (c : Config) : Config :=
  { c with root := eraseNode c.root, errFile := none, errLine := 0, filenames := [] }

def eraseCtx (c : ParseCtx) : ParseCtx := { c with cfg := eraseCfg c.cfg }

/-- every position becomes the null position -/
abbrev noPos : Denote.Stamp → Denote.Stamp := fun _ => (0, none)

mutual
theorem eraseNode_restamp : ∀ n : Node, eraseNode n = restamp noPos n
  | .mk _ _ _ _ _ _ kids _ _ _ => by rw [eraseNode, restamp, eraseList_restamp kids]
theorem eraseList_restamp : ∀ ks : List Node, eraseList ks = restampList noPos ks
  | [] => by rw [eraseList, restampList]
  | k :: ks => by rw [eraseList, restampList, eraseNode_restamp k, eraseList_restamp ks]
end

theorem eraseCfg_restamp (c : Config) : eraseCfg c = restampCfg noPos (fun _ => 0) c := by
  rw [eraseCfg, eraseNode_restamp]; rfl

@[simp] theorem erase_fmt (n : Node) : (eraseNode n).fmt = n.fmt := by
  rw [eraseNode_restamp, restamp_eq]
@[simp] theorem erase_ival (n : Node) : (eraseNode n).ival = n.ival := by
  rw [eraseNode_restamp, restamp_eq]
@[simp] theorem erase_fval (n : Node) : (eraseNode n).fval = n.fval := by
  rw [eraseNode_restamp, restamp_eq]
@[simp] theorem erase_sval (n : Node) : (eraseNode n).sval = n.sval := by
  rw [eraseNode_restamp, restamp_eq]
@[simp] theorem erase_hook (n : Node) : (eraseNode n).hook = n.hook := by
  rw [eraseNode_restamp, restamp_eq]
@[simp] theorem erase_line (n : Node) : (eraseNode n).line = 0 := by
  rw [eraseNode_restamp, restamp_eq]
@[simp] theorem erase_file (n : Node) : (eraseNode n).file = none := by
  rw [eraseNode_restamp, restamp_eq]

theorem erase_fresh (name : Option Bytes) (ty : Nat) :
    eraseNode { name := name, ty := ty } = { name := name, ty := ty } := by
  rw [eraseNode_restamp, restamp_mk]; rfl

theorem destroyLogList_erase (d : Bool) :
    ∀ ks : List Node, destroyLogList d (eraseList ks) = destroyLogList d ks := by
  intro ks
  rw [eraseList_restamp, destroyLogList_restamp]

@[simp] theorem eraseCtx_parent (c : ParseCtx) : (eraseCtx c).parent = c.parent := rfl
@[simp] theorem eraseCtx_setting (c : ParseCtx) : (eraseCtx c).setting = c.setting := rfl
@[simp] theorem eraseCtx_str (c : ParseCtx) : (eraseCtx c).str = c.str := rfl
@[simp] theorem eraseCtx_log (c : ParseCtx) : (eraseCtx c).log = c.log := rfl
@[simp] theorem eraseCtx_root (c : ParseCtx) : (eraseCtx c).cfg.root = eraseNode c.cfg.root := rfl
@[simp] theorem eraseCtx_destructor (c : ParseCtx) :
    (eraseCtx c).cfg.destructor = c.cfg.destructor := rfl
@[simp] theorem eraseCtx_opt (c : ParseCtx) (o : Nat) : (eraseCtx c).cfg.opt o = c.cfg.opt o := rfl
@[simp] theorem eraseCtx_errText (c : ParseCtx) : (eraseCtx c).cfg.errText = c.cfg.errText := rfl

theorem eraseCtx_mk (cfg : Config) (par set : Option Path) (str : Option Bytes) (log : List Nat) :
    eraseCtx ⟨cfg, par, set, str, log⟩ = ⟨eraseCfg cfg, par, set, str, log⟩ := rfl

@[simp] theorem modify_parent (c : ParseCtx) (p : Path) (f : Node → Node) :
    (c.modify p f).parent = c.parent := rfl
@[simp] theorem modify_setting (c : ParseCtx) (p : Path) (f : Node → Node) :
    (c.modify p f).setting = c.setting := rfl
@[simp] theorem modify_str (c : ParseCtx) (p : Path) (f : Node → Node) :
    (c.modify p f).str = c.str := rfl
@[simp] theorem modify_log (c : ParseCtx) (p : Path) (f : Node → Node) :
    (c.modify p f).log = c.log := rfl

/-! ### the two reads -/

section
variable (w : World) (ic : IncludeCfg)

theorem rel_init {content : Bytes} (top : Option Bytes) (h : TreeOK w ic 10 content) :
    Rel w ic (scan0 top content) (scan0 none (splice w ic 11 content)) := by
  refine ⟨10, ⟨.inl rfl, rfl, fun _ => rfl, h, fun _ => rfl, trivial, trivial, rfl⟩,
    rfl, rfl, rfl, ?_, fun _ => rfl⟩
  show splice w ic 11 content = splice w ic 11 content ++ []
  rw [List.append_nil]

end

/-- reading the top file and reading the spliced text agree up to source positions, unless the
first read runs out of fuel -/
theorem splice_read_all (w : World) (c : Config) (top content : Bytes) (fuel : Nat)
    (hopen : w.open? top = some content)
    (htree : TreeOK w { fn := c.includeFn, dir := c.includeDir } 10 content)
    (h1 : (read w c (.file top) fuel).result ≠ .outOfFuel) :
    let b := read w c (.string (splice w { fn := c.includeFn, dir := c.includeDir } 11 content)) fuel
    (read w c (.file top) fuel).ok = b.ok ∧ (read w c (.file top) fuel).result = b.result ∧
    restampCfg noPos (fun _ => 0) (read w c (.file top) fuel).cfg =
      restampCfg noPos (fun _ => 0) b.cfg ∧
    (read w c (.file top) fuel).dtorLog = b.dtorLog := by
  have hcs := cstr_of_byteText
    (splice_bytes w { fn := c.includeFn, dir := c.includeDir } 10 content htree)
  simp only [read, hopen, hcs] at h1 ⊢
  -- `P` is "not out of fuel": `hlex` may then assume that the call of run 1 returned, which is
  -- what `yylex_sim'` asks; `noPos` is constant, so the conditions on `g` hold by `rfl`
  exact readCore_sim (P := (· ≠ .outOfFuel)) (hg := rfl) (hge := fun _ _ => rfl)
    (hpos := fun _ => rfl) (hlex := fun hs hP => by
      have h := yylex_sim' w _ fuel fuel _ _ hs (fun h => hP h rfl) (.inl (Nat.le_refl _))
      exact ⟨h.1, h.2.elim (fun ⟨a, b⟩ => congrArg eraseOut (a.trans b.symm))
        fun ⟨_, _, a, b⟩ => congrArg eraseOut (a.trans b.symm)⟩)
    w c fuel (some top) none content _ rfl (rel_init w _ (some top) htree) (fun _ => rfl) h1

end Libconfig.C10S
