import LibconfigModel.WF
import LibconfigModel.Proofs.Api
/-
  Helper lemmas for property C04 (well-formedness of the setting tree is an
  invariant of every API operation).  The statements live in
  `LibconfigModel/Properties/C04.lean`.
-/
namespace Libconfig.C04

open Libconfig

/-! ### the one-level unfolding of `WF` -/

theorem WF_iff (n : Node) : n.WF ↔ n.LocalWF ∧ ∀ k ∈ n.kids, k.WF := Node.all_iff n

theorem WF.localWF {n : Node} (h : n.WF) : n.LocalWF := ((WF_iff n).mp h).1

theorem WF.get {n : Node} (h : n.WF) {p : Path} {m : Node} (hm : n.get? p = some m) : m.WF :=
  Node.All.get h hm

/-! ### Local well-formedness under the elementary edits -/

/-- `n'` may stand where `n` stood: the `LocalWF` of a parent looks at the names of its children
and, in an array, at their types; a setting of type NONE is no array element, so its type is free
to change. -/
structure Compat (n n' : Node) : Prop where
  name : n'.name = n.name
  ty : n.ty ≠ T_NONE → n'.ty = n.ty

theorem Compat.refl (n : Node) : Compat n n := ⟨rfl, fun _ => rfl⟩

theorem LocalWF.congr {n n' : Node} (h : n.LocalWF) (ht : n'.ty = n.ty) (hk : n'.kids = n.kids) :
    n'.LocalWF := by
  obtain ⟨a, b, c, d, e, f, g, h'⟩ := h
  constructor <;> simp only [Node.isAggregate, ht, hk] <;> assumption

theorem LocalWF.noKids {n : Node} (ht : n.ty ≤ 8) (hk : n.kids = []) : n.LocalWF := by
  constructor <;> simp [hk, ht]

theorem isScalarTy_ne_none {t : Nat} (h : isScalarTy t = true) : t ≠ T_NONE := by
  simp [isScalarTy] at h
  show t ≠ 0
  omega

theorem map_set_self {α β} (f : α → β) (l : List α) (i : Nat) (a a' : α)
    (hi : l[i]? = some a) (hf : f a' = f a) : (l.set i a').map f = l.map f := by
  obtain ⟨h, rfl⟩ := List.getElem?_eq_some_iff.mp hi
  rw [List.map_set, hf, ← List.getElem_map f (h := by simpa using h), List.set_getElem_self]

theorem LocalWF.set {n : Node} (h : n.LocalWF) {i : Nat} {k k' : Node}
    (hi : n.kids[i]? = some k) (hname : k'.name = k.name) (hty : n.ty = T_ARRAY → k'.ty = k.ty) :
    Node.LocalWF { n with kids := n.kids.set i k' } := by
  have hk : k ∈ n.kids := List.mem_of_getElem? hi
  have hmem : ∀ x ∈ n.kids.set i k', x = k' ∨ x ∈ n.kids := fun x hx =>
    (List.mem_or_eq_of_mem_set hx).symm
  obtain ⟨a, b, c, d, e, f, g, h'⟩ := h
  refine ⟨a, ?_, ?_, ?_, ?_, ?_, ?_, ?_⟩
  · intro hs
    have := b hs
    simp [this] at hk
  · intro ht x hx
    rcases hmem x hx with rfl | hx
    · rw [hname]; exact c ht k hk
    · exact c ht x hx
  · intro ht
    show ((n.kids.set i k').map (·.name)).Nodup
    rw [map_set_self _ _ _ _ _ hi hname]
    exact d ht
  · intro ht x hx
    rcases hmem x hx with rfl | hx
    · rw [hname]; exact e ht k hk
    · exact e ht x hx
  · intro ht x hx
    rcases hmem x hx with rfl | hx
    · rw [hname]; exact f ht k hk
    · exact f ht x hx
  · intro ht x hx
    rcases hmem x hx with rfl | hx
    · rw [hty ht]; exact g ht k hk
    · exact g ht x hx
  · intro ht x hx y hy
    have hx' : x.ty = k.ty := by
      rcases hmem x hx with rfl | hx
      · exact hty ht
      · exact h' ht x hx k hk
    have hy' : y.ty = k.ty := by
      rcases hmem y hy with rfl | hy
      · exact hty ht
      · exact h' ht y hy k hk
    rw [hx', hy']

theorem LocalWF.eraseIdx {n : Node} (h : n.LocalWF) (i : Nat) :
    Node.LocalWF { n with kids := n.kids.eraseIdx i } := by
  have hmem : ∀ x ∈ n.kids.eraseIdx i, x ∈ n.kids := fun x hx => List.mem_of_mem_eraseIdx hx
  obtain ⟨a, b, c, d, e, f, g, h'⟩ := h
  refine ⟨a, ?_, ?_, ?_, ?_, ?_, ?_, ?_⟩
  · intro hs
    show n.kids.eraseIdx i = []
    rw [b hs]; rfl
  · exact fun ht x hx => c ht x (hmem x hx)
  · intro ht
    show ((n.kids.eraseIdx i).map (·.name)).Nodup
    exact ((List.eraseIdx_sublist _ _).map _).nodup (d ht)
  · exact fun ht x hx => e ht x (hmem x hx)
  · exact fun ht x hx => f ht x (hmem x hx)
  · exact fun ht x hx => g ht x (hmem x hx)
  · exact fun ht x hx y hy => h' ht x (hmem x hx) y (hmem y hy)

theorem LocalWF.append {n : Node} (h : n.LocalWF) (c : Node)
    (hagg : n.isAggregate = true)
    (hg : n.ty = T_GROUP → ∃ nm, c.name = some nm ∧ validName nm = true ∧
      ∀ k ∈ n.kids, k.name ≠ some nm)
    (hl : n.ty = T_LIST → c.name = none)
    (ha : n.ty = T_ARRAY → c.name = none ∧ isScalarTy c.ty = true ∧ checkType n c.ty = true) :
    Node.LocalWF { n with kids := n.kids ++ [c] } := by
  obtain ⟨a, b, c', d, e, f, g, h'⟩ := h
  have hmem : ∀ x ∈ n.kids ++ [c], x ∈ n.kids ∨ x = c := fun x hx => by
    simpa using hx
  have hty : n.ty = T_ARRAY → ∀ k ∈ n.kids, k.ty = c.ty := by
    intro ht k hk
    have hct := (ha ht).2.2
    unfold checkType at hct
    cases hks : n.kids with
    | nil => simp [hks] at hk
    | cons k0 ks =>
      rw [hks] at hct
      simp [ht, T_ARRAY, T_LIST] at hct
      rw [← hct]
      exact h' ht k hk k0 (by simp [hks])
  refine ⟨a, ?_, ?_, ?_, ?_, ?_, ?_, ?_⟩
  · intro hs
    exact absurd hagg (by simpa [Node.isAggregate] using hs)
  · intro ht x hx
    rcases hmem x hx with hx | rfl
    · exact c' ht x hx
    · obtain ⟨nm, h1, h2, _⟩ := hg ht
      exact ⟨nm, h1, h2⟩
  · intro ht
    show ((n.kids ++ [c]).map (·.name)).Nodup
    obtain ⟨nm, h1, _, h3⟩ := hg ht
    rw [List.map_append, List.nodup_append]
    refine ⟨d ht, by simp, ?_⟩
    intro x hx y hy
    simp at hy
    subst hy
    obtain ⟨k, hk, rfl⟩ := List.mem_map.mp hx
    rw [h1]
    exact h3 k hk
  · intro ht x hx
    rcases hmem x hx with hx | rfl
    · exact e ht x hx
    · exact hl ht
  · intro ht x hx
    rcases hmem x hx with hx | rfl
    · exact f ht x hx
    · exact (ha ht).1
  · intro ht x hx
    rcases hmem x hx with hx | rfl
    · exact g ht x hx
    · exact (ha ht).2.1
  · intro ht x hx y hy
    have hx' : x.ty = c.ty := by
      rcases hmem x hx with hx | rfl
      · exact hty ht x hx
      · rfl
    have hy' : y.ty = c.ty := by
      rcases hmem y hy with hy | rfl
      · exact hty ht y hy
      · rfl
    rw [hx', hy']

/-! ### `WF` under the elementary edits -/

theorem WF.congr {n n' : Node} (h : n.WF) (ht : n'.ty = n.ty) (hk : n'.kids = n.kids) : n'.WF := by
  rw [WF_iff] at h ⊢
  exact ⟨LocalWF.congr h.1 ht hk, by rw [hk]; exact h.2⟩

theorem WF.leaf {n : Node} (ht : n.ty ≤ 8) (hk : n.kids = []) : n.WF := by
  rw [WF_iff]
  exact ⟨LocalWF.noKids ht hk, by simp [hk]⟩

theorem WF.set_of {n : Node} (h : n.WF) {i : Nat} {k k' : Node} (hi : n.kids[i]? = some k)
    (hname : k'.name = k.name) (hty : n.ty = T_ARRAY → k'.ty = k.ty) (hk' : k'.WF) :
    Node.WF { n with kids := n.kids.set i k' } := by
  rw [WF_iff] at h ⊢
  refine ⟨LocalWF.set h.1 hi hname hty, ?_⟩
  intro x hx
  rcases List.mem_or_eq_of_mem_set hx with hx | rfl
  · exact h.2 x hx
  · exact hk'

/-- the elements of an array are scalars, so a compatible replacement has the same type -/
theorem WF.set {n : Node} (h : n.WF) {i : Nat} {k k' : Node}
    (hi : n.kids[i]? = some k) (hc : Compat k k') (hk' : k'.WF) :
    Node.WF { n with kids := n.kids.set i k' } :=
  WF.set_of h hi hc.name (fun ht => hc.ty (isScalarTy_ne_none
    ((WF.localWF h).arrayScalar ht k (List.mem_of_getElem? hi)))) hk'

theorem WF.eraseIdx {n : Node} (h : n.WF) (i : Nat) :
    Node.WF { n with kids := n.kids.eraseIdx i } := by
  rw [WF_iff] at h ⊢
  exact ⟨LocalWF.eraseIdx h.1 i, fun x hx => h.2 x (List.mem_of_mem_eraseIdx hx)⟩

theorem WF.append {n : Node} (h : n.WF) (c : Node) (hc : c.WF)
    (hagg : n.isAggregate = true)
    (hg : n.ty = T_GROUP → ∃ nm, c.name = some nm ∧ validName nm = true ∧
      ∀ k ∈ n.kids, k.name ≠ some nm)
    (hl : n.ty = T_LIST → c.name = none)
    (ha : n.ty = T_ARRAY → c.name = none ∧ isScalarTy c.ty = true ∧ checkType n c.ty = true) :
    Node.WF { n with kids := n.kids ++ [c] } := by
  rw [WF_iff] at h ⊢
  refine ⟨LocalWF.append h.1 c hagg hg hl ha, ?_⟩
  intro x hx
  have : x ∈ n.kids ∨ x = c := by simpa using hx
  rcases this with hx | rfl
  · exact h.2 x hx
  · exact hc

/-! ### Lifting an edit of the node at `p` to the root -/

theorem compat_trans' {a b c : Node} (h1 : Compat a b) (h2 : Compat b c) : Compat a c :=
  ⟨h2.name.trans h1.name, fun h => by
    have := h1.ty h
    rw [h2.ty (by rw [this]; exact h), this]⟩

theorem Compat.trans {a b c : Node} (h1 : Compat a b) (h2 : Compat b c) (hne : a.ty ≠ T_NONE) :
    Compat a c :=
  compat_trans' h1 h2

theorem modify_wf (f : Node → Node) (p : Path) : ∀ (root n : Node), root.WF →
    root.get? p = some n → (f n).WF → Compat n (f n) →
    (root.modify f p).WF ∧ Compat root (root.modify f p) := by
  induction p with
  | nil =>
    intro root n hw hg hf hc
    rw [get?_nil] at hg
    cases hg
    simpa [Node.modify] using ⟨hf, hc⟩
  | cons i p ih =>
    intro root n hw hg hf hc
    rw [get?_cons] at hg
    cases hki : root.kids[i]? with
    | none => rw [hki] at hg; cases hg
    | some k =>
      rw [hki] at hg
      have hkw : k.WF := C06P.WF.child hw hki
      obtain ⟨h1, h2⟩ := ih k n hkw hg hf hc
      have : root.modify f (i :: p) = { root with kids := root.kids.set i (k.modify f p) } := by
        rw [Node.modify]; simp [hki]
      rw [this]
      exact ⟨WF.set hw hki h2 h1, ⟨rfl, fun _ => rfl⟩⟩

/-! ### The scalar setters -/

theorem scalarUpdate_wf {n n' : Node} (u : n.ScalarUpdate n') (hw : n.WF) :
    n'.WF ∧ Compat n n' := by
  rcases u.ty with ht | ⟨h0, hs⟩
  · exact ⟨WF.congr hw ht u.kids, u.name, fun _ => ht⟩
  · refine ⟨WF.leaf ?_ ?_, u.name, fun hne => absurd h0 hne⟩
    · simp only [isScalarTy, Bool.and_eq_true, decide_eq_true_eq] at hs; omega
    · rw [u.kids]
      exact (WF.localWF hw).scalarNoKids (by simp [Node.isAggregate, isAggregateTy, h0])

/-! ### `set_*_elem`, `remove_elem`, `remove` -/

theorem isAggregate_of_array_or_list {n : Node} (h : n.ty = T_ARRAY ∨ n.ty = T_LIST) :
    n.isAggregate = true := by
  rcases h with h | h <;> simp [Node.isAggregate, isAggregateTy, h]

theorem setElem_wf {setter : Node → Option Node} {ty : Nat} (hs : ScalarSetter setter)
    (hty : isScalarTy ty = true) {n n' : Node} {idx : Int} {i : Nat}
    (hw : n.WF) (h : n.setElem setter ty idx = some (n', i)) : n'.WF ∧ Compat n n' := by
  obtain ⟨hagg, hng, ⟨-, hct, e', he, rfl, -⟩ | ⟨-, e, e', hk, he, rfl, -⟩⟩ := setElem_some h
  · have hty8 : ty ≤ 8 := by
      simp only [isScalarTy, Bool.and_eq_true, decide_eq_true_eq] at hty; omega
    obtain ⟨h1, h2⟩ := scalarUpdate_wf (hs.update he) (WF.leaf hty8 rfl)
    have hty' : e'.ty = ty := h2.ty (isScalarTy_ne_none hty)
    refine ⟨WF.append hw e' h1 hagg (fun hg => absurd hg hng) (fun _ => h2.name) (fun _ => ?_),
      rfl, fun _ => rfl⟩
    rw [hty']
    exact ⟨h2.name, hty, hct⟩
  · obtain ⟨h1, h2⟩ := scalarUpdate_wf (hs.update he) (C06P.WF.child hw hk)
    exact ⟨WF.set hw hk h2 h1, rfl, fun _ => rfl⟩

theorem removeElem_wf {dtor : Bool} {n n' : Node} {idx : Nat} {log : List Nat}
    (hw : n.WF) (h : n.removeElem dtor idx = some (n', log)) : n'.WF ∧ Compat n n' := by
  obtain ⟨-, -, rfl, -⟩ := removeElem_some h
  exact ⟨WF.eraseIdx hw idx, rfl, fun _ => rfl⟩

theorem remove_wf {dtor : Bool} {n n' : Node} {name : Option Bytes} {log : List Nat}
    (hw : n.WF) (h : n.remove dtor name = some (n', log)) : n'.WF ∧ Compat n n' := by
  obtain ⟨pp, sp, idx, -, hsp, -, rfl, -⟩ := remove_some h
  exact modify_wf _ _ _ _ hw hsp (WF.eraseIdx (WF.get hw hsp) _) ⟨rfl, fun _ => rfl⟩

/-! ### `config_setting_add` -/

theorem add_wf {dtor ov : Bool} {n n' : Node} {name : Option Bytes} {ty : Int} {i : Nat}
    {log : List Nat} (hw : n.WF) (h : n.add dtor ov name ty = some (n', i, log)) :
    n'.WF ∧ Compat n n' := by
  obtain ⟨ks, nm, rfl, -, hks, hsc, hrange, hagg, hg, hng, hct⟩ := add_some h
  have hw' : Node.WF { n with kids := ks } := by
    rcases hks with ⟨rfl, -⟩ | ⟨j, -, -, -, rfl, -⟩
    · exact WF.congr hw rfl rfl
    · exact WF.eraseIdx hw j
  refine ⟨WF.append hw' _ (WF.leaf (show ty.toNat ≤ 8 by omega) rfl) hagg (fun ht => ?_)
    (fun hl => hng (by rw [hl]; decide)) (fun ha => ?_), rfl, fun _ => rfl⟩
  · obtain ⟨x, rfl, hv, hfree⟩ := hg ht
    exact ⟨x, rfl, hv, hfree ((WF.localWF hw).groupDistinct ht)⟩
  · obtain ⟨rfl, hc⟩ := hct ha
    exact ⟨hng (by rw [ha]; decide), by rw [Int.toNat_of_nonneg hrange.1]; exact hsc ha, hc⟩

/-! ### The transition function -/

theorem cfg_wf_root {c : Config} (h : c.WF) {r : Node} (hw : r.WF) (hc : Compat c.root r) :
    Config.WF { c with root := r } :=
  ⟨hc.name.trans h.rootNameless, (hc.ty (by rw [h.rootGroup]; decide)).trans h.rootGroup, hw⟩

theorem cfg_wf_modify {c : Config} (h : c.WF) {p : Path} {n : Node} (f : Node → Node)
    (hg : c.root.get? p = some n) (hw : (f n).WF) (hc : Compat n (f n)) :
    Config.WF { c with root := c.root.modify f p } :=
  have ⟨h1, h2⟩ := modify_wf f p _ _ h.nodes hg hw hc
  cfg_wf_root h h1 h2

theorem emptyGroup_wf : Node.WF { ty := T_GROUP } := WF.leaf (by decide) rfl

theorem init_wf : Config.init.WF := ⟨rfl, rfl, emptyGroup_wf⟩

theorem withCfg_wf {s : State} {c : Config} (h : c.WF) : (s.withCfg c).cfg.WF := h

theorem nodeOp_wf {d ov : Bool} {n n' : Node} {log : List Nat} (h : NodeOp d ov n n' log)
    (hw : n.WF) : n'.WF ∧ Compat n n' := by
  cases h with
  | add h => exact add_wf hw h
  | remove h => exact remove_wf hw h
  | removeElem h => exact removeElem_wf hw h
  | set u => exact scalarUpdate_wf u hw
  | setElem hf hty h => exact setElem_wf hf hty hw h

theorem step_wf (s : State) (op : Op) (h : s.cfg.WF) (hop : ∀ src, op ≠ .read src) :
    (step s op).1.cfg.WF := by
  have e := step_effect s op
  generalize step s op = r at e
  cases e with
  | same => exact h
  | edit res hn ho =>
    obtain ⟨h1, h2⟩ := nodeOp_wf ho (WF.get h.nodes hn)
    exact cfg_wf_modify h _ hn h1 h2
  | setHook hn =>
    exact cfg_wf_modify h _ hn (WF.congr (WF.get h.nodes hn) rfl rfl) ⟨rfl, fun _ => rfl⟩
  | kept s' hr => exact ⟨hr ▸ h.1, hr ▸ h.2, hr ▸ h.3⟩
  | reset c hr => exact ⟨hr ▸ rfl, hr ▸ rfl, hr ▸ emptyGroup_wf⟩
  | writeFile => exact ⟨h.1, h.2, h.3⟩
  | read src => exact absurd rfl (hop src)

/-! ### Histories -/

theorem foldl_wf (ops : List Op)
    (hstep : ∀ op ∈ ops, ∀ s : State, s.cfg.WF → (step s op).1.cfg.WF) (s : State)
    (h : s.cfg.WF) : (ops.foldl (fun s o => (step s o).1) s).cfg.WF := by
  induction ops generalizing s with
  | nil => exact h
  | cons o os ih =>
    exact ih (fun op hop => hstep op (List.mem_cons_of_mem _ hop)) _ (hstep o List.mem_cons_self s h)

theorem run_wf (ops : List Op) (hops : ∀ op ∈ ops, ∀ src, op ≠ .read src) :
    (run ops).cfg.WF :=
  foldl_wf ops (fun op hop s h => step_wf s op h (hops op hop)) State.init init_wf

/-! ### The executable check -/

theorem nodupB_iff (l : List (Option Bytes)) : nodupB l = true ↔ l.Nodup := by
  induction l with
  | nil => simp [nodupB]
  | cons x xs ih => simp [nodupB, ih]

theorem homogB_iff (ks : List Node) :
    (match ks with
      | [] => true
      | k0 :: ks => ks.all (fun k => k.ty == k0.ty)) = true ↔
    ∀ k ∈ ks, ∀ k' ∈ ks, k.ty = k'.ty := by
  cases ks with
  | nil => simp
  | cons k0 ks =>
    simp only [List.all_eq_true, beq_iff_eq, List.mem_cons]
    constructor
    · intro h k hk k' hk'
      have : ∀ x, x = k0 ∨ x ∈ ks → x.ty = k0.ty := by
        rintro x (rfl | hx)
        · rfl
        · exact h x hx
      rw [this k hk, this k' hk']
    · intro h k hk
      exact h k (Or.inr hk) k0 (Or.inl rfl)

theorem localWFb_iff (n : Node) : n.localWFb = true ↔ n.LocalWF := by
  unfold Node.localWFb
  simp only [Bool.and_eq_true, Bool.or_eq_true, decide_eq_true_eq, nodupB_iff,
    List.all_eq_true, bne_iff_ne, ne_eq, List.isEmpty_iff, Option.isNone_iff_eq_none]
  constructor
  · rintro ⟨⟨⟨⟨h1, h2⟩, h3⟩, h4⟩, h5⟩
    refine ⟨h1, ?_, ?_, ?_, ?_, ?_, ?_, ?_⟩
    · intro hs
      rcases h2 with h2 | h2
      · rw [hs] at h2; cases h2
      · exact h2
    · intro ht k hk
      rcases h3 with h3 | h3
      · exact absurd ht h3
      · have := h3.1 k hk
        cases hn : k.name with
        | none => rw [hn] at this; cases this
        | some nm => rw [hn] at this; exact ⟨nm, rfl, this⟩
    · intro ht
      rcases h3 with h3 | h3
      · exact absurd ht h3
      · exact h3.2
    · intro ht
      rcases h4 with h4 | h4
      · exact absurd ht h4
      · exact h4
    · intro ht k hk
      rcases h5 with h5 | h5
      · exact absurd ht h5
      · exact (h5.1 k hk).1
    · intro ht k hk
      rcases h5 with h5 | h5
      · exact absurd ht h5
      · exact (h5.1 k hk).2
    · intro ht
      rcases h5 with h5 | h5
      · exact absurd ht h5
      · exact (homogB_iff n.kids).mp h5.2
  · rintro ⟨a, b, c, d, e, f, g, h⟩
    refine ⟨⟨⟨⟨a, ?_⟩, ?_⟩, ?_⟩, ?_⟩
    · cases hagg : n.isAggregate with
      | true => exact Or.inl rfl
      | false => exact Or.inr (b hagg)
    · by_cases ht : n.ty = T_GROUP
      · refine Or.inr ⟨?_, d ht⟩
        intro k hk
        obtain ⟨nm, h1, h2⟩ := c ht k hk
        rw [h1]; exact h2
      · exact Or.inl ht
    · by_cases ht : n.ty = T_LIST
      · exact Or.inr (e ht)
      · exact Or.inl ht
    · by_cases ht : n.ty = T_ARRAY
      · exact Or.inr ⟨fun k hk => ⟨f ht k hk, g ht k hk⟩, (homogB_iff n.kids).mpr (h ht)⟩
      · exact Or.inl ht

mutual
theorem wfb_iff : ∀ n : Node, n.wfb = true ↔ n.WF
  | .mk name ty fmt ival fval sval kids hook line file => by
    rw [Node.wfb, Bool.and_eq_true, localWFb_iff, WF_iff, wfbList_iff kids]
theorem wfbList_iff : ∀ ks : List Node, wfbList ks = true ↔ ∀ k ∈ ks, k.WF
  | [] => by simp [wfbList]
  | k :: ks => by
    rw [wfbList, Bool.and_eq_true, wfb_iff k, wfbList_iff ks]
    simp
end

theorem cfg_wfb_iff (c : Config) : c.wfb = true ↔ c.WF := by
  unfold Config.wfb
  simp only [Bool.and_eq_true, Option.isNone_iff_eq_none, beq_iff_eq, wfb_iff]
  constructor
  · rintro ⟨⟨a, b⟩, c⟩; exact ⟨a, b, c⟩
  · rintro ⟨a, b, c⟩; exact ⟨⟨a, b⟩, c⟩

/-! ### Query agreement -/

theorem length_eq (n : Node) (h : n.LocalWF) : n.length = n.kids.length := by
  unfold Node.length
  split
  · rfl
  · rename_i hagg
    rw [h.scalarNoKids (by simpa using hagg)]; rfl

theorem getElem_eq (n : Node) (h : n.LocalWF) (i : Nat) : getElem n i = n.kids[i]? := by
  unfold getElem
  split
  · rfl
  · rename_i hagg
    rw [h.scalarNoKids (by simpa using hagg)]; rfl

theorem getMember_eq (n : Node) (h : n.LocalWF) (hg : n.ty = T_GROUP) (i : Nat) (k : Node)
    (hk : n.kids[i]? = some k) (nm : Bytes) (hn : k.name = some nm) :
    getMember n nm = some (i, k) := by
  unfold getMember
  simp only [hg, beq_self_eq_true, if_true]
  rw [listSearch_of_nodup (h.groupDistinct hg) hk hn]
  simp

theorem getMember_sound (n : Node) (nm : Bytes) (i : Nat) (k : Node)
    (h : getMember n nm = some (i, k)) :
    n.ty = T_GROUP ∧ n.kids[i]? = some k ∧ k.name = some nm := by
  unfold getMember at h
  split at h
  · rename_i hg
    obtain ⟨j, hj, h1, h2⟩ := listSearch_some h
    have : i = j := by omega
    subst this
    exact ⟨by simpa using hg, h1, h2⟩
  · cases h

end Libconfig.C04
