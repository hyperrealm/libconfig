import LibconfigModel.Proofs.C02DenoteStatic
/-
  The reference interpreter (Denote.lean) against the tree: what it makes of the tokens the written
  form of a configuration denotes (`denote_written`: the expected tree — by induction over the tree
  against the recursive-descent reader, no LR tables), and that these tokens are ones the parser
  can take (`tokOK_config`) and nest, empty brackets apart, as deep as the tree is deep (`nestS_config`).
-/
namespace Libconfig.C01PP
open Libconfig Denote C02D

section
variable (bufLen : Nat) (c : Config)

abbrev its (l : List (Nat × TokVal)) : List Item := l.map itemOf

/-- the items do not start with a string (which would continue a string value) -/
def NotString (R : List Item) : Prop := ∀ s r, R ≠ .string s :: r

/-- the items do not start with anything that continues a setting -/
structure MemStop (R : List Item) : Prop where
  str : ∀ s r, R ≠ .string s :: r
  comma : ∀ r, R ≠ .comma :: r
  semi : ∀ r, R ≠ .semicolon :: r

def valHead : List Item → Bool
  | .boolean _ :: _ | .integer _ :: _ | .integer64 _ :: _ | .hex _ :: _ | .hex64 _ :: _
  | .float _ :: _ | .string _ :: _ | .arrayStart :: _ | .listStart :: _ | .groupStart :: _ => true
  | _ => false

theorem lt_of_append_lt {α : Type} {a b : List α} {f : Nat} (h : (a ++ b).length < f) :
    b.length < f :=
  Nat.lt_of_le_of_lt (by rw [List.length_append]; exact Nat.le_add_left _ _) h

/-! ### scalars -/

theorem ty_cases (n : Node) :
    n.ty = T_LIST ∨ n.ty = T_ARRAY ∨ n.ty = T_GROUP ∨ isAggregateTy n.ty = false := by
  by_cases hl : n.ty = T_LIST
  · exact .inl hl
  by_cases ha : n.ty = T_ARRAY
  · exact .inr (.inl ha)
  by_cases hg : n.ty = T_GROUP
  · exact .inr (.inr (.inl hg))
  refine .inr (.inr (.inr ?_))
  unfold isAggregateTy
  simp only [Bool.or_eq_false_iff, beq_eq_false_iff_ne]
  exact ⟨⟨ha, hl⟩, hg⟩

theorem scalar_written (n : Node) (hok : okNode n = true) (hsc : isAggregateTy n.ty = false)
    {R : List Item} (hR : NotString R) :
    scalar n.name (its (tokValue bufLen c n) ++ R) = some (expNode bufLen c n, R) := by
  rw [tokValue_scalar bufLen c n hsc, expNode_eq, hsc]
  simp only [Bool.false_eq_true, if_false]
  unfold expScalar
  rcases scalar_ty hok hsc with h | h | h | h | h
  · rw [scalTok_int bufLen c n h, h]
    by_cases hf : (effFormat c n == FMT_HEX) = true
    · rw [if_pos hf, if_pos hf]; rfl
    · rw [if_neg hf, if_neg hf]; rfl
  · rw [scalTok_int64 bufLen c n h, h]
    by_cases hf : (effFormat c n == FMT_HEX) = true
    · rw [if_pos hf, if_pos hf]; rfl
    · rw [if_neg hf, if_neg hf]; rfl
  · rw [scalTok_float bufLen c n h, h]; rfl
  · rw [scalTok_string bufLen c n h, h]
    show scalar n.name (.string (n.sval.getD []) :: R) = _
    rw [scalar, strings_other R hR, List.append_nil]
    rfl
  · rw [scalTok_bool bufLen c n h, h]; rfl

theorem scalar_item (n : Node) (hok : okNode n = true) (hsc : isAggregateTy n.ty = false) :
    ∃ tv p, tokValue bufLen c n = [tv] ∧ scalar n.name [itemOf tv] = some p := by
  have h := scalar_written bufLen c n hok hsc (R := []) (fun _ _ h => by cases h)
  rw [tokValue_scalar bufLen c n hsc] at h ⊢
  cases hst : scalTok bufLen c n with
  | none => rw [hst] at h; cases h
  | some tv => rw [hst] at h; exact ⟨tv, _, rfl, h⟩

theorem scalar_head {nm : Option Bytes} {it : Item} {p : Node × List Item}
    (h : scalar nm [it] = some p) : (∀ R, valHead (it :: R) = true) ∧ flat it = true := by
  cases it
  all_goals first | (simp [scalar] at h; done) | exact ⟨fun _ => rfl, rfl⟩

theorem valHead_tokValue (n : Node) (hok : okNode n = true) (R : List Item) :
    valHead (its (tokValue bufLen c n) ++ R) = true := by
  rcases ty_cases n with hl | ha | hg | hsc
  · rw [tokValue_list bufLen c n hl]; rfl
  · rw [tokValue_array bufLen c n ha]; rfl
  · rw [tokValue_group bufLen c n hg]; rfl
  obtain ⟨tv, p, htv, hs⟩ := scalar_item bufLen c n hok hsc
  rw [htv]
  exact (scalar_head hs).1 R

theorem its_tokValue_pos (n : Node) (hok : okNode n = true) :
    0 < (its (tokValue bufLen c n)).length := by
  have h := valHead_tokValue bufLen c n hok []
  cases he : its (tokValue bufLen c n) with
  | nil => rw [he] at h; cases h
  | cons _ _ => exact Nat.succ_pos _

theorem ne_of_valHead {l : List Item} (h : valHead l = true) {it : Item}
    (hit : ∀ r, valHead (it :: r) = false) : ∀ r, l ≠ it :: r := by
  intro r he
  rw [he, hit] at h
  cases h

/-- what follows an element: a comma or the closing bracket -/
theorem notString_rest (ks : List Node) {close : Item} (hc : ∀ s, close ≠ .string s)
    (R : List Item) : NotString (its (tokRest bufLen c ks) ++ close :: R) := by
  intro s r h
  cases ks with
  | nil => injection h with h1 _; exact hc s h1
  | cons k ks =>
    rw [tokRest_cons] at h
    cases h

/-! ### the statement about a value -/

/-- in front of the items of the written value `n`, the interpreter reads the expected setting -/
def ValueDen (o : Options) (n : Node) : Prop :=
  okNode n = true → ∀ (fuel : Nat) (R : List Item), NotString R →
    (its (tokValue bufLen c n) ++ R).length < fuel →
    value o fuel n.name (its (tokValue bufLen c n) ++ R) = .ok (expNode bufLen c n) R

variable (o : Options)

/-! ### lists -/

theorem listRest_written (ks : List Node) (hval : ∀ k ∈ ks, ValueDen bufLen c o k)
    (hok : ∀ k ∈ ks, okNode k = true) (hnl : ∀ k ∈ ks, k.name = none) :
    ∀ (fuel : Nat) (acc : List Node) (R : List Item),
      (its (tokRest bufLen c ks) ++ .listEnd :: R).length < fuel →
      listRest o fuel acc (its (tokRest bufLen c ks) ++ .listEnd :: R) =
        .ok (acc ++ expList bufLen c ks) R := by
  induction ks with
  | nil =>
    intro fuel acc R hf
    obtain ⟨f, rfl⟩ := Nat.exists_eq_add_one_of_ne_zero (Nat.ne_zero_of_lt hf)
    show listRest o (f + 1) acc (.listEnd :: R) = _
    rw [listRest, expList, List.append_nil]
  | cons k ks ih =>
    intro fuel acc R hf
    rw [List.forall_mem_cons] at hval hok hnl
    obtain ⟨f, rfl⟩ := Nat.exists_eq_add_one_of_ne_zero (Nat.ne_zero_of_lt hf)
    rw [tokRest_cons] at hf ⊢
    simp only [its, List.map_cons, List.map_append, List.cons_append, List.append_assoc,
      List.length_cons] at hf ⊢
    have hh := valHead_tokValue bufLen c k hok.1
      ((tokRest bufLen c ks).map itemOf ++ .listEnd :: R)
    have hv := hval.1 hok.1 f _ (notString_rest bufLen c ks (close := .listEnd)
      (fun _ h => by cases h) R) (Nat.lt_of_succ_lt_succ hf)
    rw [hnl.1] at hv
    rw [show itemOf tCO = .comma from rfl,
      listRest_value_ok (ne_of_valHead hh fun _ => rfl) (ne_of_valHead hh fun _ => rfl) hv,
      ih hval.2 hok.2 hnl.2 f _ R (lt_of_append_lt (Nat.lt_of_succ_lt_succ hf)),
      expList, List.append_assoc]
    rfl

theorem value_list (n : Node) (hval : ∀ k ∈ n.kids, ValueDen bufLen c o k) (hty : n.ty = T_LIST) :
    ValueDen bufLen c o n := by
  intro hok fuel R _ hf
  obtain ⟨hkok, hknl⟩ := list_kids hok hty
  obtain ⟨f, rfl⟩ := Nat.exists_eq_add_one_of_ne_zero (Nat.ne_zero_of_lt hf)
  rw [tokValue_list bufLen c n hty] at hf ⊢
  rw [expNode_eq, hty]
  cases hk : n.kids with
  | nil =>
    show value o (f + 1) n.name (.listStart :: .listEnd :: R) = _
    rw [value]
    rfl
  | cons k0 tl =>
    rw [hk] at hval hkok hknl hf
    rw [List.forall_mem_cons] at hval hkok hknl
    rw [tokElems_cons] at hf ⊢
    simp only [its, List.map_cons, List.map_append, List.cons_append, List.append_assoc,
      List.length_cons, List.map_nil, List.nil_append] at hf ⊢
    have hh := valHead_tokValue bufLen c k0 hkok.1
      ((tokRest bufLen c tl).map itemOf ++ itemOf tLE :: R)
    have hv := hval.1 hkok.1 f _ (notString_rest bufLen c tl (close := .listEnd)
      (fun _ h => by cases h) R) (by simp only [its]; exact Nat.lt_of_succ_lt_succ hf)
    rw [hknl.1] at hv
    rw [show itemOf tLS = .listStart from rfl,
      value_lst_ok (ne_of_valHead hh fun _ => rfl) hv
        (listRest_written bufLen c o tl hval.2 hkok.2 hknl.2 f [expNode bufLen c k0] R
          (lt_of_append_lt (Nat.lt_of_succ_lt_succ hf)))]
    rfl

/-! ### arrays -/

theorem arrayRest_written (ty : Nat) (ks : List Node) (hok : ∀ k ∈ ks, okNode k = true)
    (hsc : ∀ k ∈ ks, isAggregateTy k.ty = false) (hnl : ∀ k ∈ ks, k.name = none)
    (hty : ∀ k ∈ ks, k.ty = ty) :
    ∀ (fuel : Nat) (acc : List Node) (R : List Item),
      (its (tokRest bufLen c ks) ++ .arrayEnd :: R).length < fuel →
      arrayRest ty fuel acc (its (tokRest bufLen c ks) ++ .arrayEnd :: R) =
        .ok (acc ++ expList bufLen c ks) R := by
  induction ks with
  | nil =>
    intro fuel acc R hf
    obtain ⟨f, rfl⟩ := Nat.exists_eq_add_one_of_ne_zero (Nat.ne_zero_of_lt hf)
    show arrayRest ty (f + 1) acc (.arrayEnd :: R) = _
    rw [arrayRest, expList, List.append_nil]
  | cons k ks ih =>
    intro fuel acc R hf
    rw [List.forall_mem_cons] at hok hsc hnl hty
    obtain ⟨f, rfl⟩ := Nat.exists_eq_add_one_of_ne_zero (Nat.ne_zero_of_lt hf)
    rw [tokRest_cons] at hf ⊢
    simp only [its, List.map_cons, List.map_append, List.cons_append, List.append_assoc,
      List.length_cons] at hf ⊢
    have hs := scalar_written bufLen c k hok.1 hsc.1
      (notString_rest bufLen c ks (close := .arrayEnd) (fun _ h => by cases h) R)
    rw [hnl.1] at hs
    rw [show itemOf tCO = .comma from rfl, arrayRest, hs]
    simp only
    rw [expNode_ty, if_neg (by rw [hty.1]; exact fun h => h rfl),
      ih hok.2 hsc.2 hnl.2 hty.2 f _ R (lt_of_append_lt (Nat.lt_of_succ_lt_succ hf)),
      expList, List.append_assoc]
    rfl

theorem value_array (n : Node) (hty : n.ty = T_ARRAY) : ValueDen bufLen c o n := by
  intro hok fuel R _ hf
  obtain ⟨hkok, hksc, hknl, hkty⟩ := array_kids hok hty
  obtain ⟨f, rfl⟩ := Nat.exists_eq_add_one_of_ne_zero (Nat.ne_zero_of_lt hf)
  rw [tokValue_array bufLen c n hty] at hf ⊢
  rw [expNode_eq, hty]
  cases hk : n.kids with
  | nil =>
    show value o (f + 1) n.name (.arrayStart :: .arrayEnd :: R) = _
    rw [value]
    rfl
  | cons k0 tl =>
    rw [hk] at hkok hksc hknl hf
    have hkty := hkty k0 tl hk
    rw [List.forall_mem_cons] at hkok hksc hknl
    rw [tokElems_cons] at hf ⊢
    simp only [its, List.map_cons, List.map_append, List.cons_append, List.append_assoc,
      List.length_cons, List.map_nil, List.nil_append] at hf ⊢
    have hh := valHead_tokValue bufLen c k0 hkok.1
      ((tokRest bufLen c tl).map itemOf ++ itemOf tAE :: R)
    have hs := scalar_written bufLen c k0 hkok.1 hksc.1
      (notString_rest bufLen c tl (close := .arrayEnd) (fun _ h => by cases h) R)
    rw [hknl.1] at hs
    rw [show itemOf tAS = .arrayStart from rfl,
      value_arr_ok (ne_of_valHead hh fun _ => rfl) hs
        (arrayRest_written bufLen c _ tl hkok.2 hksc.2 hknl.2
          (fun k hk' => by rw [expNode_ty]; exact hkty k hk') f [expNode bufLen c k0] R
          (lt_of_append_lt (Nat.lt_of_succ_lt_succ hf)))]
    rfl

/-! ### groups -/

theorem memStop_members (ks : List Node) (hnames : ∀ k ∈ ks, nameOKB k = true) {R : List Item}
    (hR : MemStop R) : MemStop (its (tokMembers bufLen c ks) ++ R) := by
  cases ks with
  | nil => exact hR
  | cons k ks =>
    obtain ⟨nm, hnm, _⟩ := nameOKB_spec (hnames k List.mem_cons_self)
    rw [tokMembers_cons, hnm]
    exact ⟨fun _ _ h => (by cases h), fun _ h => (by cases h), fun _ h => (by cases h)⟩

theorem skip_suffix {X : List Item} (hX : MemStop X) :
    skipTerminator (its (tokSuffix c) ++ X) = X := by
  unfold tokSuffix
  by_cases hs : c.opt OPT_SEMICOLON = true
  · rw [if_pos hs]; rfl
  · rw [if_neg hs]
    show skipTerminator X = X
    cases X with
    | nil => rfl
    | cons it tl =>
      cases it
      case semicolon => exact absurd rfl (hX.semi tl)
      case comma => exact absurd rfl (hX.comma tl)
      all_goals rfl

theorem notString_suffix {X : List Item} (hX : MemStop X) : NotString (its (tokSuffix c) ++ X) := by
  unfold tokSuffix
  by_cases hs : c.opt OPT_SEMICOLON = true
  · rw [if_pos hs]; exact fun _ _ h => by cases h
  · rw [if_neg hs]; exact hX.str

theorem settings_written (ks : List Node) (hval : ∀ k ∈ ks, ValueDen bufLen c o k)
    (hok : ∀ k ∈ ks, okNode k = true) (hnames : ∀ k ∈ ks, nameOKB k = true)
    (hnd : (ks.map (·.name)).Nodup) :
    ∀ (fuel : Nat) (m : List Node) (R : List Item), MemStop R → (∀ nm r, R ≠ .name nm :: r) →
      (∀ k ∈ ks, ∀ x ∈ m, x.name ≠ k.name) →
      (its (tokMembers bufLen c ks) ++ R).length < fuel →
      settings o fuel m (its (tokMembers bufLen c ks) ++ R) =
        .ok (m ++ expList bufLen c ks) R := by
  induction ks with
  | nil =>
    intro fuel m R _ hname _ hf
    obtain ⟨f, rfl⟩ := Nat.exists_eq_add_one_of_ne_zero (Nat.ne_zero_of_lt hf)
    show settings o (f + 1) m R = _
    rw [settings_other _ _ _ _ hname, expList, List.append_nil]
  | cons k ks ih =>
    intro fuel m R hR hname hfresh hf
    rw [List.forall_mem_cons] at hval hok hnames
    obtain ⟨f, rfl⟩ := Nat.exists_eq_add_one_of_ne_zero (Nat.ne_zero_of_lt hf)
    obtain ⟨nm, hnm, _⟩ := nameOKB_spec hnames.1
    have hX := memStop_members bufLen c ks hnames.2 hR
    rw [tokMembers_cons, hnm] at hf ⊢
    simp only [its, tokPrefix, List.map_cons, List.map_append, List.cons_append,
      List.append_assoc, List.length_cons, List.nil_append] at hf ⊢
    have hf' := Nat.lt_of_succ_lt (Nat.lt_of_succ_lt_succ hf)
    have hv := hval.1 hok.1 f _ (notString_suffix c hX) hf'
    rw [hnm] at hv
    rw [show itemOf (tNAME nm) = .name nm from rfl, show itemOf tEQ = .assign from rfl,
      settings_setting_ok (enter_fresh o (hnm ▸ hfresh k List.mem_cons_self)) hv,
      skip_suffix c hX,
      ih hval.2 hok.2 hnames.2 (List.nodup_cons.mp hnd).2 f _ R hR hname ?_
        (lt_of_append_lt (lt_of_append_lt hf')),
      expList, List.append_assoc]
    · rfl
    · intro k2 hk2 x hx
      rcases List.mem_append.mp hx with hx | hx
      · exact hfresh k2 (List.mem_cons_of_mem _ hk2) x hx
      · rw [List.mem_singleton.mp hx, expNode_name]
        intro heq
        have hmem : k2.name ∈ ks.map (·.name) := List.mem_map_of_mem hk2
        rw [← heq] at hmem
        exact (List.nodup_cons.mp hnd).1 hmem

theorem value_group (n : Node) (hval : ∀ k ∈ n.kids, ValueDen bufLen c o k) (hty : n.ty = T_GROUP) :
    ValueDen bufLen c o n := by
  intro hok fuel R _ hf
  obtain ⟨hkok, hknames, hknd⟩ := group_kids hok hty
  obtain ⟨f, rfl⟩ := Nat.exists_eq_add_one_of_ne_zero (Nat.ne_zero_of_lt hf)
  rw [tokValue_group bufLen c n hty] at hf ⊢
  rw [expNode_eq, hty]
  simp only [its, List.map_cons, List.map_append, List.cons_append, List.append_assoc,
    List.length_cons, List.map_nil, List.nil_append] at hf ⊢
  rw [show itemOf tGS = .groupStart from rfl, show itemOf tGE = .groupEnd from rfl,
    value_grp_ok (settings_written bufLen c o n.kids hval hkok hknames hknd f [] (.groupEnd :: R)
      ⟨fun _ _ h => (by cases h), fun _ h => (by cases h), fun _ h => (by cases h)⟩
      (fun _ _ h => by cases h) (fun _ _ _ hx => by cases hx)
      (by simp only [its]; exact Nat.lt_of_succ_lt_succ hf))]
  rfl

/-! ### every value, and the whole configuration -/

theorem all_den (n : Node) : ValueDen bufLen c o n :=
  node_ind (Pr := ValueDen bufLen c o) (fun n hk => by
    rcases ty_cases n with hl | ha | hg | hsc
    · exact value_list bufLen c o n hk hl
    · exact value_array bufLen c o n ha
    · exact value_group bufLen c o n hk hg
    intro hok fuel R hR hf
    obtain ⟨f, rfl⟩ := Nat.exists_eq_add_one_of_ne_zero (Nat.ne_zero_of_lt hf)
    have hs := scalar_written bufLen c n hok hsc hR
    exact value_other_some (fun r h => by rw [h] at hs; simp [scalar] at hs)
      (fun r h => by rw [h] at hs; simp [scalar] at hs)
      (fun r h => by rw [h] at hs; simp [scalar] at hs) hs) n

/-- **the written form of a configuration denotes the expected tree** -/
theorem denote_written (hok : okNode c.root = true) (hname : c.root.name = none)
    (hty : c.root.ty = T_GROUP) :
    denote o (tokensOfConfig tk bufLen c) = .ok (expNode bufLen c c.root) := by
  obtain ⟨hkok, hknames, hknd⟩ := group_kids hok hty
  unfold denote
  have h := settings_written bufLen c o c.root.kids (fun k _ => all_den bufLen c o k) hkok hknames hknd
    ((tokensOfConfig tk bufLen c).length + 1) [] []
    ⟨fun _ _ h => (by cases h), fun _ h => (by cases h), fun _ h => (by cases h)⟩
    (fun _ _ h => by cases h) (fun _ _ _ hx => by cases hx)
    (by rw [tokensOfConfig_eq bufLen c hname hty]; simp)
  rw [List.append_nil, ← tokensOfConfig_eq bufLen c hname hty] at h
  rw [h, expNode_eq, hty, hname]
  rfl

/-! ### their nesting is the depth of the tree -/

/-- the written value `n` nests no deeper than `n` is deep (`nestS`, Proofs/C02DenoteSpec.lean):
from level `d` it stays below every bound that `d + nodeDepth n` and what follows stay below -/
def Shallow (n : Node) : Prop :=
  ∀ (d N : Nat) (R : List Item), d + nodeDepth n ≤ N → nestS d R ≤ N →
    nestS d ((tokValue bufLen c n).map itemOf ++ R) ≤ N

theorem nestS_rest (ks : List Node) (h : ∀ k ∈ ks, Shallow bufLen c k) (e N : Nat) (X : List Item)
    (hk : ∀ k ∈ ks, e + nodeDepth k ≤ N) (hX : nestS e X ≤ N) :
    nestS e ((tokRest bufLen c ks).map itemOf ++ X) ≤ N := by
  induction ks with
  | nil => exact hX
  | cons k ks ih =>
    rw [List.forall_mem_cons] at h hk
    rw [tokRest_cons]
    simp only [List.map_cons, List.map_append, List.cons_append, List.append_assoc]
    rw [show itemOf tCO = .comma from rfl, nestS_flat rfl]
    exact h.1 e N _ hk.1 (ih h.2 hk.2)

theorem nestS_members (ks : List Node) (hnames : ∀ k ∈ ks, nameOKB k = true)
    (h : ∀ k ∈ ks, Shallow bufLen c k) (e N : Nat) (X : List Item)
    (hk : ∀ k ∈ ks, e + nodeDepth k ≤ N) (hX : nestS e X ≤ N) :
    nestS e ((tokMembers bufLen c ks).map itemOf ++ X) ≤ N := by
  induction ks with
  | nil => exact hX
  | cons k ks ih =>
    rw [List.forall_mem_cons] at h hnames hk
    obtain ⟨nm, hnm, _⟩ := nameOKB_spec hnames.1
    rw [tokMembers_cons, hnm]
    simp only [tokPrefix, List.map_cons, List.map_append, List.cons_append, List.append_assoc,
      List.nil_append]
    rw [show itemOf (tNAME nm) = .name nm from rfl, show itemOf tEQ = .assign from rfl,
      nestS_flat rfl, nestS_flat rfl]
    refine h.1 e N _ hk.1 ?_
    unfold tokSuffix
    split
    · exact Nat.le_trans (Nat.le_of_eq (nestS_flat rfl)) (ih hnames.2 h.2 hk.2)
    · exact ih hnames.2 h.2 hk.2

theorem shallow (n : Node) : okNode n = true → Shallow bufLen c n :=
  node_ind (Pr := fun n => okNode n = true → Shallow bufLen c n) (fun n hk hok d N R hN hR => by
    have hkids : ∀ k ∈ n.kids, Shallow bufLen c k :=
      fun k hk' => hk k hk' ((okNode_parts hok).2.2.2 k hk')
    have hd : d ≤ N := Nat.le_trans (le_nestS d R) hR
    have hdk : ∀ k ∈ n.kids, d + 1 + nodeDepth k ≤ N := fun k hk' => by
      have := listDepth_mem hk'
      rw [nodeDepth_eq] at hN
      omega
    -- an aggregate: empty, or its first token does not close it
    have agg : ∀ (opn close : Item) (body : List Item),
        (opn = .arrayStart ∧ close = .arrayEnd ∨ opn = .listStart ∧ close = .listEnd ∨
          opn = .groupStart ∧ close = .groupEnd) →
        (n.kids = [] → body = []) →
        (n.kids ≠ [] → (∀ r, body ++ close :: R ≠ close :: r) ∧
          (nestS (d + 1) (close :: R) ≤ N → nestS (d + 1) (body ++ close :: R) ≤ N)) →
        nestS d (opn :: (body ++ close :: R)) ≤ N := by
      intro opn close body hoc hnil hcons
      by_cases hkn : n.kids = []
      · rw [hnil hkn]
        rcases hoc with ⟨rfl, rfl⟩ | ⟨rfl, rfl⟩ | ⟨rfl, rfl⟩ <;>
          (show nestS d (_ :: _ :: R) ≤ _; rw [nestS]; exact hR)
      · obtain ⟨hh, hb⟩ := hcons hkn
        obtain ⟨k0, tl, hk0⟩ := List.exists_cons_of_ne_nil hkn
        have hd1 : d + 1 ≤ N := Nat.le_trans (Nat.le_add_right _ _)
          (hdk k0 (hk0 ▸ List.mem_cons_self))
        have hc : nestS (d + 1) (close :: R) ≤ N := by
          rcases hoc with ⟨-, rfl⟩ | ⟨-, rfl⟩ | ⟨-, rfl⟩ <;>
            (rw [nestS, Nat.add_sub_cancel]; exact Nat.max_le.mpr ⟨hd1, hR⟩)
        rcases hoc with ⟨rfl, rfl⟩ | ⟨rfl, rfl⟩ | ⟨rfl, rfl⟩ <;>
          (rw [nestS]; exact Nat.max_le.mpr ⟨hd, hb hc⟩; exact hh)
    have elems : ∀ opn close : Item,
        (opn = .arrayStart ∧ close = .arrayEnd ∨ opn = .listStart ∧ close = .listEnd) →
        nestS d (opn :: ((tokElems bufLen c n.kids).map itemOf ++ close :: R)) ≤ N := by
      intro opn close hoc
      refine agg opn close _ (hoc.elim .inl (.inr ∘ .inl)) (fun h => by rw [h]; rfl) fun hne => ?_
      obtain ⟨k0, tl, hk0⟩ := List.exists_cons_of_ne_nil hne
      rw [hk0] at hkids hdk ⊢
      rw [List.forall_mem_cons] at hkids hdk
      rw [tokElems_cons]
      simp only [List.map_append, List.append_assoc]
      refine ⟨?_, fun hc => hkids.1 _ N _ hdk.1 (nestS_rest bufLen c tl hkids.2 _ N _ hdk.2 hc)⟩
      have hh := valHead_tokValue bufLen c k0
        ((okNode_parts hok).2.2.2 k0 (hk0 ▸ List.mem_cons_self))
        ((tokRest bufLen c tl).map itemOf ++ close :: R)
      rcases hoc with ⟨-, rfl⟩ | ⟨-, rfl⟩ <;> exact ne_of_valHead hh fun _ => rfl
    rcases ty_cases n with hl | ha | hg | hsc
    · rw [tokValue_list bufLen c n hl]
      simp only [List.map_cons, List.map_append, List.cons_append, List.append_assoc,
        List.map_nil, List.nil_append]
      exact elems _ _ (.inr ⟨rfl, rfl⟩)
    · rw [tokValue_array bufLen c n ha]
      simp only [List.map_cons, List.map_append, List.cons_append, List.append_assoc,
        List.map_nil, List.nil_append]
      exact elems _ _ (.inl ⟨rfl, rfl⟩)
    · rw [tokValue_group bufLen c n hg]
      simp only [List.map_cons, List.map_append, List.cons_append, List.append_assoc,
        List.map_nil, List.nil_append]
      obtain ⟨_, hknames, _⟩ := group_kids hok hg
      refine agg .groupStart .groupEnd _ (.inr (.inr ⟨rfl, rfl⟩)) (fun h => by rw [h]; rfl)
        fun hne => ⟨?_, nestS_members bufLen c n.kids hknames hkids _ N _ hdk⟩
      obtain ⟨k0, tl, hk0⟩ := List.exists_cons_of_ne_nil hne
      obtain ⟨nm, hnm, _⟩ := nameOKB_spec (hknames k0 (hk0 ▸ List.mem_cons_self))
      rw [hk0, tokMembers_cons, hnm]
      exact fun r h => by cases h
    obtain ⟨tv, p, htv, hs⟩ := scalar_item bufLen c n hok hsc
    rw [htv]
    exact Nat.le_trans (Nat.le_of_eq (nestS_flat (scalar_head hs).2)) hR) n

theorem nestS_config (hok : okNode c.root = true) (hname : c.root.name = none)
    (hty : c.root.ty = T_GROUP) :
    nestS 0 ((tokensOfConfig tk bufLen c).map itemOf) ≤ nodeDepth c.root - 1 := by
  have h := nestS_members bufLen c c.root.kids (group_kids hok hty).2.1
    (fun k hk => shallow bufLen c k ((okNode_parts hok).2.2.2 k hk)) 0 (nodeDepth c.root - 1) []
    (fun k hk => by
      have := listDepth_mem hk
      rw [← nodeDepth_eq] at this
      omega)
    (Nat.zero_le _)
  rwa [List.append_nil, ← tokensOfConfig_eq bufLen c hname hty] at h

/-! ### the tokens themselves -/

/-- a token the simulation can deal with (`C02D.RawOK`, Proofs/C02DenoteSim.lean, of every token) -/
def TokOK (tv : Nat × TokVal) : Prop :=
  tv.1 ≠ 0 ∧ ∀ s, itemOf tv = .name s → validName s = true

theorem TokOK.intro {t : Nat} {v : TokVal} (h0 : t ≠ 0)
    (hn : t = tk.name → validName v.sval = true) : TokOK (t, v) :=
  ⟨h0, fun s hs => by
    obtain ⟨h1, h2⟩ := itemOf_name hs
    rw [← h2]
    exact hn h1⟩

theorem tokOK_of_scalar {nm : Option Bytes} {tv : Nat × TokVal} {p : Node × List Item}
    (h : scalar nm [itemOf tv] = some p) : TokOK tv := by
  refine ⟨fun h0 => ?_, fun s hs => ?_⟩
  · obtain ⟨t, v⟩ := tv
    simp only at h0
    subst h0
    cases h
  · rw [hs] at h
    cases h

theorem tokOK_punct {tv : Nat × TokVal}
    (h : tv = tLS ∨ tv = tLE ∨ tv = tAS ∨ tv = tAE ∨ tv = tGS ∨ tv = tGE ∨ tv = tCO ∨ tv = tEQ ∨
      tv = tSE) : TokOK tv := by
  rcases h with rfl | rfl | rfl | rfl | rfl | rfl | rfl | rfl | rfl <;>
    exact .intro (by decide) (fun h => absurd h (by decide))

theorem tokOK_elems (ks : List Node) (h : ∀ k ∈ ks, ∀ tv ∈ tokValue bufLen c k, TokOK tv) :
    ∀ tv ∈ tokElems bufLen c ks, TokOK tv := by
  intro tv htv
  cases ks with
  | nil => cases htv
  | cons k ks =>
    rw [tokElems_cons, List.mem_append] at htv
    rcases htv with htv | htv
    · exact h k List.mem_cons_self tv htv
    · unfold tokRest at htv
      obtain ⟨k', hk', htv⟩ := List.mem_flatMap.mp htv
      rcases List.mem_cons.mp htv with rfl | htv
      · exact tokOK_punct (by simp)
      · exact h k' (List.mem_cons_of_mem _ hk') tv htv

theorem tokOK_members (ks : List Node) (hnames : ∀ k ∈ ks, nameOKB k = true)
    (h : ∀ k ∈ ks, ∀ tv ∈ tokValue bufLen c k, TokOK tv) :
    ∀ tv ∈ tokMembers bufLen c ks, TokOK tv := by
  induction ks with
  | nil => intro tv htv; cases htv
  | cons k ks ih =>
    intro tv htv
    rw [List.forall_mem_cons] at hnames h
    obtain ⟨nm, hnm, hvalid⟩ := nameOKB_spec hnames.1
    rw [tokMembers_cons, hnm] at htv
    simp only [tokPrefix, tokSuffix, List.mem_append, List.mem_cons, List.not_mem_nil,
      or_false] at htv
    rcases htv with (((rfl | rfl) | htv) | htv) | htv
    · exact .intro (by decide) (fun _ => hvalid)
    · exact tokOK_punct (by simp)
    · exact h.1 tv htv
    · split at htv
      · rw [List.mem_singleton] at htv
        exact tokOK_punct (by simp [htv])
      · cases htv
    · exact ih hnames.2 h.2 tv htv

theorem tokOK_value (n : Node) : okNode n = true → ∀ tv ∈ tokValue bufLen c n, TokOK tv :=
  node_ind (Pr := fun n => okNode n = true → ∀ tv ∈ tokValue bufLen c n, TokOK tv)
    (fun n hk hok tv htv => by
      have hkok := (okNode_parts hok).2.2.2
      have hkids : ∀ k ∈ n.kids, ∀ tv ∈ tokValue bufLen c k, TokOK tv :=
        fun k hk' => hk k hk' (hkok k hk')
      have agg : ∀ (a b : Nat × TokVal) (ts : List (Nat × TokVal)), TokOK a → TokOK b →
          (∀ x ∈ ts, TokOK x) → tv ∈ a :: (ts ++ [b]) → TokOK tv := by
        intro a b ts ha hb hts h
        rw [List.mem_cons, List.mem_append, List.mem_singleton] at h
        rcases h with rfl | h | rfl
        · exact ha
        · exact hts tv h
        · exact hb
      rcases ty_cases n with hl | ha | hg | hsc
      · rw [tokValue_list bufLen c n hl] at htv
        exact agg _ _ _ (tokOK_punct (by simp)) (tokOK_punct (by simp))
          (tokOK_elems bufLen c n.kids hkids) htv
      · rw [tokValue_array bufLen c n ha] at htv
        exact agg _ _ _ (tokOK_punct (by simp)) (tokOK_punct (by simp))
          (tokOK_elems bufLen c n.kids hkids) htv
      · rw [tokValue_group bufLen c n hg] at htv
        exact agg _ _ _ (tokOK_punct (by simp)) (tokOK_punct (by simp))
          (tokOK_members bufLen c n.kids (group_kids hok hg).2.1 hkids) htv
      obtain ⟨tv', p, htv', hs⟩ := scalar_item bufLen c n hok hsc
      rw [htv', List.mem_singleton] at htv
      exact htv ▸ tokOK_of_scalar hs) n

theorem tokOK_config (hok : okNode c.root = true) (hname : c.root.name = none)
    (hty : c.root.ty = T_GROUP) : ∀ tv ∈ tokensOfConfig tk bufLen c, TokOK tv := by
  rw [tokensOfConfig_eq bufLen c hname hty]
  exact tokOK_members bufLen c c.root.kids (group_kids hok hty).2.1
    fun k hk => tokOK_value bufLen c k ((okNode_parts hok).2.2.2 k hk)

end

end Libconfig.C01PP
