import LibconfigModel.Proofs.C02Static
/-
  C04 (reads), static part.  The one fact about the grammar that the well-formedness proof
  needs: the mid-rule actions `$@2/$@3/$@4` (which retype the node `ctx->setting`) and the
  `simple_value` actions never run before the first `$@1` (which points `ctx->setting` away
  from the root).  Statically: in the certificate graph `C02P.edges` of the automaton, every
  state in which such a rule can be reduced is reachable from state 0 only through a state
  whose accessing symbol is `$@1` — so, the stack being a path of certificate edges, a `$@1`
  entry is on the stack whenever such an action runs.

  `safe` is an (untrusted) certificate: a set of states closed under certificate edges whose
  target is not accessed by `$@1`; the kernel checks the closure and that no state of `safe`
  reduces a rule carrying one of those actions.
-/
namespace Libconfig.C04R
open Libconfig Grammar C02P

/-- the actions that write through `ctx->setting` -/
def usesSetting : ParseAct → Bool
  | .arrayStart | .listStart | .groupStart => true
  | .valBool | .valInt | .valInt64 | .valHex | .valHex64 | .valFloat | .valString => true
  | _ => false

def isSettingName : ParseAct → Bool
  | .settingName => true
  | _ => false

def memB (l : List Nat) (x : Nat) : Bool := l.any fun y => Nat.beq y x

/-- no rule whose action writes through `ctx->setting` can be reduced in state `s` -/
def quietIn (P : LalrTables) (acts : List ParseAct) (s : Nat) : Bool :=
  !(usesSetting (acts.getD (P.defact.get s).toNat .unknown)) &&
  allBelow P.ntokens fun tok =>
    match actAt P s tok with
    | none => true
    | some a => !(usesSetting (acts.getD (-a).toNat .unknown))

def safeOK (P : LalrTables) (acts : List ParseAct) (ed : List (Nat × Nat)) (safe : List Nat) : Bool :=
  memB safe 0 && !(Nat.beq (stosN P 0) M1) &&
  (ed.all fun e => !(memB safe e.1) || Nat.beq (stosN P e.2) M1 || memB safe e.2) &&
  (safe.all fun s => quietIn P acts s) &&
  allBelow rules.length (fun r =>
    !(Nat.beq (rules.getD r (0, [])).1 M1) || isSettingName (acts.getD r .unknown))

/-- the states reachable from 0 without entering a state accessed by `$@1` -/
def safe : List Nat := [0, 1, 2, 3, 4, 6, 7]

theorem safe_ok : safeOK Generated.parser Generated.parseActions edges safe = true := by
  decide +kernel

end Libconfig.C04R
