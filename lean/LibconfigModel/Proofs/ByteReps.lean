/-
  Representatives of the classes of a relation on `0 … n-1` (both certificate checks of the
  scanner evaluate their per-byte condition on one byte of each class only).
-/
namespace Libconfig

/-- numbers among `0 … n-1` such that each `b < n` is `same` as one of them (`mkReps_spec`, for a
reflexive `same`); one of each class when `same` is an equivalence, which nothing here needs -/
def mkReps (same : Nat → Nat → Bool) : Nat → List Nat → List Nat
  | 0, acc => acc
  | n + 1, acc => mkReps same n (if acc.any (same n) then acc else n :: acc)

theorem mkReps_spec {same : Nat → Nat → Bool} (hrefl : ∀ b, same b b = true) :
    ∀ n acc, (∀ x ∈ acc, x ∈ mkReps same n acc) ∧ ∀ b, b < n → ∃ c ∈ mkReps same n acc, same b c = true
  | 0, _ => ⟨fun _ h => h, fun b hb => absurd hb (Nat.not_lt_zero b)⟩
  | n + 1, acc => by
    obtain ⟨h1, h2⟩ := mkReps_spec hrefl n (if acc.any (same n) then acc else n :: acc)
    refine ⟨fun x hx => h1 x ?_, fun b hb => ?_⟩
    · split
      · exact hx
      · exact .tail _ hx
    · by_cases hbn : b = n
      · subst hbn
        have hm : ∃ c ∈ (if acc.any (same b) then acc else b :: acc), same b c = true := by
          split
          · next hany => exact List.any_eq_true.mp hany
          · exact ⟨b, .head _, hrefl b⟩
        obtain ⟨c, hc, hs⟩ := hm
        exact ⟨c, h1 c hc, hs⟩
      · exact h2 b (Nat.lt_of_le_of_ne (Nat.le_of_lt_succ hb) hbn)

end Libconfig
