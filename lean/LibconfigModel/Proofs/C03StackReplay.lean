import LibconfigModel.Proofs.C03StackInv
/-
  C03S: the integer shadow of `BisonStack.lean`, for replays at the constants of
  grammar.c.

  The control flow of the stack code never looks at what the slots hold.  `Ctl` keeps the
  integers only — where the stacks are, `yystacksize`, the number of slots of the two arrays,
  the two offsets, the status, the number of allocations and (newest first) the number of slots
  of every block `YYSTACK_ALLOC` has returned — and `Ctl.step` is `BisonStack.step` on them.
  `ctl_run` says that this shadow is exact for every execution.  An event costs it a few
  arithmetic operations (on the lists of the full model each `List.set` is linear), and a run of
  shifts from the start of `yyparse` has a closed form on it (`Ctl.run_shifts_init`).
-/
namespace Libconfig.C03SP

open Libconfig Libconfig.BisonStack

variable {V : Type}

structure Ctl where
  loc : Blk
  stacksize : Nat
  /-- slots of the state array -/
  capS : Nat
  /-- slots of the value array -/
  capV : Nat
  ssp : Nat
  vsp : Nat
  status : Status
  nextId : Nat
  /-- slots of every block allocated so far, newest first -/
  sizes : List Nat
deriving Repr, DecidableEq

def allocSlots : Access → Option Nat
  | .alloc _ n => some n
  | .storeS _ _ _ => none
  | .storeV _ _ _ => none
  | .loadS _ _ _ _ => none
  | .loadV _ _ _ _ => none
  | .garbageV _ _ _ => none
  | .copyS _ _ _ _ _ => none
  | .copyV _ _ _ _ _ => none
  | .allocFail _ => none
  | .free _ => none

/-- the integers of a state -/
def ctlOf (s : State V) : Ctl :=
  { loc := s.loc, stacksize := s.stacksize, capS := s.ss.length, capV := s.vs.length, ssp := s.ssp,
    vsp := s.vsp, status := s.status, nextId := s.nextId, sizes := s.log.filterMap allocSlots }

def Ctl.cleanup : Nat → Ctl → Ctl
  | 0, c => c
  | fuel + 1, c =>
    if c.ssp = 0 then c else Ctl.cleanup fuel { c with ssp := c.ssp - 1, vsp := c.vsp - 1 }

def Ctl.returnLab (r : Result) (len : Nat) (c : Ctl) : Ctl :=
  if len > c.ssp then { c with status := .fault } else
  let c1 := { c with ssp := c.ssp - len, vsp := c.vsp - len }
  { Ctl.cleanup c1.ssp c1 with status := .done r }

def Ctl.growStack (P : Params) (ok : Bool) (c : Ctl) : Ctl :=
  let yysize := c.ssp + 1
  if P.M ≤ c.stacksize then Ctl.returnLab .nomem 0 c else
  let sz := if P.M < 2 * c.stacksize then P.M else 2 * c.stacksize
  if !ok then Ctl.returnLab .nomem 0 { c with stacksize := sz } else
  let c1 : Ctl :=
    { c with loc := .heap c.nextId, stacksize := sz, nextId := c.nextId + 1
             capS := min yysize c.capS + (sz - yysize), capV := min yysize c.capV + (sz - yysize)
             ssp := yysize - 1, vsp := yysize - 1, sizes := sz :: c.sizes }
  if P.test c1.stacksize c1.ssp then Ctl.returnLab .abort 0 c1 else c1

def Ctl.setState (P : Params) (ok : Bool) (c : Ctl) : Ctl :=
  if P.test c.stacksize c.ssp then Ctl.growStack P ok c else c

def Ctl.shiftStep (P : Params) (ok : Bool) (c : Ctl) : Ctl :=
  Ctl.setState P ok { c with vsp := c.vsp + 1, ssp := c.ssp + 1 }

def Ctl.reduceStep (P : Params) (n : Nat) (ok : Bool) (c : Ctl) : Ctl :=
  if n > c.ssp then { c with status := .fault } else
  Ctl.setState P ok { c with ssp := c.ssp - n + 1, vsp := c.vsp - n + 1 }

def Ctl.errPop : Nat → Ctl → Ctl
  | 0, c => c
  | k + 1, c =>
    if c.ssp = 0 then Ctl.returnLab .abort 0 c
    else Ctl.errPop k { c with ssp := c.ssp - 1, vsp := c.vsp - 1 }

def Ctl.step (P : Params) (c : Ctl) (e : Event V) : Ctl :=
  match c.status with
  | .running =>
    match e with
    | .shift _ _ ok => Ctl.shiftStep P ok c
    | .reduce n _ _ ok => Ctl.reduceStep P n ok c
    | .errPop k => Ctl.errPop k c
    | .finish r len => Ctl.returnLab r len c
  | _ => c

def Ctl.run (P : Params) (es : List (Event V)) (c : Ctl) : Ctl := es.foldl (Ctl.step P) c

/-! ### exactness -/

theorem as_storeS (b : Blk) (c i : Nat) : allocSlots (.storeS b c i) = none := rfl
theorem as_storeV (b : Blk) (c i : Nat) : allocSlots (.storeV b c i) = none := rfl
theorem as_loadS (b : Blk) (c i : Nat) (x : Bool) : allocSlots (.loadS b c i x) = none := rfl
theorem as_loadV (b : Blk) (c i : Nat) (x : Bool) : allocSlots (.loadV b c i x) = none := rfl
theorem as_garbageV (b : Blk) (c i : Nat) : allocSlots (.garbageV b c i) = none := rfl
theorem as_copyS (b : Blk) (c : Nat) (d : Blk) (e n : Nat) : allocSlots (.copyS b c d e n) = none := rfl
theorem as_copyV (b : Blk) (c : Nat) (d : Blk) (e n : Nat) : allocSlots (.copyV b c d e n) = none := rfl
theorem as_alloc (b : Blk) (n : Nat) : allocSlots (.alloc b n) = some n := rfl
theorem as_allocFail (n : Nat) : allocSlots (.allocFail n) = none := rfl
theorem as_free (b : Blk) : allocSlots (.free b) = none := rfl

theorem ctl_cleanup : ∀ (fuel : Nat) (s : State V), ctlOf (cleanup fuel s) = Ctl.cleanup fuel (ctlOf s) := by
  intro fuel
  induction fuel with
  | zero => intro s; rfl
  | succ fuel ih =>
    intro s
    rw [cleanup, Ctl.cleanup, apply_ite ctlOf, ih]
    rfl

/-- the end of `yyreturnlab` -/
def finishFree (r : Result) (t : State V) : State V :=
  match t.loc with
  | .auto => { t with status := .done r }
  | .heap id => { t with status := .done r, log := .free (.heap id) :: t.log }

theorem ctl_finishFree (r : Result) (t : State V) :
    ctlOf (finishFree r t) = { ctlOf t with status := .done r } := by
  unfold finishFree
  cases hl : t.loc with
  | auto =>
    simp only
    unfold ctlOf
    simp only [hl]
  | heap id =>
    simp only
    unfold ctlOf
    simp only [hl, List.filterMap_cons, as_free]

theorem returnLab_eq (r : Result) (len : Nat) (s : State V) :
    returnLab r len s =
      if len > s.ssp then { s with status := .fault }
      else finishFree r (cleanup (s.ssp - len) { s with ssp := s.ssp - len, vsp := s.vsp - len }) := rfl

theorem ctl_returnLab (r : Result) (len : Nat) (s : State V) :
    ctlOf (returnLab r len s) = Ctl.returnLab r len (ctlOf s) := by
  rw [returnLab_eq, apply_ite ctlOf, ctl_finishFree, ctl_cleanup]
  rfl

def Ctl.relocated (P : Params) (c : Ctl) : Ctl :=
  { c with loc := .heap c.nextId, stacksize := newSize P c.stacksize, nextId := c.nextId + 1
           capS := min (c.ssp + 1) c.capS + (newSize P c.stacksize - (c.ssp + 1))
           capV := min (c.ssp + 1) c.capV + (newSize P c.stacksize - (c.ssp + 1))
           ssp := c.ssp + 1 - 1, vsp := c.ssp + 1 - 1, sizes := newSize P c.stacksize :: c.sizes }

theorem ctl_relocated (P : Params) (s : State V) :
    ctlOf (relocated P s) = Ctl.relocated P (ctlOf s) := by
  unfold ctlOf relocated Ctl.relocated
  have hf : (freeOf s.loc).filterMap allocSlots = [] := by
    cases s.loc <;> rfl
  simp only [length_relocate', List.filterMap_append, List.filterMap_cons, List.filterMap_nil, hf,
    as_copyV, as_copyS, as_alloc, List.nil_append, List.cons_append]

theorem ctl_growStack (P : Params) (ok : Bool) (s : State V) :
    ctlOf (growStack P ok s) = Ctl.growStack P ok (ctlOf s) := by
  rw [growStack_eq]
  simp only [apply_ite ctlOf, ctl_returnLab, ctl_relocated]
  have e : ctlOf (allocFailed P s) = { ctlOf s with stacksize := newSize P s.stacksize } := by
    unfold ctlOf allocFailed
    simp only [List.filterMap_cons, as_allocFail]
  rw [e]
  have e2 : (relocated P s).stacksize = (Ctl.relocated P (ctlOf s)).stacksize := rfl
  have e3 : (relocated P s).ssp = (Ctl.relocated P (ctlOf s)).ssp := rfl
  rw [e2, e3]
  rfl

theorem ctl_setState (P : Params) (st : Nat) (ok : Bool) (s : State V) :
    ctlOf (setState P st ok s) =
      Ctl.setState P ok (ctlOf s) := by
  have e : ctlOf (stored st s) = ctlOf s := by
    unfold ctlOf stored
    simp only [List.length_set, List.filterMap_cons, as_storeS]
  rw [setState_eq, apply_ite ctlOf, ctl_growStack, e]
  rfl

theorem ctl_shiftStep (P : Params) (st : Nat) (v : V) (ok : Bool) (s : State V) :
    ctlOf (shiftStep P st v ok s) = Ctl.shiftStep P ok (ctlOf s) := by
  rw [shiftStep_eq, ctl_setState]
  unfold Ctl.shiftStep
  congr 1
  unfold ctlOf pushed
  simp only [List.length_set, List.filterMap_cons, as_storeV]

theorem allocSlots_preload (n : Nat) (s : State V) : allocSlots (preload n s) = none := by
  unfold preload
  split <;> rfl

theorem ctl_reduceStep (P : Params) (n st : Nat) (v : V) (ok : Bool) (s : State V) :
    ctlOf (reduceStep P n st v ok s) = Ctl.reduceStep P n ok (ctlOf s) := by
  by_cases hn : n > s.ssp
  · have hn' : n > (ctlOf s).ssp := hn
    unfold reduceStep Ctl.reduceStep
    rw [if_pos hn, if_pos hn']
    rfl
  · have hn' : ¬ n > (ctlOf s).ssp := hn
    rw [reduceStep_eq P n st v ok s (by omega), ctl_setState]
    unfold Ctl.reduceStep
    rw [if_neg hn']
    congr 1
    unfold ctlOf pushed popped
    simp only [List.length_set, List.filterMap_cons, List.filterMap_append, List.filterMap_nil,
      as_loadS, as_storeV, allocSlots_preload, List.nil_append]

theorem ctl_errPop : ∀ (k : Nat) (s : State V), ctlOf (errPop k s) = Ctl.errPop k (ctlOf s) := by
  intro k
  induction k with
  | zero => intro s; rfl
  | succ k ih =>
    intro s
    rw [errPop, Ctl.errPop]
    show ctlOf (if s.ssp = 0 then _ else _) = if s.ssp = 0 then _ else _
    split
    · exact ctl_returnLab _ _ _
    · rw [ih]
      rfl

theorem ctl_step (P : Params) (s : State V) (e : Event V) :
    ctlOf (step P s e) = Ctl.step P (ctlOf s) e := by
  unfold step Ctl.step
  show ctlOf (match s.status with | .running => _ | _ => s) = match s.status with | .running => _ | _ => ctlOf s
  cases hs : s.status with
  | running =>
    simp only
    cases e with
    | shift st v ok => exact ctl_shiftStep P st v ok s
    | reduce n st v ok => exact ctl_reduceStep P n st v ok s
    | errPop k => exact ctl_errPop k s
    | finish r len => exact ctl_returnLab r len s
  | done r => rfl
  | fault => rfl

theorem ctl_run (P : Params) : ∀ (es : List (Event V)) (s : State V),
    ctlOf (run P es s) = Ctl.run P es (ctlOf s)
  | [], _ => rfl
  | e :: es, s => by
    show ctlOf (run P es (step P s e)) = Ctl.run P es (Ctl.step P (ctlOf s) e)
    rw [ctl_run P es, ctl_step]

/-- the integers after the declarations of `yyparse` and the first `yysetstate` -/
def Ctl.init (P : Params) (ok : Bool) : Ctl :=
  Ctl.setState P ok
    { loc := .auto, stacksize := P.I, capS := P.I, capV := P.I, ssp := 0, vsp := 0, status := .running,
      nextId := 0, sizes := [] }

theorem ctl_init (P : Params) (ok : Bool) : ctlOf (init P ok : State V) = Ctl.init P ok := by
  unfold init Ctl.init
  rw [ctl_setState]
  congr 1
  unfold ctlOf start
  simp

/-! ### shifts

The shadow in closed form along a run of shifts: within a block a shift moves the two offsets
(`Ctl.run_shifts`); the one that fills the last slot relocates (`Ctl.block_grow`) or, at
`YYMAXDEPTH`, ends the parse (`Ctl.block_nomem`).  `Ctl.run_shifts_block` puts these together. -/

theorem Ctl.run_append (P : Params) (es fs : List (Event V)) (c : Ctl) :
    Ctl.run P (es ++ fs) c = Ctl.run P fs (Ctl.run P es c) :=
  List.foldl_append ..

theorem fullTestC_eq_false (sz off : Nat) (h : off + 1 < sz) : fullTestC sz off = false :=
  Bool.eq_false_iff.mpr (mt (fullTestC_iff sz off).mp (by omega))

theorem Ctl.step_shift_eq (P : Params) (st : Nat) (v : V) (ok : Bool) (c : Ctl)
    (hr : c.status = .running) : Ctl.step P c (.shift st v ok) = Ctl.shiftStep P ok c := by
  unfold Ctl.step
  rw [hr]

theorem Ctl.step_shift (P : Params) (st : Nat) (v : V) (ok : Bool) (c : Ctl) (hr : c.status = .running)
    (ht : P.test c.stacksize (c.ssp + 1) = false) :
    Ctl.step P c (.shift st v ok) = { c with ssp := c.ssp + 1, vsp := c.vsp + 1 } := by
  rw [Ctl.step_shift_eq P st v ok c hr]
  show (if P.test c.stacksize (c.ssp + 1) then _ else _) = _
  rw [ht]
  rfl

theorem Ctl.run_shifts (P : Params) (st : Nat) (v : V) (ok : Bool) : ∀ (n : Nat) (c : Ctl),
    c.status = .running → (∀ off, off ≤ c.ssp + n → P.test c.stacksize off = false) →
    Ctl.run P (List.replicate n (.shift st v ok)) c = { c with ssp := c.ssp + n, vsp := c.vsp + n } := by
  intro n
  induction n with
  | zero => intro c _ _; rfl
  | succ n ih =>
    intro c hr ht
    show Ctl.run P _ (Ctl.step P c _) = _
    rw [Ctl.step_shift P st v ok c hr (ht _ (by omega)),
      ih { c with ssp := c.ssp + 1, vsp := c.vsp + 1 } hr (fun off h => ht off (by
        have : off ≤ c.ssp + 1 + n := h
        omega))]
    simp only [Nat.add_assoc, Nat.add_comm 1 n]

theorem Ctl.cleanup_eq : ∀ (fuel : Nat) (c : Ctl), c.ssp ≤ fuel →
    Ctl.cleanup fuel c = { c with ssp := 0, vsp := c.vsp - c.ssp } := by
  intro fuel
  induction fuel with
  | zero =>
    intro c h
    obtain ⟨_, _, _, _, ssp, _, _, _, _⟩ := c
    obtain rfl : ssp = 0 := Nat.le_zero.mp h
    rfl
  | succ fuel ih =>
    intro c h
    rw [Ctl.cleanup]
    split
    · rename_i h0
      obtain ⟨_, _, _, _, ssp, _, _, _, _⟩ := c
      obtain rfl : ssp = 0 := h0
      rfl
    · rw [ih _ (by show c.ssp - 1 ≤ fuel; omega)]
      simp only [Ctl.mk.injEq, true_and, and_true]
      omega

theorem Ctl.returnLab_zero (r : Result) (c : Ctl) :
    Ctl.returnLab r 0 c = { c with ssp := 0, vsp := c.vsp - c.ssp, status := .done r } := by
  simp [Ctl.returnLab, Ctl.cleanup_eq]

/-- `yystacksize` after `k` extensions -/
def blockSize (P : Params) : Nat → Nat
  | 0 => P.I
  | k + 1 => newSize P (blockSize P k)

/-- the slots of the first `k` heap blocks, newest first -/
def blockSizes (P : Params) : Nat → List Nat
  | 0 => []
  | k + 1 => blockSize P (k + 1) :: blockSizes P k

/-- the integers of a running parser that has extended its stacks `k` times and whose newest entry
is at offset `n` -/
def Ctl.block (P : Params) (k n : Nat) : Ctl :=
  { loc := match k with | 0 => .auto | k + 1 => .heap k
    stacksize := blockSize P k, capS := blockSize P k, capV := blockSize P k, ssp := n, vsp := n,
    status := .running, nextId := k, sizes := blockSizes P k }

theorem Ctl.init_block (P : Params) (hT : P.test = fullTestC) (hI : 2 ≤ P.I) (ok : Bool) :
    Ctl.init P ok = Ctl.block P 0 0 := by
  unfold Ctl.init Ctl.setState
  rw [hT, fullTestC_eq_false _ _ (by show 0 + 1 < P.I; omega)]
  rfl

theorem Ctl.block_shifts (P : Params) (hT : P.test = fullTestC) (st : Nat) (v : V) (ok : Bool)
    (k a m : Nat) (h : a + m + 2 ≤ blockSize P k) :
    Ctl.run P (List.replicate m (.shift st v ok)) (Ctl.block P k a) = Ctl.block P k (a + m) :=
  Ctl.run_shifts P st v ok m (Ctl.block P k a) rfl fun off ho => by
    rw [hT]
    exact fullTestC_eq_false _ _ (by have : off ≤ a + m := ho; show off + 1 < blockSize P k; omega)

theorem Ctl.block_grow (P : Params) (hT : P.test = fullTestC) (st : Nat) (v : V) (k a : Nat)
    (ha : a + 2 = blockSize P k) (hM : blockSize P k < P.M) :
    Ctl.step P (Ctl.block P k a) (.shift st v true) = Ctl.block P (k + 1) (a + 1) := by
  have hlt := lt_newSize P _ (by omega) hM
  have e : blockSize P (k + 1) = newSize P (blockSize P k) := rfl
  show (if P.test (blockSize P k) (a + 1) then
    (if P.M ≤ blockSize P k then _ else
      if P.test (newSize P (blockSize P k)) (a + 1 + 1 - 1) then _
      else Ctl.relocated P (Ctl.block P k (a + 1))) else _) = _
  rw [hT, if_pos ((fullTestC_iff _ _).mpr (by omega)), if_neg (by omega), Nat.add_sub_cancel,
    fullTestC_eq_false _ _ (by omega), if_neg nofun]
  simp only [Ctl.relocated, Ctl.block, Ctl.mk.injEq]
  exact ⟨trivial, rfl, by omega, by omega, rfl, rfl, trivial, trivial, rfl⟩

theorem Ctl.block_nomem (P : Params) (hT : P.test = fullTestC) (st : Nat) (v : V) (ok : Bool) (k a : Nat)
    (ha : a + 2 = blockSize P k) (hM : P.M ≤ blockSize P k) :
    Ctl.step P (Ctl.block P k a) (.shift st v ok) = { Ctl.block P k 0 with status := .done .nomem } := by
  show (if P.test (blockSize P k) (a + 1) then
    (if P.M ≤ blockSize P k then Ctl.returnLab .nomem 0 _ else _) else _) = _
  rw [hT, if_pos ((fullTestC_iff _ _).mpr (by omega)), if_pos hM, Ctl.returnLab_zero]
  simp [Ctl.block]

/-- Where `m` shifts lead from offset `a` of block `k`: through `d` blocks that get full and
are not the last, to offset `a + m` of block `k + d`, whose last slot stays spare. -/
theorem Ctl.run_shifts_block (P : Params) (hT : P.test = fullTestC) (st : Nat) (v : V) :
    ∀ (d k a m : Nat), a + 2 ≤ blockSize P k →
      (∀ j, j < d → blockSize P (k + j) < P.M) → (∀ j, j < d → blockSize P (k + j) ≤ a + m + 1) →
      a + m + 2 ≤ blockSize P (k + d) →
      Ctl.run P (List.replicate m (.shift st v true)) (Ctl.block P k a) = Ctl.block P (k + d) (a + m) := by
  intro d
  induction d with
  | zero => intro k a m _ _ _ h; exact Ctl.block_shifts P hT st v true k a m h
  | succ d ih =>
    intro k a m ha hM hfull h
    have hM0 : blockSize P k < P.M := hM 0 (by omega)
    have hf0 : blockSize P k ≤ a + m + 1 := hfull 0 (by omega)
    have hlt := lt_newSize P _ (by omega) hM0
    -- `n` shifts up to the spare slot of block `k`, one that relocates, `r` in the blocks behind
    obtain ⟨n, hn⟩ : ∃ n, a + n + 2 = blockSize P k := ⟨blockSize P k - 2 - a, by omega⟩
    obtain ⟨r, hr⟩ : ∃ r, m = n + (1 + r) := ⟨m - n - 1, by omega⟩
    rw [hr, ← List.replicate_append_replicate, ← List.replicate_append_replicate, Ctl.run_append,
      Ctl.run_append, Ctl.block_shifts P hT st v true k a n (by omega)]
    show Ctl.run P _ (Ctl.step P (Ctl.block P k (a + n)) (.shift st v true)) = _
    have e (j : Nat) : k + 1 + j = k + (j + 1) := by omega
    rw [Ctl.block_grow P hT st v k (a + n) hn hM0,
      ih (k + 1) (a + n + 1) r (by show _ ≤ newSize P (blockSize P k); omega)
        (fun j hj => by rw [e]; exact hM (j + 1) (by omega))
        (fun j hj => by rw [e]; have := hfull (j + 1) (by omega); omega)
        (by rw [e]; omega)]
    congr 1 <;> omega

theorem Ctl.run_shifts_init (P : Params) (hT : P.test = fullTestC) (hI : 2 ≤ P.I) (st : Nat) (v : V)
    (d m : Nat) (hM : ∀ j, j < d → blockSize P j < P.M) (hfull : ∀ j, j < d → blockSize P j ≤ m + 1)
    (h : m + 2 ≤ blockSize P d) :
    Ctl.run P (List.replicate m (.shift st v true)) (Ctl.init P true) = Ctl.block P d m := by
  have := Ctl.run_shifts_block P hT st v d 0 0 m hI (by simpa using hM) (by simpa using hfull)
    (by simpa using h)
  simpa [Ctl.init_block P hT hI] using this

end Libconfig.C03SP
