import LibconfigModel.Proofs.ParserLoop
import LibconfigModel.Proofs.Api
/-
  What the semantic actions of lib/grammar.y (`runAction`, Parser.lean) do to the parse context:
  `ActEffect` lists the outcomes over the calls of the API model they are made of, and
  `runAction_effect` says every run is one of them.  Properties of the actions are case analyses
  of it.  The proofs that drive the parser read the same cases forwards, as the equations
  `runAction_named` … `actValue_assigned`.  Last, what an action may write in the configuration
  (`ActFrame`, `runAction_frame`) and what therefore a whole parse keeps (`yyparse_kept`).
-/
namespace Libconfig

namespace C04R

/-- CAPTURE_PARSE_POS on a node -/
def cap (l : Nat) (f : Option Bytes) (n : Node) : Node := { n with line := l, file := f }

/-- `config_setting_set_format` after the value, where the action calls it -/
def setFmtF (fmt : Option Nat) (n : Node) : Node :=
  match fmt with
  | some f => (n.setFormat f).getD n
  | none => n

end C04R

open C03P C04R

/-- the type `$@2`, `$@3`, `$@4` give the aggregate they open -/
def aggTy : ParseAct → Option Nat
  | .arrayStart => some T_ARRAY
  | .listStart => some T_LIST
  | .groupStart => some T_GROUP
  | _ => none

/-- what a `simple_value` action stores: the scalar setter it calls, the element type it asks
`config_setting_set_*_elem` for, the format it sets afterwards -/
structure ValueSpec where
  setter : Node → Option Node
  ty : Nat
  fmt : Option Nat

def valueSpec (ctx : ParseCtx) (v : TokVal) : ParseAct → Option ValueSpec
  | .valBool => some ⟨fun n => n.setBool v.ival, T_BOOL, none⟩
  | .valInt => some ⟨fun n => n.setInt (ctx.cfg.opt OPT_AUTOCONVERT) v.ival, T_INT, some FMT_DEFAULT⟩
  | .valInt64 =>
    some ⟨fun n => n.setInt64 (ctx.cfg.opt OPT_AUTOCONVERT) v.ival, T_INT64, some FMT_DEFAULT⟩
  | .valHex => some ⟨fun n => n.setInt (ctx.cfg.opt OPT_AUTOCONVERT) v.ival, T_INT, some FMT_HEX⟩
  | .valHex64 => some ⟨fun n => n.setInt64 (ctx.cfg.opt OPT_AUTOCONVERT) v.ival, T_INT64, some FMT_HEX⟩
  | .valFloat => some ⟨fun n => n.setFloat (ctx.cfg.opt OPT_AUTOCONVERT) v.fval, T_FLOAT, none⟩
  | .valString => some ⟨fun n => n.setString ctx.str, T_STRING, none⟩
  | _ => none

theorem valueSpec_scalar {ctx : ParseCtx} {v : TokVal} {act : ParseAct} {σ : ValueSpec}
    (h : valueSpec ctx v act = some σ) : ScalarSetter σ.setter ∧ isScalarTy σ.ty = true := by
  cases act <;> cases h
  · exact ⟨scalar_setBool _, rfl⟩
  · exact ⟨scalar_setInt _ _, rfl⟩
  · exact ⟨scalar_setInt64 _ _, rfl⟩
  · exact ⟨scalar_setInt _ _, rfl⟩
  · exact ⟨scalar_setInt64 _ _, rfl⟩
  · exact ⟨scalar_setFloat _ _, rfl⟩
  · exact ⟨scalar_setString _, rfl⟩

/-- the context a `simple_value` action works on: that of `TOK_STRING` has handed `ctx->string`
over to the setter -/
def ParseCtx.taken (ctx : ParseCtx) (act : ParseAct) : ParseCtx :=
  { ctx with str := match act with | .valString => none | _ => ctx.str }

/-- `ctx->parent = ctx->parent->parent` -/
def upPath : Option Path → Option Path
  | some [] => none
  | some p => some p.dropLast
  | none => none

theorem upPath_snoc (p : Path) (i : Nat) : upPath (some (p ++ [i])) = some p := by
  cases h : p ++ [i] with
  | nil => simp at h
  | cons j r => rw [upPath, ← h, List.dropLast_concat]; nofun

/-- `pn'` with its child `i` edited by `g`.  An action that appends a setting to the node at
`ctx->parent` and then stamps (and formats) it replaces that node by `pn'.editKid i g`, where
`(pn', i)` is what `Node.add` or `Node.setElem` returned: the outcomes below are given in this
form, one `modify` at the parent. -/
abbrev Node.editKid (pn' : Node) (i : Nat) (g : Node → Node) : Node := pn'.modify g [i]

/-- `ActEffect ctx v l f act out`: `out` is what the action `act` makes of `ctx`.  `crash` (the C
code would dereference NULL, or the translator did not know the action) carries no condition:
nothing is proved from a crash but that it leaves the configuration alone, and the conditions
would be the negations of all the others.  So the relation does not determine the outcome,
and the equations further down are proved from `runAction` as well. -/
inductive ActEffect (ctx : ParseCtx) (v : TokVal) (l : Nat) (f : Option Bytes) :
    ParseAct → ActOut → Prop
  | skip : ActEffect ctx v l f .none (.ok ctx)
  | ascend : ActEffect ctx v l f .aggEnd (.ok { ctx with parent := upPath ctx.parent })
  | piece {act} : act = .stringFirst ∨ act = .stringNext →
      ActEffect ctx v l f act (.ok { ctx with str := some (ctx.str.getD [] ++ v.sval) })
  /-- `$@1`: `config_setting_add(ctx->parent, name, NONE)` succeeded -/
  | named {pp pn pn' i log} : ctx.parent = some pp → ctx.cfg.root.get? pp = some pn →
      pn.add ctx.cfg.destructor (ctx.cfg.opt OPT_ALLOW_OVERRIDES) (some v.sval) T_NONE =
        some (pn', i, log) →
      ActEffect ctx v l f .settingName
        (.ok { (ctx.modify pp fun _ => pn'.editKid i (cap l f)) with
          setting := some (pp ++ [i]), log := ctx.log ++ log })
  /-- `$@1`: it failed, or there is no parent -/
  | duplicate : (∀ pp pn, ctx.parent = some pp → ctx.cfg.root.get? pp = some pn →
        pn.add ctx.cfg.destructor (ctx.cfg.opt OPT_ALLOW_OVERRIDES) (some v.sval) T_NONE = none) →
      ActEffect ctx v l f .settingName
        (.abort (({ ctx with setting := none } : ParseCtx).yyerror l Generated.ERR_DUPLICATE_SETTING))
  /-- `$@2`, `$@3`, `$@4` in a list: a new element of type `ty` -/
  | opened {act ty pp pn pn' i log} : aggTy act = some ty → ctx.inTy T_LIST = true →
      ctx.parent = some pp → ctx.cfg.root.get? pp = some pn →
      pn.add ctx.cfg.destructor (ctx.cfg.opt OPT_ALLOW_OVERRIDES) none ty = some (pn', i, log) →
      ActEffect ctx v l f act
        (.ok { (ctx.modify pp fun _ => pn'.editKid i (cap l f)) with
          parent := some (pp ++ [i]), log := ctx.log ++ log })
  /-- `$@2`, `$@3`, `$@4` elsewhere: the setting `$@1` created gets its type -/
  | retyped {act ty sp n} : aggTy act = some ty → ctx.inTy T_LIST = false →
      ctx.setting = some sp → ctx.cfg.root.get? sp = some n →
      ActEffect ctx v l f act
        (.ok { (ctx.modify sp fun n => { n with ty := ty }) with parent := some sp, setting := none })
  /-- a value in an array or list: `config_setting_set_*_elem(ctx->parent, -1, …)` succeeded -/
  | elem {act σ pp pn pn' i} : valueSpec ctx v act = some σ →
      (ctx.inTy T_ARRAY || ctx.inTy T_LIST) = true →
      ctx.parent = some pp → ctx.cfg.root.get? pp = some pn →
      pn.setElem σ.setter σ.ty (-1) = some (pn', i) →
      ActEffect ctx v l f act
        (.ok ((ctx.taken act).modify pp fun _ => pn'.editKid i fun e => cap l f (setFmtF σ.fmt e)))
  /-- … it failed: the element type is not the array's -/
  | mismatch {act σ pp pn} : valueSpec ctx v act = some σ →
      (ctx.inTy T_ARRAY || ctx.inTy T_LIST) = true →
      ctx.parent = some pp → ctx.cfg.root.get? pp = some pn →
      pn.setElem σ.setter σ.ty (-1) = none →
      ActEffect ctx v l f act (.abort ((ctx.taken act).yyerror l Generated.ERR_ARRAY_ELEM_TYPE))
  /-- a value elsewhere: `config_setting_set_*(ctx->setting, …)`, its failure ignored -/
  | assigned {act σ sp n} : valueSpec ctx v act = some σ →
      (ctx.inTy T_ARRAY || ctx.inTy T_LIST) = false →
      ctx.setting = some sp → ctx.cfg.root.get? sp = some n →
      ActEffect ctx v l f act
        (.ok ((ctx.taken act).modify sp fun n => setFmtF σ.fmt ((σ.setter n).getD n)))
  | crash {act} : ActEffect ctx v l f act (.crash (ctx.taken act))

/-! ### the shapes of `runAction` -/

section
variable (ctx : ParseCtx) (v : TokVal) (l : Nat) (f : Option Bytes)

theorem runAction_agg {act : ParseAct} {ty : Nat} (h : aggTy act = some ty) :
    runAction act ctx v l f = actAggStart ctx ty l f := by
  cases act <;> cases h <;> rfl

theorem runAction_value {act : ParseAct} {σ : ValueSpec} (h : valueSpec ctx v act = some σ) :
    runAction act ctx v l f =
      actValue (ctx.taken act) σ.setter σ.ty σ.fmt l f Generated.ERR_ARRAY_ELEM_TYPE := by
  cases act <;> cases h <;> rfl

-- not `:= rfl`: as `dsimp` lemmas they would rewrite inside the outcomes as well
theorem taken_parent (act : ParseAct) : (ctx.taken act).parent = ctx.parent := by cases ctx; rfl
theorem taken_setting (act : ParseAct) : (ctx.taken act).setting = ctx.setting := by cases ctx; rfl
theorem taken_cfg (act : ParseAct) : (ctx.taken act).cfg = ctx.cfg := by cases ctx; rfl
theorem taken_inTy (act : ParseAct) (ty : Nat) : (ctx.taken act).inTy ty = ctx.inTy ty := by
  cases ctx; rfl
theorem taken_nodeAt (act : ParseAct) (o : Option Path) :
    (ctx.taken act).nodeAt o = ctx.nodeAt o := by cases ctx; rfl

theorem taken_of_not_value {act : ParseAct} (h : valueSpec ctx v act = none) :
    ctx.taken act = ctx := by
  cases act <;> first | rfl | cases h

end

theorem nodeAt_some {c : ParseCtx} {o : Option Path} {pp : Path} {pn : Node}
    (ho : o = some pp) (h : c.nodeAt o = some pn) : c.cfg.root.get? pp = some pn := by
  subst ho; exact h

theorem modify_editKid (c : ParseCtx) (pp : Path) (pn' : Node) (i : Nat) (g : Node → Node) :
    (c.modify pp fun _ => pn').modify (pp ++ [i]) g = c.modify pp fun _ => pn'.editKid i g := by
  simp only [ParseCtx.modify, modify_modify_append]

/-- CAPTURE_PARSE_POS of the setting just appended to the node at `pp` -/
theorem capture_added (c : ParseCtx) (pp : Path) (pn' : Node) (i l : Nat) (f : Option Bytes)
    (a b : Option Path) (d : List Nat) :
    ({ (c.modify pp fun _ => pn') with parent := a, setting := b, log := d } : ParseCtx).capture
        (pp ++ [i]) l f =
      { (c.modify pp fun _ => pn'.editKid i (cap l f)) with parent := a, setting := b, log := d } := by
  simp only [ParseCtx.capture, ParseCtx.modify, modify_modify_append]
  rfl

/-- the new element, formatted and then stamped -/
theorem capture_elem (c : ParseCtx) (pp : Path) (pn' : Node) (i : Nat) (fmt : Option Nat) (l : Nat)
    (f : Option Bytes) :
    (((c.modify pp fun _ => pn').modify (pp ++ [i]) (setFmtF fmt)).capture (pp ++ [i]) l f) =
      c.modify pp fun _ => pn'.editKid i fun e => cap l f (setFmtF fmt e) := by
  rw [ParseCtx.capture, modify_editKid, modify_editKid]
  simp only [Node.editKid, modify_modify]
  rfl

/-! ### the outcomes read forwards -/

/-- `actValue` with its local function named -/
theorem actValue_eq (ctx : ParseCtx) (setter : Node → Option Node) (ty : Nat) (fmt : Option Nat)
    (l : Nat) (f : Option Bytes) (e : Bytes) :
    actValue ctx setter ty fmt l f e =
      if ctx.inTy T_ARRAY || ctx.inTy T_LIST then
        match ctx.parent, ctx.nodeAt ctx.parent with
        | some pp, some pn =>
          match pn.setElem setter ty (-1) with
          | none => .abort (ctx.yyerror l e)
          | some (pn', i) =>
            .ok (((ctx.modify pp (fun _ => pn')).modify (pp ++ [i]) (setFmtF fmt)).capture (pp ++ [i]) l f)
        | _, _ => .crash ctx
      else
        match ctx.setting with
        | some sp =>
          if (ctx.cfg.root.get? sp).isSome then
            .ok (ctx.modify sp (fun n => setFmtF fmt ((setter n).getD n)))
          else .crash ctx
        | none => .crash ctx := rfl


section
variable {ctx : ParseCtx} {v : TokVal} {l : Nat} {f : Option Bytes}

theorem runAction_aggEnd : runAction .aggEnd ctx v l f = .ok { ctx with parent := upPath ctx.parent } := by
  rcases ctx with ⟨cfg, parent, setting, str, log⟩
  cases parent with
  | none => rfl
  | some p => cases p <;> rfl

theorem runAction_piece {act : ParseAct} (h : act = .stringFirst ∨ act = .stringNext) :
    runAction act ctx v l f = .ok { ctx with str := some (ctx.str.getD [] ++ v.sval) } := by
  rcases h with rfl | rfl <;> rfl

theorem runAction_named {pp : Path} {pn pn' : Node} {i : Nat} {log : List Nat}
    (hp : ctx.parent = some pp) (hn : ctx.cfg.root.get? pp = some pn)
    (hadd : pn.add ctx.cfg.destructor (ctx.cfg.opt OPT_ALLOW_OVERRIDES) (some v.sval) T_NONE =
      some (pn', i, log)) :
    runAction .settingName ctx v l f =
      .ok { (ctx.modify pp fun _ => pn'.editKid i (cap l f)) with
        setting := some (pp ++ [i]), log := ctx.log ++ log } := by
  simp only [runAction, ParseCtx.nodeAt, hp, hn, hadd, capture_added]
  rfl

theorem runAction_duplicate {pp : Path} {pn : Node}
    (hp : ctx.parent = some pp) (hn : ctx.cfg.root.get? pp = some pn)
    (hadd : pn.add ctx.cfg.destructor (ctx.cfg.opt OPT_ALLOW_OVERRIDES) (some v.sval) T_NONE = none) :
    runAction .settingName ctx v l f =
      .abort (({ ctx with setting := none } : ParseCtx).yyerror l Generated.ERR_DUPLICATE_SETTING) := by
  simp only [runAction, ParseCtx.nodeAt, hp, hn, hadd]

theorem actAggStart_opened {ty : Nat} {pp : Path} {pn pn' : Node} {i : Nat} {log : List Nat}
    (hin : ctx.inTy T_LIST = true) (hp : ctx.parent = some pp)
    (hn : ctx.cfg.root.get? pp = some pn)
    (hadd : pn.add ctx.cfg.destructor (ctx.cfg.opt OPT_ALLOW_OVERRIDES) none ty = some (pn', i, log)) :
    actAggStart ctx ty l f =
      .ok { (ctx.modify pp fun _ => pn'.editKid i (cap l f)) with
        parent := some (pp ++ [i]), log := ctx.log ++ log } := by
  simp only [actAggStart, hin, if_true, ParseCtx.nodeAt, hp, hn, hadd, capture_added]
  rfl

theorem actAggStart_retyped {ty : Nat} {sp : Path} {n : Node} (hin : ctx.inTy T_LIST = false)
    (hs : ctx.setting = some sp) (hn : ctx.cfg.root.get? sp = some n) :
    actAggStart ctx ty l f =
      .ok { (ctx.modify sp fun n => { n with ty := ty }) with parent := some sp, setting := none } := by
  simp [actAggStart, hin, hs, hn]

variable {setter : Node → Option Node} {ty : Nat} {fmt : Option Nat} {e : Bytes}

theorem actValue_elem {pp : Path} {pn pn' : Node} {i : Nat}
    (hin : (ctx.inTy T_ARRAY || ctx.inTy T_LIST) = true) (hp : ctx.parent = some pp)
    (hn : ctx.cfg.root.get? pp = some pn) (hse : pn.setElem setter ty (-1) = some (pn', i)) :
    actValue ctx setter ty fmt l f e =
      .ok (ctx.modify pp fun _ => pn'.editKid i fun x => cap l f (setFmtF fmt x)) := by
  simp only [actValue_eq, hin, if_true, ParseCtx.nodeAt, hp, hn, hse, capture_elem]

theorem actValue_mismatch {pp : Path} {pn : Node}
    (hin : (ctx.inTy T_ARRAY || ctx.inTy T_LIST) = true) (hp : ctx.parent = some pp)
    (hn : ctx.cfg.root.get? pp = some pn) (hse : pn.setElem setter ty (-1) = none) :
    actValue ctx setter ty fmt l f e = .abort (ctx.yyerror l e) := by
  simp only [actValue_eq, hin, if_true, ParseCtx.nodeAt, hp, hn, hse]

theorem actValue_assigned {sp : Path} {n : Node}
    (hin : (ctx.inTy T_ARRAY || ctx.inTy T_LIST) = false) (hs : ctx.setting = some sp)
    (hn : ctx.cfg.root.get? sp = some n) :
    actValue ctx setter ty fmt l f e =
      .ok (ctx.modify sp fun n => setFmtF fmt ((setter n).getD n)) := by
  simp [actValue_eq, hin, hs, hn]

end

/-! ### every run of an action is one of the outcomes -/

theorem runAction_effect (ctx : ParseCtx) (v : TokVal) (l : Nat) (f : Option Bytes)
    (act : ParseAct) : ActEffect ctx v l f act (runAction act ctx v l f) := by
  have crash : ctx.taken act = ctx → ActEffect ctx v l f act (.crash ctx) := fun h => by
    have := ActEffect.crash (ctx := ctx) (v := v) (l := l) (f := f) (act := act)
    rwa [h] at this
  cases hσ : valueSpec ctx v act with
  | some σ =>
    rw [runAction_value ctx v l f hσ, actValue_eq]
    simp only [taken_parent, taken_setting, taken_cfg, taken_inTy, taken_nodeAt]
    split
    · rename_i hin
      split
      · rename_i pp pn hpp hpn
        split
        · exact .mismatch hσ hin hpp (nodeAt_some hpp hpn) ‹_›
        · rw [capture_elem]
          exact .elem hσ hin hpp (nodeAt_some hpp hpn) ‹_›
      · exact .crash
    · rename_i hin
      split
      · rename_i sp hsp
        split
        · rename_i hsome
          obtain ⟨n, hn⟩ := Option.isSome_iff_exists.mp hsome
          exact .assigned hσ (by simpa using hin) hsp hn
        · exact .crash
      · exact .crash
  | none =>
    have ht := taken_of_not_value ctx v hσ
    cases hty : aggTy act with
    | some ty =>
      rw [runAction_agg ctx v l f hty]
      unfold actAggStart
      split
      · rename_i hin
        split
        · rename_i pp pn hpp hpn
          split
          · dsimp only
            rw [capture_added]
            exact .opened hty hin hpp (nodeAt_some hpp hpn) ‹_›
          · exact crash ht
        · exact crash ht
      · rename_i hin
        split
        · rename_i sp hsp
          split
          · rename_i hsome
            obtain ⟨n, hn⟩ := Option.isSome_iff_exists.mp hsome
            exact .retyped hty (by simpa using hin) hsp hn
          · exact crash ht
        · exact crash ht
    | none =>
      cases act
      case none => exact .skip
      case stringFirst => exact .piece (.inl rfl)
      case stringNext => exact .piece (.inr rfl)
      case unknown => exact crash ht
      case aggEnd =>
        rw [runAction_aggEnd]
        exact .ascend
      case settingName =>
        simp only [runAction]
        split
        · rename_i pp pn hpp hpn
          split
          · rw [capture_added]
            exact .named hpp (nodeAt_some hpp hpn) ‹_›
          · rename_i hadd
            refine .duplicate fun pp' pn' hpp' hpn' => ?_
            cases hpp.symm.trans hpp'
            cases (nodeAt_some hpp hpn).symm.trans hpn'
            exact hadd
        · rename_i hno
          exact .duplicate fun pp' pn' hpp' hpn' => (hno pp' pn' hpp' (by rw [hpp']; exact hpn')).elim
      all_goals first | (cases hσ; done) | (cases hty; done)

/-! ### what the semantic actions write -/

/-- a configuration without what a semantic action may write: the tree, and the text and line
of the error record -/
def actKept (c : Config) : Config := { c with root := default, errText := none, errLine := 0 }

/-- … and without the error file, which a failing `@include` sets as well -/
def parseKept (c : Config) : Config := { actKept c with errFile := none }

/-- `k'` comes from `k` by what a semantic action may do to the configuration: write the tree,
and record one of `texts` as the error message -/
structure ActFrame (texts : List Bytes) (k k' : Config) : Prop where
  kept : actKept k' = actKept k
  text : k'.errText = k.errText ∨ ∃ t ∈ texts, k'.errText = some t

theorem ActFrame.errFile {texts : List Bytes} {k k' : Config} (h : ActFrame texts k k') :
    k'.errFile = k.errFile := (congrArg Config.errFile h.kept :)

theorem yyerror_frame {texts : List Bytes} (c : ParseCtx) (line : Nat) {text : Bytes}
    (h : text ∈ texts) : ActFrame texts c.cfg (c.yyerror line text).cfg := by
  unfold ParseCtx.yyerror
  split
  · exact ⟨rfl, .inl rfl⟩
  · exact ⟨rfl, .inr ⟨text, h, rfl⟩⟩

theorem runAction_frame (act : ParseAct) (c : ParseCtx) (v : TokVal) (line : Nat)
    (file : Option Bytes) :
    ActFrame [Generated.ERR_DUPLICATE_SETTING, Generated.ERR_ARRAY_ELEM_TYPE] c.cfg
      (actCtx (runAction act c v line file)).cfg := by
  have h := runAction_effect c v line file act
  generalize runAction act c v line file = out at h
  cases h with
  | duplicate => exact yyerror_frame { c with setting := none } _ (.head _)
  | mismatch => exact yyerror_frame (c.taken act) _ (.tail _ (.head _))
  | _ => exact ⟨rfl, .inl rfl⟩

theorem loopRel_parseKept : LoopRel fun c c' => parseKept c'.cfg = parseKept c.cfg where
  refl := fun _ => rfl
  trans := fun h1 h2 => h2.trans h1
  yyerror := fun c line text =>
    congrArg (fun k : Config => { k with errFile := none })
      (yyerror_frame (texts := [text]) c line (.head _)).kept
  act := fun a c v line file =>
    congrArg (fun k : Config => { k with errFile := none }) (runAction_frame a c v line file).kept
  incl := fun _ _ _ _ => rfl

theorem yyparse_kept (E : ParserEnv) (fuel : Nat) (s : ScanState) (ctx : ParseCtx) :
    parseKept (yyparse E fuel s ctx).2.1.cfg = parseKept ctx.cfg :=
  yyparseLoop_rel loopRel_parseKept E fuel _ _ s ctx

end Libconfig
