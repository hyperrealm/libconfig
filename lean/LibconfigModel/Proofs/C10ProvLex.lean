import LibconfigModel.Proofs.C09LineLex
/-
  C10P (provenance of the tree), the scanner's side of "the scan state right after a token": a
  token is always returned by the iteration of `yylex` that matched its (last) lexeme, and that
  iteration neither pushes nor pops an include frame: the state recorded with a token has the
  include stack — hence the current file — of the buffer the lexeme was matched in, that buffer
  with the lexeme consumed, and its line counter advanced over the lexeme.  (Buffer switches —
  a directive, the end of an included file — happen in iterations that return no token.)
-/
namespace Libconfig.C10Prov
open Libconfig

/-- `s'` is `sm` with the lexeme matched at the head of its buffer consumed — the same include
stack and top-level file, hence the same current file; the buffer's rest behind the lexeme; the
line counter advanced by the newlines of the lexeme (if its rule can match one) -/
def ConsumedFrom (T : FlexTables) (sm s' : ScanState) : Prop :=
  ∃ rule len, Flex.next T sm.sc sm.buf.bol sm.buf.rest = some (rule, len) ∧
    s'.stack = sm.stack ∧ s'.topFile = sm.topFile ∧
    s'.buf.rest = sm.buf.rest.drop len ∧
    s'.buf.lineno =
      (if T.canMatchEol.getN rule != 0 then sm.buf.lineno + countNl (sm.buf.rest.take len)
       else sm.buf.lineno)

theorem ConsumedFrom.currentFilename {T : FlexTables} {sm s' : ScanState}
    (h : ConsumedFrom T sm s') : s'.currentFilename = sm.currentFilename := by
  obtain ⟨_, _, _, h1, h2, _⟩ := h
  unfold ScanState.currentFilename
  rw [h1, h2]

/-- **a token is returned from the buffer that is current in the state recorded with it** -/
theorem yylex_tok_last {T : FlexTables} {acts : List ScanAct} {w : World} {ic : IncludeCfg}
    {fuel : Nat} {s s' : ScanState} {t : Nat} {v : TokVal}
    (h : yylex T acts w ic fuel s = (s', .tok t v)) : ∃ sm, ConsumedFrom T sm s' := by
  have := yylex_last (T := T) (acts := acts) (w := w) (ic := ic)
    (Q := fun out => ∀ t v, out.2 = .tok t v → ∃ sm, ConsumedFrom T sm out.1)
    (fun _ _ _ h => nomatch h) (fun s s' o he t v ho => by
      subst ho
      rcases he.ret with e | ⟨_, _, e⟩ | ⟨rule, len, hn, ha⟩
      · cases e
      · cases e
      · have hf := actOut_frame ha
        generalize s'.sc = sc, s'.str = str at hf
        subst hf
        exact ⟨s, rule, len, hn, rfl, rfl, rfl, by simp only [advance]⟩) fuel s
  rw [h] at this
  exact this t v rfl

end Libconfig.C10Prov
