import LibconfigModel.Proofs.C01IdemLog
/-
  C01 idempotence (scientific notation) — the digits / exponent pair of `%.{p}g` (`C01P.gDX`):
  `10^(p-1) ≤ d < 10^p`, the exponent is within the range of doubles, and `d·10^(x-p+1)` is the
  magnitude rounded (half-even) to the grid of spacing `10^(x0-p+1)`.
-/
namespace Libconfig.C01I
open Libconfig F64 C01P C01L
open Libconfig.F64R

/-! ### the magnitude of a finite double as a ratio -/

/-- the ratio `fmtG` works with -/
def ratOf (b : Nat) : Nat × Nat :=
  if expo b ≥ 0 then (mant b * 2 ^ (expo b).toNat, 1) else (mant b, 2 ^ ((-expo b).toNat))

/-- the facts about `ratOf` the analysis needs -/
theorem ratOf_spec (b : Nat) (hfin : isFinite b = true) (hm : mant b ≠ 0) :
    0 < (ratOf b).1 ∧ 0 < (ratOf b).2 ∧
    (ratOf b).1 * 2 ^ 1074 = sMag b * (ratOf b).2 ∧
    -1080 ≤ (bitLen (ratOf b).1 : Int) - (bitLen (ratOf b).2 : Int) ∧
    (bitLen (ratOf b).1 : Int) - (bitLen (ratOf b).2 : Int) < 1040 := by
  have he1 := expo_ge b
  have he2 := expo_le b hfin
  have hml := mant_lt b
  have hmp : 0 < mant b := by omega
  unfold ratOf sMag
  by_cases he : expo b ≥ 0
  · rw [if_pos he]
    simp only []
    have hE : (expo b + 1074).toNat = (expo b).toNat + 1074 := by omega
    have hnum : 0 < mant b * 2 ^ (expo b).toNat := Nat.mul_pos hmp (Nat.two_pow_pos _)
    have hbl : bitLen (mant b * 2 ^ (expo b).toNat) ≤ 53 + (expo b).toNat := by
      apply bitLen_le_of_lt
      rw [Nat.pow_add]
      exact Nat.mul_lt_mul_of_pos_right hml (Nat.two_pow_pos _)
    have hb1 := bitLen_pos _ hnum
    refine ⟨hnum, by decide, ?_, ?_, ?_⟩
    · rw [hE, Nat.pow_add, Nat.mul_one, Nat.mul_assoc]
    · rw [bitLen_one]; omega
    · rw [bitLen_one]; omega
  · rw [if_neg he]
    simp only []
    have hE : 1074 = (expo b + 1074).toNat + (-expo b).toNat := by omega
    have hbl : bitLen (mant b) ≤ 53 := bitLen_le_of_lt _ _ hml
    have hb1 := bitLen_pos _ hmp
    refine ⟨hmp, Nat.two_pow_pos _, ?_, ?_, ?_⟩
    · rw [Nat.mul_assoc, ← Nat.pow_add, ← hE]
    · rw [bitLen_pow]; omega
    · rw [bitLen_pow]; omega

/-! ### the decimal exponent and the rounded quotient -/

/-- `round-half-even(num/den / 10^sh)` as `fmtG` computes it -/
def gD0 (num den : Nat) (sh : Int) : Nat :=
  if sh ≥ 0 then divRoundEven num (den * 10 ^ sh.toNat) else divRoundEven (num * 10 ^ ((-sh).toNat)) den

theorem gD0_eq (num den : Nat) (sh : Int) :
    gD0 num den sh = divRoundEven (num * 10 ^ (-sh).toNat) (den * 10 ^ sh.toNat) := by
  unfold gD0
  by_cases h : sh ≥ 0
  · rw [if_pos h, show (-sh).toNat = 0 by omega, Nat.pow_zero, Nat.mul_one]
  · rw [if_neg h, show sh.toNat = 0 by omega, Nat.pow_zero, Nat.mul_one]

/-- `x0`, the decimal exponent of the magnitude itself -/
def gX0 (b : Nat) : Int := floorLog10 (ratOf b).1 (ratOf b).2

/-- the scale of the digits: `sh = x0 - P + 1` -/
def gSh (b P : Nat) : Int := gX0 b - (P : Int) + 1

/-- the rounded quotient `d0 = round-half-even(|b| / 10^sh)` -/
def gQ (b P : Nat) : Nat := gD0 (ratOf b).1 (ratOf b).2 (gSh b P)

theorem gDX_eq (b P : Nat) :
    gDX b P = (if gQ b P ≥ 10 ^ P then (gQ b P / 10, gX0 b + 1) else (gQ b P, gX0 b)) := by
  unfold gDX gQ gSh gX0 ratOf gD0
  by_cases he : expo b ≥ 0
  · simp only [he, if_true]
  · simp only [he, if_false]

/-- comparing the ratio `fmtG` works with is comparing the magnitude `sMag b / 2^1074` -/
theorem LeP_sMag (b : Nat) (hfin : isFinite b = true) (hm : mant b ≠ 0) (a : Int) :
    LeP (ratOf b).2 (ratOf b).1 a ↔ LeP (2 ^ 1074) (sMag b) a := by
  obtain ⟨hn, hd, hr, -, -⟩ := ratOf_spec b hfin hm
  have hS := (sMag_pos_iff b).mpr hm
  unfold LeP
  rw [Nat.mul_comm (ratOf b).2, Nat.mul_comm (ratOf b).1, Nat.mul_comm (2 ^ 1074), Nat.mul_comm (sMag b)]
  exact le_iff_of_ratio hn hS (by rw [Nat.mul_comm, ← hr, Nat.mul_comm]) _ _

/-- `10^x0 ≤ |b| < 10^(x0+1)`, and the range of `x0` -/
theorem gX0_spec (b : Nat) (hfin : isFinite b = true) (hm : mant b ≠ 0) :
    LeP (2 ^ 1074) (sMag b) (gX0 b) ∧ LtP (2 ^ 1074) (sMag b) (gX0 b + 1) ∧
      -330 ≤ gX0 b ∧ gX0 b ≤ 320 := by
  obtain ⟨hn, hd, -, hB1, hB2⟩ := ratOf_spec b hfin hm
  obtain ⟨hlo, hhi, hx1, hx2⟩ := floorLog10_spec _ _ hn hd hB1 hB2
  unfold estB at hx1 hx2
  exact ⟨(LeP_sMag b hfin hm _).mp hlo,
    Nat.not_le.mp (fun h => Nat.not_le.mpr hhi ((LeP_sMag b hfin hm _).mpr h)),
    by unfold gX0; omega, by unfold gX0; omega⟩

/-- the rounded quotient, in terms of the magnitude -/
theorem gQ_eq (b P : Nat) (hfin : isFinite b = true) (hm : mant b ≠ 0) :
    gQ b P = divRoundEven (sMag b * 10 ^ (-gSh b P).toNat) (2 ^ 1074 * 10 ^ (gSh b P).toNat) := by
  obtain ⟨-, hd, hr, -, -⟩ := ratOf_spec b hfin hm
  unfold gQ
  rw [gD0_eq]
  refine dre_congr _ _ _ _ (Nat.mul_pos hd (pow10_pos _)) (Nat.mul_pos (Nat.two_pow_pos 1074) (pow10_pos _)) ?_
  rw [Nat.mul_mul_mul_comm, hr, Nat.mul_mul_mul_comm]

/-- the quotient `|b| / 10^sh` lies in `[10^(P-1), 10^P)`, and so its rounding in
`[10^(P-1), 10^P]` -/
theorem gQ_spec (b P : Nat) (hfin : isFinite b = true) (hm : mant b ≠ 0) (hP : 1 ≤ P) :
    LeP (10 ^ (P - 1) * 2 ^ 1074) (sMag b) (gSh b P) ∧
      LtP (10 ^ P * 2 ^ 1074) (sMag b) (gSh b P) ∧ 10 ^ (P - 1) ≤ gQ b P ∧ gQ b P ≤ 10 ^ P := by
  obtain ⟨hlo, hhi, -, -⟩ := gX0_spec b hfin hm
  have hL := (LeP_shift _ _ (gX0 b) (gSh b P) (P - 1) (by unfold gSh; omega)).mp hlo
  have hU := (LtP_shift _ _ (gX0 b + 1) (gSh b P) P (by unfold gSh; omega)).mp hhi
  have hdpos : 0 < 2 ^ 1074 * 10 ^ (gSh b P).toNat := Nat.mul_pos (Nat.two_pow_pos 1074) (pow10_pos _)
  rw [gQ_eq b P hfin hm]
  exact ⟨hL, hU, dre_ge_of _ _ _ hdpos (by rw [← Nat.mul_assoc]; exact hL),
    dre_le_of _ _ _ (by rw [← Nat.mul_assoc]; exact hU)⟩

/-- the digits `d` and the exponent `x`: `d` has `P` digits, `x` is `x0` or (after a carry)
`x0 + 1`, and `d·10^(x−x0)` is the rounded quotient -/
theorem gDX_spec (b P : Nat) (hfin : isFinite b = true) (hm : mant b ≠ 0) (hP : 1 ≤ P) :
    10 ^ (P - 1) ≤ (gDX b P).1 ∧ (gDX b P).1 < 10 ^ P ∧
      ((gDX b P).2 = gX0 b ∨ (gDX b P).2 = gX0 b + 1) ∧
      (gDX b P).1 * 10 ^ ((gDX b P).2 - gX0 b).toNat = gQ b P := by
  obtain ⟨-, -, hge, hle⟩ := gQ_spec b P hfin hm hP
  have hpp : 10 ^ (P - 1) * 10 = 10 ^ P := by
    rw [← Nat.pow_succ]; congr 1; omega
  have hpos : 0 < 10 ^ (P - 1) := pow10_pos _
  rw [gDX_eq]
  by_cases hc : gQ b P ≥ 10 ^ P
  · rw [if_pos hc, Nat.le_antisymm hle hc]
    dsimp only
    rw [← hpp, Nat.mul_div_cancel _ (by decide : 0 < 10), show (gX0 b + 1 - gX0 b).toNat = 1 by omega]
    exact ⟨Nat.le_refl _, by omega, .inr rfl, rfl⟩
  · rw [if_neg hc]
    dsimp only
    exact ⟨hge, Nat.lt_of_not_le hc, .inl rfl, by rw [Int.sub_self]; exact Nat.mul_one _⟩

end Libconfig.C01I
