import LibconfigModel.Proofs.C01LexTok
import LibconfigModel.RoundTrip
import LibconfigModel.Proofs.ScannerStep
/-
  C01L — one iteration of the `yylex` loop on a buffer that starts with a lexeme:
  the matcher selects the lexeme's rule (Proofs/C01LexTok.lean) and the rule's action does the rest
  (`LexEffect.act` of Proofs/ScannerStep.lean).
-/
namespace Libconfig.C01L
open Flex

abbrev acts : List ScanAct := Generated.scanActions

/-- the token an action returns, if it returns one, as what the iteration returns -/
abbrev tokOut (o : Option (Nat × TokVal)) : Option LexOut := o.map fun tv => .tok tv.1 tv.2

section
variable (w : World) (ic : IncludeCfg)

/-! ### between two tokens -/

/-- the fields of the scan state that lexing a buffer without includes never touches:
`topFile`, `filenames`, `events` -/
abbrev Ctx := Option Bytes × List Bytes × List IOEvent

/-- the scanner is between two tokens of the top-level buffer, `rest` is what remains; `K` are
the untouched fields -/
structure Ready (K : Ctx) (s : ScanState) (rest : Bytes) : Prop where
  sc : s.sc = 0
  str : s.str = []
  stack : s.stack = []
  rest : s.buf.rest = rest
  ctx : (s.topFile, s.filenames, s.events) = K

variable {K : Ctx}

theorem Ready.adv {s : ScanState} {pre rest : Bytes} (h : Ready K s (pre ++ rest)) (rule : Nat) :
    Ready K (advance T s rule pre.length) rest :=
  ⟨h.sc, h.str, h.stack, by rw [advance_rest, h.rest, List.drop_left], h.ctx⟩

/-- **a lexeme at the head of the buffer**, in any start condition: the iteration runs the action
of the lexeme's rule on the lexeme -/
theorem yylex_lexeme {sc : Nat} {b rest : Bytes} {r : Nat} {follow : Nat → Bool} {s : ScanState}
    (hl : LexemeAt sc b r follow) (hf : FollowOK follow rest) (hsc : s.sc = sc)
    (hs : s.buf.rest = b ++ rest)
    {s' : ScanState} {o : Option (Nat × TokVal)}
    (ha : actOut (acts.getD r .unknown) (advance T s r b.length) b = some (s', tokOut o)) (f : Nat) :
    yylex T acts w ic (f + 1) s =
      (match (generalizing := false) o with
       | none => yylex T acts w ic f s'
       | some tv => (s', .tok tv.1 tv.2)) := by
  rw [(LexEffect.act (hsc ▸ hs ▸ hl.next _ rest hf) (by rw [hs, List.take_left]; exact ha)).eq f]
  cases o <;> rfl

end
end Libconfig.C01L
