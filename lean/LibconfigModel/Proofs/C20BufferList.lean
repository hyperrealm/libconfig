import LibconfigModel.FlexBuffer
/-
  C20B helpers: the memory primitives of `FlexBuffer.lean` (`moveFront`,
  `copyLoop`, `writeAt`, `resize`, the sentinel stores) described index by index, and the
  fact that the forward byte loop of `yy_get_next_buffer` is a correct overlapping move.
-/
namespace Libconfig.C20BP

open Libconfig Libconfig.FlexBuffer

/-! ### slices -/

/-- `n` bytes from offset `lo` -/
def slice (ch : Bytes) (lo n : Nat) : Bytes := (ch.drop lo).take n

theorem getElem?_slice (ch : Bytes) (lo n i : Nat) :
    (slice ch lo n)[i]? = if i < n then ch[lo + i]? else none := by
  simp [slice, List.getElem?_take, List.getElem?_drop]

theorem length_slice (ch : Bytes) (lo n : Nat) (h : lo + n ≤ ch.length) :
    (slice ch lo n).length = n := by
  simp only [slice, List.length_take, List.length_drop]; omega

theorem slice_zero_eq_take (ch : Bytes) (n : Nat) : slice ch 0 n = ch.take n := by
  simp [slice]

/-- a slice is determined by the bytes at its indices -/
theorem slice_congr (a b : Bytes) (la lb n : Nat)
    (h : ∀ i, i < n → a[la + i]? = b[lb + i]?) : slice a la n = slice b lb n := by
  apply List.ext_getElem?
  intro i
  rw [getElem?_slice, getElem?_slice]
  split
  · exact h i ‹_›
  · rfl

theorem slice_append (ch : Bytes) (lo n m : Nat) :
    slice ch lo (n + m) = slice ch lo n ++ slice ch (lo + n) m := by
  simp only [slice, List.take_add, List.drop_drop]

theorem slice_drop_eq (ch : Bytes) (lo n : Nat) :
    slice ch lo n ++ ch.drop (lo + n) = ch.drop lo := by
  have : ch.drop (lo + n) = (ch.drop lo).drop n := by rw [List.drop_drop]
  rw [this, slice, List.take_append_drop]

/-! ### `moveFront` and the byte loop -/

theorem length_moveFront (ch : Bytes) (src n : Nat) (h : src + n ≤ ch.length) :
    (moveFront ch src n).length = ch.length := by
  simp only [moveFront, List.length_append, List.length_take, List.length_drop]; omega

theorem getElem?_moveFront (ch : Bytes) (src n i : Nat) (h : src + n ≤ ch.length) :
    (moveFront ch src n)[i]? = if i < n then ch[src + i]? else ch[i]? := by
  have hl : ((ch.drop src).take n).length = n := by
    simp only [List.length_take, List.length_drop]; omega
  simp only [moveFront, List.getElem?_append, hl, List.getElem?_take, List.getElem?_drop]
  by_cases h1 : i < n
  · simp [h1]
  · simp only [h1, ↓reduceIte]; congr 1; omega

/-- what `for ( i = 0; i < n; ++i ) *(dest++) = *(source++)` leaves in memory when the
destination is not above the source (the regions may overlap) -/
theorem getElem?_copyLoop (n dst src : Nat) (ch : Bytes) (i : Nat)
    (hds : dst ≤ src) (hb : src + n ≤ ch.length) :
    (copyLoop n dst src ch)[i]? =
      if dst ≤ i ∧ i < dst + n then ch[src + (i - dst)]? else ch[i]? := by
  induction n generalizing dst src ch with
  | zero =>
    simp only [copyLoop]
    rw [if_neg (by omega)]
  | succ n ih =>
    simp only [copyLoop]
    rw [ih (dst + 1) (src + 1) _ (by omega) (by rw [List.length_set]; omega)]
    have hsrc : ch.getD src 0 = ch[src]'(by omega) := by
      rw [List.getD_eq_getElem?_getD, List.getElem?_eq_getElem (by omega)]; rfl
    by_cases h1 : dst + 1 ≤ i ∧ i < dst + 1 + n
    · rw [if_pos h1, if_pos (by omega), List.getElem?_set_ne (by omega)]
      congr 1; omega
    · rw [if_neg h1]
      by_cases h2 : i = dst
      · subst h2
        rw [if_pos (by omega), List.getElem?_set_self (by omega), hsrc, Nat.sub_self,
          Nat.add_zero, List.getElem?_eq_getElem (by omega)]
      · rw [List.getElem?_set_ne (by omega), if_neg (by omega)]

theorem length_copyLoop (n dst src : Nat) (ch : Bytes) :
    (copyLoop n dst src ch).length = ch.length := by
  induction n generalizing dst src ch with
  | zero => rfl
  | succ n ih => simp only [copyLoop]; rw [ih, List.length_set]

/-- The byte loop of `yy_get_next_buffer` (`dest = &yy_ch_buf[0]`, `source = yytext_ptr`)
computes `moveFront`. -/
theorem copyLoop_eq_moveFront (ch : Bytes) (src n : Nat) (h : src + n ≤ ch.length) :
    copyLoop n 0 src ch = moveFront ch src n := by
  apply List.ext_getElem?
  intro i
  rw [getElem?_copyLoop n 0 src ch i (Nat.zero_le _) h, getElem?_moveFront ch src n i h]
  by_cases h1 : i < n
  · rw [if_pos (by omega), if_pos h1, Nat.sub_zero]
  · rw [if_neg (by omega), if_neg h1]

/-! ### `writeAt` -/

theorem length_writeAt (ch : Bytes) (pos : Nat) (data : Bytes) (h : pos + data.length ≤ ch.length) :
    (writeAt ch pos data).length = ch.length := by
  simp only [writeAt, List.length_append, List.length_take, List.length_drop]; omega

theorem getElem?_writeAt (ch : Bytes) (pos : Nat) (data : Bytes) (i : Nat)
    (h : pos + data.length ≤ ch.length) :
    (writeAt ch pos data)[i]? =
      if i < pos then ch[i]? else if i < pos + data.length then data[i - pos]? else ch[i]? := by
  have hl : (ch.take pos).length = pos := by rw [List.length_take]; omega
  simp only [writeAt, List.getElem?_append, List.length_append, hl, List.getElem?_take,
    List.getElem?_drop]
  by_cases h1 : i < pos
  · simp [h1, show i < pos + data.length by omega]
  · by_cases h2 : i < pos + data.length
    · simp [h1, h2, show i - pos < data.length by omega]
    · simp only [h1, h2, ↓reduceIte]
      congr 1; omega

/-! ### `resize` -/

theorem length_resize (junk : Nat) (ch : Bytes) (n : Nat) : (resize junk ch n).length = n := by
  simp only [resize, List.length_append, List.length_take, List.length_replicate]; omega

/-- growing keeps the old contents -/
theorem getElem?_resize (junk : Nat) (ch : Bytes) (n i : Nat) (h : ch.length ≤ n)
    (hi : i < ch.length) : (resize junk ch n)[i]? = ch[i]? := by
  have hl : (ch.take n).length = ch.length := by rw [List.length_take]; omega
  simp only [resize, List.getElem?_append, hl, hi, ↓reduceIte, List.getElem?_take]
  rw [if_pos (by omega)]

/-! ### the sentinels -/

theorem length_set2 (ch : Bytes) (n : Nat) : ((ch.set n 0).set (n + 1) 0).length = ch.length := by
  simp

theorem getElem?_set2 (ch : Bytes) (n i : Nat) (h : n + 1 < ch.length) :
    ((ch.set n 0).set (n + 1) 0)[i]? = if i = n ∨ i = n + 1 then some 0 else ch[i]? := by
  simp only [List.getElem?_set, List.length_set]
  by_cases h1 : i = n + 1
  · subst h1; simp [h]
  · by_cases h2 : i = n
    · subst h2; simp [show i < ch.length by omega]
    · rw [if_neg (by omega), if_neg (by omega), if_neg (by omega)]

/-- storing what is already there (the hold character dance) -/
theorem set_getD_self (ch : Bytes) (p v d : Nat) (h : p < ch.length) :
    (ch.set p v).set p (ch.getD p d) = ch := by
  apply List.ext_getElem?
  intro i
  rw [List.set_set, List.getElem?_set]
  by_cases h1 : p = i
  · subst h1
    rw [if_pos rfl, if_pos h, List.getD_eq_getElem?_getD, List.getElem?_eq_getElem h]; rfl
  · rw [if_neg h1]


/-! ### comparing long byte lists in the kernel -/

/-- equality test that the kernel evaluates without deep recursion -/
def beqBytes : Bytes → Bytes → Bool
  | [], [] => true
  | a :: as, b :: bs =>
    match Nat.beq a b with
    | true => beqBytes as bs
    | false => false
  | _, _ => false

theorem beqBytes_eq : ∀ (a b : Bytes), beqBytes a b = true → a = b
  | [], [], _ => rfl
  | [], _ :: _, h => by simp [beqBytes] at h
  | _ :: _, [], h => by simp [beqBytes] at h
  | a :: as, b :: bs, h => by
    unfold beqBytes at h
    split at h
    · rename_i hab
      rw [Nat.eq_of_beq_eq_true hab, beqBytes_eq as bs h]
    · exact absurd h (by simp)

theorem beqBytes_self : ∀ a : Bytes, beqBytes a a = true
  | [] => rfl
  | a :: as => by simp only [beqBytes, Nat.beq_refl, beqBytes_self as]

end Libconfig.C20BP
