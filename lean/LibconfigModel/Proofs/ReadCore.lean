import LibconfigModel.Read
import LibconfigModel.Proofs.ParserLoop
/-
  What `readCore` is made of: the configuration it prepares (`prep`, `start`), the parse
  (`parseOf`) and what it makes of the outcome (`finish`, `C03T.outOf`).  A property of a read is a
  property of the parse carried through `finish`; the three entry points differ from `readCore`
  only by a file that does not open and by the events around one that does (`read_ind`).
-/
namespace Libconfig.C09P

open Libconfig

/-! ### `readCore` as a function of the prepared configuration -/

/-- the configuration `readCore` starts the parse from: error record reset, tree and
file-name vector cleared -/
def prep (c : Config) : Config := ((c.setError ERR_NONE none).clear).1

/-- the configuration handed to the parser -/
def start (c : Config) (filename : Option Bytes) : Config :=
  { prep c with root := { (prep c).root with file := filename } }

/-- the scan state the parse starts from; `C10.scanStart` (Properties/C10Splice.lean) and, for no
file name, `C01Lex.initScan` (Properties/C01Lex.lean) spell the same state in their statements -/
def scan0 (filename : Option Bytes) (inp : Bytes) : ScanState :=
  { buf := { rest := inp }, topFile := filename,
    filenames := match filename with | some f => [f] | none => [] }

def parseOf (w : World) (c0 : Config) (filename : Option Bytes) (inp : Bytes) (fuel : Nat) :
    ScanState × ParseCtx × ParseResult :=
  yyparse (theEnv w c0 fuel) fuel (scan0 filename inp) { cfg := c0 }

def finish (p : ScanState × ParseCtx × ParseResult) : Config :=
  let c := p.2.1.cfg
  let c := if p.2.2 != .accept then { c with errFile := p.1.currentFilename, errType := ERR_PARSE } else c
  { c with filenames := p.1.filenames }

/-- what `readCore` makes of the outcome of the parse.  Its full name is `Libconfig.C03T.outOf`,
whatever namespace is open here: `C09P.outOf` does not exist. -/
def _root_.Libconfig.C03T.outOf (c : Config) (p : ScanState × ParseCtx × ParseResult) : ReadOut :=
  let log0 := ((c.setError ERR_NONE none).clear).2
  let unwind : List IOEvent := p.1.stack.flatMap fun f =>
    (match f.files[f.cur]? with | some p => [IOEvent.fclose p] | none => []) ++ [IOEvent.delBuf]
  { cfg := finish p, ok := p.2.2 == .accept, result := p.2.2, dtorLog := log0 ++ p.2.1.log,
    events := p.1.events ++ unwind }

theorem readCore_eq (w : World) (c : Config) (filename : Option Bytes) (inp : Bytes) (fuel : Nat) :
    readCore w c filename inp fuel =
      C03T.outOf c (parseOf w (start c filename) filename inp fuel) := by
  -- at the default transparency the unifier needs twenty times as long for this `rfl`
  with_unfolding_all rfl

theorem readCore_cfg (w : World) (c : Config) (filename : Option Bytes) (inp : Bytes) (fuel : Nat) :
    (readCore w c filename inp fuel).cfg = finish (parseOf w (start c filename) filename inp fuel) :=
  congrArg ReadOut.cfg (readCore_eq ..)

theorem readCore_result (w : World) (c : Config) (filename : Option Bytes) (inp : Bytes) (fuel : Nat) :
    (readCore w c filename inp fuel).result = (parseOf w (start c filename) filename inp fuel).2.2 :=
  congrArg ReadOut.result (readCore_eq ..)

theorem readCore_ok (w : World) (c : Config) (filename : Option Bytes) (inp : Bytes) (fuel : Nat) :
    (readCore w c filename inp fuel).ok =
      ((parseOf w (start c filename) filename inp fuel).2.2 == .accept) :=
  congrArg ReadOut.ok (readCore_eq ..)

theorem readCore_dtorLog (w : World) (c : Config) (filename : Option Bytes) (inp : Bytes)
    (fuel : Nat) :
    (readCore w c filename inp fuel).dtorLog =
      ((c.setError ERR_NONE none).clear).2 ++
        (parseOf w (start c filename) filename inp fuel).2.1.log :=
  congrArg ReadOut.dtorLog (readCore_eq ..)

theorem readCore_events (w : World) (c : Config) (filename : Option Bytes) (inp : Bytes)
    (fuel : Nat) :
    (readCore w c filename inp fuel).events =
      (parseOf w (start c filename) filename inp fuel).1.events ++
        (parseOf w (start c filename) filename inp fuel).1.stack.flatMap fun f =>
          closeEv f ++ [IOEvent.delBuf] :=
  congrArg ReadOut.events (readCore_eq ..)

theorem start_root (c : Config) (filename : Option Bytes) :
    (start c filename).root = { ty := T_GROUP, file := filename } := rfl

theorem finish_errText (p : ScanState × ParseCtx × ParseResult) :
    (finish p).errText = p.2.1.cfg.errText := by
  unfold finish; extract_lets c c'; simp only [c']; split <;> rfl

theorem finish_filenames (p : ScanState × ParseCtx × ParseResult) :
    (finish p).filenames = p.1.filenames := rfl

theorem finish_errType (p : ScanState × ParseCtx × ParseResult) :
    (finish p).errType = if p.2.2 = .accept then p.2.1.cfg.errType else ERR_PARSE := by
  unfold finish; extract_lets c c'; simp only [c']
  by_cases h : p.2.2 = .accept <;> simp [h, c]

theorem finish_errFile (p : ScanState × ParseCtx × ParseResult) (h : p.2.2 ≠ .accept) :
    (finish p).errFile = p.1.currentFilename := by
  unfold finish; extract_lets c c'; simp only [c']
  simp [h]

theorem finish_errLine (p : ScanState × ParseCtx × ParseResult) :
    (finish p).errLine = p.2.1.cfg.errLine := by
  unfold finish; extract_lets c c'; simp only [c']; split <;> rfl

theorem finish_root (p : ScanState × ParseCtx × ParseResult) :
    (finish p).root = p.2.1.cfg.root := by
  unfold finish; extract_lets c c'; simp only [c']; split <;> rfl


theorem finish_eq (p : ScanState × ParseCtx × ParseResult) :
    ∃ f t, finish p = { p.2.1.cfg with errFile := f, errType := t, filenames := p.1.filenames } := by
  unfold finish; extract_lets c c'; simp only [c']
  split
  · exact ⟨_, _, rfl⟩
  · exact ⟨_, _, rfl⟩

/-! ### `read` from `readCore` -/

/-- the `ReadOut` of `config_read_file` on a file that does not open -/
def noOpen (c : Config) (path : Bytes) : ReadOut :=
  { cfg := c.setError ERR_FILE_IO (some Generated.IO_ERROR_TEXT), ok := false, result := .abort,
    dtorLog := [], events := [.fopen path false] }

theorem read_noOpen (w : World) (c : Config) (path : Bytes) (fuel : Nat) (h : w.open? path = none) :
    read w c (.file path) fuel = noOpen c path := by
  simp only [read, h, noOpen]

theorem read_ind {Q : ReadOut → Prop} (w : World) (c : Config) (src : Source) (fuel : Nat)
    (hcore : ∀ fn inp ev, Q { readCore w c fn inp fuel with events := ev })
    (hfail : ∀ path, src = .file path → w.open? path = none → Q (noOpen c path)) :
    Q (read w c src fuel) := by
  cases src with
  | string s => exact hcore none (cstr s) _
  | stream s => exact hcore none s _
  | file path =>
    cases hw : w.open? path with
    | none => rw [read_noOpen w c path fuel hw]; exact hfail path rfl hw
    | some content => simp only [read, hw]; exact hcore (some path) content _

theorem read_ok (w : World) (c : Config) (src : Source) (fuel : Nat) :
    (read w c src fuel).ok = ((read w c src fuel).result == .accept) :=
  read_ind (Q := fun r => r.ok = (r.result == .accept)) w c src fuel
    (fun _ _ _ => (readCore_ok ..).trans (congrArg (· == .accept) (readCore_result ..).symm))
    fun _ _ _ => rfl

end Libconfig.C09P
