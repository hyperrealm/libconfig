import LibconfigModel.Proofs.Restamp
/-
  Helper lemmas for property C20 (file entry point = stream entry point up to file names).
  A two-run simulation: the scanner states agree in every field except `topFile` and
  `filenames`, the parse contexts agree after all file names are erased.  Erasing the file names
  is re-stamping with `noFile` (Proofs/Restamp.lean), which supplies the parser side.  The scanner
  side: the second state is the first under other names (`named`), and an iteration of `yylex`
  does the same under other names up to the file an include error reports (`effect_named`).
-/
namespace Libconfig.C20FP

open Libconfig C10Prov

/-! ### erasure of file names (copies of the definitions of Properties/C20File.lean) -/

mutual
def eraseNode : Node → Node
  | .mk name ty fmt ival fval sval kids hook line _ =>
    .mk name ty fmt ival fval sval (eraseList kids) hook line none
def eraseList : List Node → List Node
  | [] => []
  | k :: ks => eraseNode k :: eraseList ks
end

def eraseCfg (c : Config) : Config :=
  { c with root := eraseNode c.root, errFile := none, filenames := [] }

def eraseCtx (c : ParseCtx) : ParseCtx := { c with cfg := eraseCfg c.cfg }

/-- keep the line, forget the file -/
abbrev noFile : Denote.Stamp → Denote.Stamp := fun p => (p.1, none)

mutual
theorem eraseNode_restamp : ∀ n : Node, eraseNode n = restamp noFile n
  | .mk _ _ _ _ _ _ kids _ _ _ => by rw [eraseNode, restamp, eraseList_restamp kids]
theorem eraseList_restamp : ∀ ks : List Node, eraseList ks = restampList noFile ks
  | [] => by rw [eraseList, restampList]
  | k :: ks => by rw [eraseList, restampList, eraseNode_restamp k, eraseList_restamp ks]
end

theorem eraseCfg_restamp (c : Config) : eraseCfg c = restampCfg noFile (fun l => l) c := by
  rw [eraseCfg, eraseNode_restamp]; rfl

@[simp] theorem erase_fmt (n : Node) : (eraseNode n).fmt = n.fmt := by
  rw [eraseNode_restamp, restamp_eq]
@[simp] theorem erase_ival (n : Node) : (eraseNode n).ival = n.ival := by
  rw [eraseNode_restamp, restamp_eq]
@[simp] theorem erase_fval (n : Node) : (eraseNode n).fval = n.fval := by
  rw [eraseNode_restamp, restamp_eq]
@[simp] theorem erase_sval (n : Node) : (eraseNode n).sval = n.sval := by
  rw [eraseNode_restamp, restamp_eq]
@[simp] theorem erase_hook (n : Node) : (eraseNode n).hook = n.hook := by
  rw [eraseNode_restamp, restamp_eq]
@[simp] theorem erase_line (n : Node) : (eraseNode n).line = n.line := by
  rw [eraseNode_restamp, restamp_eq]
@[simp] theorem erase_file (n : Node) : (eraseNode n).file = none := by
  rw [eraseNode_restamp, restamp_eq]

theorem erase_fresh (name : Option Bytes) (ty : Nat) :
    eraseNode { name := name, ty := ty } = { name := name, ty := ty } := by
  rw [eraseNode_restamp, restamp_mk]; rfl

theorem destroyLogList_erase (d : Bool) :
    ∀ ks : List Node, destroyLogList d (eraseList ks) = destroyLogList d ks := by
  intro ks
  rw [eraseList_restamp, destroyLogList_restamp]

@[simp] theorem eraseCtx_parent (c : ParseCtx) : (eraseCtx c).parent = c.parent := rfl
@[simp] theorem eraseCtx_setting (c : ParseCtx) : (eraseCtx c).setting = c.setting := rfl
@[simp] theorem eraseCtx_str (c : ParseCtx) : (eraseCtx c).str = c.str := rfl
@[simp] theorem eraseCtx_log (c : ParseCtx) : (eraseCtx c).log = c.log := rfl
@[simp] theorem eraseCtx_root (c : ParseCtx) : (eraseCtx c).cfg.root = eraseNode c.cfg.root := rfl
@[simp] theorem eraseCtx_destructor (c : ParseCtx) :
    (eraseCtx c).cfg.destructor = c.cfg.destructor := rfl
@[simp] theorem eraseCtx_opt (c : ParseCtx) (o : Nat) : (eraseCtx c).cfg.opt o = c.cfg.opt o := rfl
@[simp] theorem eraseCtx_errText (c : ParseCtx) : (eraseCtx c).cfg.errText = c.cfg.errText := rfl

theorem eraseCtx_mk (cfg : Config) (par set : Option Path) (str : Option Bytes) (log : List Nat) :
    eraseCtx ⟨cfg, par, set, str, log⟩ = ⟨eraseCfg cfg, par, set, str, log⟩ := rfl

@[simp] theorem modify_parent (c : ParseCtx) (p : Path) (f : Node → Node) :
    (c.modify p f).parent = c.parent := rfl
@[simp] theorem modify_setting (c : ParseCtx) (p : Path) (f : Node → Node) :
    (c.modify p f).setting = c.setting := rfl
@[simp] theorem modify_str (c : ParseCtx) (p : Path) (f : Node → Node) :
    (c.modify p f).str = c.str := rfl
@[simp] theorem modify_log (c : ParseCtx) (p : Path) (f : Node → Node) :
    (c.modify p f).log = c.log := rfl

/-! ### the scanner -/

/-- two scanner states that agree except for the name of the top-level file and the list of
file names -/
def Sim (s₁ s₂ : ScanState) : Prop :=
  s₁.sc = s₂.sc ∧ s₁.buf = s₂.buf ∧ s₁.str = s₂.str ∧ s₁.stack = s₂.stack ∧ s₁.events = s₂.events

theorem Sim.refl (s : ScanState) : Sim s s := ⟨rfl, rfl, rfl, rfl, rfl⟩

def LexSim (r₁ r₂ : ScanState × LexOut) : Prop := Sim r₁.1 r₂.1 ∧ eraseOut r₁.2 = eraseOut r₂.2

/-- `s` under another top-level file name and file-name vector -/
def named (t : Option Bytes) (f : List Bytes) (s : ScanState) : ScanState :=
  { s with topFile := t, filenames := f }

theorem nextIncludeFile_named (w : World) (t : Option Bytes) (f : List Bytes) (s : ScanState)
    (first : Bool) :
    nextIncludeFile w (named t f s) first =
      (named t f (nextIncludeFile w s first).1, (nextIncludeFile w s first).2) := by
  unfold nextIncludeFile named
  dsimp only
  split
  · rfl
  · split
    · rfl
    · split <;> rfl

theorem actOut_named {a : ScanAct} {m m' : ScanState} {text : Bytes} {o : Option LexOut}
    (h : actOut a m text = some (m', o)) (t : Option Bytes) (f : List Bytes) :
    actOut a (named t f m) text = some (named t f m', o) := by
  cases a <;> simp only [actOut, Option.some.injEq, Prod.mk.injEq, reduceCtorEq] at h <;>
    (obtain ⟨rfl, rfl⟩ := h; rfl)

section
variable {T : FlexTables} {acts : List ScanAct} {w : World} {ic : IncludeCfg}

/-- an iteration does the same under other names, up to the file an include error reports -/
theorem effect_named {s : ScanState} {r : ScanState × Option LexOut}
    (he : LexEffect T acts w ic s r) (t : Option Bytes) (f : List Bytes) :
    ∃ f' o', LexEffect T acts w ic (named t f s) (named t f' r.1, o') ∧
      o'.map eraseOut = r.2.map eraseOut := by
  have nif : ∀ {m f first r}, nextIncludeFile w m first = r →
      nextIncludeFile w (named t f m) first = (named t f r.1, r.2) :=
    fun h => h ▸ nextIncludeFile_named w t _ _ _
  cases he with
  | eof hn hst => exact ⟨f, _, .eof (s := named t f s) hn hst, rfl⟩
  | next hn hst hf => exact ⟨f, _, .next (s := named t f s) hn hst (nif hf), rfl⟩
  | stuck hn hst hf => exact ⟨f, _, .stuck (s := named t f s) hn hst (nif hf), rfl⟩
  | pop hn hst hf => exact ⟨f, _, .pop (s := named t f s) hn hst (nif hf), rfl⟩
  | act hn ha => exact ⟨f, _, .act (s := named t f s) hn (actOut_named ha t f), rfl⟩
  | inclErr hn ha hm ht =>
    subst hm; exact ⟨f, _, .inclErr (s := named t f s) hn ha rfl ht, rfl⟩
  | skip hn ha hd hfn hfs => exact ⟨f, _, .skip (s := named t f s) hn ha hd hfn hfs, rfl⟩
  | @push _ _ _ files _ _ _ _ hn ha hm hd hfn hne hf =>
    subst hm
    exact ⟨f ++ files, _, .push (s := named t f s) hn ha rfl hd hfn hne (nif hf), rfl⟩
  | @pushFail _ _ _ files _ _ _ _ hn ha hm hd hfn hne hf h3 =>
    subst hm h3
    exact ⟨f ++ files, _, .pushFail (s := named t f s) hn ha rfl hd hfn hne (nif hf) rfl, rfl⟩

variable (T acts w ic)

theorem yylex_named (t : Option Bytes) : ∀ (fuel : Nat) (f : List Bytes) (s : ScanState),
    ∃ f', (yylex T acts w ic fuel (named t f s)).1 = named t f' (yylex T acts w ic fuel s).1 ∧
      eraseOut (yylex T acts w ic fuel (named t f s)).2 = eraseOut (yylex T acts w ic fuel s).2 := by
  intro fuel
  induction fuel with
  | zero => intro f s; exact ⟨f, rfl, rfl⟩
  | succ fuel ih =>
    intro f s
    obtain ⟨⟨s', o⟩, he⟩ := lexEffect_total T acts w ic s
    obtain ⟨f', o', he', ho⟩ := effect_named he t f
    rw [he.eq, he'.eq]
    cases o with
    | none => cases o' <;> first | exact ih f' s' | cases ho
    | some o => cases o' <;> first | cases ho | exact ⟨f', rfl, Option.some.inj ho⟩

theorem Sim.named {s₁ s₂ : ScanState} (h : Sim s₁ s₂) : s₂ = named s₂.topFile s₂.filenames s₁ := by
  obtain ⟨sc, buf, str, t₁, stack, f₁, ev⟩ := s₁
  obtain ⟨h1, h2, h3, h4, h5⟩ := h
  simp only at h1 h2 h3 h4 h5
  subst h1 h2 h3 h4 h5
  rfl

theorem yylex_sim (fuel : Nat) (s₁ s₂ : ScanState) (h : Sim s₁ s₂) :
    LexSim (yylex T acts w ic fuel s₁) (yylex T acts w ic fuel s₂) := by
  obtain ⟨f', h1, h2⟩ := yylex_named T acts w ic s₂.topFile fuel s₂.filenames s₁
  rw [h.named]
  exact ⟨h1 ▸ ⟨rfl, rfl, rfl, rfl, rfl⟩, h2.symm⟩

end

/-! ### the parser -/

open Libconfig.C05P Libconfig.C09P

theorem Sim.lineno {s₁ s₂ : ScanState} (h : Sim s₁ s₂) : s₁.buf.lineno = s₂.buf.lineno := by
  rw [h.2.1]

/-- Reading a file is reading its content as a stream, up to file names. -/
theorem file_stream (w : World) (c : Config) (p s : Bytes) (fuel : Nat) (h : w.open? p = some s) :
    (read w c (.file p) fuel).ok = (read w c (.stream s) fuel).ok ∧
    (read w c (.file p) fuel).result = (read w c (.stream s) fuel).result ∧
    eraseCfg (read w c (.file p) fuel).cfg = eraseCfg (read w c (.stream s) fuel).cfg := by
  simp only [read, h]
  rw [eraseCfg_restamp, eraseCfg_restamp]
  have hr := readCore_sim (g := noFile) (e := fun l => l) (P := fun _ => True) (hg := rfl)
    (hge := fun _ _ => rfl) (hpos := fun hs => congrArg (·, none) hs.lineno)
    (hlex := fun hs _ => yylex_sim _ _ _ _ _ _ _ hs)
    w c fuel (some p) none s s rfl ⟨rfl, rfl, rfl, rfl, rfl⟩ (fun _ => rfl) trivial
  exact ⟨hr.1, hr.2.1, hr.2.2.1⟩

end Libconfig.C20FP
