import LibconfigModel.Proofs.C01LexItem
import LibconfigModel.Proofs.C01LexStr
import LibconfigModel.Properties.C02
/-
  C01L — one call of `yylex` per item, and the induction over a
  sequence of items: a buffer holding the rendering of a "good" item sequence lexes to the
  tokens the items denote.
-/
namespace Libconfig.C01L
open Flex C02

def bytesOf (ts : List WTok) : Bytes := ts.flatMap WTok.bytes

def toksOf (ts : List WTok) : List (Nat × TokVal) := ts.filterMap (WTok.token Generated.tokens)

section
variable (w : World) (ic : IncludeCfg) {K : Ctx}

/-- **one item, one piece of work for `yylex`**.  With the buffer at a good item `t`
followed by `rest` (whose first byte is a delimiter for `t`): a white-space item is skipped —
the call continues as the call on `rest` with `k` units of fuel less —, any other item makes the
call return exactly the token the item denotes; in both cases the buffer is left at `rest`. -/
theorem yylex_item (t : WTok) (hg : GoodTok t) (rest : Bytes) (hf : FollowOK (itemFollow t) rest)
    (s : ScanState) (hs : Ready K s (t.bytes ++ rest)) :
    ∃ k, 1 ≤ k ∧ k ≤ t.bytes.length ∧ ∃ s', Ready K s' rest ∧
      ∀ f, yylex T acts w ic (f + k) s =
        (match t.token Generated.tokens with
         | none => yylex T acts w ic f s'
         | some tv => (s', .tok tv.1 tv.2)) := by
  cases hns : isStr t
  · obtain ⟨s', hr, hy⟩ := yylex_item₁ w ic t hg hns rest hf s hs
    exact ⟨1, Nat.le_refl 1, List.length_pos_iff.mpr (item_lexeme t hg hns).ne_nil, s', hr, hy⟩
  · cases t with
    | str x => exact yylex_str w ic x rest hg hf s hs
    | _ => cases hns

end

/-! ### sequences of items -/

/-- every item is good and is followed by a delimiter for it -/
def GoodSeq : List WTok → Prop
  | [] => True
  | t :: ts => GoodTok t ∧ FollowOK (itemFollow t) (bytesOf ts) ∧ GoodSeq ts

/-- the first call runs with fuel `f`, the following ones with `E.lexFuel` -/
def FirstThen (E : ParserEnv) (f : Nat) (s : ScanState) : List (Nat × TokVal) → ScanState → Prop
  | [], s' => yylex E.T E.sacts E.w E.ic f s = (s', .eof)
  | tv :: L, s' => ∃ s1, yylex E.T E.sacts E.w E.ic f s = (s1, .tok tv.1 tv.2) ∧ LexesTo E s1 L s'

theorem FirstThen.lexes {E : ParserEnv} {s s' : ScanState} {L : List (Nat × TokVal)}
    (h : FirstThen E E.lexFuel s L s') : LexesTo E s L s' := by
  cases L with
  | nil => exact .eof s s' h
  | cons tv L =>
    obtain ⟨s1, hy, hl⟩ := h
    exact .tok s s1 s' tv.1 tv.2 L hy hl

/-- skipping white space first does not change what the call delivers -/
theorem FirstThen.skip {E : ParserEnv} {f f' : Nat} {s s₁ s' : ScanState} {L : List (Nat × TokVal)}
    (hy : yylex E.T E.sacts E.w E.ic f s = yylex E.T E.sacts E.w E.ic f' s₁)
    (h : FirstThen E f' s₁ L s') : FirstThen E f s L s' := by
  cases L with
  | nil => exact hy.trans h
  | cons tv L => exact h.imp fun _ h => ⟨hy.trans h.1, h.2⟩

theorem bytesOf_cons (t : WTok) (ts : List WTok) : bytesOf (t :: ts) = t.bytes ++ bytesOf ts :=
  List.flatMap_cons

/-- **Item sequences.**  If the buffer holds the rendering of a good item sequence and
the fuel exceeds its length, repeated calls of `yylex` return the tokens of the items and then
end of input. -/
theorem lexes_seq {K : Ctx} (w : World) (c₀ : Config) (F : Nat) : ∀ (ts : List WTok), GoodSeq ts →
    (bytesOf ts).length < F → ∀ (s : ScanState), Ready K s (bytesOf ts) →
    ∀ f, (bytesOf ts).length < f →
      ∃ s', FirstThen (theEnv w c₀ F) f s (toksOf ts) s' ∧ Ready K s' []
  | [], _, _, s, hs, f, hf => by
    obtain ⟨f', rfl⟩ : ∃ f', f = f' + 1 := ⟨f - 1, by omega⟩
    exact ⟨s, (LexEffect.eof (by rw [hs.sc, hs.rest]; exact next_nil 0 (by decide) _) hs.stack).eq f', hs⟩
  | t :: ts, ⟨hgt, hfol, hgs⟩, hF, s, hs, f, hf => by
    rw [bytesOf_cons] at hs hF hf
    rw [List.length_append] at hF hf
    obtain ⟨k, hk1, hk2, s₁, hr₁, hy⟩ :=
      yylex_item w { fn := c₀.includeFn, dir := c₀.includeDir } t hgt (bytesOf ts) hfol s hs
    have hyf := hy (f - k)
    rw [show f - k + k = f by omega] at hyf
    unfold toksOf
    cases htok : t.token Generated.tokens with
    | none =>
      rw [htok] at hyf
      obtain ⟨s', h', hfin⟩ := lexes_seq w c₀ F ts hgs (by omega) s₁ hr₁ (f - k) (by omega)
      rw [List.filterMap_cons_none htok]
      exact ⟨s', h'.skip hyf, hfin⟩
    | some tv =>
      rw [htok] at hyf
      obtain ⟨s', h', hfin⟩ := lexes_seq w c₀ F ts hgs (by omega) s₁ hr₁ F (by omega)
      rw [List.filterMap_cons_some htok]
      exact ⟨s', ⟨s₁, hyf, h'.lexes⟩, hfin⟩

end Libconfig.C01L
