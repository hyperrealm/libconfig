import LibconfigModel.F64
/-
  Arithmetic of ratios of natural numbers, as the conversions of `F64` use it; comparisons are
  cross-multiplied.  `F64.divRoundEven n d` is the integer nearest to `n/d`, ties to even: the one
  integer `m` with `2·|n − m·d| ≤ d` that is even when equality holds (`dre_half`, `dre_unique`).
  The rest follows from these two and from the spacing `d` of the multiples of `d` (`dist_grid`).
-/
namespace Libconfig.F64R
open Libconfig.F64

/-! ### equal ratios -/

theorem pow_mul_pow_eq (b : Nat) {a c a' c' : Nat} (h : a + c = a' + c') :
    b ^ a * b ^ c = b ^ a' * b ^ c' := by
  rw [← Nat.pow_add, ← Nat.pow_add, h]

theorem le_iff_of_ratio {A B A' B' : Nat} (hB : 0 < B) (hB' : 0 < B') (h : A * B' = A' * B)
    (X Y : Nat) : X * A ≤ Y * B ↔ X * A' ≤ Y * B' := by
  have e1 : X * A * B' = X * A' * B := by rw [Nat.mul_assoc, h, Nat.mul_assoc]
  have e2 : Y * B * B' = Y * B' * B := Nat.mul_right_comm ..
  rw [← Nat.mul_le_mul_right_iff hB', e1, e2, Nat.mul_le_mul_right_iff hB]

theorem lt_iff_of_ratio {A B A' B' : Nat} (hB : 0 < B) (hB' : 0 < B') (h : A * B' = A' * B)
    (X Y : Nat) : X * A < Y * B ↔ X * A' < Y * B' := by
  have e1 : X * A * B' = X * A' * B := by rw [Nat.mul_assoc, h, Nat.mul_assoc]
  have e2 : Y * B * B' = Y * B' * B := Nat.mul_right_comm ..
  rw [← Nat.mul_lt_mul_right hB', e1, e2, Nat.mul_lt_mul_right hB]

/-! ### bit length: `2^(bitLen n − 1) ≤ n < 2^(bitLen n)` -/

theorem bitLen_one : bitLen 1 = 1 := by decide

theorem bitLen_pos (n : Nat) (hn : 0 < n) : 1 ≤ bitLen n := by
  unfold bitLen
  rw [if_neg (by omega)]
  omega

theorem lt_pow_bitLen (n : Nat) : n < 2 ^ bitLen n := by
  unfold bitLen
  split
  · next h => subst h; decide
  · exact Nat.lt_log2_self

theorem pow_pred_bitLen_le (n : Nat) (hn : 0 < n) : 2 ^ (bitLen n - 1) ≤ n := by
  unfold bitLen
  rw [if_neg (by omega), Nat.add_sub_cancel]
  exact Nat.log2_self_le (by omega)

theorem pow_bitLen_le (n : Nat) (hn : 0 < n) : 2 ^ bitLen n ≤ 2 * n := by
  have := pow_pred_bitLen_le n hn
  rw [show bitLen n = bitLen n - 1 + 1 by have := bitLen_pos n hn; omega, Nat.pow_succ]
  omega

theorem bitLen_le_of_lt (n k : Nat) (h : n < 2 ^ k) : bitLen n ≤ k := by
  by_cases h0 : n = 0
  · subst h0; exact Nat.zero_le _
  · have h1 := pow_pred_bitLen_le n (by omega)
    have := (Nat.pow_lt_pow_iff_right (by decide : 1 < 2)).mp (Nat.lt_of_le_of_lt h1 h)
    omega

theorem bitLen_pow (k : Nat) : bitLen (2 ^ k) = k + 1 := by
  have h1 := bitLen_le_of_lt (2 ^ k) (k + 1) (Nat.pow_lt_pow_right (by decide) (by omega))
  have := (Nat.pow_lt_pow_iff_right (by decide : 1 < 2)).mp (lt_pow_bitLen (2 ^ k))
  omega

/-! ### distances -/

/-- `|a − b|` on naturals -/
def dist (a b : Nat) : Nat := Int.natAbs ((a : Int) - (b : Int))

theorem dist_comm (a b : Nat) : dist a b = dist b a := by
  unfold dist
  rw [← Int.natAbs_neg, Int.neg_sub]

theorem dist_tri (a b c : Nat) : dist a c ≤ dist a b + dist b c := by
  unfold dist
  have := Int.natAbs_add_le ((a : Int) - b) (b - c)
  rwa [show (a : Int) - b + (b - c) = a - c by omega] at this

theorem dist_mul_right (a b c : Nat) : dist a b * c = dist (a * c) (b * c) := by
  unfold dist
  rw [Int.natCast_mul, Int.natCast_mul, ← Int.sub_mul, Int.natAbs_mul, Int.natAbs_natCast]

theorem two_dist_le {a b m : Nat} : 2 * dist a b ≤ m ↔ 2 * a ≤ 2 * b + m ∧ 2 * b ≤ 2 * a + m := by
  unfold dist; omega

theorem dist_of_le {a b : Nat} (h : b ≤ a) : dist a b = a - b := by
  unfold dist; omega

theorem le_dist_of_add_le {a b g : Nat} (h : a + g ≤ b) : g ≤ dist a b := by
  unfold dist; omega

theorem dist_mul_eq {a b a' b' Z Y : Nat} (h1 : a * Z = a' * Y) (h2 : b * Z = b' * Y) :
    dist a b * Z = dist a' b' * Y := by
  rw [dist_mul_right, dist_mul_right, h1, h2]

theorem dist_grid (j m d : Nat) (h : j ≠ m) : d ≤ dist (j * d) (m * d) := by
  rw [← dist_mul_right]
  exact Nat.le_mul_of_pos_left d (by unfold dist; omega)

/-! ### the two outcomes -/

theorem dre_cases (n d : Nat) :
    (divRoundEven n d = n / d ∧ 2 * (n % d) ≤ d ∧ (2 * (n % d) = d → (n / d) % 2 = 0)) ∨
    (divRoundEven n d = n / d + 1 ∧ d ≤ 2 * (n % d) ∧ (2 * (n % d) = d → (n / d) % 2 = 1)) := by
  unfold divRoundEven
  simp only [beq_iff_eq]
  split
  · right; omega
  · split
    · split
      · right; omega
      · left; omega
    · left; omega

theorem dre_le (n d : Nat) : divRoundEven n d ≤ n / d + 1 := by
  rcases dre_cases n d with h | h <;> omega

theorem dre_ge (n d : Nat) : n / d ≤ divRoundEven n d := by
  rcases dre_cases n d with h | h <;> omega

theorem dre_ge_of (n d c : Nat) (hd : 0 < d) (h : c * d ≤ n) : c ≤ divRoundEven n d :=
  Nat.le_trans ((Nat.le_div_iff_mul_le hd).mpr h) (dre_ge n d)

theorem dre_le_of (n d c : Nat) (h : n < c * d) : divRoundEven n d ≤ c :=
  have hd : 0 < d := Nat.pos_of_ne_zero fun h0 => by rw [h0] at h; exact Nat.not_lt_zero _ h
  Nat.le_trans (dre_le n d) ((Nat.div_lt_iff_lt_mul hd).mpr h)

/-! ### nearest, ties to even -/

theorem dre_half (n d : Nat) (hd : 0 < d) :
    2 * dist n (divRoundEven n d * d) ≤ d ∧
      (2 * dist n (divRoundEven n d * d) = d → divRoundEven n d % 2 = 0) := by
  have hn := Nat.div_add_mod n d
  have hr := Nat.mod_lt n hd
  rw [Nat.mul_comm] at hn
  have hs : (n / d + 1) * d = n / d * d + d := Nat.succ_mul _ _
  unfold dist
  rcases dre_cases n d with ⟨h1, h2, h3⟩ | ⟨h1, h2, h3⟩ <;> rw [h1] <;>
    generalize n / d * d = qd at * <;> omega

/-- conversely, an integer within half a unit (even, if exactly half a unit away) is the result:
two such integers would be one apart and both even -/
theorem dre_unique (n d N : Nat) (hd : 0 < d) (h : 2 * dist n (N * d) ≤ d)
    (ht : 2 * dist n (N * d) = d → N % 2 = 0) : divRoundEven n d = N := by
  obtain ⟨h', ht'⟩ := dre_half n d hd
  generalize divRoundEven n d = m at *
  false_or_by_contra
  rename_i hne
  have hg := dist_grid m N d hne
  have htri := dist_tri (m * d) n (N * d)
  rw [dist_comm (m * d) n] at htri
  have hle : dist m N * d ≤ 1 * d := by rw [dist_mul_right, Nat.one_mul]; omega
  have h1 := Nat.le_of_mul_le_mul_right hle hd
  have := ht (by omega)
  have := ht' (by omega)
  unfold dist at h1
  omega

theorem dre_nearest (n d : Nat) (hd : 0 < d) (j : Nat) :
    dist n (divRoundEven n d * d) ≤ dist n (j * d) := by
  by_cases hj : j = divRoundEven n d
  · rw [hj]; exact Nat.le_refl _
  · have hg := dist_grid j _ d hj
    have htri := dist_tri (j * d) n (divRoundEven n d * d)
    rw [dist_comm (j * d) n] at htri
    have := (dre_half n d hd).1
    omega

theorem dre_tie (n d : Nat) (hd : 0 < d) (j : Nat) (hj : j ≠ divRoundEven n d)
    (h : dist n (divRoundEven n d * d) = dist n (j * d)) : divRoundEven n d % 2 = 0 := by
  have hg := dist_grid j _ d hj
  have htri := dist_tri (j * d) n (divRoundEven n d * d)
  rw [dist_comm (j * d) n] at htri
  obtain ⟨h1, h2⟩ := dre_half n d hd
  exact h2 (by omega)

theorem dre_at (n d q C : Nat) (hd : 0 < d) (hC : C = q * d) (h : 2 * dist C n ≤ d)
    (ht : 2 * dist C n = d → q % 2 = 0) : divRoundEven n d = q := by
  subst hC
  rw [dist_comm] at h ht
  exact dre_unique n d q hd h ht

theorem dre_of_nearer (n n' d : Nat) (hd : 0 < d)
    (hnear : dist (divRoundEven n d * d) n' ≤ dist (divRoundEven n d * d) n) :
    divRoundEven n' d = divRoundEven n d := by
  obtain ⟨h1, h2⟩ := dre_half n d hd
  rw [dist_comm] at h1 h2
  exact dre_at n' d _ _ hd rfl (by omega) (fun h => h2 (by omega))

/-! ### special arguments -/

theorem dre_one (n : Nat) : divRoundEven n 1 = n := by
  unfold divRoundEven
  simp [Nat.mod_one]

theorem dre_zero (d : Nat) : divRoundEven 0 d = 0 := by
  unfold divRoundEven
  simp

theorem dre_exact (q d : Nat) (hd : 0 < d) : divRoundEven (q * d) d = q :=
  dre_unique _ _ _ hd (by unfold dist; omega) (fun h => by unfold dist at h; omega)

theorem dre_scale (n d k : Nat) (hd : 0 < d) (hk : 0 < k) :
    divRoundEven (n * k) (d * k) = divRoundEven n d := by
  obtain ⟨h1, h2⟩ := dre_half n d hd
  have e : 2 * dist (n * k) (divRoundEven n d * (d * k)) = 2 * dist n (divRoundEven n d * d) * k := by
    rw [← Nat.mul_assoc _ d k, ← dist_mul_right, Nat.mul_assoc]
  apply dre_unique _ _ _ (Nat.mul_pos hd hk)
  · rw [e]; exact Nat.mul_le_mul_right k h1
  · rw [e]; exact fun h => h2 (Nat.eq_of_mul_eq_mul_right hk h)

theorem dre_congr (n d n' d' : Nat) (hd : 0 < d) (hd' : 0 < d') (h : n * d' = n' * d) :
    divRoundEven n d = divRoundEven n' d' := by
  rw [← dre_scale n d d' hd hd', ← dre_scale n' d' d hd' hd, h, Nat.mul_comm d d']

/-- when the quotient lies below `c + 1`: rounding reaches `c + 1` iff `n/d ≥ c + 1/2`, the tie
going up because `c` is odd -/
theorem dre_reach (n d c : Nat) (hd : 0 < d) (hlt : n < (c + 1) * d) (hodd : c % 2 = 1) :
    divRoundEven n d = c + 1 ↔ (2 * c + 1) * d ≤ 2 * n := by
  have e1 : (c + 1) * d = c * d + d := Nat.succ_mul _ _
  have e2 : (2 * c + 1) * d = 2 * (c * d) + d := by rw [Nat.succ_mul, Nat.mul_assoc]
  rw [e1] at hlt
  rw [e2]
  constructor
  · intro h
    have := (dre_half n d hd).1
    rw [h, e1, dist_comm, dist_of_le (Nat.le_of_lt hlt)] at this
    omega
  · intro h
    exact dre_unique n d (c + 1) hd (by rw [e1, dist_comm, dist_of_le (Nat.le_of_lt hlt)]; omega)
      (fun _ => by omega)

end Libconfig.F64R
