import LibconfigModel.Properties.C10Splice
import LibconfigModel.Properties.C03Term
/-
  Helpers for Properties/C10SpliceTotal.lean: the last fuel hypothesis of the splice
  theorem (`a.result ≠ .outOfFuel`) is discharged.

  1. The scan with includes returns fewer than `mu` tokens (`C10.lexes_exist_len`,
     Properties/C10Splice.lean): every token strictly lowers `mu` (`call_sim`).  They are the
     same tokens whatever the fuel per call (`lexes_any_fuel`).
  2. With `C03_parse_fuel` (parser loop: `8·|toks| + 10` iterations suffice, for any world): the
     parse performed by `readCore` on the top file does not end `.outOfFuel` once
     `fuel ≥ 8·mu + 10` (`parseOf_top_terminates`); the same for a given token sequence with
     `fuel ≥ max mu (8·|toks| + 10)` (`parseOf_top_terminates_toks`).
  3. The read of the spliced text does not end `.outOfFuel` either (`read_spliced_terminates`).
     Above the bound the fuel is then not observable: `C09P.read_mono`.
-/
set_option autoImplicit false

namespace Libconfig.C10T

open Libconfig Libconfig.C10 Libconfig.C10S Libconfig.C09P

/-! ### 1. the tokens do not depend on the fuel per call -/

/-- the token sequence of the scan with includes does not depend on the fuel per call: whatever
sequence a scan that reaches end of input returns, with whatever fuel, it is the one every scan
with fuel `≥ mu` returns -/
theorem lexes_any_fuel (w : World) (ic : IncludeCfg) (top : Option Bytes) (content : Bytes)
    (h : IncludeTreeOK' w ic 10 content) (f₀ : Nat) (toks : List (Nat × TokVal))
    (h0 : Lexes w ic f₀ (scanStart top content) toks) (fuel : Nat)
    (hf : mu w ic (scanStart top content) ≤ fuel) :
    Lexes w ic fuel (scanStart top content) toks := by
  obtain ⟨toks', -, hall⟩ := tokens_exist_len w ic top content h
  obtain ⟨h1, h2⟩ := hall fuel hf
  have := C10_tokens w ic top content f₀ fuel toks toks' h h0 h2
  rw [this]
  exact h1

/-! ### 2. the parse of `readCore` on the top file -/

/-- the include configuration `readCore` hands to the scanner is that of the configuration read
into -/
theorem theEnv_ic (w : World) (c : Config) (filename : Option Bytes) (fuel : Nat) :
    (theEnv w (start c filename) fuel).ic = { fn := c.includeFn, dir := c.includeDir } := rfl

/-- the parse of `readCore` does not end `.outOfFuel` when the scan of its input (fuel `fuel` per
call) reaches end of input after `toks` and `fuel ≥ 8·|toks| + 10` -/
theorem parseOf_terminates_of_lexes (w : World) (c : Config) (filename : Option Bytes) (inp : Bytes)
    (fuel : Nat) (toks : List (Nat × TokVal))
    (h : Lexes w { fn := c.includeFn, dir := c.includeDir } fuel (scanStart filename inp) toks)
    (hf : 8 * toks.length + 10 ≤ fuel) :
    (parseOf w (start c filename) filename inp fuel).2.2 ≠ .outOfFuel := by
  obtain ⟨s', hl⟩ :=
    Lexes.toLexesTo (theEnv w (start c filename) fuel) rfl rfl (scan0 filename inp) toks h
  unfold parseOf
  exact C03.C03_parse_fuel w (start c filename) fuel _ s' _ toks hl fuel hf

/-- … for the top file of an include tree: `8·mu + 10` suffices -/
theorem parseOf_top_terminates (w : World) (c : Config) (top : Option Bytes) (content : Bytes)
    (htree : IncludeTreeOK' w { fn := c.includeFn, dir := c.includeDir } 10 content) (fuel : Nat)
    (hf : 8 * mu w { fn := c.includeFn, dir := c.includeDir } (scanStart top content) + 10 ≤ fuel) :
    (parseOf w (start c top) top content fuel).2.2 ≠ .outOfFuel := by
  obtain ⟨toks, hlen, hall⟩ := tokens_exist_len w _ top content htree
  exact parseOf_terminates_of_lexes w c top content fuel toks (hall fuel (by omega)).1 (by omega)

/-- … and, knowing the tokens (from a scan with any fuel per call), `max mu (8·|toks| + 10)` -/
theorem parseOf_top_terminates_toks (w : World) (c : Config) (top : Option Bytes) (content : Bytes)
    (htree : IncludeTreeOK' w { fn := c.includeFn, dir := c.includeDir } 10 content)
    (f₀ : Nat) (toks : List (Nat × TokVal))
    (h0 : Lexes w { fn := c.includeFn, dir := c.includeDir } f₀ (scanStart top content) toks)
    (fuel : Nat)
    (hmu : mu w { fn := c.includeFn, dir := c.includeDir } (scanStart top content) ≤ fuel)
    (hf : 8 * toks.length + 10 ≤ fuel) :
    (parseOf w (start c top) top content fuel).2.2 ≠ .outOfFuel :=
  parseOf_terminates_of_lexes w c top content fuel toks
    (lexes_any_fuel w _ top content htree f₀ toks h0 fuel hmu) hf

theorem read_file_result (w : World) (c : Config) (top content : Bytes) (fuel : Nat)
    (hopen : w.open? top = some content) :
    (read w c (.file top) fuel).result =
      (parseOf w (start c (some top)) (some top) content fuel).2.2 := by
  simp only [read, hopen]
  rfl

/-- the read of the spliced text does not end `.outOfFuel` once `fuel ≥ 8·mu + 10`, whether or not
the top file can be opened -/
theorem read_spliced_terminates (w : World) (c : Config) (top : Option Bytes) (content : Bytes)
    (htree : IncludeTreeOK' w { fn := c.includeFn, dir := c.includeDir } 10 content) (fuel : Nat)
    (hf : 8 * mu w { fn := c.includeFn, dir := c.includeDir } (scanStart top content) + 10 ≤ fuel) :
    (read w c (.string (splice w { fn := c.includeFn, dir := c.includeDir } 11 content)) fuel).result
      ≠ .outOfFuel := by
  have hcs := cstr_of_byteText
    (splice_bytes w { fn := c.includeFn, dir := c.includeDir } 10 content (treeOK_of w _ 10 content htree))
  obtain ⟨toks, hlen, hall⟩ := tokens_exist_len w _ top content htree
  simp only [read, hcs]
  rw [readCore_result]
  exact parseOf_terminates_of_lexes w c none _ fuel toks (hall fuel (by omega)).2 (by omega)

end Libconfig.C10T
