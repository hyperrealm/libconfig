import LibconfigModel.Read
import LibconfigModel.Proofs.C09
/-
  Helper lemmas for property C11 (reads release every file and buffer whatever
  point they fail at): the ledger invariant carried through `yylex` and the parser
  loop, and the unwinding performed by `readCore`.  Then the scanner's half of "file names stay
  valid" (`Names`: every path the scan state mentions is in its file-name vector; `yylex_names`),
  which Proofs/C11Tree.lean joins with the tree and the error file.
-/
namespace Libconfig.C11P

open Libconfig Libconfig.C09P

/-! ### ledger algebra -/

theorem run_append (L : Ledger) (a b : List IOEvent) : L.run (a ++ b) = (L.run a).run b := by
  simp [Ledger.run, List.foldl_append]

theorem run_nil (L : Ledger) : L.run [] = L := rfl

theorem run_cons (L : Ledger) (e : IOEvent) (es : List IOEvent) : L.run (e :: es) = (L.step e).run es := rfl

/-- `Good w base L opens n`: the ledger `L` holds exactly `opens` (the streams of the
include stack) on top of `base` (what was open before the parse started), `n` live
include buffers, no buffer was deleted twice, and every stray `fclose` names a path that
cannot be opened at all (the model emits `fclose` for a frame whose current file failed to
open, where the C code tests `current_stream` first). -/
structure Good (w : World) (base : List Bytes) (L : Ledger) (opens : List Bytes) (n : Nat) : Prop where
  opened : L.opened = opens ++ base
  bufs : L.bufs = n
  under : L.under = 0
  stray : ∀ p ∈ L.stray, w.open? p = none

def AllOpenable (w : World) (l : List Bytes) : Prop := ∀ p ∈ l, (w.open? p).isSome = true

/-- the contribution of one frame to `openOf` -/
def frameOpen (w : World) (f : Frame) : List Bytes :=
  match f.files[f.cur]? with
  | some p => if (w.open? p).isSome then [p] else []
  | none => []

theorem openOf_cons (w : World) (f : Frame) (fs : List Frame) :
    openOf w (f :: fs) = frameOpen w f ++ openOf w fs := rfl

theorem allOpenable_openOf (w : World) : ∀ fs, AllOpenable w (openOf w fs)
  | [] => fun _ h => by cases h
  | f :: fs => by
    intro p hp
    rw [openOf_cons, List.mem_append] at hp
    rcases hp with hp | hp
    · unfold frameOpen at hp
      split at hp
      · split at hp
        · rename_i h; simp only [List.mem_singleton] at hp; subst hp; exact h
        · cases hp
      · cases hp
    · exact allOpenable_openOf w fs p hp

theorem good_close {w : World} {base : List Bytes} {L : Ledger} {f : Frame} {rest : List Bytes} {n : Nat}
    (hb : AllOpenable w base) (hr : AllOpenable w rest)
    (h : Good w base L (frameOpen w f ++ rest) n) :
    Good w base (L.run (closeEv f)) rest n := by
  unfold closeEv
  unfold frameOpen at h
  split
  · rename_i p hp
    rw [hp] at h
    simp only at h
    show Good w base (if p ∈ L.opened then _ else _) rest n
    by_cases ho : (w.open? p).isSome = true
    · rw [if_pos ho] at h
      have hop : L.opened = p :: (rest ++ base) := by rw [h.opened]; rfl
      rw [if_pos (by rw [hop]; exact List.mem_cons_self)]
      exact ⟨by rw [hop, List.erase_cons_head], h.bufs, h.under, h.stray⟩
    · rw [if_neg ho] at h
      rw [if_neg fun hm => ho ((List.mem_append.mp (h.opened ▸ hm)).elim (hr p) (hb p))]
      refine ⟨h.opened, h.bufs, h.under, fun q hq => ?_⟩
      rcases List.mem_append.mp hq with hq | hq
      · exact h.stray q hq
      · rw [List.mem_singleton.mp hq]
        exact Option.not_isSome_iff_eq_none.mp ho
  · rename_i hp
    rw [hp] at h
    exact h

theorem good_fopen_ok {w : World} {base : List Bytes} {L : Ledger} {opens : List Bytes} {n : Nat} (p : Bytes)
    (h : Good w base L opens n) : Good w base (L.step (.fopen p true)) (p :: opens) n :=
  ⟨by simp [Ledger.step, h.opened], h.bufs, h.under, h.stray⟩

theorem good_fopen_fail {w : World} {base : List Bytes} {L : Ledger} {opens : List Bytes} {n : Nat} (p : Bytes)
    (h : Good w base L opens n) : Good w base (L.step (.fopen p false)) opens n := h

theorem good_newBuf {w : World} {base : List Bytes} {L : Ledger} {opens : List Bytes} {n : Nat}
    (h : Good w base L opens n) : Good w base (L.step .newBuf) opens (n + 1) :=
  ⟨h.opened, by simp [Ledger.step, h.bufs], h.under, h.stray⟩

theorem good_delBuf {w : World} {base : List Bytes} {L : Ledger} {opens : List Bytes} {n : Nat}
    (h : Good w base L opens (n + 1)) : Good w base (L.step .delBuf) opens n := by
  have hb := h.bufs
  refine ⟨?_, ?_, ?_, ?_⟩ <;> simp only [Ledger.step, hb]
  · exact h.opened
  · exact h.under
  · exact h.stray

/-! ### the invariant on scanner states -/

/-- The ledger of the events so far holds exactly the streams of the include stack (on
top of `base`) and one buffer per frame. -/
def Inv (w : World) (base : List Bytes) (s : ScanState) : Prop :=
  Good w base (Ledger.run { opened := base } s.events) (openOf w s.stack) s.stack.length

/-! ### `libconfig_scanctx_next_include_file` -/

theorem frameOpen_of_none {w : World} {f : Frame} (h : f.files[f.cur]? = none) : frameOpen w f = [] := by
  unfold frameOpen; rw [h]

theorem nextIncludeFile_good (w : World) (base : List Bytes) (L : Ledger) (s : ScanState) (first : Bool)
    (f : Frame) (fs : List Frame) (n : Nat) (hst : s.stack = f :: fs) (hb : AllOpenable w base)
    (h : Good w base (L.run s.events) ((if first then [] else frameOpen w f) ++ openOf w fs) n) :
    (∃ cur', (nextIncludeFile w s first).1.stack = { f with cur := cur' } :: fs) ∧
    Good w base (L.run (nextIncludeFile w s first).1.events) (openOf w (nextIncludeFile w s first).1.stack) n ∧
    ((nextIncludeFile w s first).2.1 = none →
      openOf w (nextIncludeFile w s first).1.stack = openOf w fs) := by
  unfold nextIncludeFile
  rw [hst]
  simp only
  -- the ledger after the `fclose` of the stream given up (none for the first file of a frame)
  have hclosed : Good w base
      (L.run (s.events ++ (if first then [] else
        match f.files[f.cur]? with
        | some p => [IOEvent.fclose p]
        | none => []))) (openOf w fs) n := by
    cases first with
    | true => simpa using h
    | false =>
      simp only [Bool.false_eq_true, ↓reduceIte] at h ⊢
      rw [run_append]
      exact good_close hb (allOpenable_openOf w fs) h
  generalize (if first then ([] : List IOEvent) else
        match f.files[f.cur]? with
        | some p => [IOEvent.fclose p]
        | none => []) = ev at hclosed
  generalize (if first then 0 else f.cur + 1) = cur
  cases hf : f.files[cur]? with
  | none =>
    simp only
    have hfo : frameOpen w { f with cur := cur } = [] := frameOpen_of_none hf
    refine ⟨⟨cur, rfl⟩, ?_, fun _ => ?_⟩
    · rw [openOf_cons, hfo]; exact hclosed
    · rw [openOf_cons, hfo]; rfl
  | some p =>
    simp only
    cases hw : w.open? p with
    | some content =>
      simp only
      have hfo : frameOpen w { f with cur := cur } = [p] := by
        unfold frameOpen; simp [hf, hw]
      refine ⟨⟨cur, rfl⟩, ?_, fun hc => by cases hc⟩
      rw [openOf_cons, hfo, run_append]
      exact good_fopen_ok p hclosed
    | none =>
      simp only
      have hfo : frameOpen w { f with cur := cur } = [] := by
        unfold frameOpen; simp [hf, hw]
      refine ⟨⟨cur, rfl⟩, ?_, fun _ => ?_⟩
      · rw [openOf_cons, hfo, run_append]
        exact hclosed
      · rw [openOf_cons, hfo]; rfl

/-! ### the invariant through `yylex` -/

theorem effect_inv {T : FlexTables} {acts : List ScanAct} {w : World} {ic : IncludeCfg}
    {base : List Bytes} (hb : AllOpenable w base) {s : ScanState} {r : ScanState × Option LexOut}
    (he : LexEffect T acts w ic s r) (h : Inv w base s) : Inv w base r.1 := by
  unfold Inv at h ⊢
  cases he with
  | eof => exact h
  | act _ ha => rw [actOut_frame ha]; exact h
  | inclErr _ _ hm => subst hm; exact h
  | skip => exact h
  | next _ hst heq =>
    rw [hst, openOf_cons] at h
    obtain ⟨⟨cur', hstack⟩, hgood, -⟩ :=
      nextIncludeFile_good w base { opened := base } s false _ _ _ hst hb h
    rw [heq] at hstack hgood
    -- next file of the frame: delete the buffer, create a new one
    show Good _ _ (Ledger.run _ (_ ++ _)) (openOf w _) _
    rw [run_append, run_cons, run_cons, run_nil, hstack]
    rw [hstack] at hgood
    exact good_newBuf (good_delBuf hgood)
  | @stuck _ _ s1 _ hst heq =>
    rw [hst, openOf_cons] at h
    obtain ⟨⟨cur', hstack⟩, hgood, -⟩ :=
      nextIncludeFile_good w base { opened := base } s false _ _ _ hst hb h
    rw [heq] at hstack hgood
    show Good _ _ _ (openOf w s1.stack) s1.stack.length
    rw [hstack]
    rw [hstack] at hgood
    exact hgood
  | pop _ hst heq =>
    rw [hst, openOf_cons] at h
    obtain ⟨-, hgood, hnone⟩ := nextIncludeFile_good w base { opened := base } s false _ _ _ hst hb h
    rw [heq] at hgood hnone
    show Good _ _ (Ledger.run _ (_ ++ _)) _ _
    rw [run_append, run_cons, run_nil]
    rw [hnone rfl] at hgood
    exact good_delBuf hgood
  | @push rule len _ files _ _ _ _ _ _ hm _ _ _ heq =>
    subst hm
    obtain ⟨⟨cur', hstack⟩, hgood, -⟩ :=
      nextIncludeFile_good w base { opened := base }
        (pushFrame { advance T s rule len with str := [] } files) true _ _ _ rfl hb h
    rw [heq] at hstack hgood
    show Good _ _ (Ledger.run _ (_ ++ _)) (openOf w _) _
    rw [run_append, run_cons, run_nil, hstack]
    rw [hstack] at hgood
    exact good_newBuf hgood
  | @pushFail rule len _ files _ _ _ _ _ _ hm _ _ _ heq h3 =>
    subst hm h3
    obtain ⟨-, hgood, hnone⟩ :=
      nextIncludeFile_good w base { opened := base }
        (pushFrame { advance T s rule len with str := [] } files) true _ _ _ rfl hb h
    rw [heq] at hgood hnone
    rw [hnone rfl] at hgood
    exact hgood

theorem yylex_inv (T : FlexTables) (acts : List ScanAct) (w : World) (ic : IncludeCfg) (base : List Bytes)
    (hb : AllOpenable w base) (fuel : Nat) (s : ScanState) (h : Inv w base s) :
    Inv w base (yylex T acts w ic fuel s).1 :=
  yylex_walk (Inv w base) (effect_inv hb) fuel s h

/-! ### the parser loop, the unwinding of `__config_read` -/

theorem unwind_good {w : World} {base : List Bytes} (hb : AllOpenable w base) :
    ∀ (st : List Frame) (L : Ledger), Good w base L (openOf w st) st.length →
      Good w base (L.run (st.flatMap fun f => closeEv f ++ [IOEvent.delBuf])) [] 0
  | [], L, h => h
  | f :: fs, L, h => by
    have hc : Good w base (L.run (closeEv f)) (openOf w fs) (fs.length + 1) :=
      good_close hb (allOpenable_openOf w fs) (by rw [openOf_cons] at h; exact h)
    have hd := good_delBuf hc
    have := unwind_good hb fs _ hd
    rw [List.flatMap_cons, List.append_assoc, run_append, run_append]
    exact this

theorem parseOf_inv (w : World) (c0 : Config) (filename : Option Bytes) (inp : Bytes) (fuel : Nat)
    (base : List Bytes) (hb : AllOpenable w base) :
    Inv w base (parseOf w c0 filename inp fuel).1 :=
  yyparseLoop_scan _ (Inv w base) (yylex_inv _ _ _ _ base hb _) fuel _ _ _ _
    ⟨rfl, rfl, rfl, fun _ h => by cases h⟩

theorem readCore_good (w : World) (c : Config) (filename : Option Bytes) (inp : Bytes) (fuel : Nat)
    (base : List Bytes) (hb : AllOpenable w base) :
    Good w base (Ledger.run { opened := base } (readCore w c filename inp fuel).events) [] 0 := by
  rw [readCore_events, run_append]
  exact unwind_good hb _ _ (parseOf_inv w _ filename inp fuel base hb)

/-! ### every path the scanner mentions is recorded in the file-name vector -/

/-- The files of every frame, every path an event names and the top file name are in
`filenames` (the `strvec` that `__config_read` hands over to the configuration). -/
structure Names (s : ScanState) : Prop where
  frames : ∀ f ∈ s.stack, ∀ p ∈ f.files, p ∈ s.filenames
  events : ∀ e ∈ s.events, ∀ p, e.path = some p → p ∈ s.filenames
  top : ∀ p, s.topFile = some p → p ∈ s.filenames

theorem names_of {s s' : ScanState} (h : Names s) (hf : ∀ p ∈ s.filenames, p ∈ s'.filenames)
    (hst : ∀ f ∈ s'.stack, f ∈ s.stack ∨ ∀ p ∈ f.files, p ∈ s'.filenames)
    (hev : ∀ e ∈ s'.events, e ∈ s.events ∨ ∀ p, e.path = some p → p ∈ s'.filenames)
    (htop : s'.topFile = s.topFile) : Names s' where
  frames := fun f hfm p hp => by
    rcases hst f hfm with h1 | h1
    · exact hf p (h.frames f h1 p hp)
    · exact h1 p hp
  events := fun e he p hp => by
    rcases hev e he with h1 | h1
    · exact hf p (h.events e h1 p hp)
    · exact h1 p hp
  top := fun p hp => hf p (h.top p (htop ▸ hp))

theorem currentFilename_mem {s : ScanState} (h : Names s) (p : Bytes) (hp : s.currentFilename = some p) :
    p ∈ s.filenames := by
  unfold ScanState.currentFilename at hp
  split at hp
  · rename_i f fs hst
    exact h.frames f (by rw [hst]; exact List.mem_cons_self) p (List.mem_of_getElem? hp)
  · exact h.top p hp

/-- what one call of `yylex` guarantees about names -/
structure NamesPost (s : ScanState) (r : ScanState × LexOut) : Prop where
  names : Names r.1
  mono : ∀ p ∈ s.filenames, p ∈ r.1.filenames
  errFile : ∀ t text file line, r.2 = .includeError t text file line → file = r.1.currentFilename

theorem names_next {w : World} {s : ScanState} {first : Bool} {f : Frame} {fs : List Frame} (h : Names s)
    (hst : s.stack = f :: fs) :
    Names (nextIncludeFile w s first).1 ∧ (nextIncludeFile w s first).1.filenames = s.filenames ∧
      ∃ cur', (nextIncludeFile w s first).1.stack = { f with cur := cur' } :: fs := by
  rcases nextIncludeFile_shape w s first with ⟨h0, _⟩ | ⟨f', fs', cur', ev, hst', hs, hev, _⟩
  · rw [hst] at h0; cases h0
  rw [hst] at hst'
  cases hst'
  rw [hs]
  have hfm : ∀ p ∈ f.files, p ∈ s.filenames := h.frames f (by rw [hst]; exact List.mem_cons_self)
  refine ⟨names_of h (fun _ hp => hp) (fun g hg => ?_) (fun e he => ?_) rfl, rfl, cur', rfl⟩
  · rcases List.mem_cons.mp hg with rfl | hg
    · exact .inr hfm
    · exact .inl (hst ▸ List.mem_cons_of_mem _ hg)
  · exact (List.mem_append.mp he).imp id fun he p hp => hfm p (hev e he p hp)

theorem names_bufEvents {s : ScanState} {st : List Frame} {b : Buf} {sc : Nat} {ev : List IOEvent} (h : Names s)
    (hst : ∀ f ∈ st, f ∈ s.stack) (hev : ∀ e ∈ ev, e.path = none) :
    Names { s with stack := st, buf := b, sc := sc, events := s.events ++ ev } :=
  names_of h (fun _ hp => hp) (fun g hg => Or.inl (hst g hg))
    (fun e he => (List.mem_append.mp he).imp id fun he p hp => by rw [hev e he] at hp; cases hp) rfl

theorem names_pushFrame {s : ScanState} (h : Names s) (files : List Bytes) : Names (pushFrame s files) :=
  names_of h (fun p hp => List.mem_append_left _ hp)
    (fun g hg => by
      rcases List.mem_cons.mp hg with rfl | hg
      · exact .inr fun p hp => List.mem_append_right _ hp
      · exact .inl hg)
    (fun e he => Or.inl he) rfl

theorem effect_names {T : FlexTables} {acts : List ScanAct} {w : World} {ic : IncludeCfg}
    {s : ScanState} {r : ScanState × Option LexOut} (he : LexEffect T acts w ic s r) (h : Names s) :
    Names r.1 ∧ ∀ p ∈ s.filenames, p ∈ r.1.filenames := by
  have same : ∀ {s' : ScanState}, s'.stack = s.stack → s'.events = s.events →
      s'.filenames = s.filenames → s'.topFile = s.topFile →
      Names s' ∧ ∀ p ∈ s.filenames, p ∈ s'.filenames := fun h1 h2 h3 h4 =>
    ⟨names_of h (fun p hp => h3 ▸ hp) (fun g hg => Or.inl (h1 ▸ hg)) (fun e he => Or.inl (h2 ▸ he)) h4,
      fun p hp => h3 ▸ hp⟩
  cases he with
  | eof => exact same rfl rfl rfl rfl
  | act _ ha => rw [actOut_frame ha]; exact same rfl rfl rfl rfl
  | inclErr _ _ hm => subst hm; exact same rfl rfl rfl rfl
  | skip => exact same rfl rfl rfl rfl
  | next _ hst heq =>
    obtain ⟨h1, hfn, -⟩ := names_next (w := w) (first := false) h hst
    rw [heq] at h1 hfn
    exact ⟨names_bufEvents h1 (fun _ hg => hg) (by decide), fun p hp => hfn ▸ hp⟩
  | stuck _ hst heq =>
    obtain ⟨h1, hfn, -⟩ := names_next (w := w) (first := false) h hst
    rw [heq] at h1 hfn
    exact ⟨h1, fun p hp => hfn ▸ hp⟩
  | pop _ hst heq =>
    obtain ⟨h1, hfn, cur', hstack⟩ := names_next (w := w) (first := false) h hst
    rw [heq] at h1 hfn hstack
    exact ⟨names_bufEvents h1 (fun g hg => by rw [hstack]; exact List.mem_cons_of_mem _ hg) (by decide),
      fun p hp => hfn ▸ hp⟩
  | @push rule len _ files _ _ _ _ _ _ hm _ _ _ heq =>
    subst hm
    have hm := (same (s' := { advance T s rule len with str := [] }) rfl rfl rfl rfl).1
    obtain ⟨h1, hfn, -⟩ := names_next (w := w) (first := true) (names_pushFrame hm files) rfl
    rw [heq] at h1 hfn
    exact ⟨names_bufEvents h1 (fun _ hg => hg) (by decide),
      fun p hp => hfn ▸ List.mem_append_left _ hp⟩
  | @pushFail rule len _ files _ _ _ _ _ _ hm _ _ _ heq h3 =>
    subst hm h3
    have hm := (same (s' := { advance T s rule len with str := [] }) rfl rfl rfl rfl).1
    obtain ⟨h1, hfn, cur', hstack⟩ := names_next (w := w) (first := true) (names_pushFrame hm files) rfl
    rw [heq] at h1 hfn hstack
    exact ⟨names_of h1 (fun _ hp => hp) (fun g hg => by left; rw [hstack]; exact List.mem_cons_of_mem _ hg)
      (fun e he => Or.inl he) rfl, fun p hp => hfn ▸ List.mem_append_left _ hp⟩

theorem yylex_names (T : FlexTables) (acts : List ScanAct) (w : World) (ic : IncludeCfg) (fuel : Nat)
    (s : ScanState) (h : Names s) : NamesPost s (yylex T acts w ic fuel s) := by
  obtain ⟨hn, hm⟩ := yylex_walk (T := T) (acts := acts) (w := w) (ic := ic)
    (fun s' => Names s' ∧ ∀ p ∈ s.filenames, p ∈ s'.filenames)
    (fun m h => ⟨(effect_names m h.1).1, fun p hp => (effect_names m h.1).2 p (h.2 p hp)⟩) fuel s
    ⟨h, fun _ hp => hp⟩
  exact ⟨hn, hm, fun _ _ _ _ e => yylex_errFile fuel s e⟩

theorem scan0_names (filename : Option Bytes) (inp : Bytes) : Names (scan0 filename inp) where
  frames := fun f hf => by cases hf
  events := fun e he => by cases he
  top := fun p hp => by
    have : filename = some p := hp
    subst this
    exact List.mem_singleton.mpr rfl

end Libconfig.C11P
