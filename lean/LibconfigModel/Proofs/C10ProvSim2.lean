import LibconfigModel.Proofs.C10ProvSim
/-
  The simulation, part 2: opening an aggregate (the mid-rule actions `$@2`, `$@3`, `$@4` run by
  default reduction right after the bracket: that is the position a new element records), the
  three statements, and values.
-/
namespace Libconfig.C10Prov
open Libconfig C02P C05P C02C C01PP C04 C04R Denote C02D C09L

section
variable {E : ParserEnv} {plain : Bool} {pos : Nat → ScanState} {o : Options} {tv : Nat × TokVal}

/-! ### opening an aggregate -/

/-- the opening bracket of an aggregate: shift it, run the mid-rule action that creates the
aggregate (or gives the fresh member its type) and moves `ctx->parent` down — in the scan state
right after the bracket -/
theorem sim_openP (hE : Compiled E) {q : Nat} (hqf : q ≠ 6) {opn : Denote.Item}
    {k s1 s2 r lhs ty : Nat}
    {act : ParseAct} (hkc : ∀ k', KindRel opn k' → k' = k) (hsh : actAt P q k = some (s1 : Int))
    (hs0 : 0 < s1) (hsf : s1 ≠ 6) (hdf : DefaultOnly s1 r) (hrule : RuleIs r lhs 0 act)
    (hact : aggTy act = some ty)
    (hgoto : gotoTo P s1 lhs = s2)
    {vq : TokVal} {stk : List (Nat × TokVal)} {la : Lookahead} {sc : ScanState} {ctx : ParseCtx}
    {K : Node → Node} {pp : Path} {pn : Node} {st : Option Path} {pre : List Node}
    {nm : Option Bytes} {mk : Option Nat} {rest : List Denote.Item}
    (hek : elemKey (opn :: rest) = rest.length + 1)
    (hd : stk.length + 2 < 10000) (hI : InpI E plain pos tv la sc (opn :: rest))
    (hV : View ctx K pp pn none st) (hS : SlotP st pp pn pre nm (mk.map (stampAt pos)))
    (hna : pn.ty ≠ T_ARRAY) (hinv : Inv plain o ctx) :
    ∃ la' sc' ctx' vv v1 st', Reaches E ⟨(q, vq) :: stk, la, sc, ctx⟩
        ⟨(s2, vv) :: (s1, v1) :: (q, vq) :: stk, la', sc', ctx'⟩ ∧
      InpI E plain pos tv la' sc' rest ∧
      View ctx' (fun y => K { pn with kids := pre ++ [y] }) (pp ++ [pre.length])
        (stamped { name := nm, ty := ty } (stampAt pos (keyOf mk (opn :: rest)))) none st' ∧
      Inv plain o ctx' := by
  obtain ⟨v, sc1, ctx1, hR1, hI1, hS1, -, hsc1, -⟩ := hI.shift hE (v0 := vq) (rest := stk)
    (ctx := ctx) (room 1 hd) hqf hkc hsh hs0
  rw [← hek] at hsc1
  obtain ⟨la2, ctx2, vv2, hR2, hI2, ⟨st2, hV2⟩, hinv2⟩ := hI1.reduceAt hE
    (Post := fun c2 => ∃ st', View c2 (fun y => K { pn with kids := pre ++ [y] })
      (pp ++ [pre.length])
      (stamped { name := nm, ty := ty } (stampAt pos (keyOf mk (opn :: rest)))) none st')
    (pushed := []) (p := s1) (vp := v) (rest := (q, vq) :: stk) rfl rfl (room 2 hd)
    hsf (fun k _ _ => hdf.red k) hrule rfl hgoto (hinv.of_same hS1)
    (by rw [if_pos (by rw [hdf.ninf]; exact beq_self_eq_true _)])
    (fun ctx₁ hs => by
      rw [hsc1]
      obtain ⟨c2, st', h1, h2⟩ := act_aggStartP ((hV.of_same hS1.sem).of_same hs.sem) hS hna
        hact v (pos (elemKey (opn :: rest))).buf.lineno (pos (elemKey (opn :: rest))).currentFilename
      rw [slotStamp_key] at h2
      exact ⟨c2, h1, st', h2⟩)
  exact ⟨la2, _, ctx2, vv2, v, st2, hR1.trans hR2, hI2, hV2, hinv2⟩

/-! ### the three statements -/

/-- VALUE.  The loop stands in a place for a value (`ValCtx q qv`: state `q` on top of any stack
`stk`) in front of `items` and, behind them, the end token `tv` (`InpI`); the slot `SlotP` says
where the value goes.  Then the loop follows `valueJ` on these items: if it reads `x` and leaves
`rest`, the loop arrives with `value` pushed (`qv` on `q`), in front of `rest` and `tv`, the slot
filled with `x` (`AfterValueP`); if it rejects, the loop aborts with that message in that scan
state (`Sim`).
`stk.length + 1 ≤ 6 * d + 5` and `nestS d items ≤ 1665`: the stack stands for `d` levels of
brackets and the items go no deeper than level 1665, empty brackets not counted — so the stack
stays below its bound.  A level costs at most six entries (`{ $@4 setting_list NAME $@1 =`: a group
that is not the first member of its group).  The constants say how much of the stack the `stk` of
each statement covers: here the whole stack `(q, vq) :: stk` has at most `6 * d + 5` entries (the
five in front of a top-level value: the bottom entry and `setting_list NAME $@1 =`); in
`ListRestSim` `stk` reaches up to the `(` of the list, one entry more (`+ 6`); in `SettingsSim`
`stk0` reaches up to below `q0` (`+ 1` counts `q0`, at top level the bottom entry).  With
`d ≤ 1665` that leaves just the room the steps ask for (`hroom`: never more than 9999 entries).
`C01PP.level` turns a stack length into such a `d`.
`endK tv ≠ 9`: no string follows (it would continue a string value).  The last hypothesis is asked
for a rejected value only: then the items are the rest of a whole text (`endK tv = 0`) and the
place is one the grammar has, with what it needs below it (`VCtx … ex`, and the next item is none
of `ex`). -/
def ValueSim (E : ParserEnv) (plain : Bool) (pos : Nat → ScanState) (tv : Nat × TokVal) (o : Options)
    (fuel : Nat) : Prop :=
  ∀ (nm : Option Bytes) (mk : Option Nat) (items : List Denote.Item) (q qv : Nat)
    (stk : List (Nat × TokVal)) (ex : List Nat) (vq : TokVal) (la : Lookahead) (sc : ScanState)
    (ctx : ParseCtx) (K : Node → Node) (pp : Path) (pn : Node) (st : Option Path)
    (pre : List Node) (d : Nat),
    ValCtx q qv → items.length < fuel → stk.length + 1 ≤ 6 * d + 5 →
    InpI E plain pos tv la sc items → View ctx K pp pn none st →
    SlotP st pp pn pre nm (mk.map (stampAt pos)) → pn.ty ≠ T_ARRAY → Inv plain o ctx →
    nestS d items ≤ 1665 → endK tv ≠ 9 →
    (Rejects (valueJ (stampAt pos) o fuel nm mk items) →
      endK tv = 0 ∧ VCtx q qv stk ex ∧ ∀ c ∈ ex, hk items ≠ c) →
    Sim E plain pos ⟨(q, vq) :: stk, la, sc, ctx⟩ (valueJ (stampAt pos) o fuel nm mk items)
      (AfterValueP E plain pos tv o qv q vq stk K pp pn pre d)

/-- LIST REST.  After an element of the list `a` (state 36 on 26, `( $@3` and `value_list`, on any
stack), in front of `items` and the end token: the loop follows `listRestJ`, which reads the
further elements AND the closing parenthesis.  The loop is left in front of that parenthesis,
`value_list_optional` pushed (37 on 26) and the list holding the elements — so nothing is asked of
what lies below `( $@3`.  Level, nesting and the end token as in `ValueSim`; the list itself is one
level up (`d + 1`). -/
def ListRestSim (E : ParserEnv) (plain : Bool) (pos : Nat → ScanState) (tv : Nat × TokVal)
    (o : Options) (fuel : Nat) : Prop :=
  ∀ (acc : List Node) (items : List Denote.Item) (v36 v26 : TokVal) (stk : List (Nat × TokVal))
    (la : Lookahead) (sc : ScanState) (ctx : ParseCtx) (K : Node → Node) (pp : Path) (a : Node)
    (st : Option Path) (d : Nat),
    items.length < fuel → stk.length ≤ 6 * d + 6 → InpI E plain pos tv la sc items →
    View ctx K pp a none st → a.ty = T_LIST → a.kids = acc → Inv plain o ctx →
    nestS (d + 1) items ≤ 1665 → endK tv ≠ 9 →
    (Rejects (listRestJ (stampAt pos) o fuel acc items) → endK tv = 0) →
    Sim E plain pos ⟨(36, v36) :: (26, v26) :: stk, la, sc, ctx⟩
      (listRestJ (stampAt pos) o fuel acc items)
      (fun elems rest b => ∃ la sc ctx vv st', b = ⟨(37, vv) :: (26, v26) :: stk, la, sc, ctx⟩ ∧
        InpI E plain pos tv la sc (.listEnd :: rest) ∧
        View ctx K pp { a with kids := elems } none st' ∧ Inv plain o ctx ∧
        nestS (d + 1) (.listEnd :: rest) ≤ 1665)

/-- the configuration after the settings of a group have been read: nothing has happened (no
setting was there), or `setting_list` is on top of the bottom of the group's stack segment -/
def AfterSettingsP (E : ParserEnv) (plain : Bool) (pos : Nat → ScanState) (tv : Nat × TokVal)
    (o : Options) (q0 q1 : Nat) (v0 : TokVal) (stk0 stkS₀ : List (Nat × TokVal))
    (items₀ : List Denote.Item) (K : Node → Node) (pp : Path) (pn : Node) (d : Nat)
    (members : List Node) (rest : List Denote.Item) (b : MC) : Prop :=
  ∃ stkS la sc ctx st', b = ⟨stkS, la, sc, ctx⟩ ∧
    (stkS = stkS₀ ∧ rest = items₀ ∨ ∃ v1, stkS = (q1, v1) :: (q0, v0) :: stk0) ∧
    InpI E plain pos tv la sc rest ∧ View ctx K pp { pn with kids := members } none st' ∧
    Inv plain o ctx ∧ nestS d rest ≤ 1665 ∧
    ∀ nm r', rest ≠ .name nm :: r'

/-- SETTINGS.  The settings of the group `pn` (or of the configuration): in a place for settings
(`MemCtx q0 q1`: `q0` on top, or `setting_list`, `q1`, on it), in front of `items` and the end
token, the loop follows `settingsJ` and arrives as `AfterSettingsP` says, the group holding the
members read.  Level, nesting, `endK tv ≠ 9` and `Rejects … → endK tv = 0` as in `ValueSim`.  The
last hypothesis: where the settings use up the items, the end token is neither `,` nor `;` (it
would belong to the last setting). -/
def SettingsSim (E : ParserEnv) (plain : Bool) (pos : Nat → ScanState) (tv : Nat × TokVal) (o : Options)
    (fuel : Nat) : Prop :=
  ∀ (members : List Node) (items : List Denote.Item) (q0 q1 : Nat), MemCtx q0 q1 →
    ∀ (v0 : TokVal) (stk0 stkS : List (Nat × TokVal)) (la : Lookahead) (sc : ScanState)
      (ctx : ParseCtx) (K : Node → Node) (pp : Path) (pn : Node) (st : Option Path)
      (d : Nat),
    (stkS = (q0, v0) :: stk0 ∨ ∃ v1, stkS = (q1, v1) :: (q0, v0) :: stk0) →
    items.length < fuel → stk0.length + 1 ≤ 6 * d + 1 → InpI E plain pos tv la sc items →
    View ctx K pp pn none st → pn.ty = T_GROUP → pn.kids = members →
    Inv plain o ctx → nestS d items ≤ 1665 → endK tv ≠ 9 →
    (Rejects (settingsJ (stampAt pos) o fuel members items) → endK tv = 0) →
    (∀ r, settingsJ (stampAt pos) o fuel members items = .ok r [] → endK tv ≠ 17 ∧ endK tv ≠ 20) →
    Sim E plain pos ⟨stkS, la, sc, ctx⟩ (settingsJ (stampAt pos) o fuel members items)
      (AfterSettingsP E plain pos tv o q0 q1 v0 stk0 stkS items K pp pn d)

/-! ### values -/

theorem value_step (hE : Compiled E) (fuel : Nat) (ihv : ValueSim E plain pos tv o fuel)
    (ihl : ListRestSim E plain pos tv o fuel) (ihs : SettingsSim E plain pos tv o fuel) :
    ValueSim E plain pos tv o (fuel + 1) := by
  intro nm mk items q qv stk ex vq la sc ctx K pp pn st pre d hC hf hd hI hV hS hna hinv hnest he
    herr
  -- what an inner reading that is rejected gives: the whole is rejected
  have he0 : ∀ {α : Type} {r : ResAt α}, (Rejects r → Rejects (valueJ (stampAt pos) o (fuel + 1)
      nm mk items)) → Rejects r → endK tv = 0 := fun h hr => (herr (h hr)).1
  have hd0 : d ≤ 1665 := Nat.le_trans (le_nestS _ _) hnest
  have hroom : stk.length + 5 < 10000 := by omega
  cases valueView items with
  | arrNil r' =>
    rw [valueJ]
    obtain ⟨la1, sc1, ctx1, vv1, v1, st1, hR1, hI1, hV1, hinv1⟩ := sim_openP hE
      (vq := vq) (stk := stk) hC.scal.notFinal (opn := .arrayStart) (k := 13) (fun _ h => h)
      hC.arrayStart (by decide)
      (by decide) (dflt 16) rule_13 (ty := T_ARRAY) rfl go_16_M2
      rfl (room 2 hroom) hI hV hS hna hinv
    -- `simple_value_list_optional:` empty
    obtain ⟨la2, sc2, ctx2, vv2, hR2, hI2, hS2⟩ := hI1.reduce0 hE (ctx := ctx1)
      (pushed := []) (p := 25) (vp := vv1) (rest := (16, v1) :: (q, vq) :: stk)
      rfl rfl (room 3 hroom) (by decide)
      (fun k h23 hn => red_25 k h23 (scalStart_of_hk h23 hn (by simp [hk]))) rule_38 rfl go_25_svlo
    -- `]`
    obtain ⟨la3, sc3, ctx3, vv3, st3, hR3, hI3, hV3, hinv3⟩ := sim_close hE hC.gValue
      (close := .arrayEnd) (k := 14) (fun _ h => h) sh_34_arrayEnd (by decide) (by decide)
      (by decide) (by decide) red_41 rule_14 hC.gArray red_19 rule_18
      (v3 := vv2) (v2 := vv1) (v1 := v1) (vq := vq) (stk := stk)
      hroom hV.hole (hV1.of_same hS2.sem) (hinv1.of_same hS2) hI2
    refine ⟨_, (hR1.trans hR2).trans hR3, la3, sc3, ctx3, vv3, rfl, hI3, ⟨st3, hV3⟩, hinv3, ?_⟩
    rw [nestS] at hnest
    exact hnest
  | arr rest' hne =>
    rw [valueJ_arr _ _ _ _ _ _ hne] at herr he0 ⊢
    have hnest1 : nestS (d + 1) rest' ≤ 1665 :=
      Nat.le_trans (nestS_open (.inl ⟨rfl, hne⟩)) hnest
    have hd1 : d + 1 ≤ 1665 := Nat.le_trans (le_nestS _ _) hnest1
    obtain ⟨la1, sc1, ctx1, vv1, v1, st1, hR1, hI1, hV1, hinv1⟩ := sim_openP hE
      (vq := vq) (stk := stk) hC.scal.notFinal (opn := .arrayStart) (k := 13) (fun _ h => h)
      hC.arrayStart (by decide)
      (by decide) (dflt 16) rule_13 (ty := T_ARRAY) rfl go_16_M2
      rfl (room 2 hroom) hI hV hS hna hinv
    cases hs : scalarP (stampAt pos) none none rest' with
    | none =>
      rw [hs] at herr
      have hz : ∀ l : List Denote.Item, l = [] → endK tv = 0 := fun _ _ => (herr .error).1
      -- neither a scalar nor `]` after `[`
      show AbortsAt E plain _ ErrKind.syntax.text _
      rw [text_syntax, reportAt_syntax]
      obtain ⟨la2, sc2, ctx2, vv2, hR2, hI2, hS2⟩ := hI1.reduce0 hE (ctx := ctx1)
        (pushed := []) (p := 25) (vp := vv1) (rest := (16, v1) :: (q, vq) :: stk)
        rfl rfl (room 3 hroom) (by decide)
        (fun k h23 hn => red_25 k h23
          (scalStart_of_hk h23 (hkE_of (hz _) ▸ hn) (scalar_none (scalarP_none hs))))
        rule_38 rfl go_25_svlo
      refine AbortsAt.of_reaches (hR1.trans hR2) ?_
      exact hI2.error hE rfl (room 4 hroom) (by decide)
        (fun k h23 hn => err_34 k h23 (kind_ne hn (hz _) (hk_ne_14 hne))) nn_34
        (hinv1.of_same hS2).err
    | some p =>
      obtain ⟨x, rest''⟩ := p
      rw [hs] at he0
      simp only at he0 ⊢
      obtain ⟨x0, hs0, _⟩ := scalarP_some hs
      obtain ⟨la2, sc2, ctx2, vv2, hR2, hI2, ⟨st2, hV2⟩, hinv2⟩ := (sim_scalar (o := o) hE scal_25 hs
        (vq := vv1) (stk := (16, v1) :: (q, vq) :: stk) (by dep) hI1 hV1
        (SlotP.elem (.inr rfl) rfl rfl) hinv1 he).1 (fun _ => rfl)
      -- `simple_value_list: simple_value`
      obtain ⟨la3, sc3, ctx3, vv3, hR3, hI3, hS3⟩ := hI2.reduce0 hE (ctx := ctx2)
        (pushed := [(32, vv2)]) (p := 25) (vp := vv1) (rest := (16, v1) :: (q, vq) :: stk)
        rfl rfl (room 4 hroom) (by decide) (fun k h23 _ => red_32 k h23) rule_35 rfl go_25_svl
      have harr := sim_arrayRest (o := o) hE hC x.ty fuel [x] rest'' vv3 vv1 v1 vq stk la3 sc3 ctx3
        K pp pn pre
        (stamped { name := nm, ty := T_ARRAY, kids := [x] }
          (stampAt pos (keyOf mk (.arrayStart :: rest')))) st2 d
        (Nat.lt_trans (scalar_length hs0) (Nat.lt_of_succ_lt_succ hf))
        hd hI3 hV.hole (hV2.of_same hS3.sem) rfl rfl ⟨x, [], rfl, rfl⟩
        (hinv2.of_same hS3)
        (by rw [scalar_nestS _ hs0]; exact hnest1) he
        (he0 (.imp fun _ _ h => by rw [h]))
      refine Sim.of_reaches ((hR1.trans hR2).trans hR3) ?_
      cases har : arrayRestJ (stampAt pos) x.ty fuel [x] rest'' with
      | error k w => rw [har] at harr; exact harr
      | ok elems rest3 => rw [har] at harr; exact harr
  | lstNil r' =>
    rw [valueJ]
    obtain ⟨la1, sc1, ctx1, vv1, v1, st1, hR1, hI1, hV1, hinv1⟩ := sim_openP hE
      (vq := vq) (stk := stk) hC.scal.notFinal (opn := .listStart) (k := 15) (fun _ h => h)
      hC.listStart (by decide)
      (by decide) (dflt 17) rule_15 (ty := T_LIST) rfl go_17_M3
      rfl (room 2 hroom) hI hV hS hna hinv
    -- `value_list_optional:` empty
    obtain ⟨la2, sc2, ctx2, vv2, hR2, hI2, hS2⟩ := hI1.reduce0 hE (ctx := ctx1)
      (pushed := []) (p := 26) (vp := vv1) (rest := (17, v1) :: (q, vq) :: stk)
      rfl rfl (room 3 hroom) (by decide)
      (fun k h23 hn => red_26 k h23 (valStart_of_hk h23 hn rfl)) rule_33 rfl go_26_vlo
    -- `)`
    obtain ⟨la3, sc3, ctx3, vv3, st3, hR3, hI3, hV3, hinv3⟩ := sim_close hE hC.gValue
      (close := .listEnd) (k := 16) (fun _ h => h) sh_37_listEnd (by decide) (by decide)
      (by decide) (by decide) red_43 rule_16 hC.gList red_20 rule_19
      (v3 := vv2) (v2 := vv1) (v1 := v1) (vq := vq) (stk := stk)
      hroom hV.hole (hV1.of_same hS2.sem) (hinv1.of_same hS2) hI2
    refine ⟨_, (hR1.trans hR2).trans hR3, la3, sc3, ctx3, vv3, rfl, hI3, ⟨st3, hV3⟩, hinv3, ?_⟩
    rw [nestS] at hnest
    exact hnest
  | lst rest' hne =>
    rw [valueJ_lst _ _ _ _ _ _ hne] at he0 ⊢
    have hnest1 : nestS (d + 1) rest' ≤ 1665 :=
      Nat.le_trans (nestS_open (.inr (.inl ⟨rfl, hne⟩))) hnest
    have hd1 : d + 1 ≤ 1665 := Nat.le_trans (le_nestS _ _) hnest1
    obtain ⟨la1, sc1, ctx1, vv1, v1, st1, hR1, hI1, hV1, hinv1⟩ := sim_openP hE
      (vq := vq) (stk := stk) hC.scal.notFinal (opn := .listStart) (k := 15) (fun _ h => h)
      hC.listStart (by decide)
      (by decide) (dflt 17) rule_15 (ty := T_LIST) rfl go_17_M3
      rfl (room 2 hroom) hI hV hS hna hinv
    have h1 := ihv none none rest' 26 35 ((17, v1) :: (q, vq) :: stk) [16] vv1 la1 sc1 ctx1 _ _ _
      st1 [] (d + 1) val_26 (Nat.lt_of_succ_lt_succ hf) (by dep) hI1
      hV1 (SlotP.elem (.inl rfl) rfl rfl) (by show T_LIST ≠ T_ARRAY; decide) hinv1 hnest1 he
      (fun hr => ⟨he0 (.imp fun _ _ h => by rw [h]) hr, .first _,
        fun c hc => by rw [List.mem_singleton.mp hc]; exact hk_ne_16 hne⟩)
    cases hv : valueJ (stampAt pos) o fuel none none rest' with
    | error k w => rw [hv] at h1; exact AbortsAt.of_reaches hR1 h1
    | ok x rest1 =>
      rw [hv] at h1 he0
      simp only at he0 ⊢
      obtain ⟨b, hR2, la2, sc2, ctx2, vv2, rfl, hI2, ⟨st2, hV2⟩, hinv2, hnest2⟩ := h1
      -- `value_list: value`
      obtain ⟨la3, sc3, ctx3, vv3, hR3, hI3, hS3⟩ := hI2.reduce0 hE (ctx := ctx2)
        (pushed := [(35, vv2)]) (p := 26) (vp := vv1) (rest := (17, v1) :: (q, vq) :: stk)
        rfl rfl (room 4 hroom) (by decide) (fun k h23 _ => red_35 k h23) rule_30 rfl go_26_vl
      have hlst := ihl [x] rest1 vv3 vv1 ((17, v1) :: (q, vq) :: stk) la3 sc3 ctx3 _ _
        (stamped { name := nm, ty := T_LIST, kids := [x] }
          (stampAt pos (keyOf mk (.listStart :: rest')))) st2 d
        (Nat.lt_trans (valueJ_length hv) (Nat.lt_of_succ_lt_succ hf))
        (by dep) hI3 (hV2.of_same hS3.sem) rfl rfl (hinv2.of_same hS3) hnest2 he
        (he0 (.imp fun _ _ h => by rw [h]))
      refine Sim.of_reaches ((hR1.trans hR2).trans hR3) ?_
      cases hl : listRestJ (stampAt pos) o fuel [x] rest1 with
      | error k w => rw [hl] at hlst; exact hlst
      | ok elems rest3 =>
        rw [hl] at hlst
        obtain ⟨b, hR4, la4, sc4, ctx4, vv4, st4, rfl, hI4, hV4, hinv4, hnest4⟩ := hlst
        -- `)`
        obtain ⟨la5, sc5, ctx5, vv5, st5, hR5, hI5, hV5, hinv5⟩ := sim_close hE hC.gValue
          (close := .listEnd) (k := 16) (fun _ h => h) sh_37_listEnd (by decide) (by decide)
          (by decide) (by decide) red_43 rule_16 hC.gList red_20 rule_19
          (v3 := vv4) (v2 := vv1) (v1 := v1) (vq := vq) (stk := stk)
          hroom hV.hole hV4 hinv4 hI4
        exact ⟨_, hR4.trans hR5, la5, sc5, ctx5, vv5, rfl, hI5, ⟨st5, hV5⟩, hinv5,
          Nat.le_trans (nestS_close (.inr (.inl rfl))) hnest4⟩
  | grp rest' =>
    rw [valueJ] at he0 ⊢
    obtain ⟨la1, sc1, ctx1, vv1, v1, st1, hR1, hI1, hV1, hinv1⟩ := sim_openP hE
      (vq := vq) (stk := stk) hC.scal.notFinal (opn := .groupStart) (k := 18) (fun _ h => h)
      hC.groupStart (by decide)
      (by decide) (dflt 18) rule_40 (ty := T_GROUP) rfl go_18_M4
      rfl (room 2 hroom) hI hV hS hna hinv
    by_cases hge : ∃ r, rest' = .groupEnd :: r
    · -- `{ }`: no deeper than a scalar
      obtain ⟨r', rfl⟩ := hge
      obtain ⟨f, rfl⟩ :=
        Nat.exists_eq_add_one_of_ne_zero (Nat.ne_zero_of_lt (Nat.lt_of_succ_lt_succ hf))
      rw [settingsJ_other _ _ _ _ _ (fun _ _ h => by cases h)]
      -- `setting_list_optional:` empty
      obtain ⟨la2, sc2, ctx2, vv2, hR2, hI2, hS2⟩ := hI1.reduce0 hE (ctx := ctx1)
        (pushed := []) (p := 27) (vp := vv1) (rest := (18, v1) :: (q, vq) :: stk)
        rfl rfl (room 3 hroom) (by decide)
        (fun k h23 hn => red_27 k h23 (ne_of_hk hn rfl (by simp [hk]))) rule_6 rfl go_27_slo
      -- `}`
      obtain ⟨la3, sc3, ctx3, vv3, st3, hR3, hI3, hV3, hinv3⟩ := sim_close hE hC.gValue
        (close := .groupEnd) (k := 19) (fun _ h => h) sh_39_groupEnd (by decide) (by decide)
        (by decide) (by decide) red_44 rule_41 hC.gGroup red_24 rule_20
        (v3 := vv2) (v2 := vv1) (v1 := v1) (vq := vq) (stk := stk)
        hroom hV.hole (hV1.of_same hS2.sem) (hinv1.of_same hS2) hI2
      refine ⟨_, (hR1.trans hR2).trans hR3, la3, sc3, ctx3, vv3, rfl, hI3, ⟨st3, hV3⟩, hinv3, ?_⟩
      rw [nestS] at hnest
      exact hnest
    have hnest1 : nestS (d + 1) rest' ≤ 1665 :=
      Nat.le_trans (nestS_open (.inr (.inr ⟨rfl, fun r h => hge ⟨r, h⟩⟩))) hnest
    have hd1 : d + 1 ≤ 1665 := Nat.le_trans (le_nestS _ _) hnest1
    have h1 := ihs [] rest' 27 38 mem_27 vv1 ((18, v1) :: (q, vq) :: stk)
      ((27, vv1) :: (18, v1) :: (q, vq) :: stk) la1 sc1 ctx1 _ _ _ st1
      (d + 1) (.inl rfl)
      (Nat.lt_of_succ_lt_succ hf) (by dep) hI1 hV1 rfl rfl hinv1 hnest1 he
      (he0 (.imp fun _ _ h => by rw [h]))
      (fun r h => by
        -- a group that the items end in is rejected
        have := he0 (r := ResAt.error (α := Node) .syntax []) (fun _ => by rw [h]; exact .error) .error
        omega)
    cases hs : settingsJ (stampAt pos) o fuel [] rest' with
    | error k w => rw [hs] at h1; exact AbortsAt.of_reaches hR1 h1
    | ok members rest1 =>
      rw [hs] at h1 he0
      obtain ⟨b, hR2, stkS, la2, sc2, ctx2, st2, rfl, hshape, hI2, hV2, hinv2, hnest2,
        hstop⟩ := h1
      -- where the group is not closed the text is rejected
      have hz : (∀ r, rest1 ≠ .groupEnd :: r) → ∀ l : List Denote.Item, l = [] → endK tv = 0 := by
        intro hge' _ _
        refine he0 (r := ResAt.error (α := Node) .syntax []) (fun _ => ?_) .error
        cases rest1 with
        | nil => exact .error
        | cons it r2 =>
          cases it
          case groupEnd => exact absurd rfl (hge' _)
          all_goals exact .error
      have hne1 : rest1 = [] → endK tv = 0 := fun h => hz (fun _ h' => by rw [h] at h'; cases h') _ rfl
      -- `setting_list_optional`
      have hslo : ∃ la3 sc3 ctx3 vv3, Reaches E ⟨stkS, la2, sc2, ctx2⟩
          ⟨(39, vv3) :: (27, vv1) :: (18, v1) :: (q, vq) :: stk, la3, sc3, ctx3⟩ ∧
          InpI E plain pos tv la3 sc3 rest1 ∧ Same plain ctx2 ctx3 := by
        rcases hshape with ⟨rfl, -⟩ | ⟨v38, rfl⟩
        · exact hI2.reduce0 hE (ctx := ctx2)
            (pushed := []) (p := 27) (vp := vv1) (rest := (18, v1) :: (q, vq) :: stk)
            rfl rfl (room 3 hroom) (by decide)
            (fun k h23 hn => red_27 k h23 (kind_ne hn hne1 (hk_ne_10 hstop)))
            rule_6 rfl go_27_slo
        · exact hI2.reduce0 hE (ctx := ctx2)
            (pushed := [(38, v38)]) (p := 27) (vp := vv1) (rest := (18, v1) :: (q, vq) :: stk)
            rfl rfl (room 4 hroom) (by decide)
            (fun k h23 hn => red_38 k h23 (kind_ne hn hne1 (hk_ne_10 hstop)))
            rule_7 rfl go_27_slo
      obtain ⟨la3, sc3, ctx3, vv3, hR3, hI3, hS3⟩ := hslo
      -- neither a NAME nor `}`
      have bad : (∀ r, rest1 ≠ .groupEnd :: r) →
          AbortsAt E plain ⟨(q, vq) :: stk, la, sc, ctx⟩ ErrKind.syntax.text
            (pos (reportAt .syntax rest1).length) := by
        intro hge'
        rw [text_syntax, reportAt_syntax]
        refine AbortsAt.of_reaches ((hR1.trans hR2).trans hR3) ?_
        exact hI3.error hE rfl (room 4 hroom) (by decide)
          (fun k h23 hn => err_39 k h23 (kind_ne hn (hz hge' _) (hk_ne_19 hge')))
          nn_39
          (hinv2.of_same hS3).err
      cases rest1 with
      | nil => exact bad (fun _ h => by cases h)
      | cons it r2 =>
        cases it
        case groupEnd =>
          simp only
          -- `}`
          obtain ⟨la4, sc4, ctx4, vv4, st4, hR4, hI4, hV4, hinv4⟩ := sim_close hE hC.gValue
            (close := .groupEnd) (k := 19) (fun _ h => h) sh_39_groupEnd (by decide) (by decide)
            (by decide) (by decide) red_44 rule_41 hC.gGroup red_24 rule_20
            (v3 := vv3) (v2 := vv1) (v1 := v1) (vq := vq) (stk := stk)
            hroom hV.hole (hV2.of_same hS3.sem) (hinv2.of_same hS3) hI3
          refine ⟨_, ((hR1.trans hR2).trans hR3).trans hR4, la4, sc4, ctx4, vv4, rfl, hI4,
            ⟨st4, hV4⟩, hinv4, ?_⟩
          exact Nat.le_trans (nestS_close (.inr (.inr rfl))) hnest2
        all_goals exact bad (fun _ h => by cases h)
  | other _ h1 h2 h3 =>
    rw [valueJ_other _ _ _ _ _ _ h1 h2 h3] at herr ⊢
    cases hs : scalarP (stampAt pos) nm mk items with
    | none =>
      rw [hs] at herr
      obtain ⟨hz0, hX, hex⟩ := herr .error
      -- no value starts here
      show AbortsAt E plain _ ErrKind.syntax.text _
      rw [text_syntax, reportAt_syntax]
      refine hX.err hE (room 2 hroom) hI hz0 ?_ (fun c hc => ⟨?_, hex c hc⟩) hinv.err
      · have hsn := scalar_none (scalarP_none hs)
        cases items with
        | nil => rfl
        | cons it tl =>
          cases it
          case arrayStart => exact absurd rfl (h1 _)
          case listStart => exact absurd rfl (h2 _)
          case groupStart => exact absurd rfl (h3 _)
          all_goals first | rfl | (simp [hk] at hsn)
      · cases hX with
        | member => cases hc
        | first =>
          rw [List.mem_singleton.mp hc]; rfl
        | later =>
          simp only [List.mem_cons, List.not_mem_nil, or_false] at hc
          rcases hc with rfl | rfl <;> rfl
    | some p =>
      obtain ⟨x, rest1⟩ := p
      simp only
      obtain ⟨x0, hs0, _⟩ := scalarP_some hs
      obtain ⟨la2, sc2, ctx2, vv2, hR2, hI2, hF2, hinv2⟩ := (sim_scalar (o := o) hE hC.scal hs
        (vq := vq) (stk := stk) (room 4 hroom) hI hV hS hinv he).1 (fun h => absurd h hna)
      -- `value: simple_value`
      obtain ⟨la3, sc3, ctx3, vv3, hR3, hI3, hS3⟩ := hI2.reduce0 hE (ctx := ctx2)
        (pushed := [(23, vv2)]) (p := q) (vp := vq) (rest := stk)
        rfl rfl (room 2 hroom) (by decide) (fun k h23 _ => red_23 k h23) rule_17 rfl hC.gValue
      obtain ⟨st', hV'⟩ := hF2
      refine ⟨_, hR2.trans hR3, la3, sc3, ctx3, vv3, rfl, hI3,
        ⟨st', hV'.of_same hS3.sem⟩, hinv2.of_same hS3, ?_⟩
      rw [scalar_nestS _ hs0]
      exact hnest

end

end Libconfig.C10Prov
