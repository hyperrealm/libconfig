import LibconfigModel.Proofs.C01IdemSciText
/-
  C01 idempotence (scientific notation) — what `strtod` reads off the text written with `%.{P}g`
  (`P` = the precision, or 17 for the re-rendering), in canonical form: a positive ratio `N/Dn`
  equal to `d0·10^sh`, where `sh = x0 - P + 1` and `d0 = round-half-even(|b| / 10^sh)`.
  Consequence: the text never reads back as an infinity (the second side condition that
  `C01L.floatOK` keeps as a hypothesis under `CONFIG_OPTION_ALLOW_SCIENTIFIC_NOTATION`).
-/
namespace Libconfig.C01I
open Libconfig F64 C01P C01L
open Libconfig.F64R

/-! ### arithmetic of powers of ten -/

/-- the exponents of `cross_pow` when the scales `k` and `sh + j` are integers -/
theorem toNat_balance (k s sh : Int) (j y z : Nat) (h1 : k + y = s + z) (h2 : s = sh + j) :
    k.toNat + (-sh).toNat + y = j + (sh.toNat + (-k).toNat) + z := by
  have e1 := Int.toNat_sub_toNat_neg k
  have e2 := Int.toNat_sub_toNat_neg sh
  generalize k.toNat = a at *
  generalize (-k).toNat = a' at *
  generalize sh.toNat = c at *
  generalize (-sh).toNat = c' at *
  omega

/-! ### the canonical form of the value read back -/

/-- what is read back: `ofRat` of a ratio equal to `d0·10^sh` -/
structure ReadVal (neg : Bool) (text : Bytes) (d0 : Nat) (sh : Int) (N Dn : Nat) : Prop where
  dpos : 0 < Dn
  value : strtod text = ofRat neg N Dn
  ratio : N * 10 ^ (-sh).toNat = d0 * 10 ^ sh.toNat * Dn

/-- the text `libconfig_format_double` makes of `%.{P}g` of a finite non-zero double -/
def sciText (b P : Nat) : Bytes :=
  postProc (gTail (signBytes (signBit b)) P (gDX b P).1 (gDX b P).2)

theorem sciText_value (b P : Nat) (hfin : isFinite b = true) (hm : mant b ≠ 0) (hP : 1 ≤ P)
    (hP70 : P ≤ 70) :
    ∃ N Dn, ReadVal (signBit b) (sciText b P) (gQ b P) (gSh b P) N Dn := by
  obtain ⟨-, hdhi, hx, hval⟩ := gDX_spec b P hfin hm hP
  obtain ⟨-, -, hx0lo, hx0hi⟩ := gX0_spec b hfin hm
  obtain ⟨D, k, z, y, hT⟩ := gTail_value (signBit b) P (gDX b P).1 (gDX b P).2 hP hP70 hdhi
    (by omega) (by omega)
  refine ⟨D * 10 ^ k.toNat, 10 ^ (-k).toNat, pow10_pos _, hT.value, ?_⟩
  rw [← hval, Nat.mul_assoc D, ← Nat.pow_add, Nat.mul_assoc, Nat.mul_assoc, ← Nat.pow_add, ← Nat.pow_add]
  exact cross_pow D _ z y _ _ hT.digits
    (toNat_balance k _ (gSh b P) _ y z hT.scale (by unfold gSh; omega))

/-! ### the zero case -/

theorem sci_zero_text (b p : Nat) (hfin : isFinite b = true) (hm : mant b = 0) :
    fmtG b p = signBytes (signBit b) ++ [48] := by
  rw [fmtG_eq]
  simp only [hfin, Bool.not_true, Bool.false_eq_true, if_false, hm, if_true, sign_eq]

theorem strtod_zero_text (neg : Bool) :
    strtod (postProc (signBytes neg ++ [48])) = mkBits neg 0 0 := by
  cases neg <;> decide

/-! ### the exponent style keeps its text -/

theorem gTail_exp_keep (sign : Bytes) (p d : Nat) (x : Int) (hst : x < -4 ∨ x ≥ (p : Int)) :
    postProc (gTail sign p d x) = gTail sign p d x := by
  rw [gTail_sci sign p d x hst, postProc_exp]

/-! ### below the overflow threshold of `strtod` -/

/-- everything `%.{P}g` prints in fixed style is below `10^70` (for `P ≤ 70`) -/
theorem small_lt_thr70 : 10 ^ 70 * 2 ^ 1074 < F64R.thr := by decide +kernel

/-- the rounding that gives the digits of `%.{P}g`, as a half-unit bound on the grid `10^sh` -/
theorem gQ_half (b P : Nat) (hfin : isFinite b = true) (hm : mant b ≠ 0) :
    2 * dist (sMag b * 10 ^ (-gSh b P).toNat) (gQ b P * (2 ^ 1074 * 10 ^ (gSh b P).toNat)) ≤
      2 ^ 1074 * 10 ^ (gSh b P).toNat := by
  rw [gQ_eq b P hfin hm]
  exact (dre_half _ _ (Nat.mul_pos (Nat.two_pow_pos 1074) (pow10_pos _))).1

/-- DBL_MAX is below `10^16` units in its last place -/
theorem sMax_lt : sMax < 2 ^ 2045 * 10 ^ 16 := by decide +kernel

/-- seventeen digits or more: the grid unit is at most `|b|/10^16`, below an ulp of DBL_MAX -/
theorem readVal17_lt {neg : Bool} {text : Bytes} {b P N Dn : Nat} (hfin : isFinite b = true)
    (hm : mant b ≠ 0) (hP : 17 ≤ P) (h : ReadVal neg text (gQ b P) (gSh b P) N Dn) :
    N * 2 ^ 1074 < F64R.thr * Dn := by
  refine lt_thr_of_half h.dpos h.ratio (gQ_half b P hfin hm) (sMag_le_max b hfin) two_thr ?_
  have hlo := (gQ_spec b P hfin hm (by omega)).1
  unfold LeP at hlo
  rw [Nat.mul_assoc] at hlo
  apply Nat.lt_of_mul_lt_mul_left (a := 10 ^ 16)
  calc 10 ^ 16 * (2 ^ 1074 * 10 ^ (gSh b P).toNat)
      ≤ 10 ^ (P - 1) * (2 ^ 1074 * 10 ^ (gSh b P).toNat) :=
        Nat.mul_le_mul_right _ (Nat.pow_le_pow_right (by decide) (by omega))
    _ ≤ sMag b * 10 ^ (-gSh b P).toNat := hlo
    _ ≤ sMax * 10 ^ (-gSh b P).toNat := Nat.mul_le_mul_right _ (sMag_le_max b hfin)
    _ < 2 ^ 2045 * 10 ^ 16 * 10 ^ (-gSh b P).toNat := Nat.mul_lt_mul_of_pos_right sMax_lt (pow10_pos _)
    _ = 10 ^ 16 * (2 ^ 2045 * 10 ^ (-gSh b P).toNat) := by rw [Nat.mul_assoc, Nat.mul_left_comm]

/-- fixed style: the grid unit is at most one -/
theorem readVal_fixed_lt {neg : Bool} {text : Bytes} {b P N Dn : Nat} (hfin : isFinite b = true)
    (hm : mant b ≠ 0) (h : ReadVal neg text (gQ b P) (gSh b P) N Dn) (hsh : gSh b P ≤ 0) :
    N * 2 ^ 1074 < F64R.thr * Dn := by
  have hg := gQ_half b P hfin hm
  have hr := h.ratio
  rw [show (gSh b P).toNat = 0 by omega, Nat.pow_zero] at hg hr
  exact lt_thr_of_half h.dpos hr hg (sMag_le_max b hfin) two_thr (unit_grid _ (pow10_pos _))

/-! ### the written text in terms of `sciText` -/

/-- the precision `%.{p}g` works with -/
def effP (p : Nat) : Nat := if p = 0 then 1 else p

theorem effP_cases (p : Nat) : 1 ≤ p ∧ effP p = p ∨ p = 0 ∧ effP p = 1 := by
  unfold effP; split <;> omega

theorem fmtG_nonzero (b p : Nat) (hfin : isFinite b = true) (hm : mant b ≠ 0) :
    fmtG b p = gTail (signBytes (signBit b)) (effP p) (gDX b (effP p)).1 (gDX b (effP p)).2 := by
  rw [fmtG_eq]
  simp only [hfin, Bool.not_true, Bool.false_eq_true, if_false, hm, sign_eq]
  rfl

theorem postProc_fmtG (b p : Nat) (hfin : isFinite b = true) (hm : mant b ≠ 0) :
    postProc (fmtG b p) = sciText b (effP p) := by
  rw [fmtG_nonzero b p hfin hm]; rfl

/-- the written text, scientific notation allowed, for the library's buffer: the rendering is
never cut, and the 17-digit re-rendering is chosen exactly when the short one overflows -/
theorem formatDouble_sci (b p : Nat) (hfin : isFinite b = true) (hp : p ≤ 70) :
    formatDouble 341 b p true =
      postProc (if isInf (strtod (fmtG b p)) = true then fmtG b 17 else fmtG b p) := by
  have hfit : ∀ q, q ≤ 70 → (fmtG b q).take (341 - 4) = fmtG b q := by
    intro q hq
    apply List.take_of_length_le
    have := fmtG_length b q hfin
    split at this <;> omega
  rw [formatDouble_eq]
  unfold rawText
  simp only [Bool.true_and, if_true, hfin, hfit p hp]
  by_cases hc : isInf (strtod (fmtG b p)) = true
  · simp only [if_pos hc, hfit 17 (by omega)]
  · simp only [if_neg hc, hfit p hp]

theorem isInf_readVal {neg : Bool} {text : Bytes} {d0 : Nat} {sh : Int} {N Dn : Nat}
    (h : ReadVal neg text d0 sh N Dn) (hlt : N * 2 ^ 1074 < F64R.thr * Dn) :
    isInf (strtod text) = false := by
  rw [h.value]
  exact isInf_ofRat_lt neg N Dn h.dpos hlt

/-- the text `%.{P}g` of a non-zero finite double does not read back as an infinity when it is in
fixed style, or has 17 digits -/
theorem sciText_no_overflow (b P : Nat) (hfin : isFinite b = true) (hm : mant b ≠ 0) (hP : 1 ≤ P)
    (hP70 : P ≤ 70)
    (hcase : 17 ≤ P ∨ (-4 ≤ (gDX b P).2 ∧ (gDX b P).2 < (P : Int))) :
    isInf (strtod (sciText b P)) = false := by
  obtain ⟨N, Dn, hrv⟩ := sciText_value b P hfin hm hP hP70
  rcases hcase with h17 | hst
  · exact isInf_readVal hrv (readVal17_lt hfin hm h17 hrv)
  · have hx := (gDX_spec b P hfin hm hP).2.2.1
    refine isInf_readVal hrv (readVal_fixed_lt hfin hm hrv ?_)
    unfold gSh
    omega

/-- **no overflow on the way back**, scientific notation allowed (precision ≤ 70): the text
written for a finite double never reads back as an infinity -/
theorem sci_no_overflow (b p : Nat) (hfin : isFinite b = true) (hp : p ≤ 70) :
    isInf (strtod (formatDouble 341 b p true)) = false := by
  rw [formatDouble_sci b p hfin hp]
  by_cases hm : mant b = 0
  · rw [sci_zero_text b p hfin hm, sci_zero_text b 17 hfin hm]
    simp only [ite_self]
    rw [strtod_zero_text]
    exact isInf_zero _
  · have hE := effP_cases p
    by_cases hc : isInf (strtod (fmtG b p)) = true
    · rw [if_pos hc, postProc_fmtG b 17 hfin hm]
      exact sciText_no_overflow b 17 hfin hm (by decide) (by decide) (.inl (Nat.le_refl _))
    · rw [if_neg hc, postProc_fmtG b p hfin hm]
      by_cases hst : (gDX b (effP p)).2 < -4 ∨ (gDX b (effP p)).2 ≥ ((effP p : Nat) : Int)
      · -- exponent style: the text is the rendering itself
        have : sciText b (effP p) = fmtG b p := by
          unfold sciText
          rw [gTail_exp_keep _ _ _ _ hst, ← fmtG_nonzero b p hfin hm]
        rw [this]
        simpa using hc
      · exact sciText_no_overflow b (effP p) hfin hm (by omega) (by omega) (.inr (by omega))

end Libconfig.C01I

