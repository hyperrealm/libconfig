import LibconfigModel.Proofs.C01IdemSciCore
/-
  C01 idempotence (scientific notation) — idempotence of the written text for `%.{p}g`:
  for precisions up to 15 and normal doubles (the spacing of the doubles is finer than the decimal
  grid), and for precisions from 17 on (the double itself comes back).
-/
namespace Libconfig.C01I
open Libconfig F64 C01P C01L
open Libconfig.F64R

/-- comparisons with the magnitude, in offset form -/
theorem LeP_T74 (S : Nat) (a : Int) (ha : -1000 ≤ a) :
    LeP (2 ^ 1074) S a ↔ T74 * E10 a ≤ S * W10 := by
  rw [LeP_offset _ _ _ ha, T74_def]

theorem LtP_T74 (S : Nat) (a : Int) (ha : -1000 ≤ a) :
    LtP (2 ^ 1074) S a ↔ S * W10 < T74 * E10 a := by
  rw [LtP_offset _ _ _ ha, T74_def]

theorem gQ_offset (b P : Nat) (hfin : isFinite b = true) (hm : mant b ≠ 0) (hsh : -1000 ≤ gSh b P) :
    gQ b P = divRoundEven (sMag b * W10) (T74 * E10 (gSh b P)) := by
  rw [gQ_eq b P hfin hm, T74_def]
  refine dre_congr _ _ _ _ (Nat.mul_pos T74_pos (pow10_pos _)) (Nat.mul_pos T74_pos (E10_pos _)) ?_
  calc sMag b * 10 ^ (-gSh b P).toNat * (T74 * E10 (gSh b P))
      = sMag b * T74 * (E10 (gSh b P) * 10 ^ (-gSh b P).toNat) := by ac_rfl
    _ = sMag b * T74 * (10 ^ (gSh b P).toNat * W10) := by rw [E10_ratio _ hsh]
    _ = sMag b * W10 * (T74 * 10 ^ (gSh b P).toNat) := by ac_rfl

/-! ### a finite non-zero double, in offset form -/

/-- `x0` is the decimal exponent of the magnitude `S/2^1074` -/
def Bracket (S : Nat) (x0 : Int) : Prop :=
  T74 * E10 x0 ≤ S * W10 ∧ S * W10 < T74 * E10 (x0 + 1)

theorem bracket_of (b : Nat) (hfin : isFinite b = true) (hm : mant b ≠ 0) :
    Bracket (sMag b) (gX0 b) ∧ -330 ≤ gX0 b ∧ gX0 b ≤ 320 := by
  obtain ⟨hlo, hhi, h1, h2⟩ := gX0_spec b hfin hm
  exact ⟨⟨(LeP_T74 _ (gX0 b) (by omega)).mp hlo, (LtP_T74 _ (gX0 b + 1) (by omega)).mp hhi⟩, h1, h2⟩

theorem bracket_unique (S : Nat) (a c : Int) (ha : Bracket S a) (hc : Bracket S c) : a = c := by
  have hT := T74_pos
  false_or_by_contra
  rename_i hne
  rcases Int.lt_or_gt_of_ne hne with h | h
  · have := Nat.mul_le_mul_left T74 (E10_mono (a + 1) c (by omega))
    have := ha.2; have := hc.1; omega
  · have := Nat.mul_le_mul_left T74 (E10_mono (c + 1) a (by omega))
    have := hc.2; have := ha.1; omega

/-- the decade of `x`, on the grid of `x − P + 1` -/
theorem bracket_iff (S : Nat) (x : Int) (P : Nat) (hP : 1 ≤ P) (hx : -1000 ≤ x - (P : Int) + 1) :
    Bracket S x ↔ 10 ^ (P - 1) * (T74 * E10 (x - (P : Int) + 1)) ≤ S * W10 ∧
      S * W10 < 10 ^ P * (T74 * E10 (x - (P : Int) + 1)) := by
  have hE1 : E10 x = 10 ^ (P - 1) * E10 (x - (P : Int) + 1) := by
    rw [← E10_add _ _ hx]; congr 1; omega
  have hE2 : E10 (x + 1) = 10 ^ P * E10 (x - (P : Int) + 1) := by
    rw [← E10_add _ _ hx]; congr 1; omega
  unfold Bracket
  rw [hE1, hE2, Nat.mul_left_comm, Nat.mul_left_comm T74]

/-- a double whose magnitude lands in the decade of `x` with digits `q` on the grid of `x - P + 1` -/
theorem gDX_of_landing (b' P : Nat) (x : Int) (q : Nat) (hfin : isFinite b' = true) (hP : 1 ≤ P)
    (hx : -900 ≤ x - (P : Int) + 1)
    (h : Landing (sMag b' * W10) (T74 * E10 (x - (P : Int) + 1)) P q) :
    mant b' ≠ 0 ∧ gX0 b' = x ∧ gQ b' P = q := by
  have hbr : Bracket (sMag b') x := (bracket_iff _ x P hP (by omega)).mpr ⟨h.lo, h.hi⟩
  have hm : mant b' ≠ 0 :=
    (sMag_pos_iff b').mp ((Nat.mul_pos_iff_of_pos_right W10_pos).mp
      (Nat.lt_of_lt_of_le (Nat.mul_pos T74_pos (E10_pos x)) hbr.1))
  have hx0 : gX0 b' = x := bracket_unique _ _ _ (bracket_of b' hfin hm).1 hbr
  have hsh : gSh b' P = x - (P : Int) + 1 := by unfold gSh; rw [hx0]
  rw [gQ_offset b' P hfin hm (by rw [hsh]; omega), hsh]
  exact ⟨hm, hx0, h.q⟩

/-! ### the double read back: nearest, and close -/

/-- the double read back from `%.{P}g` of `b`, in offset form: finite, same sign; at least as
close to the printed value `d0·M` (`M = 2^1074·10^sh`, everything times `10^1000`) as `b` is, and
within half a unit in the last place of it -/
structure Back (b P b' : Nat) : Prop where
  fin : isFinite b' = true
  sign : signBit b' = signBit b
  near : dist (gQ b P * (T74 * E10 (gSh b P))) (sMag b' * W10) ≤
    dist (gQ b P * (T74 * E10 (gSh b P))) (sMag b * W10)
  ulp : 2 ^ 53 * dist (gQ b P * (T74 * E10 (gSh b P))) (sMag b' * W10) ≤
      gQ b P * (T74 * E10 (gSh b P)) ∨
    2 * dist (gQ b P * (T74 * E10 (gSh b P))) (sMag b' * W10) ≤ W10

/-- the ratio of `ReadVal`, in offset form -/
theorem readVal_offset {neg : Bool} {text : Bytes} {d0 : Nat} {sh : Int} {N Dn : Nat}
    (h : ReadVal neg text d0 sh N Dn) (hsh : -1000 ≤ sh) : N * W10 = d0 * E10 sh * Dn := by
  apply Nat.eq_of_mul_eq_mul_right (pow10_pos (-sh).toNat)
  calc N * W10 * 10 ^ (-sh).toNat = N * 10 ^ (-sh).toNat * W10 := Nat.mul_right_comm ..
    _ = d0 * 10 ^ sh.toNat * Dn * W10 := by rw [h.ratio]
    _ = d0 * Dn * (10 ^ sh.toNat * W10) := by ac_rfl
    _ = d0 * Dn * (E10 sh * 10 ^ (-sh).toNat) := by rw [E10_ratio _ hsh]
    _ = d0 * E10 sh * Dn * 10 ^ (-sh).toNat := by ac_rfl

/-- `reread` on the grid `10^sh` of `%.{P}g` -/
theorem back_of (b P : Nat) (hfin : isFinite b = true) (hm : mant b ≠ 0) (hP : 1 ≤ P) (hP70 : P ≤ 70)
    (hinf : isInf (strtod (sciText b P)) = false) : Back b P (strtod (sciText b P)) := by
  obtain ⟨N, Dn, hrv⟩ := sciText_value b P hfin hm hP hP70
  have hsh : -1000 ≤ gSh b P := by
    have := (gX0_spec b hfin hm).2.2.1
    unfold gSh; omega
  rw [hrv.value] at hinf ⊢
  obtain ⟨f1, f2, f3, f4⟩ := reread _ N Dn (gQ b P) (E10 (gSh b P)) W10 hrv.dpos (E10_pos _)
    (readVal_offset hrv hsh) hinf
  exact ⟨f1, f2, f3 b, f4⟩

/-! ### the setting of the core lemmas -/

/-- the facts about `b` that the core lemmas consume -/
theorem setting (b P : Nat) (hfin : isFinite b = true) (hm : mant b ≠ 0) (hP : 1 ≤ P) (hP70 : P ≤ 70) :
    -500 ≤ gSh b P ∧
    gQ b P = divRoundEven (sMag b * W10) (T74 * E10 (gSh b P)) ∧
    10 ^ (P - 1) * (T74 * E10 (gSh b P)) ≤ sMag b * W10 ∧
    sMag b * W10 < 10 ^ P * (T74 * E10 (gSh b P)) := by
  obtain ⟨hbr, hlo, hhi⟩ := bracket_of b hfin hm
  have hsh : -500 ≤ gX0 b - (P : Int) + 1 := by omega
  obtain ⟨h1, h2⟩ := (bracket_iff _ (gX0 b) P hP (by omega)).mp hbr
  exact ⟨hsh, gQ_offset b P hfin hm (Int.le_trans (by decide) hsh), h1, h2⟩

/-! ### seventeen digits and more: the double itself comes back -/

theorem back_exact (b P b' : Nat) (hfin : isFinite b = true) (hm : mant b ≠ 0) (hP : 17 ≤ P)
    (hP70 : P ≤ 70) (hb : Back b P b') : sMag b' = sMag b := by
  obtain ⟨hsh, hq, hlo, hhi⟩ := setting b P hfin hm (by omega) hP70
  have hM : 0 < T74 * E10 (gSh b P) := Nat.mul_pos T74_pos (E10_pos _)
  have hhalf := (dre_half (sMag b * W10) (T74 * E10 (gSh b P)) hM).1
  rw [← hq, dist_comm] at hhalf
  have hnear := hb.near
  exact core17 (sMag b) (sMag b') W10 _ P (gQ b P * (T74 * E10 (gSh b P))) hM hP hlo hhalf
    (by omega) (fun hne => spacing b b' hne)

/-! ### up to fifteen digits, normal doubles: the same digits come back -/

/-- half a unit in the last place of a normal double is at most a twentieth of the decimal
grid `M` at up to 15 digits (`A = 10^(P-1) ≤ 10^14`), at the lower end `A·M` of a decade -/
theorem fine_of_ulp {A M W X D : Nat} (hA : A ≤ 10 ^ 14) (hulp : 2 ^ 53 * D ≤ A * M ∨ 2 * D ≤ W)
    (hS : 2 ^ 52 * W ≤ X) (hX : 2 * X ≤ 2 * (A * M) + M) : 20 * D ≤ M := by
  have := Nat.mul_le_mul_right M hA
  omega

theorem back_digits (b P b' : Nat) (hfin : isFinite b = true) (hm : mant b ≠ 0) (hP : 1 ≤ P)
    (hP15 : P ≤ 15) (hnorm : expField b ≠ 0) (hb : Back b P b') :
    mant b' ≠ 0 ∧ gDX b' P = gDX b P := by
  obtain ⟨hsh, hq, hlo, hhi⟩ := setting b P hfin hm hP (by omega)
  obtain ⟨hfin', -, hnear, hulp⟩ := hb
  have hshdef : gSh b P = gX0 b - (P : Int) + 1 := rfl
  have hM : 0 < T74 * E10 (gSh b P) := Nat.mul_pos T74_pos (E10_pos _)
  have hM' : 0 < T74 * E10 (gSh b P - 1) := Nat.mul_pos T74_pos (E10_pos _)
  have hMM : T74 * E10 (gSh b P) = 10 * (T74 * E10 (gSh b P - 1)) := by
    have := E10_add (gSh b P - 1) 1 (by omega)
    rw [show gSh b P - 1 + ((1 : Nat) : Int) = gSh b P by omega, Nat.pow_one] at this
    rw [this, Nat.mul_left_comm]
  have hhalf := (dre_half (sMag b * W10) (T74 * E10 (gSh b P)) hM).1
  have hdiv : 10 ^ P / 10 = 10 ^ (P - 1) := by
    rw [pow10_succ_pred P hP]; exact Nat.mul_div_cancel_left _ (by decide)
  have hlt : 10 ^ (P - 1) < 10 ^ P := Nat.pow_lt_pow_right (by decide) (by omega)
  rw [gDX_eq b P, gDX_eq b' P]
  rw [hq] at hnear hulp ⊢
  -- the fine bound, needed at the lower end of the decade only
  have hfine : divRoundEven (sMag b * W10) (T74 * E10 (gSh b P)) = 10 ^ (P - 1) →
      20 * dist (divRoundEven (sMag b * W10) (T74 * E10 (gSh b P)) * (T74 * E10 (gSh b P)))
        (sMag b' * W10) ≤ T74 * E10 (gSh b P) := by
    intro hd0
    rw [hd0] at hulp hhalf ⊢
    exact fine_of_ulp (Nat.pow_le_pow_right (by decide) (by omega)) hulp
      (Nat.mul_le_mul_right _ (normal_sMag b hnorm)) (two_dist_le.mp hhalf).1
  rcases core15 (sMag b * W10) (sMag b' * W10) (T74 * E10 (gSh b P))
    (T74 * E10 (gSh b P - 1)) P hP hM' hMM hlo hhi hnear hfine with hI | ⟨hd0, hII⟩ | ⟨hd0, hIII⟩
  · -- the same decade
    obtain ⟨a1, a2, a3⟩ := gDX_of_landing b' P (gX0 b) _ hfin' hP (by omega) hI
    exact ⟨a1, by rw [a2, a3]⟩
  · -- carried up
    have hE : T74 * E10 (gX0 b + 1 - (P : Int) + 1) = 10 * (T74 * E10 (gSh b P)) := by
      rw [show gX0 b + 1 - (P : Int) + 1 = gSh b P + ((1 : Nat) : Int) by omega,
        E10_add _ _ (by omega), Nat.pow_one, Nat.mul_left_comm]
    obtain ⟨a1, a2, a3⟩ := gDX_of_landing b' P (gX0 b + 1) (10 ^ (P - 1)) hfin' hP
      (by omega) (by rw [hE]; exact hII)
    refine ⟨a1, ?_⟩
    rw [a2, a3, hd0, if_pos (Nat.le_refl _), if_neg (Nat.not_le_of_lt hlt), hdiv]
  · -- dropped down
    obtain ⟨a1, a2, a3⟩ := gDX_of_landing b' P (gX0 b - 1) (10 ^ P) hfin' hP
      (by omega) (by rw [show gX0 b - 1 - (P : Int) + 1 = gSh b P - 1 by omega]; exact hIII)
    refine ⟨a1, ?_⟩
    rw [a2, a3, hd0, if_pos (Nat.le_refl _), if_neg (Nat.not_le_of_lt hlt), hdiv,
      show gX0 b - 1 + 1 = gX0 b by omega]

/-! ### the float lemma for scientific notation -/

/-- **the float lemma, scientific notation**: the written text is a fixed point of
read-then-write, for precisions up to 15 on normal doubles and zeros, for precisions from 17 on,
and whenever the 17-digit re-rendering is taken -/
theorem formatDouble_idem_sci (b p : Nat) (hfin : isFinite b = true) (hp70 : p ≤ 70)
    (hcase : (p ≤ 15 ∧ (expField b ≠ 0 ∨ mant b = 0)) ∨ 17 ≤ p ∨
      isInf (strtod (fmtG b p)) = true) :
    formatDouble 341 (strtod (formatDouble 341 b p true)) p true = formatDouble 341 b p true := by
  have hinf := sci_no_overflow b p hfin hp70
  have hE := effP_cases p
  have hP1 : 1 ≤ effP p := by omega
  have hP70 : effP p ≤ 70 := by omega
  by_cases hm : mant b = 0
  · -- ±0
    have htext : formatDouble 341 b p true = postProc (signBytes (signBit b) ++ [48]) := by
      rw [formatDouble_sci b p hfin hp70, sci_zero_text b p hfin hm, sci_zero_text b 17 hfin hm]
      simp only [ite_self]
    rw [htext, strtod_zero_text]
    obtain ⟨a1, a2, -, a4, -⟩ := F64R.mkBits_finite (signBit b) 0 0 (by omega) (by omega)
    have hm' : mant (mkBits (signBit b) 0 0) = 0 := by rw [a4]; rfl
    rw [formatDouble_sci _ p a2 hp70, sci_zero_text _ p a2 hm', sci_zero_text _ 17 a2 hm', a1]
    simp only [ite_self]
  · rw [formatDouble_sci b p hfin hp70] at hinf ⊢
    by_cases hc : isInf (strtod (fmtG b p)) = true
    · -- the 17-digit re-rendering: exact
      rw [if_pos hc, postProc_fmtG b 17 hfin hm, show effP 17 = 17 from rfl] at hinf ⊢
      have hb := back_of b 17 hfin hm (by decide) (by decide) hinf
      have hex := back_exact b 17 _ hfin hm (by decide) (by decide) hb
      rw [(fmt_congr b _ hfin hb.fin hb.sign hex 341 p true).2, formatDouble_sci b p hfin hp70, if_pos hc,
        postProc_fmtG b 17 hfin hm, show effP 17 = 17 from rfl]
    · rw [if_neg hc, postProc_fmtG b p hfin hm] at hinf ⊢
      have hb := back_of b (effP p) hfin hm hP1 hP70 hinf
      rcases hcase with ⟨h15, hn⟩ | h17 | hcc
      · -- the same digits
        have hn' : expField b ≠ 0 := by
          rcases hn with h | h
          · exact h
          · exact absurd h hm
        obtain ⟨hm', hdx⟩ := back_digits b (effP p) _ hfin hm hP1 (by omega) hn' hb
        generalize strtod (sciText b (effP p)) = b' at *
        have hG : fmtG b' p = fmtG b p := by
          rw [fmtG_nonzero b' p hb.fin hm', fmtG_nonzero b p hfin hm, hdx, hb.sign]
        rw [formatDouble_sci b' p hb.fin hp70, hG, if_neg hc, postProc_fmtG b p hfin hm]
      · -- the double itself
        have hex := back_exact b (effP p) _ hfin hm (by omega) hP70 hb
        rw [(fmt_congr b _ hfin hb.fin hb.sign hex 341 p true).2, formatDouble_sci b p hfin hp70, if_neg hc,
          postProc_fmtG b p hfin hm]
      · exact absurd hcc hc

end Libconfig.C01I

