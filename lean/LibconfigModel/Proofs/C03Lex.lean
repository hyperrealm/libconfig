import LibconfigModel.Read
import LibconfigModel.Properties.C18
import LibconfigModel.Proofs.C09
import LibconfigModel.Proofs.FlexRun
/-
  Helper lemmas for property C03, scanner half: the byte invariant of the scan
  state, "flex's default rule (ECHO) is never executed", positivity of every
  match, and the fuel bound of `yylex` for reads without readable include files.
-/
namespace Libconfig.C03P

open Libconfig

def BytesOK (b : Bytes) : Prop := ∀ x ∈ b, x < 256

def WorldOK (w : World) : Prop := ∀ p c, (p, some c) ∈ w.files → BytesOK c

/-- the scanner is in one of the five start conditions of scanner.l, and the current buffer
and every parent buffer on the include stack hold bytes -/
structure ScanOK (s : ScanState) : Prop where
  sc : s.sc < 5
  buf : BytesOK s.buf.rest
  parents : ∀ f ∈ s.stack, BytesOK f.parent.rest

/-- the bytes handed to the scanner by a source -/
def SourceOK : Source → Prop
  | .string s => BytesOK s
  | .stream s => BytesOK s
  | .file _ => True

abbrev lex (w : World) (ic : IncludeCfg) (fuel : Nat) (s : ScanState) : ScanState × LexOut :=
  yylex Generated.scanner Generated.scanActions w ic fuel s

/-! ### facts read off the translated tables -/

/-- no start state of the compiled automaton is accepting, hence every match is non-empty
(directly from the tables; no hypothesis on the input) -/
theorem next_pos (sc : Nat) (hsc : sc < 5) (bol : Bool) (inp : Bytes) (r n : Nat)
    (h : Flex.next Generated.scanner sc bol inp = some (r, n)) : 0 < n ∧ n ≤ inp.length := by
  unfold Flex.next at h
  rcases Flex.scan_spec _ _ _ _ _ _ _ h with h1 | ⟨_, h2, h3⟩
  · cases h1
  · rw [start_accept sc hsc bol] at h3
    rcases h3 with h3 | h3
    · exact absurd rfl h3
    · exact ⟨h3, by omega⟩

theorem documented_length : ScanSpec.documented.length = 48 := by decide

/-- on bytes, the rule selected is one of the 47 rules of scanner.l, never flex's default
rule 48 (from `C18_flex_never_skipped` / `C18_flex_longest_first`) -/
theorem next_rule (sc : Nat) (hsc : sc < 5) (bol : Bool) (inp : Bytes) (hb : BytesOK inp) (r n : Nat)
    (h : Flex.next Generated.scanner sc bol inp = some (r, n)) : 1 ≤ r ∧ r ≤ 47 := by
  have hne : inp ≠ [] := by
    intro he
    have := (next_pos sc hsc bol inp r n h)
    rw [he] at this
    simp at this
    omega
  obtain ⟨r', n', h', hr'⟩ := C18.C18_flex_never_skipped sc hsc bol inp hne hb
  rw [h] at h'
  cases h'
  have hsel := (C18.C18_flex_longest_first sc hsc bol inp hb r n).mp h
  obtain ⟨rule, h1, hget, _, _⟩ := hsel.matched
  have hlt : r - 1 < ScanSpec.documented.length := by
    rcases Nat.lt_or_ge (r - 1) ScanSpec.documented.length with h | h
    · exact h
    · rw [List.getElem?_eq_none h] at hget; cases hget
  rw [documented_length] at hlt
  omega

/-! ### the invariant and the absence of ECHO -/

/-- what the action of a rule of scanner.l may be: not ECHO, recognised, and `BEGIN` only to
one of the five start conditions -/
def actOK : ScanAct → Bool
  | .begin sc => decide (sc < 5)
  | .echo => false
  | .unknown => false
  | _ => true

theorem acts_ok : ∀ r, r < 48 → 1 ≤ r → actOK (Generated.scanActions.getD r .unknown) = true := by
  decide

theorem open_bytes {w : World} (hw : WorldOK w) {p c : Bytes} (h : w.open? p = some c) : BytesOK c := by
  unfold World.open? at h
  split at h
  · rename_i q content hf
    cases h
    exact hw q _ (List.mem_of_find?_eq_some hf)
  · cases h

/-- `nextIncludeFile` changes only `cur` of the innermost frame on the stack; a content it
returns was opened in the world -/
theorem nif_spec (w : World) (s : ScanState) (first : Bool) :
    (∀ P : Buf → Prop, (∀ f ∈ s.stack, P f.parent) → ∀ f ∈ (nextIncludeFile w s first).1.stack, P f.parent) ∧
    (∀ c, (nextIncludeFile w s first).2.1 = some c → ∃ p, w.open? p = some c) := by
  rcases C09P.nextIncludeFile_shape w s first with ⟨_, h⟩ | ⟨f, fs, cur', ev, hst, h, _, hc⟩
  · rw [h]; exact ⟨fun P h => h, nofun⟩
  · rw [h]
    refine ⟨fun P hP g hg => ?_, hc⟩
    rw [hst] at hP
    rcases List.mem_cons.mp hg with rfl | hg
    · exact hP f List.mem_cons_self
    · exact hP g (List.mem_cons_of_mem _ hg)

/-- the only property of the tables the induction over `yylex` uses -/
def ActsOK (T : FlexTables) (acts : List ScanAct) : Prop :=
  ∀ sc, sc < 5 → ∀ (bol : Bool) (inp : Bytes), BytesOK inp → ∀ r n,
    Flex.next T sc bol inp = some (r, n) → actOK (acts.getD r .unknown) = true

theorem gen_actsOK : ActsOK Generated.scanner Generated.scanActions := by
  intro sc hsc bol inp hb r n h
  have := next_rule sc hsc bol inp hb r n h
  exact acts_ok r (by omega) this.1

section
variable {T : FlexTables} {acts : List ScanAct} {w : World} {ic : IncludeCfg}

theorem nif_ok (hw : ∀ p c, w.open? p = some c → BytesOK c) {s s1 : ScanState} {first : Bool}
    {c : Option Bytes} {err : Bool} (hf : nextIncludeFile w s first = (s1, c, err)) (hsc : s.sc < 5)
    (hb : BytesOK s.buf.rest) (hp : ∀ f ∈ s.stack, BytesOK f.parent.rest) :
    ScanOK s1 ∧ ∀ x, c = some x → BytesOK x := by
  have h := nif_spec w s first
  rw [hf] at h
  refine ⟨⟨?_, ?_, h.1 (fun b => BytesOK b.rest) hp⟩,
    fun x hx => by obtain ⟨p, hp⟩ := h.2 x hx; exact hw p x hp⟩
  all_goals rw [nextIncludeFile_frame hf]; assumption

theorem effect_scanOK (hact : ActsOK T acts) (hw : ∀ p c, w.open? p = some c → BytesOK c)
    {s : ScanState} {r : ScanState × Option LexOut} (he : LexEffect T acts w ic s r) (h : ScanOK s) :
    ScanOK r.1 := by
  have hdrop : ∀ len, BytesOK (s.buf.rest.drop len) := fun _ x hx => h.buf x (List.mem_of_mem_drop hx)
  have h0 : Generated.SC_INITIAL < 5 := by decide
  -- the stack with the frame of a directive pushed: its parent is the buffer behind the directive
  have hpush : ∀ len, ∀ b : Buf, b.rest = s.buf.rest.drop len → ∀ files cur,
      ∀ f ∈ ({ files := files, cur := cur, parent := b } : Frame) :: s.stack, BytesOK f.parent.rest := by
    intro len b hb files cur f hf
    rcases List.mem_cons.mp hf with rfl | hf
    · exact hb ▸ hdrop len
    · exact h.parents f hf
  cases he with
  | eof => exact h
  | next _ _ hf =>
    have := nif_ok hw hf h.sc h.buf h.parents
    exact ⟨this.1.sc, this.2 _ rfl, this.1.parents⟩
  | stuck _ _ hf => exact (nif_ok hw hf h.sc h.buf h.parents).1
  | @pop f fs _ _ hst hf =>
    exact ⟨(nif_ok hw hf h.sc h.buf h.parents).1.sc, h.parents f (hst ▸ List.mem_cons_self),
      fun g hg => h.parents g (hst ▸ List.mem_cons_of_mem _ hg)⟩
  | act hn ha =>
    have hok := hact s.sc h.sc s.buf.bol s.buf.rest h.buf _ _ hn
    rw [actOut_frame ha]
    refine ⟨?_, hdrop _, h.parents⟩
    rcases actOut_sc ha with e | e | e
    · exact e ▸ h.sc
    · exact e ▸ h0
    · rw [e] at hok; simpa [actOK] using hok
  | inclErr _ _ hm => subst hm; exact ⟨h.sc, hdrop _, h.parents⟩
  | skip => exact ⟨h0, hdrop _, h.parents⟩
  | push _ _ hm _ _ _ hf =>
    subst hm
    have := nif_ok hw hf h.sc (hdrop _) (hpush _ _ rfl _ _)
    exact ⟨h0, this.2 _ rfl, this.1.parents⟩
  | pushFail _ _ hm _ _ _ hf h3 =>
    subst hm h3
    have := nif_ok hw hf h.sc (hdrop _) (hpush _ _ rfl _ _)
    exact ⟨this.1.sc, this.1.buf, h.parents⟩

/-- an action of scanner.l returns neither ECHO nor "unknown action" -/
theorem actOut_ok {a : ScanAct} {m m' : ScanState} {text : Bytes} {o : LexOut} (hok : actOK a = true)
    (h : actOut a m text = some (m', some o)) : (∀ b, o ≠ .echo b) ∧ o ≠ .outOfFuel := by
  cases a
  case echo | unknown => cases hok
  all_goals simp only [actOut, Option.some.injEq, Prod.mk.injEq, reduceCtorEq, and_false] at h
  all_goals obtain ⟨-, rfl⟩ := h; exact ⟨nofun, nofun⟩

theorem effect_retOK (hact : ActsOK T acts) {s s' : ScanState} {o : LexOut}
    (he : LexEffect T acts w ic s (s', some o)) (hs : ScanOK s) :
    (∀ b, o ≠ .echo b) ∧ o ≠ .outOfFuel := by
  rcases he.ret with rfl | ⟨_, _, rfl⟩ | ⟨rule, len, hn, ha⟩
  · exact ⟨nofun, nofun⟩
  · exact ⟨nofun, nofun⟩
  · exact actOut_ok (hact s.sc hs.sc s.buf.bol s.buf.rest hs.buf rule len hn) ha

end

/-- the invariant and the absence of ECHO (generic in the tables) -/
theorem yylex_ok (T : FlexTables) (acts : List ScanAct) (hact : ActsOK T acts)
    (w : World) (hw : WorldOK w) (ic : IncludeCfg) (fuel : Nat) (s : ScanState) (h : ScanOK s) :
    ScanOK (yylex T acts w ic fuel s).1 ∧ ∀ b, (yylex T acts w ic fuel s).2 ≠ .echo b :=
  yylex_ind (K := fun _ => ScanOK) (Q := fun r => ScanOK r.1 ∧ ∀ b, r.2 ≠ .echo b)
    (fun _ _ _ hs he => effect_scanOK hact (fun _ _ => open_bytes hw) he hs)
    (fun _ _ _ _ hs he => ⟨effect_scanOK hact (fun _ _ => open_bytes hw) he hs, (effect_retOK hact he hs).1⟩)
    (fun _ hs => ⟨hs, nofun⟩) fuel s h

theorem yylex_scanOK (w : World) (hw : WorldOK w) (ic : IncludeCfg) :
    ∀ (fuel : Nat) (s : ScanState), ScanOK s → ScanOK (lex w ic fuel s).1 :=
  fun fuel s h => (yylex_ok _ _ gen_actsOK w hw ic fuel s h).1

theorem yylex_no_echo (w : World) (hw : WorldOK w) (ic : IncludeCfg) :
    ∀ (fuel : Nat) (s : ScanState), ScanOK s → ∀ b, (lex w ic fuel s).2 ≠ .echo b :=
  fun fuel s h => (yylex_ok _ _ gen_actsOK w hw ic fuel s h).2

/-- the parser loop passes on `.echo` only from `yylex` -/
theorem yyparseLoop_no_echo (E : ParserEnv) (I : ScanState → Prop)
    (hI : ∀ s, I s → I (yylex E.T E.sacts E.w E.ic E.lexFuel s).1)
    (hE : ∀ s, I s → ∀ b, (yylex E.T E.sacts E.w E.ic E.lexFuel s).2 ≠ .echo b)
    (fuel : Nat) (stack : List (Nat × TokVal)) (la : Lookahead) (s : ScanState) (ctx : ParseCtx) :
    I s → ∀ b, (yyparseLoop E fuel stack la s ctx).2.2 ≠ .echo b := by
  refine yyparseLoop_ind (K := fun X => I X.s) (Q := fun r => ∀ b, r.2.2 ≠ .echo b)
    (fun X hX => ?_) (fun _ _ _ => nofun) fuel ⟨stack, la, s, ctx⟩
  have hs := yystep_spec E X
  have hj := (Joint.ofScan hI).step X hX
  generalize yystep E X = o at hs hj
  cases hs with
  | echo _ _ hy => exact absurd (by rw [hy]) (hE _ hX _)
  | reduce | shift => exact hj
  | _ => exact fun _ => nofun

theorem cstr_bytes {b : Bytes} (h : BytesOK b) : BytesOK (cstr b) :=
  fun x hx => h x ((List.takeWhile_sublist _).subset hx)

theorem readCore_no_echo (w : World) (hw : WorldOK w) (c : Config) (fn : Option Bytes) (inp : Bytes)
    (hi : BytesOK inp) (fuel : Nat) (b : Nat) : (readCore w c fn inp fuel).result ≠ .echo b := by
  rw [C09P.readCore_result]
  unfold C09P.parseOf yyparse
  exact yyparseLoop_no_echo (theEnv w _ fuel) ScanOK
    (fun s hs => yylex_scanOK w hw _ _ s hs) (fun s hs => yylex_no_echo w hw _ _ s hs)
    fuel _ _ _ _ ⟨Nat.zero_lt_succ 4, hi, fun f hf => by cases hf⟩ b

theorem read_no_echo (w : World) (hw : WorldOK w) (c : Config) (src : Source) (hs : SourceOK src)
    (fuel : Nat) (b : Nat) : (read w c src fuel).result ≠ .echo b := by
  cases src with
  | string s => exact readCore_no_echo w hw c none _ (cstr_bytes hs) fuel b
  | stream s => exact readCore_no_echo w hw c none _ hs fuel b
  | file path =>
    cases ho : w.open? path with
    | none => rw [C09P.read_noOpen w c path fuel ho]; nofun
    | some content =>
      rw [C09P.read_file w c path content fuel ho]
      exact readCore_no_echo w hw c (some path) content (open_bytes hw ho) fuel b

/-! ### fuel: a read that opens no include file -/

/-- no path can be opened (no readable file: e.g. the empty world) -/
def NoFiles (w : World) : Prop := ∀ p, w.open? p = none

theorem nif_noFiles (w : World) (hw : NoFiles w) (s : ScanState) (first : Bool) :
    (nextIncludeFile w s first).2.1 = none := by
  cases hc : (nextIncludeFile w s first).2.1 with
  | none => rfl
  | some c =>
    obtain ⟨p, hp⟩ := (nif_spec w s first).2 c hc
    rw [hw p] at hp; cases hp

def PosOK (T : FlexTables) : Prop :=
  ∀ sc, sc < 5 → ∀ (bol : Bool) (inp : Bytes) (r n : Nat),
    Flex.next T sc bol inp = some (r, n) → 0 < n ∧ n ≤ inp.length

end Libconfig.C03P

namespace Libconfig.C03T
open Libconfig C03P

/-- what one `yylex` call started in `s` returned -/
structure LexStep (s : ScanState) (r : ScanState × LexOut) : Prop where
  fuel : r.2 ≠ .outOfFuel
  echo : ∀ b, r.2 ≠ .echo b
  ok : ScanOK r.1
  stack : r.1.stack = []
  le : r.1.buf.rest.length ≤ s.buf.rest.length
  lt : r.2 = .eof ∨ r.1.buf.rest.length < s.buf.rest.length

/-- outside included files and with no file to open, an iteration stays outside and, unless it
is the end of input, consumes a match -/
theorem effect_top {T : FlexTables} {acts : List ScanAct} {w : World} {ic : IncludeCfg}
    (hw : NoFiles w) {s : ScanState} {r : ScanState × Option LexOut}
    (he : LexEffect T acts w ic s r) (hst : s.stack = []) :
    r.1.stack = [] ∧ (r = (s, some .eof) ∨
      ∃ rule len, Flex.next T s.sc s.buf.bol s.buf.rest = some (rule, len) ∧
        r.1.buf.rest = s.buf.rest.drop len) := by
  have nif : ∀ {m s2 : ScanState} {c err}, nextIncludeFile w m true = (s2, c, err) → c = none := by
    intro m s2 c err hf
    have h1 := nif_noFiles w hw m true
    rw [hf] at h1
    exact h1
  cases he with
  | eof => exact ⟨hst, .inl rfl⟩
  | next _ h | stuck _ h | pop _ h => rw [hst] at h; cases h
  | act hn ha => rw [actOut_frame ha]; exact ⟨hst, .inr ⟨_, _, hn, rfl⟩⟩
  | inclErr hn _ hm => subst hm; exact ⟨hst, .inr ⟨_, _, hn, rfl⟩⟩
  | skip hn => exact ⟨hst, .inr ⟨_, _, hn, rfl⟩⟩
  | push _ _ _ _ _ _ hf => cases nif hf
  | pushFail hn _ hm _ _ _ hf h3 =>
    subst hm h3
    rw [nextIncludeFile_frame hf]
    exact ⟨hst, .inr ⟨_, _, hn, rfl⟩⟩

theorem yylex_strict_gen (T : FlexTables) (acts : List ScanAct) (hact : ActsOK T acts) (hpos : PosOK T)
    (w : World) (hw : NoFiles w) (ic : IncludeCfg) (fuel : Nat) (s : ScanState) (h : ScanOK s)
    (hst : s.stack = []) (hlen : s.buf.rest.length < fuel) :
    LexStep s (yylex T acts w ic fuel s) := by
  have hwo : ∀ p c, w.open? p = some c → BytesOK c := fun p c hp => by rw [hw p] at hp; cases hp
  -- on the way: still at the top, fewer bytes left than fuel, and none gained
  refine yylex_ind
    (K := fun fuel s' => ScanOK s' ∧ s'.stack = [] ∧ s'.buf.rest.length < fuel ∧
      s'.buf.rest.length ≤ s.buf.rest.length)
    (Q := LexStep s) ?_ ?_ ?_ fuel s ⟨h, hst, hlen, Nat.le_refl _⟩
  · intro fuel s1 s' ⟨hs, hst, hlt, hle⟩ he
    obtain ⟨h1, h2 | ⟨rule, len, hn, hr⟩⟩ := effect_top hw he hst
    · cases h2
    · have := hpos s1.sc hs.sc s1.buf.bol s1.buf.rest rule len hn
      have hr : s'.buf.rest = _ := hr
      exact ⟨effect_scanOK hact hwo he hs, h1, by rw [hr, List.length_drop]; omega,
        by rw [hr, List.length_drop]; omega⟩
  · intro fuel s1 s' o ⟨hs, hst, hlt, hle⟩ he
    obtain ⟨hecho, hfuel⟩ := effect_retOK hact he hs
    obtain ⟨h1, h2 | ⟨rule, len, hn, hr⟩⟩ := effect_top hw he hst
    · cases h2
      exact ⟨hfuel, hecho, hs, hst, hle, .inl rfl⟩
    · have := hpos s1.sc hs.sc s1.buf.bol s1.buf.rest rule len hn
      have hr : s'.buf.rest = _ := hr
      have hd : s'.buf.rest.length < s1.buf.rest.length := by rw [hr, List.length_drop]; omega
      exact ⟨hfuel, hecho, effect_scanOK hact hwo he hs, h1, Nat.le_of_lt (Nat.lt_of_lt_of_le hd hle),
        .inr (Nat.lt_of_lt_of_le hd hle)⟩
  · intro s' ⟨_, _, hlt, _⟩
    exact absurd hlt (Nat.not_lt_zero _)

/-- the instance for the compiled scanner -/
theorem yylex_strict (w : World) (hw : NoFiles w) (ic : IncludeCfg) (fuel : Nat) (s : ScanState)
    (hs : ScanOK s) (hst : s.stack = []) (hf : s.buf.rest.length < fuel) :
    LexStep s (lex w ic fuel s) :=
  yylex_strict_gen _ _ gen_actsOK (fun sc hsc bol inp r n h => next_pos sc hsc bol inp r n h)
    w hw ic fuel s hs hst hf

end Libconfig.C03T
