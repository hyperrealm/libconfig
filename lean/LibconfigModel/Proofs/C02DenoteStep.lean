import LibconfigModel.Proofs.C01ParseSem
/-
  C02D (the parser computes what the text denotes, and reports where it does not), machinery:
  the remaining input WITH the scan state after every token, with or without include errors, runs
  that end in an abort AT a given scan state, and the single iterations (shift / reduce /
  reduce-and-abort / syntax error) over the compiled tables.  `Reaches`, `MC`, `run` and the
  iterations given what the fetch returns are those of Proofs/C01ParseStep.lean; here the error
  text and the scan state are tracked as well, so the input relation records whether include
  errors may occur and where the scanner is.

  The positions are kept in ONE function `pos : Nat → ScanState`, indexed by the number of tokens
  (the end marker included) the scanner has NOT yet delivered: `pos n` is the scan state in which
  `n` tokens are still to come.  So "the scan state right after the token in front of `ks`" is
  `pos ks.length`, whatever has been read before.

  Under the `open` line of this file and of those above it, `bodyK_act`, `Inp` and `Item` each
  name two things (`C02C.` / `C01PP.`, `C02C.Item` / `Denote.Item`): hence `Denote.Item` written
  out everywhere, and a bare `bodyK_act` is resolved by its type.
-/
namespace Libconfig.C02D
open Libconfig C02P C05P C02C C01PP

/-! ### the remaining input -/

/-- `C01PP.LexT` with the scan states named: the scanner, started in `pos ks.length`, delivers the
tokens `ks` (the end marker `(0, {})` included; the empty list says nothing), passing through the
states `pos (ks.length - 1)`, …, `pos 0`; with `plain = true` no include error is among them -/
inductive LexAt (E : ParserEnv) (plain : Bool) (pos : Nat → ScanState) :
    List (Nat × TokVal) → Prop where
  | nil : LexAt E plain pos []
  | eof : yylex E.T E.sacts E.w E.ic E.lexFuel (pos 1) = (pos 0, .eof) → LexAt E plain pos [(0, {})]
  | tok (t : Nat) (v : TokVal) (ks : List (Nat × TokVal)) :
      yylex E.T E.sacts E.w E.ic E.lexFuel (pos (ks.length + 1)) = (pos ks.length, .tok t v) →
      LexAt E plain pos ks → LexAt E plain pos ((t, v) :: ks)
  | incl (t : Nat) (text : Bytes) (file : Option Bytes) (line : Nat) (ks : List (Nat × TokVal)) :
      plain = false →
      yylex E.T E.sacts E.w E.ic E.lexFuel (pos (ks.length + 1)) =
        (pos ks.length, .includeError t text file line) →
      LexAt E plain pos ks → LexAt E plain pos ((t, {}) :: ks)

theorem LexAt.congr {E : ParserEnv} {plain : Bool} {pos pos' : Nat → ScanState}
    {ks : List (Nat × TokVal)} (h : LexAt E plain pos ks)
    (he : ∀ n, n ≤ ks.length → pos' n = pos n) : LexAt E plain pos' ks := by
  induction h with
  | nil => exact .nil
  | eof hy => exact .eof (by rw [he 1 (Nat.le_refl _), he 0 (Nat.zero_le _)]; exact hy)
  | tok t v ks hy _ ih =>
    exact .tok t v ks (by rw [he (ks.length + 1) (Nat.le_refl _), he ks.length (Nat.le_succ _)]; exact hy)
      (ih fun n hn => he n (Nat.le_succ_of_le hn))
  | incl t text file line ks hp hy _ ih =>
    exact .incl t text file line ks hp
      (by rw [he (ks.length + 1) (Nat.le_refl _), he ks.length (Nat.le_succ _)]; exact hy)
      (ih fun n hn => he n (Nat.le_succ_of_le hn))

/-- behind a token, the states of the rest of the run; in front of it, the state it was read in -/
theorem LexAt.front {E : ParserEnv} {plain : Bool} {pos : Nat → ScanState}
    {ks : List (Nat × TokVal)} (hl : LexAt E plain pos ks) (sc : ScanState) :
    ∃ pos', pos' (ks.length + 1) = sc ∧ pos' ks.length = pos ks.length ∧ LexAt E plain pos' ks :=
  ⟨fun n => if n ≤ ks.length then pos n else sc, if_neg (Nat.not_succ_le_self _),
    if_pos (Nat.le_refl _), hl.congr fun n hn => if_pos hn⟩

theorem _root_.Libconfig.C01PP.LexT.at {E : ParserEnv} {sc : ScanState} {ks : List (Nat × TokVal)}
    (h : LexT E sc ks) : ∃ pos, pos ks.length = sc ∧ LexAt E false pos ks := by
  induction h with
  | nil sc => exact ⟨fun _ => sc, rfl, .nil⟩
  | eof sc sc' hy =>
    exact ⟨fun n => if n = 0 then sc' else sc, rfl, .eof hy⟩
  | tok sc sc' t v ks hy _ ih =>
    obtain ⟨pos, hp, hl⟩ := ih
    obtain ⟨pos', h1, h2, hl'⟩ := hl.front sc
    exact ⟨pos', h1, .tok t v ks (by rw [h1, h2, hp]; exact hy) hl'⟩
  | incl sc sc' t text file line ks hy _ ih =>
    obtain ⟨pos, hp, hl⟩ := ih
    obtain ⟨pos', h1, h2, hl'⟩ := hl.front sc
    exact ⟨pos', h1, .incl t text file line ks rfl (by rw [h1, h2, hp]; exact hy) hl'⟩

/-- … for a whole text -/
theorem _root_.Libconfig.C01PP.LexT.atText {E : ParserEnv} {s : ScanState}
    {toks : List (Nat × TokVal)} (h : LexT E s (toks ++ [tEOF])) :
    ∃ pos, pos (toks.length + 1) = s ∧ LexAt E false pos (toks ++ [tEOF]) := by
  obtain ⟨pos, hp, hl⟩ := h.at
  exact ⟨pos, by rw [← hp, List.length_append]; rfl, hl⟩

/-- a complete run of the scanner (include errors allowed), with its scan states -/
theorem lexAt_of_lexesTo {E : ParserEnv} {s s' : ScanState} {toks : List (Nat × TokVal)}
    (h : C02.LexesTo E s toks s') :
    ∃ pos, pos (toks.length + 1) = s ∧ LexAt E false pos (toks ++ [tEOF]) :=
  (lexT_of_lexesTo h).atText

/-- the tokens still to be consumed, given the lookahead; the scanner is in the state in which
those not yet fetched are still to come -/
def InpAt (E : ParserEnv) (plain : Bool) (pos : Nat → ScanState) (la : Lookahead) (sc : ScanState)
    (ks : List (Nat × TokVal)) : Prop :=
  match la with
  | none => sc = pos ks.length ∧ LexAt E plain pos ks
  | some tv => ∃ ks', ks = tv :: ks' ∧ sc = pos ks'.length ∧ LexAt E plain pos ks'

theorem InpAt.here {E : ParserEnv} {plain : Bool} {pos : Nat → ScanState} {sc : ScanState}
    {ks : List (Nat × TokVal)} (h : InpAt E plain pos none sc ks) : sc = pos ks.length := h.1

/-- two parse contexts agree on everything the semantic actions depend on; when no include
error occurs, also on the error text -/
structure Same (plain : Bool) (a b : ParseCtx) : Prop where
  sem : SameSem a b
  attrs : cfgAttrs b.cfg = cfgAttrs a.cfg
  err : plain = true → b.cfg.errText = a.cfg.errText

theorem Same.refl (plain : Bool) (a : ParseCtx) : Same plain a a :=
  ⟨SameSem.refl a, rfl, fun _ => rfl⟩

theorem Same.trans {plain : Bool} {a b c : ParseCtx} (h1 : Same plain a b) (h2 : Same plain b c) :
    Same plain a c :=
  ⟨h1.sem.trans h2.sem, h2.attrs.trans h1.attrs, fun hp => (h2.err hp).trans (h1.err hp)⟩

theorem fetchAt {E : ParserEnv} {plain : Bool} {pos : Nat → ScanState} {la : Lookahead}
    {sc : ScanState} (ctx : ParseCtx) {t : Nat} {v : TokVal} {ks : List (Nat × TokVal)}
    (h : InpAt E plain pos la sc ((t, v) :: ks)) :
    ∃ ctx', fetchK E la sc ctx = (pos ks.length, some (t, v), none, ctx') ∧ LexAt E plain pos ks ∧
      Same plain ctx ctx' := by
  cases la with
  | some l =>
    obtain ⟨ks', h1, h2, h3⟩ := h
    injection h1 with h4 h5
    subst h5
    subst h4
    subst h2
    exact ⟨ctx, rfl, h3, Same.refl _ _⟩
  | none =>
    obtain ⟨h1, h2⟩ := h
    subst h1
    unfold fetchK
    simp only
    cases h2 with
    | eof hy =>
      simp only [List.length_cons, List.length_nil, Nat.zero_add] at hy ⊢
      rw [hy]
      exact ⟨ctx, rfl, .nil, Same.refl _ _⟩
    | tok _ _ _ hy hl =>
      simp only [List.length_cons]
      rw [hy]
      exact ⟨ctx, rfl, hl, Same.refl _ _⟩
    | incl _ text file line _ hp hy hl =>
      simp only [List.length_cons]
      rw [hy]
      exact ⟨_, rfl, hl, ⟨rfl, rfl, rfl, rfl⟩, rfl, fun h => by rw [hp] at h; cases h⟩

/-! ### runs that end in an abort -/

/-- From `a` the loop — unless the fuel runs out — returns 1 (`YYABORT` or a syntax error) in the
scan state `sOff`, and (when no include error occurs) the error text of the configuration is
`text` and the error line recorded is the line counter of `sOff` (`part`); and it does return,
after a fixed number of iterations (`total`). -/
structure AbortsAt (E : ParserEnv) (plain : Bool) (a : MC) (text : Bytes) (sOff : ScanState) :
    Prop where
  part : ∀ fuel, (C01PP.run E fuel a).2.2 = ParseResult.outOfFuel ∨
    ((C01PP.run E fuel a).2.2 = ParseResult.abort ∧ (C01PP.run E fuel a).1 = sOff ∧
      (plain = true → (C01PP.run E fuel a).2.1.cfg.errText = some text ∧
        (C01PP.run E fuel a).2.1.cfg.errLine = sOff.buf.lineno))
  total : ∃ n, ∀ fuel, n ≤ fuel → (C01PP.run E fuel a).2.2 = ParseResult.abort

theorem AbortsAt.of_reaches {E : ParserEnv} {plain : Bool} {a b : MC} {text : Bytes}
    {sOff : ScanState} (h1 : Reaches E a b) (h2 : AbortsAt E plain b text sOff) :
    AbortsAt E plain a text sOff := by
  constructor
  · intro fuel
    rcases h1.part fuel with h | ⟨f1, h⟩
    · exact .inl h
    · rw [h]
      exact h2.part f1
  · obtain ⟨n1, hn1⟩ := h1.steps
    obtain ⟨n2, hn2⟩ := h2.total
    refine ⟨n2 + n1, fun fuel hf => ?_⟩
    obtain ⟨f, rfl⟩ : ∃ f, fuel = f + n1 := ⟨fuel - n1, by omega⟩
    rw [hn1]
    exact hn2 f (by omega)

theorem AbortsAt.of_body {E : ParserEnv} {plain : Bool} {a : MC} {text : Bytes}
    {sOff : ScanState} {out : POut}
    (h : ∀ rec, bodyK E rec a.stk a.la a.sc a.ctx = out) (hr : out.2.2 = .abort)
    (hs : out.1 = sOff)
    (ht : plain = true → out.2.1.cfg.errText = some text ∧ out.2.1.cfg.errLine = sOff.buf.lineno) :
    AbortsAt E plain a text sOff := by
  have step : ∀ n, C01PP.run E (n + 1) a = out := fun n => (run_succ E n a).trans (h _)
  constructor
  · intro fuel
    cases fuel with
    | zero => left; rw [run_zero]
    | succ n =>
      right
      rw [step n]
      exact ⟨hr, hs, ht⟩
  · refine ⟨1, fun fuel hf => ?_⟩
    obtain ⟨n, rfl⟩ : ∃ n, fuel = n + 1 := ⟨fuel - 1, by omega⟩
    rw [step n]
    exact hr

theorem yyerror_text {ctx : ParseCtx} (h : ctx.cfg.errText = none) (l : Nat) (text : Bytes) :
    (ctx.yyerror l text).cfg.errText = some text := by
  unfold ParseCtx.yyerror
  rw [h]
  rfl

theorem yyerror_line {ctx : ParseCtx} (h : ctx.cfg.errText = none) (l : Nat) (text : Bytes) :
    (ctx.yyerror l text).cfg.errLine = l := by
  unfold ParseCtx.yyerror
  rw [h]
  rfl

/-- the state has no entry for the next token and no default reduction (the compiled tables
have no explicit error entries) -/
def errOK (P : LalrTables) (s k : Nat) : Bool :=
  Nat.beq (P.defact.get s).toNat 0 &&
  match actAt P s k with
  | none => true
  | some _ => false

/-! ### single iterations over the compiled tables -/

section
variable {E : ParserEnv} {plain : Bool} {pos : Nat → ScanState}

theorem pshiftAt (hE : Compiled E) {s : Nat} {v0 : TokVal} {rest : List (Nat × TokVal)}
    {la : Lookahead} {sc : ScanState} {ctx : ParseCtx} {t : Nat} {v : TokVal}
    {ks : List (Nat × TokVal)} {k q : Nat}
    (hdepth : rest.length + 1 < 10000) (hfin : s ≠ 6)
    (hk : translateTok P t = k) (hact : actAt P s k = some (q : Int)) (hq : 0 < q)
    (hinp : InpAt E plain pos la sc ((t, v) :: ks)) :
    ∃ sc' ctx', Reaches E ⟨(s, v0) :: rest, la, sc, ctx⟩
        ⟨(q, v) :: (s, v0) :: rest, none, sc', ctx'⟩ ∧
      InpAt E plain pos none sc' ks ∧ Same plain ctx ctx' := by
  obtain ⟨ctx', hf, hl, hs⟩ := fetchAt ctx hinp
  have h := shift_of_fetch (E := E) (v0 := v0) (rest := rest) (q := (q : Int))
    (by rw [hE.tables]; exact hdepth) (by rw [hE.tables]; exact hfin)
    (by rw [hE.tables, hk]; exact hact) (Int.natCast_pos.mpr hq) hf
  rw [Int.toNat_natCast] at h
  exact ⟨pos ks.length, ctx', h, ⟨rfl, hl⟩, hs⟩

/-- an iteration that reduces by `r` in front of the next token: up to the action.  The action
runs in the scan state `sc'`: the present one if the state reduces without consulting the
lookahead, the one right after the next token otherwise. -/
theorem reduce_body (hE : Compiled E) {stk : List (Nat × TokVal)} {s : Nat} {v0 : TokVal}
    {rest0 : List (Nat × TokVal)} {la : Lookahead} {sc : ScanState} (ctx : ParseCtx) {t : Nat}
    {v : TokVal} {ks : List (Nat × TokVal)} {r : Nat}
    (htop : stk = (s, v0) :: rest0)
    (hdepth : stk.length < 10000) (hfin : s ≠ 6)
    (hred : redOK P s (translateTok P t) r = true)
    (hinp : InpAt E plain pos la sc ((t, v) :: ks)) :
    ∃ la' sc' ctx', Same plain ctx ctx' ∧ InpAt E plain pos la' sc' ((t, v) :: ks) ∧
      sc' = (if (P.pact.get s == P.pactNinf) = true then sc else pos ks.length) ∧
      ∀ rec, bodyK E rec stk la sc ctx = reduceK E rec stk r la' sc' ctx' := by
  subst htop
  obtain ⟨ctx', hf, hl, hs⟩ := fetchAt ctx hinp
  have hb := fun rec => bodyK_reduce_of_fetch (E := E) (v0 := v0) (rest := rest0) (r := r)
    (by rw [hE.tables]; exact hdepth) (by rw [hE.tables]; exact hfin)
    (by rw [hE.tables]; exact hred) hf rec
  rw [hE.tables] at hb
  by_cases hp : (P.pact.get s == P.pactNinf) = true
  · exact ⟨la, sc, ctx, Same.refl _ _, hinp, by rw [if_pos hp], fun rec => by
      rw [hb rec, if_pos hp]⟩
  · exact ⟨some (t, v), pos ks.length, ctx', hs, ⟨ks, rfl, rfl, hl⟩, by rw [if_neg hp],
      fun rec => by rw [hb rec, if_neg hp]⟩

theorem preduceAt (hE : Compiled E) {stk pushed : List (Nat × TokVal)} {p : Nat}
    {vp : TokVal} {rest : List (Nat × TokVal)} {s : Nat} {v0 : TokVal}
    {rest0 : List (Nat × TokVal)} {la : Lookahead} {sc : ScanState} {ctx : ParseCtx} {t : Nat}
    {v : TokVal} {ks : List (Nat × TokVal)} {r lhs len q' : Nat} {act : ParseAct}
    {Post : ParseCtx → Prop} {sa : ScanState}
    (hstk : stk = pushed ++ (p, vp) :: rest) (htop : stk = (s, v0) :: rest0)
    (hdepth : stk.length < 10000) (hfin : s ≠ 6)
    (hred : redOK P s (translateTok P t) r = true)
    (hrule : RuleIs r lhs len act) (hlen : len = pushed.length)
    (hgoto : gotoTo P p lhs = q')
    (hinp : InpAt E plain pos la sc ((t, v) :: ks))
    (hsa : sa = (if (P.pact.get s == P.pactNinf) = true then sc else pos ks.length))
    (hact : ∀ ctx₁, Same plain ctx ctx₁ →
      ∃ ctx₂, runAction act ctx₁ v0 sa.buf.lineno sa.currentFilename = .ok ctx₂ ∧ Post ctx₂) :
    ∃ la' ctx' vv, Reaches E ⟨stk, la, sc, ctx⟩ ⟨(q', vv) :: (p, vp) :: rest, la', sa, ctx'⟩ ∧
      InpAt E plain pos la' sa ((t, v) :: ks) ∧ Post ctx' := by
  obtain ⟨h1, h2, h3⟩ := hrule
  obtain ⟨la', sc', ctx', hs, hinp', hsc', hb⟩ := reduce_body hE ctx htop hdepth hfin hred hinp
  rw [← hsa] at hsc'
  subst hsc'
  obtain ⟨ctx₂, ha, hpost⟩ := hact ctx' hs
  have hhead : (stk.headD (0, {})).2 = v0 := by rw [htop]; rfl
  refine ⟨la', ctx₂, yyvalOf stk pushed.length, ?_, hinp', hpost⟩
  have hP : E.P = P := hE.tables
  rw [← hgoto, ← h1, ← hP]
  refine Reaches.of_body (fun rec => ?_)
  simp only
  rw [hb rec]
  exact reduceK_eq hstk (by rw [hE.tables, h2]; exact hlen)
    (by rw [hhead, hE.acts, h3]; exact ha) rec

/-- the tables reduce by `r` in front of the next token and the action aborts, recording the
line it is given, in the scan state `reduce_body` says -/
theorem preduce_abortAt (hE : Compiled E) {stk : List (Nat × TokVal)} {s : Nat} {v0 : TokVal}
    {rest0 : List (Nat × TokVal)} {la : Lookahead} {sc : ScanState} {ctx : ParseCtx} {t : Nat}
    {v : TokVal} {ks : List (Nat × TokVal)} {r lhs len : Nat} {act : ParseAct} {text : Bytes}
    (htop : stk = (s, v0) :: rest0)
    (hdepth : stk.length < 10000) (hfin : s ≠ 6)
    (hred : redOK P s (translateTok P t) r = true)
    (hrule : RuleIs r lhs len act)
    (hinp : InpAt E plain pos la sc ((t, v) :: ks))
    (hact : ∀ ctx₁ l f, Same plain ctx ctx₁ →
      ∃ ctx₂, runAction act ctx₁ v0 l f = .abort ctx₂ ∧
        (plain = true → ctx₂.cfg.errText = some text ∧ ctx₂.cfg.errLine = l)) :
    AbortsAt E plain ⟨stk, la, sc, ctx⟩ text
      (if (P.pact.get s == P.pactNinf) = true then sc else pos ks.length) := by
  obtain ⟨_, _, h3⟩ := hrule
  obtain ⟨la', sc', ctx', hs, _, hsc', hb⟩ := reduce_body hE ctx htop hdepth hfin hred hinp
  obtain ⟨ctx₂, ha, htext⟩ := hact ctx' sc'.buf.lineno sc'.currentFilename hs
  have hhead : (stk.headD (0, {})).2 = v0 := by rw [htop]; rfl
  rw [← hsc']
  refine AbortsAt.of_body (out := (sc', ctx₂, .abort)) (fun rec => ?_) rfl rfl htext
  simp only
  rw [hb rec]
  unfold reduceK
  simp only
  rw [hhead, hE.acts, h3, ha]

/-- the tables have nothing for the next token: syntax error, in the scan state right after that
token (the state consults the lookahead: a state without default reduction always does) -/
theorem perrorAt (hE : Compiled E) {stk : List (Nat × TokVal)} {s : Nat} {v0 : TokVal}
    {rest0 : List (Nat × TokVal)} {la : Lookahead} {sc : ScanState} {ctx : ParseCtx} {t : Nat}
    {v : TokVal} {ks : List (Nat × TokVal)}
    (htop : stk = (s, v0) :: rest0)
    (hdepth : stk.length < 10000) (hfin : s ≠ 6)
    (herr : errOK P s (translateTok P t) = true) (hninf : P.pact.get s ≠ P.pactNinf)
    (hinp : InpAt E plain pos la sc ((t, v) :: ks))
    (hnone : plain = true → ctx.cfg.errText = none) :
    AbortsAt E plain ⟨stk, la, sc, ctx⟩ Generated.ERR_SYNTAX (pos ks.length) := by
  subst htop
  unfold errOK at herr
  simp only [Bool.and_eq_true] at herr
  obtain ⟨hdef, herr⟩ := herr
  have hdef : (P.defact.get s).toNat = 0 := Nat.eq_of_beq_eq_true hdef
  obtain ⟨ctx', hf, hl, hs⟩ := fetchAt ctx hinp
  have hnone' : plain = true → ctx'.cfg.errText = none := fun h => (hs.err h).trans (hnone h)
  refine AbortsAt.of_body (out := syntaxErrorK (pos ks.length) ctx') (fun rec => ?_) rfl rfl
    (fun h => ⟨yyerror_text (hnone' h) _ _, yyerror_line (hnone' h) _ _⟩)
  simp only
  rw [bodyK_act (by rw [hE.tables]; exact hdepth) (by rw [hE.tables]; exact hfin)
    (by rw [hE.tables]; simpa using hninf) hf, hE.tables]
  cases ha : actAt P s (translateTok P t) with
  | some a => rw [ha] at herr; cases herr
  | none =>
    rw [Option.elim]
    unfold dfltK
    simp only
    rw [hE.tables, hdef]
    rfl

end

end Libconfig.C02D
