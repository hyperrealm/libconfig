import LibconfigModel.Proofs.C01LexSim
import LibconfigModel.Proofs.ScannerStep
import LibconfigModel.Proofs.C01
/-
  C01L — the lexemes of the writer: for each kind of item, the rule and length the
  compiled matcher selects on the item's bytes (`LexemeAt`), proved along a path of the abstract
  automaton: it stays alive over the item's bytes, ends in a state accepting the rule of that
  kind, and jams on every byte that can follow the item.
-/
namespace Libconfig.C01L
open Flex

/-! ### paths and lexemes -/

/-- the automaton goes from `a` to `a'` over `bs`, and every state after the first byte is live -/
def Path (a : A) (bs : Bytes) (a' : A) : Prop := arun a bs = a' ∧ alive a bs = true

theorem Path.nil (a : A) : Path a [] a := ⟨rfl, rfl⟩

theorem Path.step {a a₁ a' : A} {b : Nat} {bs : Bytes} (e : astep a b = a₁) (hl : a₁.live = true)
    (h : Path a₁ bs a') : Path a (b :: bs) a' := by
  subst e
  exact ⟨h.1, (Bool.and_eq_true _ _).mpr ⟨hl, h.2⟩⟩

theorem Path.append {a a₁ a₂ : A} {x y : Bytes} (h₁ : Path a x a₁) (h₂ : Path a₁ y a₂) :
    Path a (x ++ y) a₂ :=
  ⟨by rw [arun_append, h₁.1, h₂.1], by rw [alive_append, h₁.2, h₁.1, h₂.2]; rfl⟩

theorem Path.loop {a : A} (hl : a.live = true) : ∀ {bs : Bytes}, (∀ b ∈ bs, astep a b = a) → Path a bs a
  | [], _ => .nil a
  | b :: _, h => .step (h b (List.mem_cons_self ..)) hl
      (Path.loop hl fun x hx => h x (List.mem_cons_of_mem _ hx))

/-- `bytes` is a lexeme of rule `r` read from state `a`, delimited by any byte of `follow` -/
structure LexFrom (a : A) (bytes : Bytes) (r : Nat) (follow : Nat → Bool) : Prop where
  lt : ∀ b ∈ bytes, b < 256
  alive : alive a bytes = true
  acc : aacc (arun a bytes) = r
  rule : r ≠ 0
  stop : ∀ c, follow c = true → astep (arun a bytes) c = .jam

theorem Path.lex {a a' : A} {bytes : Bytes} {r : Nat} {follow : Nat → Bool} (h : Path a bytes a')
    (hlt : ∀ b ∈ bytes, b < 256) (hacc : aacc a' = r) (hstop : ∀ c, follow c = true → astep a' c = .jam)
    (hr : r ≠ 0 := by decide) : LexFrom a bytes r follow :=
  ⟨hlt, h.2, h.1 ▸ hacc, hr, h.1 ▸ hstop⟩

/-- the first byte of what follows is a delimiter (or nothing follows) -/
def FollowOK (follow : Nat → Bool) (rest : Bytes) : Prop :=
  ∀ c, rest.head? = some c → c < 256 ∧ follow c = true

theorem LexFrom.next {a : A} {bytes : Bytes} {r : Nat} {follow : Nat → Bool} (h : LexFrom a bytes r follow)
    {sc : Nat} {bol : Bool} (ha : absOf (startState sc bol) = a) (hl : a.live = true)
    (rest : Bytes) (hf : FollowOK follow rest) :
    next T sc bol (bytes ++ rest) = some (r, bytes.length) :=
  h.acc ▸ next_abs ha hl bytes rest h.lt h.alive (h.acc ▸ h.rule)
    fun c hc => ⟨(hf c hc).1, h.stop c (hf c hc).2⟩

/-- a lexeme of the start condition `sc`, at or away from the beginning of a line: the compiled
matcher selects rule `r` and exactly `bytes` whenever nothing or a byte of `follow` comes next -/
structure LexemeAt (sc : Nat) (bytes : Bytes) (r : Nat) (follow : Nat → Bool) : Prop where
  lt : ∀ b ∈ bytes, b < 256
  next : ∀ (bol : Bool) (rest : Bytes), FollowOK follow rest →
    next T sc bol (bytes ++ rest) = some (r, bytes.length)

/-- a lexeme of INITIAL -/
abbrev Lexeme := LexemeAt 0
/-- a lexeme of the STRING start condition -/
abbrev SLexeme := LexemeAt 3

theorem LexemeAt.ofStart {bytes : Bytes} {r : Nat} {follow : Nat → Bool}
    (h : ∀ bol, LexFrom (.start bol) bytes r follow) : Lexeme bytes r follow :=
  ⟨(h true).lt, fun bol rest hf => (h bol).next (abs_start bol) rfl rest hf⟩

theorem LexemeAt.ofSstart {bytes : Bytes} {r : Nat} {follow : Nat → Bool}
    (h : LexFrom .sstart bytes r follow) : SLexeme bytes r follow :=
  ⟨h.lt, fun bol rest hf => h.next (abs_sstart bol) rfl rest hf⟩

theorem LexemeAt.weaken {sc : Nat} {bytes : Bytes} {r : Nat} {f g : Nat → Bool}
    (h : LexemeAt sc bytes r f) (hg : ∀ c, g c = true → f c = true) : LexemeAt sc bytes r g :=
  ⟨h.lt, fun bol rest hf => h.next bol rest fun c hc => ⟨(hf c hc).1, hg c (hf c hc).2⟩⟩

theorem LexemeAt.ne_nil {bytes : Bytes} {r : Nat} {follow : Nat → Bool} (h : Lexeme bytes r follow) :
    bytes ≠ [] := by
  rintro rfl
  have := h.next true [] fun c hc => nomatch hc
  rw [List.append_nil, next_nil 0 (by decide) true] at this
  cases this

theorem Path.lexDone {a : A} {bytes : Bytes} {r : Nat} (h : Path a bytes (.done r))
    (hlt : ∀ b ∈ bytes, b < 256) (hr : r ≠ 0 := by decide) : LexFrom a bytes r (fun _ => true) :=
  h.lex hlt rfl (fun _ _ => rfl) hr

/-! ### single-character tokens and the newline -/

/-- the single bytes the writer emits as tokens, and the newline -/
def isPunct (c : Nat) : Bool :=
  c == 10 || c == 61 || c == 58 || c == 44 || c == 123 || c == 125 || c == 91 || c == 93 ||
  c == 40 || c == 41 || c == 59

theorem lex_punct (c : Nat) (h : isPunct c = true) : Lexeme [c] (punctRule c) (fun _ => true) := by
  simp only [isPunct, Bool.or_eq_true, beq_iff_eq] at h
  rcases h with (((((((((rfl | rfl) | rfl) | rfl) | rfl) | rfl) | rfl) | rfl) | rfl) | rfl) | rfl <;>
    exact .ofStart fun _ => Path.lexDone (.step rfl rfl (.nil _)) (by decide)

/-- the opening quote of a string (rule 8) -/
theorem lex_quote : Lexeme [34] 8 (fun _ => true) :=
  .ofStart fun _ => Path.lexDone (.step rfl rfl (.nil _)) (by decide)

/-! ### runs of blanks -/

def blankFollow (c : Nat) : Bool := !isBlank c && c != 64

theorem isBlank_lt {b : Nat} (h : isBlank b = true) : b < 256 := by
  simp only [isBlank, Bool.or_eq_true, beq_iff_eq] at h; omega

theorem lex_blank (bs : Bytes) (hne : bs ≠ []) (h : ∀ b ∈ bs, isBlank b = true) :
    Lexeme bs 29 blankFollow := by
  refine .ofStart fun bol => ?_
  cases bs with
  | nil => exact absurd rfl hne
  | cons b bs =>
    have hs : astep (.start bol) b = .ws bol := by simp only [astep, h b (List.mem_cons_self ..), if_true]
    have hw : ∀ x ∈ bs, astep (.ws bol) x = .ws bol := fun x hx => by
      simp only [astep, h x (List.mem_cons_of_mem _ hx), if_true]
    refine (Path.step hs rfl (.loop rfl hw)).lex (fun x hx => isBlank_lt (h x hx)) rfl fun c hc => ?_
    simp only [blankFollow, Bool.and_eq_true, Bool.not_eq_true', bne_iff_ne, ne_eq] at hc
    have h64 : (c == 64) = false := beq_eq_false_iff_ne.mpr hc.2
    simp only [astep, hc.1, h64, Bool.and_false, Bool.false_eq_true, if_false]

/-! ### names and the two keywords -/

def kwWord (t : Bool) : Bytes := if t then [116, 114, 117, 101] else [102, 97, 108, 115, 101]

/-- the name spells `true` or `false` in some mixture of cases -/
def isBoolWord (nm : Bytes) : Bool := nm.map lower == kwWord true || nm.map lower == kwWord false

def nameFollow (c : Nat) : Bool := !nameRest c

theorem isBoolWord_iff {nm : Bytes} : isBoolWord nm = true ↔ ∃ t, nm.map lower = kwWord t := by
  simp only [isBoolWord, Bool.or_eq_true, beq_iff_eq]
  exact ⟨fun h => h.elim (fun h => ⟨true, h⟩) (fun h => ⟨false, h⟩),
    fun ⟨t, h⟩ => by cases t; exact .inr h; exact .inl h⟩

/-- where the first byte of a name and the first digit of a number lead from the start state -/
def startFact (bol : Bool) (b : Nat) : Bool :=
  (!(isAlpha b || b == 42) ||
    A.beq (astep (.start bol) b)
      (if lower b == 116 then .kw true 1 else if lower b == 102 then .kw false 1 else .name)) &&
  (!isDigit b || A.beq (astep (.start bol) b) (if b == 48 then .zero else .int))

theorem start_ok : ∀ bol, (List.range 256).all (startFact bol) = true := by decide +kernel

theorem startFact_of_lt (bol : Bool) {b : Nat} (hb : b < 256) : startFact bol b = true :=
  List.all_eq_true.mp (start_ok bol) b (List.mem_range.mpr hb)

theorem nameRest_lt {b : Nat} (h : nameRest b = true) : b < 128 := by
  simp only [nameRest, isAlpha, isUpper, isLower, isDigit, Bool.or_eq_true, Bool.and_eq_true,
    decide_eq_true_eq, beq_iff_eq] at h
  omega

theorem nameStart_lt {c : Nat} (h : (isAlpha c || c == 42) = true) : c < 128 := by
  simp only [isAlpha, isUpper, isLower, Bool.or_eq_true, Bool.and_eq_true, decide_eq_true_eq,
    beq_iff_eq] at h
  omega

theorem validName_lt {c : Nat} {cs : Bytes} (h1 : (isAlpha c || c == 42) = true)
    (h2 : ∀ x ∈ cs, nameRest x = true) : ∀ x ∈ c :: cs, x < 256 := by
  intro x hx
  rcases List.mem_cons.mp hx with rfl | hx
  · exact Nat.lt_trans (nameStart_lt h1) (by decide)
  · exact Nat.lt_trans (nameRest_lt (h2 x hx)) (by decide)

theorem astep_start_name (bol : Bool) (b : Nat) (h : (isAlpha b || b == 42) = true) :
    (∃ t, lower b = kwByte t 0 ∧ astep (.start bol) b = .kw t 1) ∨
    ((∀ t, lower b ≠ kwByte t 0) ∧ astep (.start bol) b = .name) := by
  have hf := ((Bool.and_eq_true _ _).mp
    (startFact_of_lt bol (Nat.lt_trans (nameStart_lt h) (by decide)))).1
  rw [h] at hf
  have hs := A.beq_eq hf
  by_cases h116 : lower b = 116
  · exact .inl ⟨true, h116, by rw [hs, h116]; rfl⟩
  by_cases h102 : lower b = 102
  · exact .inl ⟨false, h102, by rw [hs, h102]; rfl⟩
  · refine .inr ⟨fun t => by cases t; exact h102; exact h116, ?_⟩
    rw [hs, if_neg (mt beq_iff_eq.mp h116), if_neg (mt beq_iff_eq.mp h102)]

theorem kwWord_length (t : Bool) : (kwWord t).length = kwLen t := by cases t <;> rfl

theorem kwByte_eq (t : Bool) {i : Nat} (h : i < (kwWord t).length) : kwByte t i = (kwWord t)[i] := by
  have e : kwByte t i = (kwWord t).getD i 0 := by cases t <;> rfl
  rw [e, List.getD_eq_getElem?_getD, List.getElem?_eq_getElem h, Option.getD_some]

theorem kwWord_drop (t : Bool) (i : Nat) (h : i < kwLen t) :
    (kwWord t).drop i = kwByte t i :: (kwWord t).drop (i + 1) := by
  rw [← kwWord_length] at h
  rw [List.drop_eq_getElem_cons h, kwByte_eq t h]

theorem kwByte_range (t : Bool) (i : Nat) (h : i < kwLen t) : 97 ≤ kwByte t i ∧ kwByte t i ≤ 122 := by
  rw [← kwWord_length] at h
  rw [kwByte_eq t h]
  exact (by cases t <;> decide : ∀ k ∈ kwWord t, 97 ≤ k ∧ k ≤ 122) _ (List.getElem_mem h)

theorem kwNext_nameRest {t : Bool} {i b : Nat} (h : kwNext t i b = true) : nameRest b = true := by
  simp only [kwNext, Bool.and_eq_true, decide_eq_true_eq, beq_iff_eq] at h
  have hr := kwByte_range t i h.1
  have h2 := h.2
  unfold lower at h2
  have : isAlpha b = true := by
    split at h2
    · rename_i hu; rw [isAlpha, hu]; rfl
    · simp only [isAlpha, isLower, Bool.or_eq_true, Bool.and_eq_true, decide_eq_true_eq]
      right; omega
  rw [nameRest, this]; rfl

def NameEnd (a : A) : Prop := a = .name ∨ ∃ t j, a = .kw t j

theorem NameEnd.stop {a : A} (h : NameEnd a) {x : Nat} (hx : nameFollow x = true) : astep a x = .jam := by
  have hx' : nameRest x = false := by simpa only [nameFollow, Bool.not_eq_true'] using hx
  rcases h with rfl | ⟨t, j, rfl⟩
  · simp only [astep, hx', Bool.false_eq_true, if_false]
  · have hk : kwNext t j x = false := by
      cases hk : kwNext t j x
      · rfl
      · rw [kwNext_nameRest hk] at hx'; cases hx'
    simp only [astep, hk, hx', Bool.false_eq_true, if_false]

theorem path_name {cs : Bytes} (h : ∀ c ∈ cs, nameRest c = true) : Path .name cs .name :=
  .loop rfl fun c hc => by simp only [astep, h c hc, if_true]

/-- from the state "the first `i` letters of the keyword were read", over name characters:
the automaton is still inside the keyword exactly if what was read is, in lower case, the next
part of the keyword; otherwise it has fallen back to `name` -/
theorem run_kw (t : Bool) : ∀ (cs : Bytes) (i : Nat), (∀ c ∈ cs, nameRest c = true) →
    ∃ a, Path (.kw t i) cs a ∧
      ((a = .kw t (i + cs.length) ∧ cs.map lower <+: (kwWord t).drop i) ∨
       (a = .name ∧ ¬ cs.map lower <+: (kwWord t).drop i))
  | [], i, _ => ⟨_, .nil _, .inl ⟨rfl, List.nil_prefix⟩⟩
  | c :: cs, i, h => by
    have hcs : ∀ x ∈ cs, nameRest x = true := fun x hx => h x (List.mem_cons_of_mem _ hx)
    by_cases hk : kwNext t i c = true
    · have hk' := hk
      simp only [kwNext, Bool.and_eq_true, decide_eq_true_eq, beq_iff_eq] at hk'
      have e : astep (.kw t i) c = .kw t (i + 1) := by simp only [astep, hk, if_true]
      obtain ⟨a, hp, ha⟩ := run_kw t cs (i + 1) hcs
      refine ⟨a, .step e rfl hp, ?_⟩
      rw [kwWord_drop t i hk'.1, List.map_cons, hk'.2, List.cons_prefix_cons, List.length_cons,
        Nat.add_comm cs.length, ← Nat.add_assoc]
      exact ha.imp (fun h => ⟨h.1, rfl, h.2⟩) (fun h => ⟨h.1, fun hp => h.2 hp.2⟩)
    · have hk' : kwNext t i c = false := Bool.eq_false_iff.mpr hk
      have e : astep (.kw t i) c = .name := by
        simp only [astep, hk', h c (List.mem_cons_self ..), Bool.false_eq_true, if_false, if_true]
      refine ⟨.name, .step e rfl (path_name hcs), .inr ⟨rfl, fun hp => hk ?_⟩⟩
      by_cases hi : i < kwLen t
      · rw [kwWord_drop t i hi, List.map_cons, List.cons_prefix_cons] at hp
        simp only [kwNext, hi, decide_true, Bool.true_and, beq_iff_eq]
        exact hp.1
      · rw [List.drop_eq_nil_of_le (by rw [kwWord_length]; omega)] at hp
        exact absurd (List.prefix_nil.mp hp) (List.cons_ne_nil _ _)

/-- the rule that reads a name spelling the keyword: 34 `{true}` / 35 `{false}` -/
def boolRule (t : Bool) : Nat := if t then 34 else 35

theorem prefix_kwWord {c : Nat} {cs : Bytes} {t : Bool} :
    (c :: cs).map lower <+: kwWord t ↔ lower c = kwByte t 0 ∧ cs.map lower <+: (kwWord t).drop 1 := by
  rw [← List.drop_zero (l := kwWord t), kwWord_drop t 0 (by cases t <;> decide), List.map_cons,
    List.cons_prefix_cons]
  rfl

/-- where a valid name leaves the automaton: inside a keyword of which the name is, in lower
case, a beginning, or in `name` if there is no such keyword -/
theorem name_end (bol : Bool) {c : Nat} {cs : Bytes} (h1 : (isAlpha c || c == 42) = true)
    (h2 : ∀ x ∈ cs, nameRest x = true) :
    ∃ a, Path (.start bol) (c :: cs) a ∧
      ((∃ t, a = .kw t (cs.length + 1) ∧ (c :: cs).map lower <+: kwWord t) ∨
       (a = .name ∧ ∀ t, ¬ (c :: cs).map lower <+: kwWord t)) := by
  rcases astep_start_name bol c h1 with ⟨t, h0, hs⟩ | ⟨hno, hs⟩
  · obtain ⟨a, hp, ha⟩ := run_kw t cs 1 h2
    refine ⟨a, .step hs rfl hp, ha.imp (fun h => ⟨t, Nat.add_comm 1 _ ▸ h.1, prefix_kwWord.mpr ⟨h0, h.2⟩⟩)
      (fun h => ⟨h.1, fun t' hp' => ?_⟩)⟩
    have h' := prefix_kwWord.mp hp'
    have : t' = t := by
      have := h'.1.symm.trans h0
      revert this; cases t <;> cases t' <;> decide
    exact h.2 (this ▸ h'.2)
  · exact ⟨.name, .step hs rfl (path_name h2), .inr ⟨rfl, fun t hp => hno t (prefix_kwWord.mp hp).1⟩⟩

/-- a valid name that does not spell a boolean literal is a lexeme of rule 36 `{name}` -/
theorem lex_name (nm : Bytes) (hv : validName nm = true) (hb : isBoolWord nm = false) :
    Lexeme nm 36 nameFollow := by
  refine .ofStart fun bol => ?_
  cases nm with
  | nil => cases hv
  | cons c cs =>
    simp only [validName, Bool.and_eq_true, List.all_eq_true] at hv
    obtain ⟨a, hp, ha⟩ := name_end bol hv.1 hv.2
    refine hp.lex (validName_lt hv.1 hv.2) ?_ fun x hx => NameEnd.stop ?_ hx
    · rcases ha with ⟨t, rfl, hpre⟩ | ⟨rfl, _⟩
      · -- the name is not the whole keyword
        have hne : Nat.beq (cs.length + 1) (kwLen t) = false := by
          apply Bool.eq_false_iff.mpr
          intro he
          have := hpre.eq_of_length (by
            rw [List.length_map, List.length_cons, kwWord_length, Nat.eq_of_beq_eq_true he])
          rw [isBoolWord_iff.mpr ⟨t, this⟩] at hb
          cases hb
        show (if Nat.beq (cs.length + 1) (kwLen t) = true then _ else 36) = 36
        rw [hne]; rfl
      · rfl
    · rcases ha with ⟨t, rfl, _⟩ | ⟨rfl, _⟩
      · exact .inr ⟨t, _, rfl⟩
      · exact .inl rfl

theorem lex_boolword (t : Bool) (nm : Bytes) (hv : validName nm = true) (hw : nm.map lower = kwWord t) :
    Lexeme nm (boolRule t) nameFollow := by
  refine .ofStart fun bol => ?_
  cases nm with
  | nil => cases hv
  | cons c cs =>
    simp only [validName, Bool.and_eq_true, List.all_eq_true] at hv
    obtain ⟨a, hp, ha⟩ := name_end bol hv.1 hv.2
    have hlen : cs.length + 1 = kwLen t := by
      rw [← kwWord_length, ← hw, List.length_map, List.length_cons]
    rcases ha with ⟨t', rfl, hpre⟩ | ⟨_, hno⟩
    · have : t' = t := by
        rw [hw] at hpre
        revert hpre; cases t <;> cases t' <;> decide
      subst this
      rw [hlen] at hp
      exact hp.lex (validName_lt hv.1 hv.2) (by cases t' <;> rfl)
        (fun x hx => NameEnd.stop (.inr ⟨t', _, rfl⟩) hx) (by cases t' <;> decide)
    · exact absurd (hw ▸ List.prefix_refl _) (hno t)

/-! ### numbers -/

/-- the bytes the writer puts after a scalar value: space, tab, newline, `;`, `,` -/
def delim (c : Nat) : Bool := c == 32 || c == 9 || c == 10 || c == 59 || c == 44

theorem delim_cases {c : Nat} (h : delim c = true) : c = 32 ∨ c = 9 ∨ c = 10 ∨ c = 59 ∨ c = 44 := by
  simpa only [delim, Bool.or_eq_true, beq_iff_eq, or_assoc] using h

theorem delim_nameFollow (c : Nat) (h : delim c = true) : nameFollow c = true := by
  rcases delim_cases h with rfl | rfl | rfl | rfl | rfl <;> decide

theorem delim_blankFollow_or (c : Nat) (h : delim c = true) : isBlank c = true ∨ blankFollow c = true := by
  rcases delim_cases h with rfl | rfl | rfl | rfl | rfl <;> decide

theorem isDigit_lt {b : Nat} (h : isDigit b = true) : b < 58 := by
  simp only [isDigit, Bool.and_eq_true, decide_eq_true_eq] at h; omega

theorem isHexDigit_lt {b : Nat} (h : isHexDigit b = true) : b < 128 := by
  simp only [isHexDigit, isDigit, Bool.or_eq_true, Bool.and_eq_true, decide_eq_true_eq] at h; omega

theorem AllDigits.tail {d : Nat} {ds : Bytes} (h : AllDigits (d :: ds)) : AllDigits ds :=
  fun x hx => h x (List.mem_cons_of_mem _ hx)

theorem AllDigits.lt {ds : Bytes} (h : AllDigits ds) : ∀ b ∈ ds, b < 256 :=
  fun b hb => Nat.lt_trans (isDigit_lt (h b hb)) (by decide)

/-- `zero` or `int`: a complete decimal integer has been read -/
def IsNum (a : A) : Prop := a = .zero ∨ a = .int

theorem astep_start_digit (bol : Bool) (b : Nat) (h : isDigit b = true) :
    IsNum (astep (.start bol) b) := by
  have hf := ((Bool.and_eq_true _ _).mp
    (startFact_of_lt bol (Nat.lt_trans (isDigit_lt h) (by decide)))).2
  rw [h] at hf
  rw [A.beq_eq hf]
  split
  · exact .inl rfl
  · exact .inr rfl

theorem path_digits {a : A} (hl : a.live = true) (hs : ∀ d, isDigit d = true → astep a d = a)
    {ds : Bytes} (h : AllDigits ds) : Path a ds a :=
  .loop hl fun d hd => hs d (h d hd)

theorem path_int {ds : Bytes} (h : AllDigits ds) : Path .int ds .int :=
  path_digits rfl (fun d hd => by simp only [astep, hd, if_true]) h

theorem path_num {a : A} (ha : IsNum a) : ∀ {ds : Bytes}, AllDigits ds → ∃ a', Path a ds a' ∧ IsNum a'
  | [], _ => ⟨a, .nil a, ha⟩
  | d :: _, h => by
    have hd := h d (List.mem_cons_self ..)
    have e : astep a d = .int := by rcases ha with rfl | rfl <;> simp only [astep, hd, if_true]
    exact ⟨.int, .step e rfl (path_int h.tail), .inr rfl⟩

theorem IsNum.live {a : A} (h : IsNum a) : a.live = true := by rcases h with rfl | rfl <;> rfl

theorem path_sign_digits (bol neg : Bool) {ds : Bytes} (hne : ds ≠ []) (h : AllDigits ds) :
    ∃ a, Path (.start bol) (signBytes neg ++ ds) a ∧ IsNum a := by
  cases ds with
  | nil => exact absurd rfl hne
  | cons d ds =>
    have hd := h d (List.mem_cons_self ..)
    cases neg
    · have h1 := astep_start_digit bol d hd
      obtain ⟨a, hp, ha⟩ := path_num h1 h.tail
      exact ⟨a, .step rfl h1.live hp, ha⟩
    · have e : astep .sign d = .int := by simp only [astep, hd, if_true]
      exact ⟨.int, .step rfl rfl (.step e rfl (path_int h.tail)), .inr rfl⟩

theorem signBytes_lt (neg : Bool) : ∀ b ∈ signBytes neg, b < 256 := by
  cases neg <;> decide

theorem mem_append_lt {x y : Bytes} (hx : ∀ b ∈ x, b < 256) (hy : ∀ b ∈ y, b < 256) :
    ∀ b ∈ x ++ y, b < 256 :=
  fun b hb => (List.mem_append.mp hb).elim (hx b) (hy b)

theorem num_stop {a : A}
    (ha : a = .zero ∨ a = .int ∨ a = .intL ∨ a = .hex ∨ a = .hexL ∨ a = .frac ∨ a = .fexp)
    {c : Nat} (hc : delim c = true) : astep a c = .jam := by
  rcases delim_cases hc with rfl | rfl | rfl | rfl | rfl <;>
    rcases ha with rfl | rfl | rfl | rfl | rfl | rfl | rfl <;> rfl

/-- `[-]?[0-9]+` delimited: rule 38 `{integer}` -/
theorem lex_dec (neg : Bool) (ds : Bytes) (hne : ds ≠ []) (h : AllDigits ds) :
    Lexeme (signBytes neg ++ ds) 38 delim := by
  refine .ofStart fun bol => ?_
  obtain ⟨a, hp, ha⟩ := path_sign_digits bol neg hne h
  exact hp.lex (mem_append_lt (signBytes_lt neg) h.lt) (by rcases ha with rfl | rfl <;> rfl)
    fun _ => num_stop (ha.elim .inl fun h => .inr (.inl h))

/-- `[-]?[0-9]+L` delimited: rule 39 `{integer64}` -/
theorem lex_dec64 (neg : Bool) (ds : Bytes) (hne : ds ≠ []) (h : AllDigits ds) :
    Lexeme (signBytes neg ++ ds ++ [76]) 39 delim := by
  refine .ofStart fun bol => ?_
  obtain ⟨a, hp, ha⟩ := path_sign_digits bol neg hne h
  have e : astep a 76 = .intL := by rcases ha with rfl | rfl <;> rfl
  exact (hp.append (.step e rfl (.nil _))).lex
    (mem_append_lt (mem_append_lt (signBytes_lt neg) h.lt) (by decide)) rfl
    fun _ => num_stop (.inr (.inr (.inl rfl)))

/-- `%d` / `%lld`: an optional `-` and digits -/
theorem intToDec_shape (v : Int) :
    ∃ neg ds, intToDec v = signBytes neg ++ ds ∧ ds ≠ [] ∧ AllDigits ds := by
  unfold intToDec
  split
  · exact ⟨true, natToDec v.natAbs, rfl, C01P.natToDec_ne_nil _, C01P.natToDec_digits _⟩
  · exact ⟨false, natToDec v.natAbs, rfl, C01P.natToDec_ne_nil _, C01P.natToDec_digits _⟩

def AllHex (hs : Bytes) : Prop := ∀ d ∈ hs, isHexDigit d = true

theorem AllHex.lt {hs : Bytes} (h : AllHex hs) : ∀ b ∈ hs, b < 256 :=
  fun b hb => Nat.lt_trans (isHexDigit_lt (h b hb)) (by decide)

theorem path_0x_hex (bol : Bool) {hs : Bytes} (hne : hs ≠ []) (h : AllHex hs) :
    Path (.start bol) ([48, 120] ++ hs) .hex := by
  cases hs with
  | nil => exact absurd rfl hne
  | cons d ds =>
    have e : astep .zx d = .hex := by simp only [astep, h d (List.mem_cons_self ..), if_true]
    refine .step rfl rfl (.step rfl rfl (.step e rfl (.loop rfl fun x hx => ?_)))
    simp only [astep, h x (List.mem_cons_of_mem _ hx), if_true]

/-- `0x[0-9A-F]+` delimited: rule 40 `{hex}` -/
theorem lex_hex (hs : Bytes) (hne : hs ≠ []) (h : AllHex hs) : Lexeme ([48, 120] ++ hs) 40 delim :=
  .ofStart fun bol => (path_0x_hex bol hne h).lex (mem_append_lt (by decide) h.lt) rfl
    fun _ => num_stop (.inr (.inr (.inr (.inl rfl))))

/-- `0x[0-9A-F]+L` delimited: rule 41 `{hex64}` -/
theorem lex_hex64 (hs : Bytes) (hne : hs ≠ []) (h : AllHex hs) :
    Lexeme ([48, 120] ++ hs ++ [76]) 41 delim :=
  .ofStart fun bol => ((path_0x_hex bol hne h).append (.step rfl rfl (.nil _))).lex
    (mem_append_lt (mem_append_lt (by decide) h.lt) (by decide)) rfl
    fun _ => num_stop (.inr (.inr (.inr (.inr (.inl rfl)))))

/-! ### float literals -/

/-- states from which an exponent part may start -/
def IsMant (a : A) : Prop := a = .zero ∨ a = .int ∨ a = .frac

theorem path_frac {a : A} (ha : IsNum a) {fp : Bytes} (h : FracP fp) :
    ∃ m, Path a fp m ∧ IsMant m ∧ (fp ≠ [] → m = .frac) := by
  rcases h with rfl | ⟨ds, rfl, hds⟩
  · exact ⟨a, .nil a, ha.elim .inl fun h => .inr (.inl h), fun h => absurd rfl h⟩
  · have e : astep a 46 = .frac := by rcases ha with rfl | rfl <;> rfl
    exact ⟨.frac, .step e rfl (path_digits rfl (fun d hd => by simp only [astep, hd, if_true]) hds),
      .inr (.inr rfl), fun _ => rfl⟩

theorem path_exp {m : A} (hm : IsMant m) {ex : Bytes} (h : ExpP ex) :
    ∃ a, Path m ex a ∧ ((ex = [] ∧ a = m) ∨ a = .fexp) := by
  rcases h with rfl | ⟨s, ds, rfl, hs, hne, hds⟩
  · exact ⟨m, .nil m, .inl ⟨rfl, rfl⟩⟩
  · cases ds with
    | nil => exact absurd rfl hne
    | cons d ds =>
      have e1 : astep m 101 = .fe := by rcases hm with rfl | rfl | rfl <;> rfl
      have e2 : astep .fe s = .fesign := by rcases hs with rfl | rfl <;> rfl
      have e3 : astep .fesign d = .fexp := by simp only [astep, hds d (List.mem_cons_self ..), if_true]
      exact ⟨.fexp, .step e1 rfl (.step e2 rfl (.step e3 rfl
        (path_digits rfl (fun d hd => by simp only [astep, hd, if_true]) hds.tail))), .inr rfl⟩

/-- a float literal, delimited: rule 37 -/
theorem lex_float {text : Bytes} (h : FloatLit text) : Lexeme text 37 delim := by
  have hlit := h
  obtain ⟨neg, ip, fp, ex, rfl, hne, hip, hfp, hex, hsome⟩ := h
  refine .ofStart fun bol => ?_
  obtain ⟨a, hp, ha⟩ := path_sign_digits bol neg hne hip
  obtain ⟨m, hpm, hm, hfr⟩ := path_frac ha hfp
  obtain ⟨e, hpe, he⟩ := path_exp hm hex
  have hend : e = .frac ∨ e = .fexp := by
    rcases he with ⟨hex0, rfl⟩ | h
    · exact .inl (hfr (hsome.resolve_right fun h => h hex0))
    · exact .inr h
  exact ((hp.append hpm).append hpe).lex (fun b hb => (C01P.fc_range (hlit.allFc b hb)).2)
    (by rcases hend with rfl | rfl <;> rfl)
    fun _ => num_stop (hend.elim (fun h => .inr (.inr (.inr (.inr (.inr (.inl h))))))
      fun h => .inr (.inr (.inr (.inr (.inr (.inr h))))))

/-! ### the pieces of a string literal (STRING start condition) -/

/-- the closing quote: rule 21 -/
theorem slex_quote : SLexeme [34] 21 (fun _ => true) :=
  .ofSstart <| Path.lexDone (.step rfl rfl (.nil _)) (by decide)

/-- the two-byte escapes the writer uses: `\"` `\\` `\n` `\r` `\f` `\t` -/
theorem slex_esc {c x r : Nat} (h : (c, x, r) ∈ C01P.escTable) : SLexeme [92, x] r (fun _ => true) := by
  simp only [C01P.escTable, List.mem_cons, Prod.mk.injEq, List.not_mem_nil, or_false] at h
  rcases h with ⟨_, rfl, rfl⟩ | ⟨_, rfl, rfl⟩ | ⟨_, rfl, rfl⟩ | ⟨_, rfl, rfl⟩ | ⟨_, rfl, rfl⟩ |
      ⟨_, rfl, rfl⟩ <;>
    exact .ofSstart <| Path.lexDone (.step rfl rfl (.step rfl rfl (.nil _))) (by decide)

/-- `\xHH`: rule 19 -/
theorem slex_hex (h l : Nat) (hh : isHexDigit h = true) (hl : isHexDigit l = true) :
    SLexeme [92, 120, h, l] 19 (fun _ => true) := by
  have e1 : astep .bsx h = .bsxh := by simp only [astep, hh, if_true]
  have e2 : astep .bsxh l = .done 19 := by simp only [astep, hl, if_true]
  refine .ofSstart <| Path.lexDone (.step rfl rfl (.step rfl rfl (.step e1 rfl (.step e2 rfl (.nil _))))) ?_
  intro b hb
  simp only [List.mem_cons, List.not_mem_nil, or_false] at hb
  rcases hb with rfl | rfl | rfl | rfl
  · decide
  · decide
  · exact Nat.lt_trans (isHexDigit_lt hh) (by decide)
  · exact Nat.lt_trans (isHexDigit_lt hl) (by decide)

def chunkFollow (c : Nat) : Bool := c == 34 || c == 92

/-- a non-empty run of bytes other than `"` and `\`, followed by one of those: rule 9 -/
theorem slex_chunk (p : Bytes) (hne : p ≠ []) (hp : ∀ b ∈ p, b ≠ 34 ∧ b ≠ 92 ∧ b < 256) :
    SLexeme p 9 chunkFollow := by
  cases p with
  | nil => exact absurd rfl hne
  | cons b p =>
    have plain : ∀ x ∈ b :: p, (x == 34) = false ∧ (x == 92) = false := fun x hx =>
      ⟨beq_eq_false_iff_ne.mpr (hp x hx).1, beq_eq_false_iff_ne.mpr (hp x hx).2.1⟩
    have e : astep .sstart b = .chunk := by
      simp only [astep, (plain b (List.mem_cons_self ..)).1, (plain b (List.mem_cons_self ..)).2,
        Bool.false_eq_true, if_false]
    refine .ofSstart <| (Path.step e rfl (.loop rfl fun x hx => ?_)).lex (fun x hx => (hp x hx).2.2) rfl fun c hc => ?_
    · have := plain x (List.mem_cons_of_mem _ hx)
      simp only [astep, this.1, this.2, Bool.or_self, Bool.false_eq_true, if_false]
    · simp only [astep, show (c == 34 || c == 92) = true from hc, if_true]

end Libconfig.C01L
