import LibconfigModel.Proofs.C01
/-
  C01L — the text `libconfig_format_double` produces for a finite double (when the
  `snprintf` buffer does not cut it) is a float literal: optional `-`, digits, then a point
  with digits and/or an exponent `e±digits`.  Cut or not, it consists of digits, signs, a point
  and `e` and contains a point or an exponent (`formatDouble_shape`).
-/
namespace Libconfig.C01L
open F64 C01P

/-- the fraction part `printf` writes: nothing, or a point and digits -/
def optFrac (fd : Bytes) : Bytes := if fd.isEmpty then [] else 46 :: fd

/-- `printf` output for a finite double: like `FloatLit`, but the point / exponent may both
be missing -/
def RawLit (s : Bytes) : Prop :=
  ∃ neg ip fd ex, s = signBytes neg ++ ip ++ optFrac fd ++ ex ∧ ip ≠ [] ∧ AllDigits ip ∧ AllDigits fd ∧ ExpP ex

theorem allDigits_append {a b : Bytes} (ha : AllDigits a) (hb : AllDigits b) : AllDigits (a ++ b) :=
  fun c hc => (List.mem_append.mp hc).elim (ha c) (hb c)

theorem allDigits_pad0 (n : Nat) {ds : Bytes} (h : AllDigits ds) : AllDigits (pad0 n ds) :=
  allDigits_append (fun c hc => (List.mem_replicate.mp hc).2 ▸ rfl) h

theorem allDigits_take {ds : Bytes} (n : Nat) (h : AllDigits ds) : AllDigits (ds.take n) :=
  fun c hc => h c (List.mem_of_mem_take hc)

theorem allDigits_drop {ds : Bytes} (n : Nat) (h : AllDigits ds) : AllDigits (ds.drop n) :=
  fun c hc => h c (List.mem_of_mem_drop hc)

theorem allDigits_strip {ds : Bytes} (h : AllDigits ds) : AllDigits (stripZeros ds) :=
  fun c hc => h c (mem_stripZeros hc)

theorem allDigits_dec (n : Nat) : AllDigits (natToDec n) := natToDec_digits n

theorem pad0_length_eq (n : Nat) (ds : Bytes) : (pad0 n ds).length = max n ds.length := by
  unfold pad0
  simp only [List.length_append, List.length_replicate]
  omega

theorem pad0_length (n : Nat) (ds : Bytes) : n ≤ (pad0 n ds).length :=
  pad0_length_eq n ds ▸ Nat.le_max_left n _

theorem take_ne_nil {ds : Bytes} {k : Nat} (hk : 0 < k) (hd : ds ≠ []) : ds.take k ≠ [] :=
  fun e => (List.take_eq_nil_iff.mp e).elim (Nat.ne_of_gt hk) hd

theorem sign_eq (b : Bool) : (if b = true then [45] else ([] : Bytes)) = signBytes b := rfl

/-- the digit string `printf` cuts into integer and fraction part: at least `n` digits, of which
the last `k < n` are the fraction and the others, at least one, the integer part -/
theorem digits_cut (n v k : Nat) (hk : k < n) :
    AllDigits (pad0 n (natToDec v)) ∧
    (pad0 n (natToDec v)).take ((pad0 n (natToDec v)).length - k) ≠ [] ∧
    ((pad0 n (natToDec v)).drop ((pad0 n (natToDec v)).length - k)).length = k := by
  have hlen := pad0_length n (natToDec v)
  refine ⟨allDigits_pad0 _ (allDigits_dec _), take_ne_nil (by omega) fun e => ?_, ?_⟩
  · rw [e] at hlen
    exact absurd hlen (by rw [List.length_nil]; omega)
  · rw [List.length_drop]; omega

/-- `%.{p}f` of a finite double, from the digit string of `round(|x|·10^p)` -/
theorem fmtF_eq (b p : Nat) (hb : isFinite b = true) :
    fmtF b p = signBytes (signBit b) ++
      (pad0 (p + 1) (natToDec (scaledRound b p))).take ((pad0 (p + 1) (natToDec (scaledRound b p))).length - p) ++
      optFrac ((pad0 (p + 1) (natToDec (scaledRound b p))).drop
        ((pad0 (p + 1) (natToDec (scaledRound b p))).length - p)) := by
  have hfl := (digits_cut (p + 1) (scaledRound b p) p (Nat.lt_succ_self p)).2.2
  unfold fmtF optFrac
  simp only [hb, Bool.not_true, Bool.false_eq_true, if_false, sign_eq]
  generalize pad0 (p + 1) (natToDec (scaledRound b p)) = D at hfl ⊢
  by_cases hp : p = 0
  · rw [if_pos hp, if_pos (List.isEmpty_iff.mpr (List.eq_nil_of_length_eq_zero (hfl.trans hp)))]
  · rw [if_neg hp, if_neg fun e => hp (hfl.symm.trans (by rw [List.isEmpty_iff.mp e]; rfl))]

theorem fmtF_raw (b p : Nat) (hb : isFinite b = true) : RawLit (fmtF b p) := by
  obtain ⟨hds, hne, _⟩ := digits_cut (p + 1) (scaledRound b p) p (Nat.lt_succ_self p)
  exact ⟨signBit b, _, _, [], by rw [fmtF_eq b p hb, List.append_nil], hne, allDigits_take _ hds,
    allDigits_drop _ hds, .inl rfl⟩

theorem gTail_raw (neg : Bool) (p d : Nat) (x : Int) (hp : 0 < p) : RawLit (gTail (signBytes neg) p d x) := by
  unfold gTail
  split
  · -- exponent style
    obtain ⟨hds, hne, _⟩ := digits_cut p d (p - 1) (by omega)
    have hlen := pad0_length p (natToDec d)
    refine ⟨neg, _, _, _, List.append_assoc .. , ?_, allDigits_take 1 hds,
      allDigits_strip (allDigits_drop 1 hds), .inr ⟨(if x < 0 then 45 else 43), _, rfl, by split <;> simp, ?_, ?_⟩⟩
    · exact take_ne_nil Nat.one_pos fun e => by rw [e] at hlen; exact absurd hlen (by rw [List.length_nil]; omega)
    · split
      · exact List.cons_ne_nil _ _
      · exact natToDec_ne_nil _
    · split
      · exact fun c hc => (List.mem_cons.mp hc).elim (fun e => e ▸ rfl) (allDigits_dec _ c)
      · exact allDigits_dec _
  · -- fixed style
    obtain ⟨hds, hne, _⟩ := digits_cut (((p : Int) - 1 - x).toNat + 1) d ((p : Int) - 1 - x).toNat
      (Nat.lt_succ_self _)
    exact ⟨neg, _, _, [], (List.append_nil _).symm, hne, allDigits_take _ hds,
      allDigits_strip (allDigits_drop _ hds), .inl rfl⟩

theorem fmtG_raw (b p : Nat) (hb : isFinite b = true) : RawLit (fmtG b p) := by
  rw [fmtG_eq]
  simp only [hb, Bool.not_true, Bool.false_eq_true, if_false, sign_eq]
  split
  · exact ⟨signBit b, [48], [], [], ((List.append_nil _).trans (List.append_nil _)).symm,
      List.cons_ne_nil _ _, fun _ h => List.mem_singleton.mp h ▸ rfl, fun _ h => (nomatch h), .inl rfl⟩
  · exact gTail_raw _ _ _ _ (by split <;> omega)

theorem rawText_raw (bufLen b p : Nat) (sci : Bool) (hb : isFinite b = true) :
    RawLit (rawText bufLen b p sci) := by
  unfold rawText
  cases sci
  · exact fmtF_raw _ _ hb
  · have : ∀ (P : Prop) [Decidable P], RawLit (if P then fmtG b 17 else fmtG b p) :=
      fun P _ => by split <;> exact fmtG_raw _ _ hb
    exact this _

theorem RawLit.allFc {s : Bytes} (h : RawLit s) : AllFc s := by
  obtain ⟨neg, ip, fd, ex, rfl, _, hip, hfd, hex⟩ := h
  refine (((signBytes_fc neg).append (.digits hip)).append ?_).append hex.allFc
  unfold optFrac
  split
  · exact .nil
  · exact .cons (by decide) (.digits hfd)

theorem formatDouble_shape (bufLen b p : Nat) (sci : Bool) (hb : isFinite b = true) :
    (∀ ch ∈ formatDouble bufLen b p sci, fc ch = true) ∧
    ((formatDouble bufLen b p sci).contains 46 = true ∨ (formatDouble bufLen b p sci).contains 101 = true) := by
  rw [formatDouble_eq]
  exact postProc_shape _ ((rawText_raw bufLen b p sci hb).allFc.take _)

/-! ### the post-processing -/

theorem not_mem_digits {ds : Bytes} (h : AllDigits ds) {c : Nat} (hc : isDigit c = false) : c ∉ ds := by
  intro hm; rw [h c hm] at hc; cases hc

theorem not_mem_sign (neg : Bool) {c : Nat} (hc : c ≠ 45) : c ∉ signBytes neg := by
  cases neg
  · exact fun h => nomatch h
  · exact fun h => hc (List.mem_singleton.mp h)

theorem not_mem_sign_digits (neg : Bool) {ip : Bytes} (hip : AllDigits ip) {c : Nat} (h45 : c ≠ 45)
    (hc : isDigit c = false) : c ∉ signBytes neg ++ ip :=
  fun h => (List.mem_append.mp h).elim (not_mem_sign neg h45) (not_mem_digits hip hc)

theorem contains_false {l : Bytes} {c : Nat} (h : c ∉ l) : l.contains c = false :=
  Bool.eq_false_iff.mpr fun hc => h (List.contains_iff_mem.mp hc)

/-- no point: `.0` is appended -/
theorem postProc_nopoint (neg : Bool) (ip : Bytes) (hip : AllDigits ip) :
    postProc (signBytes neg ++ ip) = signBytes neg ++ ip ++ [46, 48] := by
  unfold postProc
  rw [contains_false (not_mem_sign_digits neg hip (by decide) (by decide)),
    contains_false (not_mem_sign_digits neg hip (by decide) (by decide))]
  rfl

/-- a point and digits: trailing zeros go, except directly after the point -/
theorem postProc_point (neg : Bool) (ip : Bytes) (f0 : Nat) (fr : Bytes) (hip : AllDigits ip)
    (hf : AllDigits (f0 :: fr)) :
    postProc (signBytes neg ++ ip ++ 46 :: f0 :: fr) = signBytes neg ++ ip ++ 46 :: f0 :: stripZeros fr := by
  have h101 : (signBytes neg ++ ip ++ 46 :: f0 :: fr).contains 101 = false :=
    contains_false fun h => (List.mem_append.mp h).elim
      (not_mem_sign_digits neg hip (by decide) (by decide))
      fun h => (List.mem_cons.mp h).elim (fun e => nomatch e) (not_mem_digits hf (by decide))
  have h46 : (signBytes neg ++ ip ++ 46 :: f0 :: fr).contains 46 = true :=
    List.contains_iff_mem.mpr (List.mem_append_right _ (List.mem_cons_self ..))
  have hsp := span_cons (p := (· != 46)) (l := signBytes neg ++ ip) (x := 46) (f0 :: fr)
    (fun b hb => bne_iff_ne.mpr fun e => not_mem_sign_digits neg hip (by decide) (by decide) (e ▸ hb))
    (by decide)
  unfold postProc
  simp only [h101, h46, Bool.false_eq_true, if_false, Bool.not_true, hsp.1, hsp.2,
    List.drop_succ_cons, List.drop_zero]
  simp only [List.append_assoc, List.cons_append, List.nil_append]

theorem postProc_lit (s : Bytes) (h : RawLit s) : FloatLit (postProc s) := by
  obtain ⟨neg, ip, fd, ex, rfl, hne, hip, hfd, hex⟩ := h
  rcases hex with rfl | ⟨sg, ds, rfl, hsg, hdne, hds⟩
  · rw [List.append_nil]
    cases fd with
    | nil =>
      rw [show optFrac [] = [] from rfl, List.append_nil, postProc_nopoint neg ip hip]
      exact ⟨neg, ip, [46, 48], [], (List.append_nil _).symm, hne, hip, .inr ⟨[48], rfl, fun _ h => List.mem_singleton.mp h ▸ rfl⟩,
        .inl rfl, .inl (List.cons_ne_nil _ _)⟩
    | cons f0 fr =>
      rw [show optFrac (f0 :: fr) = 46 :: f0 :: fr from rfl, postProc_point neg ip f0 fr hip hfd]
      refine ⟨neg, ip, 46 :: f0 :: stripZeros fr, [], (List.append_nil _).symm, hne, hip,
        .inr ⟨_, rfl, fun c hc => ?_⟩, .inl rfl, .inl (List.cons_ne_nil _ _)⟩
      exact (List.mem_cons.mp hc).elim (fun e => e ▸ hfd _ (List.mem_cons_self ..))
        fun h => hfd c (List.mem_cons_of_mem _ (mem_stripZeros h))
  · -- an exponent: the text is kept
    have hfp : FracP (optFrac fd) := by
      unfold optFrac
      split
      · exact .inl rfl
      · exact .inr ⟨fd, rfl, hfd⟩
    unfold postProc
    rw [if_pos (List.contains_iff_mem.mpr (List.mem_append_right _ (List.mem_cons_self ..)))]
    exact ⟨neg, ip, _, _, rfl, hne, hip, hfp, .inr ⟨sg, ds, rfl, hsg, hdne, hds⟩, .inr (List.cons_ne_nil _ _)⟩

/-- **shape of the writer's float text**: for a finite double whose `printf` rendering fits
the `snprintf` limit, `libconfig_format_double` produces a float literal -/
theorem formatDouble_lit (bufLen b p : Nat) (sci : Bool) (hb : isFinite b = true)
    (hfull : (rawText bufLen b p sci).length ≤ bufLen - 4) :
    FloatLit (formatDouble bufLen b p sci) := by
  rw [formatDouble_eq, List.take_of_length_le hfull]
  exact postProc_lit _ (rawText_raw bufLen b p sci hb)

end Libconfig.C01L
