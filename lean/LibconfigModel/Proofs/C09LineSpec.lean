import LibconfigModel.DenotePos
import LibconfigModel.Proofs.C02DenoteSpec
/-
  C09L, specification side, in the form the proofs use.  Unfolding lemmas for the interpreter of
  DenotePos.lean, the one that tells where: named only where a clause has a side condition or
  leaves a match to reduce (the other clauses are the definition's own equations,
  `rw [valueAt]`); the proofs walk through the clauses by `valueAt.mutual_induct`.  Forgetting
  "where" gives the interpreter of Denote.lean (`erases`).  A reading stops behind an item it has
  read, or at an offending item among those it was given (`stops`); through `erases` that is also
  what the interpreter of Denote.lean consumes (`C02D.value_reads`, `C02D.lengths`), and so its
  fuel is never used up (`C02D.fuel_succ`, `C02D.settings_fuel`).  Nothing here mentions the
  parser.
-/
namespace Libconfig.C09L
open Libconfig Denote C02D

/-! ### unfolding lemmas -/

theorem valueAt_arr (o : Options) (fuel : Nat) (nm : Option Bytes) (rest : List Denote.Item)
    (h : ∀ r, rest ≠ .arrayEnd :: r) :
    valueAt o (fuel + 1) nm (.arrayStart :: rest) =
      match scalar none rest with
      | none => .error .syntax rest
      | some (x, rest') =>
        match arrayRestAt x.ty fuel [x] rest' with
        | .error k w => .error k w
        | .ok elems rest'' => .ok { name := nm, ty := T_ARRAY, kids := elems } rest'' := by
  rw [valueAt]
  · rfl
  · exact h

theorem valueAt_lst (o : Options) (fuel : Nat) (nm : Option Bytes) (rest : List Denote.Item)
    (h : ∀ r, rest ≠ .listEnd :: r) :
    valueAt o (fuel + 1) nm (.listStart :: rest) =
      match valueAt o fuel none rest with
      | .error k w => .error k w
      | .ok x rest' =>
        match listRestAt o fuel [x] rest' with
        | .error k w => .error k w
        | .ok elems rest'' => .ok { name := nm, ty := T_LIST, kids := elems } rest'' := by
  rw [valueAt]
  · rfl
  · exact h

theorem valueAt_other (o : Options) (fuel : Nat) (nm : Option Bytes) (items : List Denote.Item)
    (h1 : ∀ r, items ≠ .arrayStart :: r) (h2 : ∀ r, items ≠ .listStart :: r)
    (h3 : ∀ r, items ≠ .groupStart :: r) :
    valueAt o (fuel + 1) nm items =
      match scalar nm items with
      | some (x, rest) => .ok x rest
      | none => .error .syntax items := by
  rw [valueAt]
  · rfl
  · exact h1
  · exact h2
  · exact h3

theorem listRestAt_skip (o : Options) (fuel : Nat) (acc : List Node) (rest : List Denote.Item)
    (h : (∃ r, rest = .comma :: r) ∨ (∃ r, rest = .listEnd :: r)) :
    listRestAt o (fuel + 1) acc (.comma :: rest) = listRestAt o fuel acc rest := by
  rcases h with ⟨r, rfl⟩ | ⟨r, rfl⟩ <;> rw [listRestAt]

theorem listRestAt_value (o : Options) (fuel : Nat) (acc : List Node) (rest : List Denote.Item)
    (h1 : ∀ r, rest ≠ .listEnd :: r) (h2 : ∀ r, rest ≠ .comma :: r) :
    listRestAt o (fuel + 1) acc (.comma :: rest) =
      match valueAt o fuel none rest with
      | .error k w => .error k w
      | .ok x rest' => listRestAt o fuel (acc ++ [x]) rest' := by
  rw [listRestAt]
  · rfl
  · exact h2
  · exact h1

theorem listRestAt_other (o : Options) (fuel : Nat) (acc : List Node) (items : List Denote.Item)
    (h1 : ∀ r, items ≠ .listEnd :: r) (h2 : ∀ r, items ≠ .comma :: r) :
    listRestAt o (fuel + 1) acc items = .error .syntax items := by
  rw [listRestAt]
  · exact h1
  · exact h2

theorem arrayRestAt_other (ty fuel : Nat) (acc : List Node) (items : List Denote.Item)
    (h1 : ∀ r, items ≠ .arrayEnd :: r) (h2 : ∀ r, items ≠ .comma :: r) :
    arrayRestAt ty (fuel + 1) acc items = .error .syntax items := by
  rw [arrayRestAt]
  · exact h1
  · exact h2

theorem settingsAt_noAssign (o : Options) (fuel : Nat) (members : List Node) (nm : Bytes)
    (rest : List Denote.Item) (h : ∀ r, rest ≠ .assign :: r) :
    settingsAt o (fuel + 1) members (.name nm :: rest) =
      match enter o members nm with
      | none => .error .duplicateName (.name nm :: rest)
      | some _ => .error .syntax rest := by
  rw [settingsAt]
  cases enter o members nm with
  | none => rfl
  | some m' =>
    cases rest with
    | nil => rfl
    | cons it tl =>
      cases it
      case assign => exact absurd rfl (h _)
      all_goals rfl

theorem settingsAt_setting (o : Options) (fuel : Nat) (members : List Node) (nm : Bytes)
    (rest : List Denote.Item) :
    settingsAt o (fuel + 1) members (.name nm :: .assign :: rest) =
      match enter o members nm with
      | none => .error .duplicateName (.name nm :: .assign :: rest)
      | some members' =>
        match valueAt o fuel (some nm) rest with
        | .error k w => .error k w
        | .ok x rest'' => settingsAt o fuel (members' ++ [x]) (skipTerminator rest'') := by
  rw [settingsAt]
  rfl

theorem settingsAt_other (o : Options) (fuel : Nat) (members : List Node) (items : List Denote.Item)
    (h : ∀ nm r, items ≠ .name nm :: r) :
    settingsAt o (fuel + 1) members items = .ok members items := by
  rw [settingsAt]
  exact h

/-! ### forgetting where: the interpreter of Denote.lean -/

theorem erase_arrayRest (ty fuel : Nat) (acc : List Node) (items : List Denote.Item) :
    (arrayRestAt ty fuel acc items).erase = arrayRest ty fuel acc items := by
  symm
  fun_induction arrayRestAt ty fuel acc items <;> simp [arrayRest, ResAt.erase, *]

/-- `valueAt` is `value` clause by clause with a payload on the errors: one walk through the
clauses of `valueAt` -/
theorem erases (o : Options) : ∀ fuel : Nat,
    (∀ nm items, (valueAt o fuel nm items).erase = value o fuel nm items) ∧
    (∀ acc items, (listRestAt o fuel acc items).erase = listRest o fuel acc items) ∧
    (∀ m items, (settingsAt o fuel m items).erase = settings o fuel m items) := by
  suffices h : (∀ fuel nm items, value o fuel nm items = (valueAt o fuel nm items).erase) ∧
      (∀ fuel m items, settings o fuel m items = (settingsAt o fuel m items).erase) ∧
      (∀ fuel acc items, listRest o fuel acc items = (listRestAt o fuel acc items).erase) from
    fun fuel => ⟨fun nm items => (h.1 fuel nm items).symm,
      fun acc items => (h.2.2 fuel acc items).symm, fun m items => (h.2.1 fuel m items).symm⟩
  apply valueAt.mutual_induct o
    (motive_1 := fun fuel nm items => value o fuel nm items = (valueAt o fuel nm items).erase)
    (motive_2 := fun fuel m items => settings o fuel m items = (settingsAt o fuel m items).erase)
    (motive_3 := fun fuel acc items =>
      listRest o fuel acc items = (listRestAt o fuel acc items).erase)
  all_goals intros
  all_goals simp only [value, valueAt, settings, settingsAt, listRest, listRestAt, ResAt.erase,
    ← erase_arrayRest, *]

theorem erase_ok {α : Type} {r : ResAt α} {a : α} {rest : List Denote.Item} :
    r.erase = .ok a rest ↔ r = .ok a rest := by
  cases r with
  | ok a' rest' => exact ⟨fun h => by cases h; rfl, fun h => by cases h; rfl⟩
  | error k w => exact ⟨nofun, nofun⟩

theorem erase_error {α : Type} {r : ResAt α} {k : ErrKind} :
    r.erase = .error k ↔ ∃ w, r = .error k w := by
  cases r with
  | ok a' rest' => exact ⟨nofun, nofun⟩
  | error k' w' => exact ⟨fun h => by cases h; exact ⟨w', rfl⟩, fun ⟨w, h⟩ => by cases h; rfl⟩

section
variable {o : Options} {fuel : Nat} {nm : Option Bytes} {items rest : List Denote.Item}

theorem valueAt_ok {x : Node} (h : valueAt o fuel nm items = .ok x rest) :
    value o fuel nm items = .ok x rest := by
  rw [← (erases o fuel).1, h]; rfl

theorem listRestAt_ok {acc r : List Node} (h : listRestAt o fuel acc items = .ok r rest) :
    listRest o fuel acc items = .ok r rest := by
  rw [← (erases o fuel).2.1, h]; rfl

theorem settingsAt_ok {m r : List Node} (h : settingsAt o fuel m items = .ok r rest) :
    settings o fuel m items = .ok r rest := by
  rw [← (erases o fuel).2.2, h]; rfl

theorem arrayRestAt_ok {ty : Nat} {acc r : List Node} (h : arrayRestAt ty fuel acc items = .ok r rest) :
    arrayRest ty fuel acc items = .ok r rest := by
  rw [← erase_arrayRest, h]; rfl

end

/-! ### the last literal of a string -/

theorem lastLiteral_string_string (s s' : Bytes) (tl : List Denote.Item) :
    lastLiteral (.string s :: .string s' :: tl) = lastLiteral (.string s' :: tl) := by
  rw [lastLiteral]

theorem lastLiteral_string_other (s : Bytes) (tl : List Denote.Item)
    (h : ∀ s' r, tl ≠ .string s' :: r) : lastLiteral (.string s :: tl) = .string s :: tl := by
  rw [lastLiteral]
  exact h

theorem lastLiteral_other (l : List Denote.Item) (h : ∀ s r, l ≠ .string s :: r) :
    lastLiteral l = l := by
  rw [lastLiteral]
  exact h

theorem lastLiteral_strings (tl : List Denote.Item) : ∀ s : Bytes,
    ∃ s', lastLiteral (.string s :: tl) = .string s' :: (strings tl).2 := by
  induction tl with
  | nil =>
    intro s
    exact ⟨s, by rw [lastLiteral_string_other _ _ (fun _ _ h => by cases h),
      strings_other _ (fun _ _ h => by cases h)]⟩
  | cons it tl ih =>
    intro s
    cases it
    case string s2 =>
      obtain ⟨s', h⟩ := ih s2
      exact ⟨s', by rw [lastLiteral_string_string, h, strings_cons]⟩
    all_goals
      exact ⟨s, by rw [lastLiteral_string_other _ _ (fun _ _ h => by cases h),
        strings_other _ (fun _ _ h => by cases h)]⟩

/-- the last token of a scalar stands right in front of what follows the scalar; it is a string
literal exactly if the scalar is a string -/
theorem lastLiteral_scalar {nm : Option Bytes} {items rest : List Denote.Item} {x : Node}
    (h : scalar nm items = some (x, rest)) :
    ∃ it, lastLiteral items = it :: rest ∧
      ((∃ s, it = .string s) ↔ x.ty = T_STRING) := by
  cases items with
  | nil => simp [scalar] at h
  | cons it tl =>
    cases it
    case string s =>
      simp only [scalar, Option.some.injEq, Prod.mk.injEq] at h
      obtain ⟨s', hs'⟩ := lastLiteral_strings tl s
      refine ⟨.string s', by rw [hs', h.2], ?_⟩
      rw [← h.1]
      exact ⟨fun _ => rfl, fun _ => ⟨s', rfl⟩⟩
    all_goals
      simp only [scalar, Option.some.injEq, Prod.mk.injEq, reduceCtorEq] at h
    all_goals
      refine ⟨_, by rw [lastLiteral_other _ (fun _ _ h => by cases h), h.2], ?_⟩
      rw [← h.1]
      constructor
      · intro ⟨s, hs⟩
        cases hs
      · intro hty
        exfalso
        dsimp only at hty
        revert hty
        decide

/-! ### where a reading stops -/

theorem lastLiteral_suffix (l : List Denote.Item) : lastLiteral l <:+ l := by
  induction l with
  | nil => rw [lastLiteral_other _ (fun _ _ h => by cases h)]; exact List.suffix_refl _
  | cons it tl ih =>
    cases it
    case string s =>
      cases tl with
      | nil =>
        rw [lastLiteral_string_other _ _ (fun _ _ h => by cases h)]
        exact List.suffix_refl _
      | cons it2 tl2 =>
        cases it2
        case string s2 =>
          rw [lastLiteral_string_string]
          exact ih.trans (List.suffix_cons _ _)
        all_goals
          rw [lastLiteral_string_other _ _ (fun _ _ h => by cases h)]
          exact List.suffix_refl _
    all_goals
      rw [lastLiteral_other _ (fun _ _ h => by cases h)]
      exact List.suffix_refl _

/-- what a result points at: the rest, or the items from the offending one on -/
def ResAt.tail {α : Type} : ResAt α → List Denote.Item
  | .ok _ rest => rest
  | .error _ w => w

/-- where a reading stops: behind at least one item it has read, or at the offending item -/
def Stops {α : Type} (r : ResAt α) (items : List Denote.Item) : Prop :=
  match r with
  | .ok _ rest => ∃ it, (it :: rest) <:+ items
  | .error _ w => w <:+ items

theorem Stops.mono {α : Type} {r : ResAt α} {a b : List Denote.Item} (h : Stops r a) (hs : a <:+ b) :
    Stops r b := by
  cases r with
  | ok x rest => exact h.imp fun _ h => h.trans hs
  | error k w => exact h.trans hs

theorem Stops.tail {α : Type} {r : ResAt α} {a : List Denote.Item} (h : Stops r a) :
    ResAt.tail r <:+ a := by
  cases r with
  | ok x rest => exact let ⟨_, h⟩ := h; (List.suffix_cons _ _).trans h
  | error k w => exact h

theorem Stops.ok {α : Type} {r : ResAt α} {a : α} {rest items : List Denote.Item}
    (h : Stops r items) (e : r.erase = .ok a rest) : ∃ it, (it :: rest) <:+ items := by
  rw [erase_ok.mp e] at h
  exact h

theorem arrayRestAt_stops (ty fuel : Nat) (acc : List Node) (items : List Denote.Item) :
    Stops (arrayRestAt ty fuel acc items) items := by
  fun_induction arrayRestAt ty fuel acc items
  case case1 => exact List.suffix_refl _
  case case2 => exact ⟨_, List.suffix_refl _⟩
  case case3 ih => exact ih.mono (List.suffix_cons _ _)
  case case4 => exact (lastLiteral_suffix _).trans (List.suffix_cons _ _)
  case case5 hs _ ih => exact ih.mono ((scalar_suffix hs).trans (List.suffix_cons _ _))
  case case6 => exact List.suffix_refl _

/-- **Where a reading stops.**  A value and the rest of a list stop behind an item they have read,
the settings of a group anywhere from their first item on; a rejected reading points into the
items it was given. -/
theorem stops (o : Options) :
    (∀ fuel nm items, Stops (valueAt o fuel nm items) items) ∧
    (∀ fuel m items, ResAt.tail (settingsAt o fuel m items) <:+ items) ∧
    (∀ fuel acc items, Stops (listRestAt o fuel acc items) items) := by
  have c1 {it : Denote.Item} {l : List Denote.Item} : l <:+ it :: l := List.suffix_cons _ _
  apply valueAt.mutual_induct o
    (motive_1 := fun fuel nm items => Stops (valueAt o fuel nm items) items)
    (motive_2 := fun fuel m items => ResAt.tail (settingsAt o fuel m items) <:+ items)
    (motive_3 := fun fuel acc items => Stops (listRestAt o fuel acc items) items)
  -- `valueAt`: no fuel; `[]`; `[` not followed by a scalar; `[ x` …
  · intro nm items; rw [valueAt]; exact List.suffix_refl _
  · intro fuel nm r; rw [valueAt]; exact ⟨_, c1⟩
  · intro fuel nm rest hs hne; simp only [valueAt, *]; exact c1
  · intro fuel nm rest x r1 hs k w ha hne
    simp only [valueAt, *]
    exact ((ha ▸ arrayRestAt_stops x.ty fuel [x] r1).mono (scalar_suffix hs)).mono c1
  · intro fuel nm rest x r1 hs elems r2 ha hne
    simp only [valueAt, *]
    exact ((ha ▸ arrayRestAt_stops x.ty fuel [x] r1).mono (scalar_suffix hs)).mono c1
  -- `()`; `( v` …: `v` fails, the rest fails, ok
  · intro fuel nm r; rw [valueAt]; exact ⟨_, c1⟩
  · intro fuel nm rest k w hv hne ih1; simp only [valueAt, *]; exact (hv ▸ ih1).mono c1
  · intro fuel nm rest x r1 hv k w hl hne ih1 ih3
    simp only [valueAt, *]
    exact ((hl ▸ ih3).mono (hv ▸ ih1).tail).mono c1
  · intro fuel nm rest x r1 hv elems r2 hl hne ih1 ih3
    simp only [valueAt, *]
    exact ((hl ▸ ih3).mono (hv ▸ ih1).tail).mono c1
  -- `{ settings` …: error, `}`, something else
  · intro fuel nm rest k w hs ih2; simp only [valueAt, *]; exact (hs ▸ ih2).trans c1
  · intro fuel nm rest members r2 hs ih2; simp only [valueAt, *]; exact ⟨_, (hs ▸ ih2).trans c1⟩
  · intro fuel nm rest members r1 hne hs ih2; simp only [valueAt, *]; exact (hs ▸ ih2).trans c1
  -- a scalar, or nothing
  · intro fuel nm items h1 h2 h3 x r hs; simp only [valueAt, *]; exact scalar_reads hs
  · intro fuel nm items h1 h2 h3 hs; simp only [valueAt, *]; exact List.suffix_refl _
  -- `settingsAt`: no fuel; a taken name; `name = v` …: `v` fails, ok; no `=`; no name
  · intro m items; rw [settingsAt]; exact List.suffix_refl _
  · intro fuel m nm rest he; simp only [settingsAt, *]; exact List.suffix_refl _
  · intro fuel m nm m' he rest k w hv ih1
    simp only [settingsAt, *]
    exact ((hv ▸ ih1).trans c1).trans c1
  · intro fuel m nm m' he rest x r1 hv ih1 ih2
    simp only [settingsAt, *]
    exact (((ih2.trans (skipTerminator_suffix r1)).trans (hv ▸ ih1).tail).trans c1).trans c1
  · intro fuel m nm rest m' he hne; simp only [settingsAt, *]; exact c1
  · intro fuel m items hne; simp only [settingsAt, *]; exact List.suffix_refl _
  -- `listRestAt`: no fuel; `)`; `, ,`; `, )`; `, v` …: `v` fails, ok; neither `,` nor `)`
  · intro acc items; rw [listRestAt]; exact List.suffix_refl _
  · intro fuel acc rest; rw [listRestAt]; exact ⟨_, List.suffix_refl _⟩
  · intro fuel acc tl ih; rw [listRestAt]; exact ih.mono c1
  · intro fuel acc tl ih; rw [listRestAt]; exact ih.mono c1
  · intro fuel acc rest k w hv h1 h2 ih1; simp only [listRestAt, *]; exact (hv ▸ ih1).mono c1
  · intro fuel acc rest x r1 hv h1 h2 ih1 ih3
    simp only [listRestAt, *]
    exact (ih3.mono (hv ▸ ih1).tail).mono c1
  · intro fuel acc items h1 h2; simp only [listRestAt, *]; exact List.suffix_refl _

theorem offenceAt_suffix {o : Options} {toks : List (Nat × TokVal)} {k : ErrKind}
    {w : List Denote.Item} (h : offenceAt o toks = some (k, w)) : w <:+ toks.map itemOf := by
  unfold offenceAt at h
  have hs := (stops o).2.1 (toks.length + 1) [] (toks.map itemOf)
  split at h
  · rename_i k' w' heq
    rw [heq] at hs
    cases h
    exact hs
  · cases h
  · rename_i m it rest heq
    rw [heq] at hs
    cases h
    exact hs

/-- `offenceAt` and `denote` agree on whether and why the text is rejected -/
theorem offenceAt_denote (o : Options) (toks : List (Nat × TokVal)) :
    (offenceAt o toks).map (·.1) =
      match denote o toks with
      | .ok _ => none
      | .error k => some k := by
  unfold offenceAt denote
  rw [← (erases o (toks.length + 1)).2.2]
  cases settingsAt o (toks.length + 1) [] (toks.map itemOf) with
  | error k w => rfl
  | ok m rest =>
    cases rest with
    | nil => rfl
    | cons it tl => rfl

end Libconfig.C09L

namespace Libconfig.C02D
open Libconfig Denote C09L

/-! ### what the interpreter consumes

`valueAt` is `value` telling where it stops (`C09L.erases`): `C09L.stops`, read for a successful
reading. -/

theorem arrayRest_reads (ty fuel : Nat) (acc : List Node) (items : List Denote.Item) (r : List Node)
    (rest : List Denote.Item) (h : arrayRest ty fuel acc items = .ok r rest) :
    ∃ it, (it :: rest) <:+ items :=
  (arrayRestAt_stops ty fuel acc items).ok ((erase_arrayRest ty fuel acc items).trans h)

section
variable {o : Options} {fuel : Nat} {items rest : List Denote.Item}

theorem value_reads {nm : Option Bytes} {x : Node} (h : value o fuel nm items = .ok x rest) :
    ∃ it, (it :: rest) <:+ items :=
  ((stops o).1 fuel nm items).ok (((erases o fuel).1 nm items).trans h)

theorem listRest_reads {acc r : List Node} (h : listRest o fuel acc items = .ok r rest) :
    ∃ it, (it :: rest) <:+ items :=
  ((stops o).2.2 fuel acc items).ok (((erases o fuel).2.1 acc items).trans h)

theorem settings_suffix {m r : List Node} (h : settings o fuel m items = .ok r rest) :
    rest <:+ items := by
  have hs := (stops o).2.1 fuel m items
  rwa [erase_ok.mp (((erases o fuel).2.2 m items).trans h)] at hs

theorem value_length {nm : Option Bytes} {x : Node} (h : value o fuel nm items = .ok x rest) :
    rest.length < items.length :=
  let ⟨_, hs⟩ := value_reads h
  hs.length_le

theorem listRest_length {o : Options} {fuel : Nat} {acc r : List Node} {items rest : List Denote.Item}
    (h : listRest o fuel acc items = .ok r rest) : rest.length < items.length :=
  let ⟨_, hs⟩ := listRest_reads h
  hs.length_le

theorem settings_length {o : Options} {fuel : Nat} {m r : List Node} {items rest : List Denote.Item}
    (h : settings o fuel m items = .ok r rest) : rest.length ≤ items.length :=
  (settings_suffix h).length_le

end

theorem lengths (o : Options) : ∀ fuel : Nat,
    (∀ nm items x rest, value o fuel nm items = .ok x rest → rest.length < items.length) ∧
    (∀ acc items r rest, listRest o fuel acc items = .ok r rest → rest.length < items.length) ∧
    (∀ m items r rest, settings o fuel m items = .ok r rest → rest.length ≤ items.length) :=
  fun _ => ⟨fun _ _ _ _ => value_length, fun _ _ _ _ => listRest_length,
    fun _ _ _ _ => settings_length⟩

/-! ### the fuel is never used up

Every call of the interpreter consumes an item, so any fuel above the number of items gives the
same answer: `denote`'s choice of one more than the number of tokens is as good as any. -/

theorem arrayRest_fuel_succ (ty : Nat) : ∀ (fuel : Nat) (acc : List Node) (items : List Denote.Item),
    items.length < fuel → arrayRest ty (fuel + 1) acc items = arrayRest ty fuel acc items := by
  intro fuel acc items
  induction fuel, acc, items using arrayRest.induct ty with
  | case1 => exact fun h => absurd h (Nat.not_lt_zero _)
  | case2 => intro _; rw [arrayRest, arrayRest]
  | case3 fuel acc rest hs ih =>
    intro hf
    rw [arrayRest, arrayRest, hs]
    exact ih (Nat.lt_of_succ_lt_succ hf)
  | case4 fuel acc rest x r1 hs hty =>
    intro _
    rw [arrayRest, arrayRest, hs]
    simp only [if_pos hty]
  | case5 fuel acc rest x r1 hs hty ih =>
    intro hf
    rw [arrayRest, arrayRest, hs]
    simp only [if_neg hty]
    exact ih (Nat.lt_trans (scalar_length hs) (Nat.lt_of_succ_lt_succ hf))
  | case6 fuel acc items h1 h2 =>
    intro _
    rw [arrayRest_other _ _ _ _ h1 h2, arrayRest_other _ _ _ _ h1 h2]

theorem fuel_succ (o : Options) :
    (∀ fuel nm items, items.length < fuel → value o (fuel + 1) nm items = value o fuel nm items) ∧
    (∀ fuel m items, items.length < fuel →
      settings o (fuel + 1) m items = settings o fuel m items) ∧
    (∀ fuel acc items, items.length < fuel →
      listRest o (fuel + 1) acc items = listRest o fuel acc items) := by
  apply value.mutual_induct o
  -- `value`
  · exact fun _ _ h => absurd h (Nat.not_lt_zero _)
  · intro fuel nm r _; rw [value, value]
  · intro fuel nm rest hs hne _; rw [value_arr_none hne hs, value_arr_none hne hs]
  · intro fuel nm rest x r1 hs k ha hne hf
    have hr1 := Nat.lt_trans (scalar_length hs) (Nat.lt_of_succ_lt_succ hf)
    rw [value_arr_err hne hs ha, value_arr_err hne hs ((arrayRest_fuel_succ _ _ _ _ hr1).trans ha)]
  · intro fuel nm rest x r1 hs elems r2 ha hne hf
    have hr1 := Nat.lt_trans (scalar_length hs) (Nat.lt_of_succ_lt_succ hf)
    rw [value_arr_ok hne hs ha, value_arr_ok hne hs ((arrayRest_fuel_succ _ _ _ _ hr1).trans ha)]
  · intro fuel nm r _; rw [value, value]
  · intro fuel nm rest k hv hne ih1 hf
    have hr := Nat.lt_of_succ_lt_succ hf
    rw [value_lst_err1 hne hv, value_lst_err1 hne ((ih1 hr).trans hv)]
  · intro fuel nm rest x r1 hv k hl hne ih1 ih3 hf
    have hr := Nat.lt_of_succ_lt_succ hf
    have hr1 := Nat.lt_trans (value_length hv) hr
    rw [value_lst_err2 hne hv hl, value_lst_err2 hne ((ih1 hr).trans hv) ((ih3 hr1).trans hl)]
  · intro fuel nm rest x r1 hv elems r2 hl hne ih1 ih3 hf
    have hr := Nat.lt_of_succ_lt_succ hf
    have hr1 := Nat.lt_trans (value_length hv) hr
    rw [value_lst_ok hne hv hl, value_lst_ok hne ((ih1 hr).trans hv) ((ih3 hr1).trans hl)]
  · intro fuel nm rest k hs ih2 hf
    rw [value_grp_err hs, value_grp_err ((ih2 (Nat.lt_of_succ_lt_succ hf)).trans hs)]
  · intro fuel nm rest members r2 hs ih2 hf
    rw [value_grp_ok hs, value_grp_ok ((ih2 (Nat.lt_of_succ_lt_succ hf)).trans hs)]
  · intro fuel nm rest members r1 hne hs ih2 hf
    rw [value_grp_bad hs hne, value_grp_bad ((ih2 (Nat.lt_of_succ_lt_succ hf)).trans hs) hne]
  · intro fuel nm items h1 h2 h3 x r hs _
    rw [value_other_some h1 h2 h3 hs, value_other_some h1 h2 h3 hs]
  · intro fuel nm items h1 h2 h3 hs _
    rw [value_other_none h1 h2 h3 hs, value_other_none h1 h2 h3 hs]
  -- `settings`
  · exact fun _ _ h => absurd h (Nat.not_lt_zero _)
  · intro fuel m nm rest he _; rw [settings_setting_dup he, settings_setting_dup he]
  · intro fuel m nm m' he rest k hv ih1 hf
    have hr : rest.length < fuel := by simp only [List.length_cons] at hf; omega
    rw [settings_setting_err he hv, settings_setting_err he ((ih1 hr).trans hv)]
  · intro fuel m nm m' he rest x r1 hv ih1 ih2 hf
    have hr : rest.length < fuel := by simp only [List.length_cons] at hf; omega
    have hr1 := Nat.lt_of_le_of_lt (skipTerminator_length r1) (Nat.lt_trans (value_length hv) hr)
    rw [settings_setting_ok he hv, settings_setting_ok he ((ih1 hr).trans hv)]
    exact ih2 hr1
  · intro fuel m nm rest m' he hne _
    rw [settings_noAssign_syn hne he, settings_noAssign_syn hne he]
  · intro fuel m items hne _; rw [settings_other _ _ _ _ hne, settings_other _ _ _ _ hne]
  -- `listRest`
  · exact fun _ _ h => absurd h (Nat.not_lt_zero _)
  · intro fuel acc rest _; rw [listRest, listRest]
  · intro fuel acc tl ih hf
    rw [listRest_skip _ _ _ _ (.inl ⟨_, rfl⟩), listRest_skip _ _ _ _ (.inl ⟨_, rfl⟩)]
    exact ih (Nat.lt_of_succ_lt_succ hf)
  · intro fuel acc tl ih hf
    rw [listRest_skip _ _ _ _ (.inr ⟨_, rfl⟩), listRest_skip _ _ _ _ (.inr ⟨_, rfl⟩)]
    exact ih (Nat.lt_of_succ_lt_succ hf)
  · intro fuel acc rest k hv h1 h2 ih1 hf
    rw [listRest_value_err h2 h1 hv, listRest_value_err h2 h1 ((ih1 (Nat.lt_of_succ_lt_succ hf)).trans hv)]
  · intro fuel acc rest x r1 hv h1 h2 ih1 ih3 hf
    have hr := Nat.lt_of_succ_lt_succ hf
    rw [listRest_value_ok h2 h1 hv, listRest_value_ok h2 h1 ((ih1 hr).trans hv)]
    exact ih3 (Nat.lt_trans (value_length hv) hr)
  · intro fuel acc items h1 h2 _; rw [listRest_other _ _ _ _ h1 h2, listRest_other _ _ _ _ h1 h2]

theorem settings_fuel (o : Options) (fuel : Nat) (m : List Node) (items : List Denote.Item)
    (h : items.length < fuel) :
    settings o fuel m items = settings o (items.length + 1) m items := by
  induction fuel with
  | zero => exact absurd h (Nat.not_lt_zero _)
  | succ fuel ih =>
    rcases Nat.lt_or_ge items.length fuel with hlt | hge
    · rw [(fuel_succ o).2.1 fuel m items hlt, ih hlt]
    · rw [Nat.le_antisymm (Nat.le_of_lt_succ h) hge]

end Libconfig.C02D
