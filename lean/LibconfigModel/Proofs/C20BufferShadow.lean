import LibconfigModel.Proofs.C20BufferList
/-
  C20B helpers: the integer fields of the buffer and `yy_buffer_status` evolve by
  arithmetic alone — no event looks at a byte to decide where a pointer goes.  `Shadow.eob`
  and `Shadow.tok` are that arithmetic in closed form; `run_shadow` says the model follows it,
  from any state with `yy_n_chars < yy_buf_size`, for the growth test of scanner.c and for the
  seeded one alike.  On the way: the growth loop runs at most once (`growLoop_once`), the last
  `yyrealloc` is dead code (`extendStage_dead`), and `yy_c_buf_p` leaves the end-of-buffer
  action `number_to_move` bytes into the buffer whatever the result (`eobStep_eq`).
-/
namespace Libconfig.C20BP

open Libconfig Libconfig.FlexBuffer

/-! ### the growth loop -/

theorem growTestC_true (n : Int) : growTestC n = true ↔ n ≤ 0 := by simp [growTestC]

theorem growTestSeeded_true (n : Int) : growTestSeeded n = true ↔ n < 0 := by simp [growTestSeeded]

/-- what the lemmas below ask of the growth test, for `num_to_read <= 0` -/
theorem test_le {P : Params} (hT : P.test = growTestC) (n : Int) (h : P.test n = true) : n ≤ 0 := by
  rw [hT] at h; exact (growTestC_true n).mp h

/-- … and for `num_to_read < 0` -/
theorem seeded_test_le {P : Params} (hT : P.test = growTestSeeded) (n : Int) (h : P.test n = true) :
    n ≤ 0 := by
  rw [hT] at h; exact Int.le_of_lt ((growTestSeeded_true n).mp h)

/-- Both growth tests end the loop once there is room.  From a state in which the text to
keep fits (`number_to_move + 1 ≤ yy_buf_size`, which `Inv` guarantees) one doubling makes
room, so the loop runs at most once. -/
theorem growLoop_once (P : Params) (hT : ∀ n : Int, P.test n = true → n ≤ 0) (ntm : Nat)
    (s : State) (h : ntm + 1 ≤ s.bufSize) :
    growLoop P (ntm + 2) ntm s =
      if P.test (numToRead s.bufSize ntm) then
        { s with bufSize := 2 * s.bufSize, ch := resize P.junk s.ch (2 * s.bufSize + 2),
                 log := s.log ++ [.realloc s.ch.length (2 * s.bufSize + 2)] }
      else s := by
  show growLoop P (ntm + 1 + 1) ntm s = _
  rw [growLoop]
  split
  · rw [growLoop, if_neg]
    intro ht
    have := hT _ ht
    simp only [numToRead] at this
    omega
  · rfl

/-! ### the shadow -/

/-- `YY_BUFFER_NEW` becomes `YY_BUFFER_NORMAL` in `case YY_END_OF_BUFFER:` -/
def enteredStatus : Status → Status
  | .new => .normal
  | x => x

theorem enteredStatus_eof (st : Status) : enteredStatus st = .eofPending ↔ st = .eofPending := by
  cases st <;> simp [enteredStatus]

/-- the integer fields of a state, the number of bytes the stream still holds, and
`yy_buffer_status` -/
structure Shadow where
  bufSize : Nat
  nChars : Nat
  textPtr : Nat
  cBufP : Nat
  rest : Nat
  status : Status
deriving DecidableEq

def shadow (s : State) : Shadow :=
  ⟨s.bufSize, s.nChars, s.textPtr, s.cBufP, s.rest.length, s.status⟩

namespace Shadow

/-- `eobEnter`: the matcher has run past the first sentinel -/
def enter (a : Shadow) : Shadow :=
  { a with cBufP := a.nChars + 1, status := enteredStatus a.status }

/-- `yy_buf_size` behind the growth loop -/
def grown (P : Params) (size ntm : Nat) : Nat :=
  if P.test (numToRead size ntm) then 2 * size else size

/-- the result of `YY_INPUT`: `num_to_read` is clamped to `YY_READ_BUF_SIZE`, the stream is
willing to deliver `k` bytes and holds `rest` -/
def got (P : Params) (k size ntm rest : Nat) : Nat :=
  min (min k (if numToRead size ntm > P.R then (P.R : Int) else numToRead size ntm).toNat) rest

/-- `readStage`, with `number_to_move = ntm`; `nChars` becomes the result of the read -/
def read (P : Params) (k ntm : Nat) (a : Shadow) : Shadow :=
  if a.status = .eofPending then { a with nChars := 0 } else
  let size := grown P a.bufSize ntm
  let n := got P k size ntm a.rest
  { a with bufSize := size, nChars := n, rest := a.rest - n }

/-- what follows the read: `ret_val`, `yyrestart` or `YY_BUFFER_EOF_PENDING`, the sentinels
behind the `ntm` bytes kept and the `nChars` bytes read, and `yy_c_buf_p` -/
def finish (ntm : Nat) (a : Shadow) : Shadow × Ret :=
  ({ a with nChars := a.nChars + ntm, textPtr := 0, cBufP := ntm,
            status := if a.nChars = 0 then (if ntm = 0 then .new else .eofPending) else a.status },
   if a.nChars = 0 then (if ntm = 0 then .endOfFile else .lastMatch) else .continueScan)

/-- `eobStep` with the stream offering `k` bytes: the text from `yytext_ptr` to the sentinel
(`number_to_move` bytes) goes to the front, the read follows it -/
def eob (P : Params) (k : Nat) (a : Shadow) : Shadow × Ret :=
  finish (a.nChars - a.textPtr) (read P k (a.nChars - a.textPtr) (enter a))

/-- `tokStep` -/
def tok (l : Nat) (a : Shadow) : Shadow :=
  if a.textPtr + l ≤ a.nChars then { a with textPtr := a.textPtr + l, cBufP := a.textPtr + l } else a

def step (P : Params) (a : Shadow) : Event → Shadow
  | .tok l => tok l a
  | .eob k => (eob P k a).1

def run (P : Params) (es : List Event) (a : Shadow) : Shadow := es.foldl (step P) a

theorem read_room (P : Params) (k ntm : Nat) (a : Shadow) (h : ntm + 1 ≤ a.bufSize) :
    (read P k ntm a).nChars + ntm < (read P k ntm a).bufSize := by
  unfold read
  split
  · show 0 + ntm < a.bufSize; omega
  · show got P k (grown P a.bufSize ntm) ntm a.rest + ntm < grown P a.bufSize ntm
    have : a.bufSize ≤ grown P a.bufSize ntm := by unfold grown; split <;> omega
    unfold got numToRead; split <;> omega

theorem step_room (P : Params) (a : Shadow) (e : Event) (h : a.nChars < a.bufSize) :
    (a.step P e).nChars < (a.step P e).bufSize := by
  cases e with
  | tok l =>
    show (tok l a).nChars < (tok l a).bufSize
    unfold tok; split <;> exact h
  | eob k => exact read_room P k _ _ (by show a.nChars - a.textPtr + 1 ≤ a.bufSize; omega)

end Shadow

/-! ### the model follows it -/

theorem shadow_eobEnter (s : State) : shadow (eobEnter s) = (shadow s).enter := by
  unfold eobEnter Shadow.enter
  simp only [doBeforeAction, restoreHold]
  cases h : s.status <;> simp only [shadow, h, enteredStatus]

theorem shadow_readStage (P : Params) (hT : ∀ n : Int, P.test n = true → n ≤ 0) (k ntm : Nat)
    (m : State) (h : ntm + 1 ≤ m.bufSize) :
    shadow (readStage P k ntm m) = Shadow.read P k ntm (shadow m) := by
  unfold readStage Shadow.read
  split
  · rename_i hs
    rw [if_pos (show (shadow m).status = _ from hs)]; rfl
  · rename_i hs
    rw [if_neg (show ¬ (shadow m).status = _ from hs), growLoop_once P hT ntm m h]
    unfold Shadow.grown Shadow.got shadow
    split <;> simp only [List.length_take, List.length_drop]

/-- the last `yyrealloc` of `yy_get_next_buffer` does nothing when what is in the buffer fits -/
theorem extendStage_id (P : Params) (ntm : Nat) (x : State) (h : x.nChars + ntm ≤ x.bufSize) :
    extendStage P ntm x = x := by
  unfold extendStage
  rw [if_neg (by omega)]

theorem extendStage_dead (P : Params) (hT : ∀ n : Int, P.test n = true → n ≤ 0) (k ntm : Nat)
    (m : State) (h : ntm + 1 ≤ m.bufSize) :
    extendStage P ntm (statusStage ntm (readStage P k ntm m)) =
      statusStage ntm (readStage P k ntm m) := by
  have hr := Shadow.read_room P k ntm (shadow m) h
  rw [← shadow_readStage P hT k ntm m h] at hr
  generalize readStage P k ntm m = r at hr
  have hr' : r.nChars + ntm < r.bufSize := hr
  apply extendStage_id
  unfold statusStage
  split
  · split
    · show 0 + ntm ≤ r.bufSize; omega
    · exact Nat.le_of_lt hr'
  · exact Nat.le_of_lt hr'

theorem getNextBuffer_eq (P : Params) (k : Nat) (e : State) (ntm : Nat)
    (h : ¬ e.cBufP > e.nChars + 1) (hn : e.cBufP - e.textPtr - 1 = ntm) :
    getNextBuffer P k e =
      (sentinelStage ntm (extendStage P ntm (statusStage ntm
          (readStage P k ntm (moveStage ntm e)))),
        retVal ntm (readStage P k ntm (moveStage ntm e))) := by
  unfold getNextBuffer
  rw [if_neg h, hn]

/-- `yy_get_next_buffer` as `case YY_END_OF_BUFFER:` calls it, from a state with `yy_n_chars <
yy_buf_size`: no "end of buffer missed", `number_to_move` is the length of the window, and the
last `yyrealloc` is not taken. -/
theorem getNextBuffer_enter (P : Params) (hT : ∀ n : Int, P.test n = true → n ≤ 0) (k : Nat)
    (s : State) (h : s.nChars < s.bufSize) :
    (eobEnter s).cBufP - (eobEnter s).textPtr - 1 = s.nChars - s.textPtr ∧
    getNextBuffer P k (eobEnter s) =
      (sentinelStage (s.nChars - s.textPtr) (statusStage (s.nChars - s.textPtr)
          (readStage P k (s.nChars - s.textPtr) (moveStage (s.nChars - s.textPtr) (eobEnter s)))),
        retVal (s.nChars - s.textPtr)
          (readStage P k (s.nChars - s.textPtr) (moveStage (s.nChars - s.textPtr) (eobEnter s)))) := by
  have E := shadow_eobEnter s
  generalize eobEnter s = e at E
  have e1 : e.bufSize = s.bufSize := congrArg Shadow.bufSize E
  have e2 : e.nChars = s.nChars := congrArg Shadow.nChars E
  have e3 : e.textPtr = s.textPtr := congrArg Shadow.textPtr E
  have e4 : e.cBufP = s.nChars + 1 := congrArg Shadow.cBufP E
  have hamount : e.cBufP - e.textPtr - 1 = s.nChars - s.textPtr := by omega
  rw [getNextBuffer_eq P k e _ (by omega) hamount,
    extendStage_dead P hT k _ (moveStage _ e) (by show _ ≤ e.bufSize; omega)]
  exact ⟨hamount, rfl⟩

/-- The end-of-buffer action from such a state, without the three cases of its `switch`:
`EOB_ACT_END_OF_FILE` sets `yy_c_buf_p` to `yytext_ptr` (0, and nothing was kept),
`EOB_ACT_CONTINUE_SCAN` to `yytext_ptr + number_to_move`, `EOB_ACT_LAST_MATCH` to `yy_n_chars`
(nothing was read). -/
theorem eobStep_eq (P : Params) (hT : ∀ n : Int, P.test n = true → n ≤ 0) (k : Nat) (s : State)
    (ntm : Nat) (h : s.nChars < s.bufSize) (hn : s.nChars - s.textPtr = ntm) :
    eobStep P k s =
      ({ sentinelStage ntm (statusStage ntm (readStage P k ntm (moveStage ntm (eobEnter s)))) with
           cBufP := ntm },
        retVal ntm (readStage P k ntm (moveStage ntm (eobEnter s)))) := by
  obtain ⟨hamount, hg⟩ := getNextBuffer_enter P hT k s h
  show eobExit ((eobEnter s).cBufP - (eobEnter s).textPtr - 1) (getNextBuffer P k (eobEnter s)) = _
  rw [hamount, hg, hn]
  generalize readStage P k ntm (moveStage ntm (eobEnter s)) = r
  unfold retVal statusStage
  by_cases h0 : r.nChars = 0
  · by_cases hz : ntm = 0
    · simp only [if_pos h0, if_pos hz]
      simp only [eobExit, sentinelStage, hz]
    · simp only [if_pos h0, if_neg hz]
      simp only [eobExit, sentinelStage, h0, Nat.zero_add]
  · simp only [if_neg h0]
    simp only [eobExit, sentinelStage, Nat.zero_add]

theorem shadow_finish (ntm : Nat) (r : State) :
    (shadow { sentinelStage ntm (statusStage ntm r) with cBufP := ntm }, retVal ntm r) =
      Shadow.finish ntm (shadow r) := by
  unfold retVal statusStage Shadow.finish
  by_cases h0 : r.nChars = 0
  · by_cases hz : ntm = 0
    · simp only [sentinelStage, shadow, restart, flush, loadBufferState, h0, hz, ↓reduceIte]
    · simp only [sentinelStage, shadow, h0, hz, ↓reduceIte]
  · simp only [sentinelStage, shadow, h0, ↓reduceIte]

theorem eobStep_shadow (P : Params) (hT : ∀ n : Int, P.test n = true → n ≤ 0) (k : Nat)
    (s : State) (h : s.nChars < s.bufSize) :
    (shadow (eobStep P k s).1, (eobStep P k s).2) = Shadow.eob P k (shadow s) := by
  rw [eobStep_eq P hT k s _ h rfl, shadow_finish,
    shadow_readStage P hT k _ (moveStage _ (eobEnter s)) (by
      show s.nChars - s.textPtr + 1 ≤ (shadow (eobEnter s)).bufSize
      rw [shadow_eobEnter]; show _ ≤ s.bufSize; omega)]
  show Shadow.finish _ (Shadow.read P k _ (shadow (eobEnter s))) = _
  rw [shadow_eobEnter]
  rfl

theorem tokStep_shadow (l : Nat) (s : State) : shadow (tokStep l s) = (shadow s).tok l := by
  unfold tokStep Shadow.tok
  by_cases hv : s.textPtr + l ≤ s.nChars
  · rw [if_pos hv, if_pos (show (shadow s).textPtr + l ≤ (shadow s).nChars from hv)]; rfl
  · rw [if_neg hv, if_neg (show ¬ (shadow s).textPtr + l ≤ (shadow s).nChars from hv)]

theorem step_shadow (P : Params) (hT : ∀ n : Int, P.test n = true → n ≤ 0) (s : State) (e : Event)
    (h : s.nChars < s.bufSize) : shadow (step P s e) = (shadow s).step P e := by
  cases e with
  | tok l => exact tokStep_shadow l s
  | eob k => exact congrArg Prod.fst (eobStep_shadow P hT k s h)

theorem run_shadow (P : Params) (hT : ∀ n : Int, P.test n = true → n ≤ 0) (es : List Event)
    (s : State) (h : s.nChars < s.bufSize) : shadow (run P es s) = (shadow s).run P es := by
  induction es generalizing s with
  | nil => rfl
  | cons e es ih =>
    have hs := step_shadow P hT s e h
    show shadow (run P es (step P s e)) = ((shadow s).step P e).run P es
    rw [← hs]
    exact ih _ (by have := Shadow.step_room P (shadow s) e h; rw [← hs] at this; exact this)

theorem shadow_create (P : Params) (stream : Bytes) :
    shadow (create P stream) = ⟨P.B, 0, 0, 0, stream.length, .new⟩ := rfl

end Libconfig.C20BP
