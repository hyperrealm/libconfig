import LibconfigModel.Proofs.C04
import LibconfigModel.Proofs.C05
/-
  C04 (reads), tree part: what an edit at one path does to the nodes at other paths (a frame
  lemma), retyping a childless node below a non-array parent, and
  the shape of the result of `Node.setElem … (-1)`.
-/
namespace Libconfig.C04R
open Libconfig C04 C05P

/-! ### `modify` at a path -/

theorem modify_congr (f g : Node → Node) (p : Path) : ∀ (root n : Node),
    root.get? p = some n → f n = g n → root.modify f p = root.modify g p := by
  induction p with
  | nil =>
    intro root n hn h
    rw [get?_nil] at hn; cases hn
    simpa [modify_nil] using h
  | cons i p ih =>
    intro root n hn h
    rw [get?_cons] at hn
    rw [modify_cons, modify_cons]
    cases hk : root.kids[i]? with
    | none => rfl
    | some k =>
      rw [hk] at hn
      simp only
      rw [ih k n hn h]

/-! ### `get?` after `modify` -/

theorem get?_modify_append (f : Node → Node) (p r : Path) (n : Node) :
    (n.modify f p).get? (p ++ r) = (n.get? p).bind (fun m => (f m).get? r) := by
  rw [get?_append, get?_modify_self]
  cases n.get? p <;> rfl

theorem get?_prefix_some {n : Node} {p r : Path} {m : Node} (h : n.get? (p ++ r) = some m) :
    ∃ m0, n.get? p = some m0 ∧ m0.get? r = some m := by
  rw [get?_append] at h
  cases hp : n.get? p with
  | none => rw [hp] at h; cases h
  | some m0 => rw [hp] at h; exact ⟨m0, rfl, h⟩

theorem get?_snoc {n : Node} {p : Path} {i : Nat} {m : Node} (h : n.get? (p ++ [i]) = some m) :
    ∃ m0, n.get? p = some m0 ∧ m0.kids[i]? = some m := by
  obtain ⟨m0, h1, h2⟩ := get?_prefix_some h
  refine ⟨m0, h1, ?_⟩
  rw [get?_cons] at h2
  cases hk : m0.kids[i]? with
  | none => rw [hk] at h2; cases h2
  | some k => rw [hk] at h2; simpa [get?_nil] using h2

theorem get?_snoc_of {n m0 m : Node} {p : Path} {i : Nat} (h1 : n.get? p = some m0)
    (h2 : m0.kids[i]? = some m) : n.get? (p ++ [i]) = some m := by
  rw [get?_append, h1, Option.bind_some, get?_cons, h2]
  rfl

/-- two paths: one is a prefix of the other, or they diverge -/
theorem prefix_cases (q p : Path) :
    q <+: p ∨ (∃ i r, q = p ++ i :: r) ∨ (¬ q <+: p ∧ ¬ p <+: q) := by
  by_cases h1 : q <+: p
  · exact Or.inl h1
  by_cases h2 : p <+: q
  · obtain ⟨r, rfl⟩ := h2
    cases r with
    | nil => exact absurd (by simp) h1
    | cons i r => exact Or.inr (Or.inl ⟨i, r, rfl⟩)
  · exact Or.inr (Or.inr ⟨h1, h2⟩)

/-- Frame lemma: an edit at `p` that keeps the children of the edited node in place (possibly
adding new ones behind them) keeps every node addressable; nodes not above `p` are unchanged and
nodes other than the one at `p` keep their type and name. -/
theorem frame (f : Node → Node) (p : Path) (root n : Node) (hn : root.get? p = some n)
    (hk : ∀ (j : Nat) (k : Node), n.kids[j]? = some k → (f n).kids[j]? = some k) (q : Path) (m : Node)
    (hm : root.get? q = some m) :
    ∃ m', (root.modify f p).get? q = some m' ∧ (¬ q <+: p → m' = m) ∧
      (q ≠ p → m'.ty = m.ty ∧ m'.name = m.name) ∧ (q = p → m' = f n) := by
  rcases prefix_cases q p with h | ⟨i, r, rfl⟩ | ⟨h1, h2⟩
  · obtain ⟨r, rfl⟩ := h
    cases r with
    | nil =>
      rw [List.append_nil] at hn ⊢
      rw [hn] at hm; cases hm
      refine ⟨f n, ?_, fun h => absurd (List.prefix_refl _) h, fun h => absurd rfl h, fun _ => rfl⟩
      rw [get?_modify_self, hn]; rfl
    | cons i r =>
      refine ⟨m.modify f (i :: r), ?_, fun h => absurd (List.prefix_append q (i :: r)) h, ?_, ?_⟩
      · rw [get?_modify_prefix, hm]; rfl
      · intro _
        have := modify_below f m i r
        exact ⟨this.2.1, this.1⟩
      · intro h
        have : (q ++ i :: r).length = q.length := by rw [← h]
        simp at this
  · refine ⟨m, ?_, fun _ => rfl, fun _ => ⟨rfl, rfl⟩, ?_⟩
    · rw [get?_modify_append, hn, Option.bind_some]
      rw [get?_append, hn, Option.bind_some, get?_cons] at hm
      rw [get?_cons]
      cases hki : n.kids[i]? with
      | none => rw [hki] at hm; cases hm
      | some k =>
        rw [hki] at hm
        rw [hk i k hki]
        exact hm
    · intro h
      have : (p ++ i :: r).length = p.length := by rw [h]
      simp at this
  · refine ⟨m, ?_, fun _ => rfl, fun _ => ⟨rfl, rfl⟩, ?_⟩
    · rw [get?_modify_disjoint f p q _ h2 h1, hm]
    · rintro rfl
      exact absurd (List.prefix_refl _) h1

/-! ### retyping a childless node -/

/-- giving the childless node at `d ++ [j]`, whose parent is not an array, another type -/
theorem retype_at_wf (root dn n : Node) (d : Path) (j ty : Nat) (hw : root.WF)
    (hd : root.get? d = some dn) (hj : dn.kids[j]? = some n) (hna : dn.ty ≠ T_ARRAY)
    (hk : n.kids = []) (hty : ty ≤ 8) :
    (root.modify (fun n => { n with ty := ty }) (d ++ [j])).WF ∧
      Compat root (root.modify (fun n => { n with ty := ty }) (d ++ [j])) := by
  rw [modify_append]
  apply modify_wf _ d root dn hw hd
  · rw [modify_cons, hj]
    simp only [modify_nil]
    exact WF.set_of (WF.get hw hd) hj rfl (fun ht => absurd ht hna) (WF.leaf hty hk)
  · have := modify_below (fun n => { n with ty := ty }) dn j []
    exact ⟨this.1, fun _ => this.2.1⟩

/-! ### shape of an appending `setElem` -/

theorem setElem_shape {setter : Node → Option Node} {ty : Nat} {n n' : Node} {i : Nat}
    (h : n.setElem setter ty (-1) = some (n', i)) :
    ∃ e, n' = { n with kids := n.kids ++ [e] } ∧ i = n.kids.length := by
  obtain ⟨-, -, ⟨-, -, e', -, rfl, rfl⟩ | ⟨hn, -⟩⟩ := setElem_some h
  · exact ⟨e', rfl, rfl⟩
  · exact absurd (by decide) hn

end Libconfig.C04R
