import LibconfigModel.Proofs.C02Static
/-
  C02 completeness, static part: an (untrusted) certificate of LALR(1) item sets for the states
  of the compiled automaton, `nullable`/`first` tables for the nonterminals, and a Boolean check
  (evaluated by the kernel) of the conditions of a completeness validator in the style of
  Jourdan, Pottier, Leroy, "Validating LR(1) Parsers" (ESOP 2012), stated against the table
  readers `actAt`/`gotoTo` that mirror what `yyparseLoop` does:

  * the initial state contains `[$accept → . configuration $end]`;
  * closure: `[A → α . B β, a] ∈ s`, `B → γ` a rule, `b ∈ first(β a)` ⟹ `[B → . γ, b] ∈ s`;
  * transitions: `[A → α . X β, a] ∈ s` ⟹ the parser shifts `X` in `s` (terminal) resp. the goto
    of `s` on `X` (nonterminal) leads to a state containing `[A → α X . β, a]`;
  * reductions: `[A → α ., a] ∈ s` ⟹ the parser's action in `s` on the lookahead `a` is
    "reduce A → α" (explicitly, or by default);
  * acceptance: the goto of state 0 on `configuration` shifts `$end` into the final state;
  * `nullable` and `first` are closed under the rules (hence over-approximate the truth).
-/
namespace Libconfig.C02C
open Libconfig Grammar C02P

/-- an LALR item: rule, position of the dot, lookahead terminals -/
abbrev Item := Nat × Nat × List Nat
/-- item sets indexed by state -/
abbrev Cert := List (List Item)

def rhsOf (r : Nat) : List Nat := (rules.getD r (0, [])).2
def lhsOf (r : Nat) : Nat := (rules.getD r (0, [])).1

def memB (l : List Nat) (a : Nat) : Bool := l.any (Nat.beq a)
def subB (l1 l2 : List Nat) : Bool := l1.all (memB l2)

/-- `nullable`, indexed by nonterminal − 23 -/
def nullTab : List Bool :=
  [false, true, false, true, true, false, true, false, true, false, true, false, false, false,
   false, true, false, true, false, true]

/-- `first`, indexed by nonterminal − 23 -/
def firstTab : List (List Nat) :=
  [[0, 10], [10], [10], [10], [17, 20], [10], [], [13], [], [15], [],
   [3, 4, 5, 6, 7, 8, 9, 13, 15, 18], [9], [3, 4, 5, 6, 7, 8, 9],
   [3, 4, 5, 6, 7, 8, 9, 13, 15, 18], [3, 4, 5, 6, 7, 8, 9, 13, 15, 18],
   [3, 4, 5, 6, 7, 8, 9], [3, 4, 5, 6, 7, 8, 9], [18], []]

def nullableS (X : Nat) : Bool := Nat.ble 23 X && nullTab.getD (X - 23) false
def firstS (X : Nat) : List Nat := if Nat.blt X 23 then [X] else firstTab.getD (X - 23) []

/-- `first(β la)` -/
def firstSeq : List Nat → List Nat → List Nat
  | [], la => la
  | X :: β, la => firstS X ++ (if nullableS X then firstSeq β la else [])

/-- state `s` of the certificate has the item `(r, d)` with at least the lookaheads `la` -/
def supB (C : Cert) (s r d : Nat) (la : List Nat) : Bool :=
  (C.getD s []).any fun it => Nat.beq it.1 r && Nat.beq it.2.1 d && subB la it.2.2

/-- the parser's action in state `s` on the lookahead kind `a` is "reduce by rule `r`" -/
def redOK (P : LalrTables) (s a r : Nat) : Bool :=
  !(Nat.beq r 0) &&
  match actAt P s a with
  | none => Nat.beq (P.defact.get s).toNat r
  | some q => decide (q ≤ 0) && !(q == P.tableNinf) && Nat.beq (-q).toNat r

def shiftB (P : LalrTables) (C : Cert) (s : Nat) (it : Item) : Bool :=
  match (rhsOf it.1).drop it.2.1 with
  | [] => true
  | X :: _ =>
    !(Nat.blt X 23) ||
    match actAt P s X with
    | some q => decide (0 < q) && supB C q.toNat it.1 (it.2.1 + 1) it.2.2
    | none => false

def gotoB (P : LalrTables) (C : Cert) (s : Nat) (it : Item) : Bool :=
  match (rhsOf it.1).drop it.2.1 with
  | [] => true
  | X :: _ => Nat.blt X 23 || supB C (gotoTo P s X) it.1 (it.2.1 + 1) it.2.2

def closB (C : Cert) (s : Nat) (it : Item) : Bool :=
  match (rhsOf it.1).drop it.2.1 with
  | [] => true
  | X :: β =>
    Nat.blt X 23 ||
    allBelow rules.length fun r' =>
      Nat.beq r' 0 || (!(Nat.beq (lhsOf r') X) || supB C s r' 0 (firstSeq β it.2.2))

def redB (P : LalrTables) (s : Nat) (it : Item) : Bool :=
  match (rhsOf it.1).drop it.2.1 with
  | [] => Nat.beq it.1 1 || it.2.2.all fun a => redOK P s a it.1
  | _ :: _ => true

def itemOK (P : LalrTables) (C : Cert) (s : Nat) (it : Item) : Bool :=
  shiftB P C s it && gotoB P C s it && closB C s it && redB P s it

def acceptB (P : LalrTables) : Bool :=
  match actAt P (gotoTo P 0 configuration) 0 with
  | some q => decide (0 < q) && Nat.beq q.toNat P.final
  | none => false

def nullOK : Bool :=
  allBelow rules.length fun r => Nat.beq r 0 || (!((rhsOf r).all nullableS) || nullableS (lhsOf r))
def firstOK : Bool :=
  allBelow rules.length fun r => Nat.beq r 0 || subB (firstSeq (rhsOf r) []) (firstS (lhsOf r))
def lhsOK : Bool :=
  allBelow rules.length fun r => Nat.beq r 0 || Nat.ble 23 (lhsOf r)
/-- `$accept` occurs in no right-hand side -/
def rhsOK : Bool :=
  allBelow rules.length fun r => !(memB (rhsOf r) ACCEPT)

/-- the whole completeness check -/
def certOK (P : LalrTables) (C : Cert) : Bool :=
  Nat.beq (P.nrules + 1) rules.length && rulesMatch P &&
  nullOK && firstOK && lhsOK && rhsOK &&
  Nat.ble C.length P.nstates &&
  supB C 0 1 0 [0] && acceptB P &&
  allBelow P.nstates fun s => (C.getD s []).all (itemOK P C s)

/-- the LALR item sets of the compiled automaton, state by state along the transitions of the
tables: entry `s` says what state `s` stands for (rule, position of the dot, lookaheads; rules
as numbered in `Grammar.rules`) -/
def cert : Cert :=
  [
   [(1, 0, [0]), (2, 0, [0]), (3, 0, [0]), (4, 0, [0, 10]), (5, 0, [0, 10]), (12, 0, [0, 10])],
    [(12, 1, [0, 10, 19]), (11, 0, [11])],
    [(1, 1, [0])],
    [(3, 1, [0]), (5, 1, [0, 10]), (12, 0, [0, 10])],
    [(4, 1, [0, 10, 19])],
    [(12, 2, [0, 10, 19])],
    [(1, 2, [0])],
    [(5, 2, [0, 10, 19])],
    [(12, 3, [0, 10, 19]), (17, 0, [0, 10, 17, 19, 20]), (18, 0, [0, 10, 17, 19, 20]), (19, 0, [0, 10, 17, 19, 20]), (20, 0, [0, 10, 17, 19, 20]), (23, 0, [0, 10, 17, 19, 20]), (24, 0, [0, 10, 17, 19, 20]), (25, 0, [0, 10, 17, 19, 20]), (26, 0, [0, 10, 17, 19, 20]), (27, 0, [0, 10, 17, 19, 20]), (28, 0, [0, 10, 17, 19, 20]), (29, 0, [0, 10, 17, 19, 20]), (14, 0, [0, 10, 17, 19, 20]), (16, 0, [0, 10, 17, 19, 20]), (41, 0, [0, 10, 17, 19, 20]), (21, 0, [0, 9, 10, 17, 19, 20]), (22, 0, [0, 9, 10, 17, 19, 20])],
    [(23, 1, [0, 10, 14, 16, 17, 19, 20])],
    [(24, 1, [0, 10, 14, 16, 17, 19, 20])],
    [(26, 1, [0, 10, 14, 16, 17, 19, 20])],
    [(25, 1, [0, 10, 14, 16, 17, 19, 20])],
    [(27, 1, [0, 10, 14, 16, 17, 19, 20])],
    [(28, 1, [0, 10, 14, 16, 17, 19, 20])],
    [(21, 1, [0, 9, 10, 14, 16, 17, 19, 20])],
    [(14, 1, [0, 10, 16, 17, 19, 20]), (13, 0, [3, 4, 5, 6, 7, 8, 9, 14])],
    [(16, 1, [0, 10, 16, 17, 19, 20]), (15, 0, [3, 4, 5, 6, 7, 8, 9, 13, 15, 16, 18])],
    [(41, 1, [0, 10, 16, 17, 19, 20]), (40, 0, [10, 19])],
    [(18, 1, [0, 10, 16, 17, 19, 20])],
    [(19, 1, [0, 10, 16, 17, 19, 20])],
    [(12, 4, [0, 10, 19]), (8, 0, [0, 10, 19]), (9, 0, [0, 10, 19]), (10, 0, [0, 10, 19])],
    [(29, 1, [0, 10, 14, 16, 17, 19, 20]), (22, 1, [0, 9, 10, 14, 16, 17, 19, 20])],
    [(17, 1, [0, 10, 16, 17, 19, 20])],
    [(20, 1, [0, 10, 16, 17, 19, 20])],
    [(14, 2, [0, 10, 16, 17, 19, 20]), (38, 0, [14]), (39, 0, [14]), (35, 0, [14, 17]), (36, 0, [14, 17]), (37, 0, [14, 17]), (23, 0, [14, 17]), (24, 0, [14, 17]), (25, 0, [14, 17]), (26, 0, [14, 17]), (27, 0, [14, 17]), (28, 0, [14, 17]), (29, 0, [14, 17]), (21, 0, [9, 14, 17]), (22, 0, [9, 14, 17])],
    [(16, 2, [0, 10, 16, 17, 19, 20]), (33, 0, [16]), (34, 0, [16]), (30, 0, [16, 17]), (31, 0, [16, 17]), (32, 0, [16, 17]), (17, 0, [16, 17]), (18, 0, [16, 17]), (19, 0, [16, 17]), (20, 0, [16, 17]), (23, 0, [16, 17]), (24, 0, [16, 17]), (25, 0, [16, 17]), (26, 0, [16, 17]), (27, 0, [16, 17]), (28, 0, [16, 17]), (29, 0, [16, 17]), (14, 0, [16, 17]), (16, 0, [16, 17]), (41, 0, [16, 17]), (21, 0, [9, 16, 17]), (22, 0, [9, 16, 17])],
    [(41, 2, [0, 10, 16, 17, 19, 20]), (6, 0, [19]), (7, 0, [19]), (4, 0, [10, 19]), (5, 0, [10, 19]), (12, 0, [10, 19])],
    [(10, 1, [0, 10, 19])],
    [(9, 1, [0, 10, 19])],
    [(12, 5, [0, 10, 19])],
    [(22, 2, [0, 9, 10, 14, 16, 17, 19, 20])],
    [(35, 1, [14, 17])],
    [(39, 1, [14]), (36, 1, [14, 17]), (37, 1, [14, 17])],
    [(14, 3, [0, 10, 16, 17, 19, 20])],
    [(30, 1, [16, 17])],
    [(34, 1, [16]), (31, 1, [16, 17]), (32, 1, [16, 17])],
    [(16, 3, [0, 10, 16, 17, 19, 20])],
    [(7, 1, [19]), (5, 1, [10, 19]), (12, 0, [10, 19])],
    [(41, 3, [0, 10, 16, 17, 19, 20])],
    [(36, 2, [14, 17]), (37, 2, [14, 17]), (23, 0, [14, 17]), (24, 0, [14, 17]), (25, 0, [14, 17]), (26, 0, [14, 17]), (27, 0, [14, 17]), (28, 0, [14, 17]), (29, 0, [14, 17]), (21, 0, [9, 14, 17]), (22, 0, [9, 14, 17])],
    [(14, 4, [0, 10, 16, 17, 19, 20])],
    [(31, 2, [16, 17]), (32, 2, [16, 17]), (17, 0, [16, 17]), (18, 0, [16, 17]), (19, 0, [16, 17]), (20, 0, [16, 17]), (23, 0, [16, 17]), (24, 0, [16, 17]), (25, 0, [16, 17]), (26, 0, [16, 17]), (27, 0, [16, 17]), (28, 0, [16, 17]), (29, 0, [16, 17]), (14, 0, [16, 17]), (16, 0, [16, 17]), (41, 0, [16, 17]), (21, 0, [9, 16, 17]), (22, 0, [9, 16, 17])],
    [(16, 4, [0, 10, 16, 17, 19, 20])],
    [(41, 4, [0, 10, 16, 17, 19, 20])],
    [(36, 3, [14, 17])],
    [(31, 3, [16, 17])]
  ]

theorem cert_ok : certOK Generated.parser cert = true := by decide +kernel

/-! ### the conditions in usable form -/

/-- state `s` of the certificate contains the item `[rule r, dot d, lookahead a]` -/
def HasItem (C : Cert) (s r d a : Nat) : Prop := ∃ la, (r, d, la) ∈ C.getD s [] ∧ a ∈ la

theorem memB_iff {l : List Nat} {a : Nat} : memB l a = true ↔ a ∈ l := any_beq_left_iff

theorem subB_spec {l1 l2 : List Nat} (h : subB l1 l2 = true) {a : Nat} (ha : a ∈ l1) : a ∈ l2 := by
  unfold subB at h
  rw [List.all_eq_true] at h
  exact memB_iff.mp (h a ha)

theorem supB_spec {C : Cert} {s r d : Nat} {la : List Nat} (h : supB C s r d la = true)
    {a : Nat} (ha : a ∈ la) : HasItem C s r d a := by
  unfold supB at h
  rw [List.any_eq_true] at h
  obtain ⟨⟨r', d', la'⟩, hmem, h2⟩ := h
  simp only [Bool.and_eq_true] at h2
  obtain ⟨⟨h3, h4⟩, h5⟩ := h2
  have h3 : r' = r := Nat.eq_of_beq_eq_true h3
  have h4 : d' = d := Nat.eq_of_beq_eq_true h4
  subst h3; subst h4
  exact ⟨la', hmem, subB_spec h5 ha⟩

theorem firstSeq_mono {la la' : List Nat} (h : ∀ x ∈ la, x ∈ la') :
    ∀ (β : List Nat) {b : Nat}, b ∈ firstSeq β la → b ∈ firstSeq β la' := by
  intro β
  induction β with
  | nil => intro b hb; exact h b hb
  | cons X β ih =>
    intro b hb
    rw [firstSeq] at hb ⊢
    rw [List.mem_append] at hb ⊢
    rcases hb with hb | hb
    · exact Or.inl hb
    · right
      split at hb
      · rename_i hn; rw [if_pos hn]; exact ih hb
      · cases hb

/-- what the static check establishes -/
structure CFacts (P : LalrTables) (C : Cert) : Prop where
  r1 : ∀ r, 1 ≤ r → r < rules.length → (P.r1.get r).toNat = lhsOf r
  r2 : ∀ r, 1 ≤ r → r < rules.length → (P.r2.get r).toNat = (rhsOf r).length
  null : ∀ r, 1 ≤ r → r < rules.length → (rhsOf r).all nullableS = true → nullableS (lhsOf r) = true
  first : ∀ r, 1 ≤ r → r < rules.length → ∀ c ∈ firstSeq (rhsOf r) [], c ∈ firstS (lhsOf r)
  lhs : ∀ r, 1 ≤ r → r < rules.length → 23 ≤ lhsOf r
  rhs : ∀ r, r < rules.length → ACCEPT ∉ rhsOf r
  init : HasItem C 0 1 0 0
  accept : ∃ q : Int, actAt P (gotoTo P 0 configuration) 0 = some q ∧ 0 < q ∧ q.toNat = P.final
  shift : ∀ s r d a X β, HasItem C s r d a → (rhsOf r).drop d = X :: β → X < 23 →
    ∃ q : Int, actAt P s X = some q ∧ 0 < q ∧ HasItem C q.toNat r (d + 1) a
  goto : ∀ s r d a X β, HasItem C s r d a → (rhsOf r).drop d = X :: β → 23 ≤ X →
    HasItem C (gotoTo P s X) r (d + 1) a
  closure : ∀ s r d a X β, HasItem C s r d a → (rhsOf r).drop d = X :: β → 23 ≤ X →
    ∀ r', 1 ≤ r' → r' < rules.length → lhsOf r' = X → ∀ b ∈ firstSeq β [a], HasItem C s r' 0 b
  reduce : ∀ s r d a, HasItem C s r d a → (rhsOf r).drop d = [] → r ≠ 1 → redOK P s a r = true

theorem allBelow_or0 {n : Nat} {f : Nat → Bool} (h : allBelow n (fun r => Nat.beq r 0 || f r) = true)
    (r : Nat) (h1 : 1 ≤ r) (h2 : r < n) : f r = true :=
  of_beq_or (allBelow_spec h r h2) (Nat.ne_of_gt h1)

theorem facts_of_cert {P : LalrTables} {C : Cert} (h : certOK P C = true) : CFacts P C := by
  simp only [certOK, rulesMatch, nullOK, firstOK, lhsOK, rhsOK, itemOK, Bool.and_eq_true,
    allBelow_iff, List.all_eq_true, Nat.beq_eq, Nat.ble_eq, Bool.not_eq_true', Bool.or_eq_true] at h
  obtain ⟨⟨⟨⟨⟨⟨⟨⟨⟨hnr, hrm⟩, hnull⟩, hfirst⟩, hlhs⟩, hrhs⟩, hlen⟩, hinit⟩, hacc⟩, hall⟩ := h
  rw [hnr] at hrm
  -- the checks made for the item set of a state, for an item it has
  have item : ∀ {s r d a}, HasItem C s r d a → ∃ la, a ∈ la ∧ shiftB P C s (r, d, la) = true ∧
      gotoB P C s (r, d, la) = true ∧ closB C s (r, d, la) = true ∧ redB P s (r, d, la) = true := by
    intro s r d a ⟨la, hmem, ha⟩
    have hs : s < P.nstates := Nat.lt_of_not_le fun hn => by
      rw [List.getD_eq_getElem?_getD, List.getElem?_eq_none (Nat.le_trans hlen hn)] at hmem
      cases hmem
    exact ⟨la, ha, (hall s hs _ hmem).1.1.1, (hall s hs _ hmem).1.1.2, (hall s hs _ hmem).1.2,
      (hall s hs _ hmem).2⟩
  have pos : ∀ {r : Nat}, 1 ≤ r → ¬ r = 0 := fun h1 => Nat.ne_of_gt h1
  refine ⟨fun r h1 h2 => ((hrm r h2).resolve_left (pos h1)).1,
    fun r h1 h2 => ((hrm r h2).resolve_left (pos h1)).2,
    fun r h1 h2 hn => ((hnull r h2).resolve_left (pos h1)).resolve_left (by rw [hn]; exact Bool.noConfusion),
    fun r h1 h2 c hc => subB_spec ((hfirst r h2).resolve_left (pos h1)) hc,
    fun r h1 h2 => (hlhs r h2).resolve_left (pos h1),
    fun r h2 hmem => Bool.noConfusion ((memB_iff.mpr hmem).symm.trans (hrhs r h2)),
    supB_spec hinit (List.mem_singleton.mpr rfl), ?_, ?_, ?_, ?_, ?_⟩
  · unfold acceptB at hacc
    split at hacc
    · rename_i q hq
      simp only [Bool.and_eq_true, decide_eq_true_eq] at hacc
      exact ⟨q, hq, hacc.1, Nat.eq_of_beq_eq_true hacc.2⟩
    · cases hacc
  · intro s r d a X β hi hd hX
    obtain ⟨la, ha, hs, -⟩ := item hi
    unfold shiftB at hs
    simp only [hd] at hs
    rw [show Nat.blt X 23 = true from Nat.ble_eq_true_of_le hX] at hs
    simp only [Bool.not_true, Bool.false_or] at hs
    split at hs
    · rename_i q hq
      simp only [Bool.and_eq_true, decide_eq_true_eq] at hs
      exact ⟨q, hq, hs.1, supB_spec hs.2 ha⟩
    · cases hs
  · intro s r d a X β hi hd hX
    obtain ⟨la, ha, -, hs, -⟩ := item hi
    unfold gotoB at hs
    simp only [hd] at hs
    rw [blt_eq_false hX, Bool.false_or] at hs
    exact supB_spec hs ha
  · intro s r d a X β hi hd hX r' h1 h2 hl b hb
    obtain ⟨la, ha, -, -, hs, -⟩ := item hi
    unfold closB at hs
    simp only [hd] at hs
    rw [blt_eq_false hX, Bool.false_or] at hs
    refine supB_spec (of_not_beq_or (hl ▸ allBelow_or0 hs r' h1 h2)) (firstSeq_mono ?_ β hb)
    intro x hx
    rw [List.mem_singleton.mp hx]; exact ha
  · intro s r d a hi hd hr
    obtain ⟨la, ha, -, -, -, hs⟩ := item hi
    unfold redB at hs
    simp only [hd, Bool.or_eq_true] at hs
    exact List.all_eq_true.mp (hs.resolve_left fun e => hr (Nat.eq_of_beq_eq_true e)) a ha

theorem cfacts : CFacts Generated.parser cert := facts_of_cert cert_ok

end Libconfig.C02C
