import LibconfigModel.Proofs.C20BufferRun
/-
  C20B helpers: the seeded change `while ( num_to_read < 0 )`, for arbitrary
  constants.  In scanner.c the buffer grows exactly in the states in which the token in
  progress fills it (`yytext_ptr` at the start of the buffer, `yy_n_chars + 1 = yy_buf_size`;
  `Progress.grow`).  With the seeded test, the end-of-buffer action in such a state calls
  `YY_INPUT` for 0 bytes.
-/
namespace Libconfig.C20BP

open Libconfig Libconfig.FlexBuffer

theorem mem_log_statusStage (ntm : Nat) (s : State) (a : Access) (h : a ∈ s.log) :
    a ∈ (statusStage ntm s).log := by
  unfold statusStage
  split
  · split
    · simp [restart, flush, loadBufferState, h]
    · exact h
  · exact h

theorem mem_log_sentinelStage (ntm : Nat) (s : State) (a : Access) (h : a ∈ s.log) :
    a ∈ (sentinelStage ntm s).log := by
  simp [sentinelStage, h]

/-- The seeded scanner, in a state in which the token in progress fills the buffer: the
end-of-buffer action asks `YY_INPUT` for 0 bytes at offset `yy_n_chars`. -/
theorem seeded_zero_read (P : Params) (hT : P.test = growTestSeeded) (k : Nat) (s : State)
    (h1 : s.textPtr = 0) (h2 : s.nChars + 1 = s.bufSize) (h3 : s.status ≠ .eofPending) :
    ∃ alloc, Access.input alloc s.nChars 0 ∈ (eobStep P k s).1.log := by
  rw [eobStep_eq P (seeded_test_le hT) k s s.nChars (by omega) (by rw [h1]; rfl)]
  have E := shadow_eobEnter s
  generalize eobEnter s = e at E
  have hb : e.bufSize = s.bufSize := congrArg Shadow.bufSize E
  have hst : (moveStage s.nChars e).status ≠ .eofPending := by
    rw [show (moveStage s.nChars e).status = enteredStatus s.status from congrArg Shadow.status E,
      Ne, enteredStatus_eof]
    exact h3
  -- `num_to_read = 0`: the loop with `< 0` does not run, the read stage logs the offending call …
  have hn0 : numToRead (moveStage s.nChars e).bufSize s.nChars = 0 := by
    show numToRead e.bufSize s.nChars = 0
    unfold numToRead; omega
  have hg := growLoop_once P (seeded_test_le hT) s.nChars (moveStage s.nChars e)
    (by show s.nChars + 1 ≤ e.bufSize; omega)
  rw [hn0, hT, if_neg (by decide)] at hg
  have hread : Access.input (moveStage s.nChars e).ch.length s.nChars 0 ∈
      (readStage P k s.nChars (moveStage s.nChars e)).log := by
    unfold readStage
    split
    · exact absurd ‹_› hst
    · simp only [hg, hn0]
      have : ¬ (0 : Int) > (P.R : Int) := by omega
      simp [this]
  -- … and the later stages only add to the log
  exact ⟨_, mem_log_sentinelStage _ _ _ (mem_log_statusStage _ _ _ hread)⟩

/-! ### such a state is reachable, whatever the constants -/

/-- the same constants with the test of scanner.c -/
def unseeded (P : Params) : Params := { P with test := growTestC }

/-- As long as there is room for at least one byte behind the text to keep, the two tests
agree: the seeded scanner does what scanner.c does. -/
theorem eobStep_unseeded (P : Params) (hT : P.test = growTestSeeded) (k : Nat) (s : State)
    (h : s.nChars < s.bufSize) (hroom : s.nChars - s.textPtr + 1 < s.bufSize) :
    eobStep P k s = eobStep (unseeded P) k s := by
  rw [eobStep_eq P (seeded_test_le hT) k s _ h rfl, eobStep_eq (unseeded P) (test_le rfl) k s _ h rfl]
  have hb : (moveStage (s.nChars - s.textPtr) (eobEnter s)).bufSize = s.bufSize :=
    congrArg Shadow.bufSize (shadow_eobEnter s)
  generalize moveStage (s.nChars - s.textPtr) (eobEnter s) = m at hb
  generalize s.nChars - s.textPtr = ntm at hroom
  have hread : readStage P k ntm m = readStage (unseeded P) k ntm m := by
    unfold readStage
    rw [growLoop_once P (seeded_test_le hT) ntm m (by omega),
      growLoop_once (unseeded P) (test_le rfl) ntm m (by omega), if_neg, if_neg]
    · rfl
    · show ¬ growTestC _ = true
      rw [growTestC_true]; unfold numToRead; omega
    · rw [hT, growTestSeeded_true]; unfold numToRead; omega
  rw [hread]

/-- what the search for a full buffer maintains -/
structure Filling (P : Params) (s : State) : Prop where
  inv : Inv (unseeded P) s
  text : s.textPtr = 0
  status : s.status ≠ .eofPending
  size : s.bufSize = P.B
  /-- the stream can still fill the buffer -/
  supply : s.bufSize ≤ s.nChars + s.rest.length

theorem filling_step (P : Params) (hB : 0 < P.B) (hR : 0 < P.R) (hT : P.test = growTestSeeded)
    (s : State) (h : Filling P s) (hlt : s.nChars + 1 < s.bufSize) :
    Filling P (eobStep P 1 s).1 ∧ s.nChars < (eobStep P 1 s).1.nChars := by
  have hroom := h.inv.room
  have hinv := eobStep_inv (unseeded P) ⟨hB, hR, rfl⟩ 1 s h.inv
  rw [← eobStep_unseeded P hT 1 s hroom (by rw [h.text]; omega)] at hinv
  have hsup := h.supply
  have hgrown : Shadow.grown P s.bufSize s.nChars = s.bufSize := by
    unfold Shadow.grown
    rw [if_neg]
    intro ht
    have := seeded_test_le hT _ ht
    simp only [numToRead] at this
    omega
  have hgot : Shadow.got P 1 s.bufSize s.nChars s.rest.length = 1 := by
    unfold Shadow.got numToRead; split <;> omega
  have he : Shadow.eob P 1 (shadow s) =
      (⟨s.bufSize, 1 + s.nChars, 0, s.nChars, s.rest.length - 1, enteredStatus s.status⟩,
        .continueScan) := by
    simp [Shadow.eob, Shadow.read, Shadow.enter, Shadow.finish, shadow, h.text, hgrown, hgot,
      enteredStatus_eof, h.status]
  have hS := congrArg Prod.fst ((eobStep_shadow P (seeded_test_le hT) 1 s hroom).trans he)
  generalize (eobStep P 1 s).1 = s' at hinv hS
  have hn : s'.nChars = 1 + s.nChars := congrArg Shadow.nChars hS
  have hz : s'.bufSize = s.bufSize := congrArg Shadow.bufSize hS
  have hr : s'.rest.length = s.rest.length - 1 := congrArg Shadow.rest hS
  refine ⟨{
    inv := hinv
    text := congrArg Shadow.textPtr hS
    status := by
      rw [show s'.status = _ from congrArg Shadow.status hS, Ne, enteredStatus_eof]
      exact h.status
    size := by rw [hz]; exact h.size
    supply := by omega }, by omega⟩

theorem filling_full (P : Params) (hB : 0 < P.B) (hR : 0 < P.R) (hT : P.test = growTestSeeded) :
    ∀ (d : Nat) (s : State), Filling P s → s.bufSize - 1 - s.nChars ≤ d →
      ∃ n, Filling P (run P (List.replicate n (.eob 1)) s) ∧
        (run P (List.replicate n (.eob 1)) s).nChars + 1 =
          (run P (List.replicate n (.eob 1)) s).bufSize := by
  intro d
  induction d with
  | zero =>
    intro s h hd
    have := h.inv.room
    exact ⟨0, h, by show s.nChars + 1 = s.bufSize; omega⟩
  | succ d ih =>
    intro s h hd
    by_cases hfull : s.nChars + 1 = s.bufSize
    · exact ⟨0, h, hfull⟩
    · have := h.inv.room
      obtain ⟨h', hlt⟩ := filling_step P hB hR hT s h (by omega)
      have hsz : (eobStep P 1 s).1.bufSize = s.bufSize := by rw [h'.size, h.size]
      obtain ⟨n, hn⟩ := ih _ h' (by rw [hsz]; omega)
      exact ⟨n + 1, hn⟩

theorem create_filling (P : Params) (hB : 0 < P.B) :
    Filling P (create P (List.replicate P.B 97)) where
  inv := create_inv (unseeded P) hB _
  text := rfl
  status := by simp [create, flush, loadBufferState]
  size := rfl
  supply := by
    show P.B ≤ 0 + (List.replicate P.B 97).length
    simp

/-- For all constants `YY_BUF_SIZE > 0`, `YY_READ_BUF_SIZE > 0`, the scanner with the seeded
test `num_to_read < 0` reaches a call of `YY_INPUT` for 0 bytes: on a stream of `YY_BUF_SIZE`
bytes in which the matcher finds no token end, after enough refills. -/
theorem seeded_breaks (P : Params) (hB : 0 < P.B) (hR : 0 < P.R) (hT : P.test = growTestSeeded) :
    ∃ n, ¬ ∀ a ∈ (run P (List.replicate (n + 1) (.eob 1)) (create P (List.replicate P.B 97))).log,
      a.ok := by
  obtain ⟨n, hf, hfull⟩ := filling_full P hB hR hT P.B _ (create_filling P hB)
    (by show P.B - 1 - 0 ≤ P.B; omega)
  refine ⟨n, ?_⟩
  have hrun : run P (List.replicate (n + 1) (.eob 1)) (create P (List.replicate P.B 97)) =
      (eobStep P 1 (run P (List.replicate n (.eob 1)) (create P (List.replicate P.B 97)))).1 := by
    rw [List.replicate_succ', run_snoc]
  rw [hrun]
  obtain ⟨alloc, hmem⟩ := seeded_zero_read P hT 1 _ hf.text hfull hf.status
  intro hall
  have := hall _ hmem
  simp only [Access.ok] at this
  omega

/-- Such a state with a token in progress (`yy_n_chars ≠ 0`), given by its integer fields: the
`YY_INPUT` for 0 bytes returns 0, which the scanner takes for end of input. -/
theorem seeded_full_buffer (P : Params) (hT : P.test = growTestSeeded) (k : Nat) (s : State)
    {b n c r : Nat} {st : Status} (hs : shadow s = ⟨b, n, 0, c, r, st⟩) (hfull : n + 1 = b)
    (hst : st ≠ .eofPending) (h0 : n ≠ 0) :
    (eobStep P k s).1.log.any zeroRead = true ∧ (eobStep P k s).2 = .lastMatch ∧
    sizes (eobStep P k s).1 = (b, n, 0, n, r) := by
  have hn : s.nChars = n := congrArg Shadow.nChars hs
  have hb : s.bufSize = b := congrArg Shadow.bufSize hs
  obtain ⟨alloc, hmem⟩ := seeded_zero_read P hT k s (congrArg Shadow.textPtr hs) (by omega)
    (by rw [show s.status = st from congrArg Shadow.status hs]; exact hst)
  have hS := eobStep_shadow P (seeded_test_le hT) k s (by omega)
  have h0' : numToRead b n = 0 := by unfold numToRead; omega
  have hg : Shadow.got P k b n r = 0 := by unfold Shadow.got; rw [h0']; split <;> omega
  have he : Shadow.eob P k ⟨b, n, 0, c, r, st⟩ = (⟨b, n, 0, n, r, .eofPending⟩, .lastMatch) := by
    simp [Shadow.eob, Shadow.read, Shadow.enter, Shadow.finish, Shadow.grown, h0', hg, hT,
      growTestSeeded, enteredStatus_eof, hst, h0]
  obtain ⟨h4, h5⟩ := Prod.mk.inj (hS.trans (hs ▸ he))
  exact ⟨List.any_eq_true.mpr ⟨_, hmem, rfl⟩, h5, sizes_of_shadow h4⟩

end Libconfig.C20BP
