import LibconfigModel.Properties.C03Term
import LibconfigModel.Proofs.C03StackAbs
/-
  C03S: the loop of `Parser.lean` (`yystep` over the translated tables) drives the
  memory model.  Every iteration that continues is a `Push` — a shift, or a reduction that pops
  fewer entries than the stack holds (`C03_no_underflow`) — and the memory model, fed with
  these pushes, holds the list of `Parser.lean` at every configuration the loop reaches, until
  that list has `YYMAXDEPTH` entries: then the memory model has reported "memory exhausted",
  and so does the next iteration of the loop (`C03_stack_limit`).
-/
namespace Libconfig.C03SP

open Libconfig Libconfig.BisonStack Libconfig.C03P Libconfig.C03T

variable {V : Type}

/-- the pushes on the idealised stack, one after the other -/
def applyAll (ps : List (Push V)) (stack : List (Nat × V)) : List (Nat × V) :=
  ps.foldl (fun st p => p.apply st) stack

/-- The memory model, started by `init` and driven by the pushes `ps`, tracks the idealised
stack `stack`: it holds it while it has fewer than `YYMAXDEPTH` entries, and has ended with
"memory exhausted" when it has `YYMAXDEPTH` entries (or more). -/
def Tracks (P : Params) (ps : List (Push V)) (stack : List (Nat × V)) : Prop :=
  (stack.length < P.M → Abs (BisonStack.run P (ps.map Push.toEvent) (init P)) stack) ∧
  (P.M ≤ stack.length → (BisonStack.run P (ps.map Push.toEvent) (init P : BisonStack.State V)).status = Status.done .nomem)

/-- one more push below the limit -/
theorem tracks_step (P : Params) (hP : P.OK) (ps : List (Push V)) (stack : List (Nat × V))
    (p : Push V) (ht : Tracks P ps stack) (hlt : stack.length < P.M) (hp : p.pops < stack.length) :
    Tracks P (ps ++ [p]) (p.apply stack) := by
  have ha := ht.1 hlt
  have hinv : Inv P (BisonStack.run P (ps.map Push.toEvent) (init P : BisonStack.State V)) :=
    run_inv P hP _ _ (init_inv P hP true)
  obtain ⟨b0, b1, b2, b3⟩ := push_abs P hP p _ stack hinv ha hp
  have hsz : (BisonStack.run P (ps.map Push.toEvent) (init P : BisonStack.State V)).stacksize ≤ P.M := by
    rw [hinv.size ha.1]; exact Nat.min_le_right _ _
  have hrun : BisonStack.run P ((ps ++ [p]).map Push.toEvent) (init P : BisonStack.State V) =
      BisonStack.step P (BisonStack.run P (ps.map Push.toEvent) (init P)) p.toEvent := by
    rw [List.map_append, List.map_singleton, run_append]
    rfl
  unfold Tracks
  rw [hrun]
  constructor
  · intro hl
    rcases Nat.lt_or_ge (p.apply stack).length
      (BisonStack.run P (ps.map Push.toEvent) (init P : BisonStack.State V)).stacksize with h1 | h1
    · exact (b1 h1).1
    · exact (b2 (by omega) (by omega)).1
  · intro hl
    exact b3 (by omega) (by omega)

theorem parserParams_ok : parserParams.OK := ⟨by decide, by decide, rfl⟩

/-- at the start the memory holds the one-entry stack of `yyparse` in `Parser.lean` -/
theorem tracks_init : Tracks parserParams ([] : List (Push TokVal)) [(0, {})] := by
  constructor
  · intro _
    exact ((init_abs parserParams parserParams_ok true ({} : TokVal)).1 (by decide)).1
  · intro h
    have : parserParams.M ≤ 1 := h
    exact absurd this (by decide)

/-- an iteration of the loop that continues, from a configuration the loop reaches, is a push
that leaves the bottom entry in place -/
theorem yystep_push (w : World) (c : Config) (fuel : Nat) (s : ScanState) (ctx : ParseCtx)
    (X Y : PState) (h : Reach (theEnv w c fuel) (initial s ctx) X)
    (hs : yystep (theEnv w c fuel) X = .inr Y) :
    ∃ p : Push TokVal, p.pops < X.stack.length ∧ Y.stack = p.apply X.stack := by
  obtain ⟨hne, _, _, hcase⟩ := yystep_inr _ X Y hs
  rcases hcase with ⟨t, v, a, _, _, _, hst, _⟩ | ⟨rule, hr⟩
  · exact ⟨.shift a.toNat v, List.length_pos_iff.mpr hne, hst⟩
  · obtain ⟨hlt, _, p, v, rest, yyval, hd, hst⟩ :=
      Libconfig.C03.C03_no_underflow_step w c fuel s ctx X Y h rule hs hr
    refine ⟨.reduce (Generated.parser.r2.get rule).toNat (gotoTarget Generated.parser rule p) yyval,
      hlt, ?_⟩
    rw [hst]
    show _ = (_, yyval) :: X.stack.drop _
    rw [hd]

/-- **The parser drives the memory model.**  For every configuration `X` the loop of
`Parser.lean` reaches from the start of `yyparse` there is a list of pushes — the shifts and
reductions of the iterations so far — that builds `X.stack` on the idealised machine and makes
the memory model track it. -/
theorem reach_tracks (w : World) (c : Config) (fuel : Nat) (s : ScanState) (ctx : ParseCtx)
    (X : PState) (h : Reach (theEnv w c fuel) (initial s ctx) X) :
    ∃ ps : List (Push TokVal), applyAll ps [(0, {})] = X.stack ∧ Tracks parserParams ps X.stack := by
  induction h with
  | refl => exact ⟨[], rfl, tracks_init⟩
  | @step Y Z hY hs ih =>
    obtain ⟨ps, hps, ht⟩ := ih
    obtain ⟨p, hp, hst⟩ := yystep_push w c fuel s ctx Y Z hY hs
    have hlt : Y.stack.length < parserParams.M := (yystep_stack _ Y Z hs).1
    refine ⟨ps ++ [p], ?_, ?_⟩
    · unfold applyAll at hps ⊢
      rw [List.foldl_append, hps, hst]
      rfl
    · rw [hst]
      exact tracks_step parserParams parserParams_ok ps Y.stack p ht hlt hp

/-! ### an executable driver, for examples -/

/-- the push the iteration `X → Y` made: a shift if a lookahead was needed (`yypact` of the top
state is not the default marker) and is gone afterwards, otherwise a reduction, popping
`|X.stack| + 1 - |Y.stack|` entries -/
def pushOf (E : ParserEnv) (X Y : PState) : Push TokVal :=
  match Y.stack with
  | [] => .shift 0 {}
  | (st, v) :: _ =>
    if (E.P.pact.get (topState X.stack) != E.P.pactNinf) && Y.la.isNone then .shift st v
    else .reduce (X.stack.length + 1 - Y.stack.length) st v

/-- `k` iterations of the loop from `X`: the pushes made and the configuration reached (`none`
if the loop ends earlier) -/
def pushesRun (E : ParserEnv) : Nat → PState → Option (List (Push TokVal) × PState)
  | 0, X => some ([], X)
  | k + 1, X =>
    match yystep E X with
    | .inr Y => (pushesRun E k Y).map (fun r => (pushOf E X Y :: r.1, r.2))
    | .inl _ => none

theorem pushesRun_reach (E : ParserEnv) : ∀ (k : Nat) (X Y : PState) (ps : List (Push TokVal)),
    pushesRun E k X = some (ps, Y) → Reach E X Y := by
  intro k
  induction k with
  | zero =>
    intro X Y ps h
    cases h
    exact .refl
  | succ k ih =>
    intro X Y ps h
    rw [pushesRun] at h
    generalize hs : yystep E X = o at h
    cases o with
    | inl r => cases h
    | inr Z =>
      simp only at h
      cases hr : pushesRun E k Z with
      | none => rw [hr] at h; cases h
      | some r =>
        rw [hr] at h
        cases h
        exact Reach.trans (.step .refl hs) (ih Z _ _ (by rw [hr]))

end Libconfig.C03SP
