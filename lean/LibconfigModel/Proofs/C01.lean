import LibconfigModel.StringSpec
import LibconfigModel.Scanner
import LibconfigModel.Properties.C08
import LibconfigModel.Proofs.Digits
/-
  Helper lemmas for property C01 (per-lexeme round trip of the writer's renderings): the integer
  renderings (with the digit lemmas of Proofs/Digits.lean), string escapes, the two keywords, the
  pieces of `libconfig_format_double`, and the shapes of the numbers the writer prints.
-/
namespace Libconfig.C01P

open Libconfig

export Libconfig.Digits (natToBaseAux_append digitsVal_snoc isDigit_digitChar isHexDigit_digitChar
  hexVal_digitChar natToDec_digits natToDec_ne_nil digitsVal_natToDec natToDec_head natToHex_digits
  natToHex_ne_nil digitsVal_natToHex)

theorem natToDec_zero : natToDec 0 = [48] := rfl

/-! ### decimal integers -/

/-- the sign the writer prints -/
def sgOf (v : Int) : Option Bool := if v < 0 then some true else none

theorem intToDec_eq (v : Int) : intToDec v = C08.signBytes (sgOf v) ++ natToDec v.natAbs := by
  unfold intToDec sgOf
  by_cases h : v < 0 <;> simp [h, C08.signBytes]

theorem literalValue_intToDec (v : Int) :
    C08.literalValue (sgOf v) (natToDec v.natAbs) = some v := by
  unfold C08.literalValue
  by_cases h0 : v.natAbs = 0
  · have hv : v = 0 := by omega
    subst hv
    decide
  · rw [if_neg (natToDec_head _ h0), digitsVal_natToDec]
    unfold C08.signed sgOf
    by_cases h : v < 0
    · simp only [if_pos h, C08.isNeg, if_true]; congr 1; omega
    · simp only [if_neg h, C08.isNeg, Bool.false_eq_true, if_false]; congr 1; omega

theorem fits64_of_fits32 (v : Int) (h : fits32 v = true) : fits64 v = true :=
  _root_.Libconfig.fits64_of_fits32 h

/-! ### hexadecimal integers -/

theorem pow32 : (2 : Int) ^ 32 = 4294967296 := by decide
theorem pow64 : (2 : Int) ^ 64 = 18446744073709551616 := by decide

theorem hex32_lt (v : Int) : (v % 4294967296).toNat < 4294967296 := by omega
theorem hex64_lt (v : Int) : (v % 18446744073709551616).toNat < 18446744073709551616 := by omega

theorem wrap32_hex (v : Int) (h : fits32 v = true) : wrap32 ((v % 4294967296).toNat : Nat) = v := by
  rw [Int.toNat_of_nonneg (Int.emod_nonneg _ (by decide)), wrap32_emod_arg, wrap32_of_fits h]

theorem wrap64_hex (v : Int) (h : fits64 v = true) :
    wrap64 ((v % 18446744073709551616).toNat : Nat) = v := by
  rw [Int.toNat_of_nonneg (Int.emod_nonneg _ (by decide)), wrap64_emod_arg, wrap64_of_fits h]

/-! ### strings -/

/-- one setting byte: what `escapeString` emits for it -/
def escByte (c : Nat) : Bytes :=
  if c == 34 || c == 92 then [92, c]
  else if c == 10 then [92, 110]
  else if c == 13 then [92, 114]
  else if c == 12 then [92, 102]
  else if c == 9 then [92, 116]
  else if c ≥ 32 then [c]
  else [92, 120, digitChar (c / 16), digitChar (c % 16)]

theorem escapeString_cons (c : Nat) (s : Bytes) : escapeString (c :: s) = escByte c ++ escapeString s :=
  List.flatMap_cons

/-- a byte the writer copies verbatim -/
def rawByte (c : Nat) : Bool := decide (32 ≤ c) && c != 34 && c != 92

/-- the two-byte escapes of the writer: the byte, the letter after the backslash, and the rule
of scanner.l that reads the pair -/
def escTable : List (Nat × Nat × Nat) :=
  [(34, 34, 18), (92, 92, 17), (10, 110, 12), (13, 114, 13), (12, 102, 16), (9, 116, 14)]

/-- the three kinds of bytes: copied, escaped with a letter, escaped as `\xHH` -/
theorem escByte_cases (c : Nat) :
    (rawByte c = true ∧ escByte c = [c]) ∨
    (rawByte c = false ∧ ∃ x r, (c, x, r) ∈ escTable ∧ escByte c = [92, x]) ∨
    (rawByte c = false ∧ c < 32 ∧ escByte c = [92, 120, digitChar (c / 16), digitChar (c % 16)]) := by
  by_cases h34 : c = 34
  · subst h34; exact .inr (.inl ⟨rfl, 34, 18, by decide, rfl⟩)
  by_cases h92 : c = 92
  · subst h92; exact .inr (.inl ⟨rfl, 92, 17, by decide, rfl⟩)
  by_cases h10 : c = 10
  · subst h10; exact .inr (.inl ⟨rfl, 110, 12, by decide, rfl⟩)
  by_cases h13 : c = 13
  · subst h13; exact .inr (.inl ⟨rfl, 114, 13, by decide, rfl⟩)
  by_cases h12 : c = 12
  · subst h12; exact .inr (.inl ⟨rfl, 102, 16, by decide, rfl⟩)
  by_cases h9 : c = 9
  · subst h9; exact .inr (.inl ⟨rfl, 116, 14, by decide, rfl⟩)
  have e : escByte c = if c ≥ 32 then [c] else [92, 120, digitChar (c / 16), digitChar (c % 16)] := by
    simp only [escByte, Bool.or_eq_true, beq_iff_eq, h34, h92, h10, h13, h12, h9, or_self, if_false]
  have hr : rawByte c = decide (32 ≤ c) := by
    rw [rawByte, bne_iff_ne.mpr h34, bne_iff_ne.mpr h92, Bool.and_true, Bool.and_true]
  by_cases h32 : c ≥ 32
  · exact .inl ⟨by rw [hr]; exact decide_eq_true h32, by rw [e, if_pos h32]⟩
  · exact .inr (.inr ⟨by rw [hr]; exact decide_eq_false h32, by omega, by rw [e, if_neg h32]⟩)

theorem escByte_raw {c : Nat} (h : rawByte c = true) : escByte c = [c] := by
  rcases escByte_cases c with ⟨_, e⟩ | ⟨h', _⟩ | ⟨h', _⟩
  · exact e
  · rw [h] at h'; cases h'
  · rw [h] at h'; cases h'

theorem escByte_esc {c : Nat} (h : rawByte c = false) : ∃ t, escByte c = 92 :: t := by
  rcases escByte_cases c with ⟨h', _⟩ | ⟨_, x, r, _, e⟩ | ⟨_, _, e⟩
  · rw [h] at h'; cases h'
  · exact ⟨_, e⟩
  · exact ⟨_, e⟩

theorem escByte_length_pos (c : Nat) : 1 ≤ (escByte c).length := by
  rcases escByte_cases c with ⟨_, e⟩ | ⟨_, x, r, _, e⟩ | ⟨_, _, e⟩ <;> rw [e] <;> exact Nat.succ_pos _

theorem rawByte_spec {c : Nat} (h : rawByte c = true) : 32 ≤ c ∧ c ≠ 34 ∧ c ≠ 92 := by
  simpa only [rawByte, Bool.and_eq_true, decide_eq_true_eq, bne_iff_ne, ne_eq, and_assoc] using h

theorem unescape_escByte (c f : Nat) (acc tail : Bytes) :
    unescape (f + 1) acc (escByte c ++ tail) = unescape f (acc ++ [c]) tail := by
  rcases escByte_cases c with ⟨hr, e⟩ | ⟨_, x, r, hx, e⟩ | ⟨_, hlt, e⟩ <;> rw [e]
  · simp only [List.cons_append, List.nil_append, unescape, beq_iff_eq, (rawByte_spec hr).2.1,
      (rawByte_spec hr).2.2, if_false]
  · have := (by decide : ∀ e ∈ escTable, escapeCode e.2.1 = some e.1) _ hx
    simp only [List.cons_append, List.nil_append, unescape, this]
    rfl
  · have hq : c / 16 < 16 := by omega
    have hr : c % 16 < 16 := by omega
    have hx : escapeCode 120 = none := rfl
    simp only [List.cons_append, List.nil_append, unescape, hx, isHexDigit_digitChar _ hq,
      isHexDigit_digitChar _ hr, hexVal_digitChar _ hq, hexVal_digitChar _ hr, Nat.div_add_mod' c 16]
    rfl

theorem unescape_escape (s : Bytes) : ∀ (fuel : Nat) (acc rest : Bytes),
    (escapeString s).length + 1 ≤ fuel →
    unescape fuel acc (escapeString s ++ [34] ++ rest) = some (acc ++ s, rest) := by
  induction s with
  | nil =>
    intro fuel acc rest hf
    cases fuel with
    | zero => omega
    | succ f => simp [escapeString, unescape]
  | cons c s ih =>
    intro fuel acc rest hf
    rw [escapeString_cons] at hf ⊢
    have := escByte_length_pos c
    simp only [List.length_append] at hf
    cases fuel with
    | zero => omega
    | succ f =>
      rw [List.append_assoc, List.append_assoc, unescape_escByte, ← List.append_assoc,
        ih f (acc ++ [c]) rest (by omega)]
      simp

/-! ### booleans: the two keywords as bytes -/

theorem bytes_true : bytesOfString "true" = [116, 114, 117, 101] := by decide +kernel

theorem bytes_false : bytesOfString "false" = [102, 97, 108, 115, 101] := by decide +kernel

/-! ### floats: characters and shape of `formatDouble` -/

open F64

/-- characters of a float rendering (copy of `C01.floatChar`, which is stated after the import) -/
def fc (c : Nat) : Bool := isDigit c || c == 45 || c == 43 || c == 46 || c == 101

def AllFc (l : Bytes) : Prop := ∀ c ∈ l, fc c = true

theorem fc_range {c : Nat} (h : fc c = true) : 0 < c ∧ c < 256 := by
  simp only [fc, isDigit, Bool.or_eq_true, Bool.and_eq_true, decide_eq_true_eq, beq_iff_eq] at h
  omega

theorem AllFc.append {a b : Bytes} (ha : AllFc a) (hb : AllFc b) : AllFc (a ++ b) := by
  intro c hc
  rcases List.mem_append.mp hc with h | h
  · exact ha c h
  · exact hb c h

theorem AllFc.cons {a : Nat} {b : Bytes} (ha : fc a = true) (hb : AllFc b) : AllFc (a :: b) := by
  intro c hc
  rcases List.mem_cons.mp hc with h | h
  · exact h ▸ ha
  · exact hb c h

theorem AllFc.nil : AllFc [] := by intro c hc; cases hc

theorem AllFc.sub {a b : Bytes} (hb : AllFc b) (h : ∀ c ∈ a, c ∈ b) : AllFc a :=
  fun c hc => hb c (h c hc)

theorem AllFc.take {a : Bytes} (n : Nat) (ha : AllFc a) : AllFc (a.take n) :=
  ha.sub fun _ h => List.mem_of_mem_take h

theorem mem_stripZeros {c : Nat} {ds : Bytes} (h : c ∈ stripZeros ds) : c ∈ ds := by
  unfold stripZeros at h
  rw [List.mem_reverse] at h
  exact List.mem_reverse.mp ((List.dropWhile_sublist _).subset h)

theorem AllFc.digits {a : Bytes} (h : ∀ c ∈ a, isDigit c = true) : AllFc a :=
  fun c hc => by simp [fc, h c hc]

/-- the digits/exponent pair computed by `fmtG` -/
def gDX (b p : Nat) : Nat × Int :=
  let m := mant b
  let e := expo b
  let (num, den) : Nat × Nat := if e ≥ 0 then (m * 2^e.toNat, 1) else (m, 2^((-e).toNat))
  let x0 := floorLog10 num den
  let sh : Int := x0 - (p : Int) + 1
  let d0 := if sh ≥ 0 then divRoundEven num (den * 10^sh.toNat) else divRoundEven (num * 10^((-sh).toNat)) den
  if d0 ≥ 10^p then (d0 / 10, x0 + 1) else (d0, x0)

/-- the rendering step of `fmtG` once digits and exponent are known -/
def gTail (sign : Bytes) (p d : Nat) (x : Int) : Bytes :=
  if x < -4 || x ≥ (p : Int) then
    let ds := pad0 p (natToDec d)
    let fp := stripZeros (ds.drop 1)
    let ex := natToDec x.natAbs
    let ex := if ex.length < 2 then 48 :: ex else ex
    sign ++ ds.take 1 ++ (if fp.isEmpty then [] else 46 :: fp) ++ [101, (if x < 0 then 45 else 43)] ++ ex
  else
    let fd : Nat := ((p : Int) - 1 - x).toNat
    let ds := pad0 (fd + 1) (natToDec d)
    let ip := ds.take (ds.length - fd)
    let fp := stripZeros (ds.drop (ds.length - fd))
    sign ++ ip ++ (if fp.isEmpty then [] else 46 :: fp)

theorem fmtG_eq (b p0 : Nat) :
    fmtG b p0 =
      if !isFinite b then nonFinite b else
      if mant b = 0 then (if signBit b then [45] else []) ++ [48] else
      gTail (if signBit b then [45] else []) (if p0 = 0 then 1 else p0)
        (gDX b (if p0 = 0 then 1 else p0)).1 (gDX b (if p0 = 0 then 1 else p0)).2 := rfl

/-- the post-processing of `libconfig_format_double` -/
def postProc (s : Bytes) : Bytes :=
  if s.contains 101 then s
  else if !s.contains 46 then s ++ [46, 48]
  else
    let ip := s.takeWhile (· != 46)
    let fp := (s.dropWhile (· != 46)).drop 1
    match fp with
    | [] => s
    | d :: ds => ip ++ [46, d] ++ F64.stripZeros ds

def rawText (bufLen b p : Nat) (sci : Bool) : Bytes :=
  if sci && isFinite b && isInf (strtod ((if sci then fmtG b p else fmtF b p).take (bufLen - 4)))
  then fmtG b 17 else (if sci then fmtG b p else fmtF b p)

theorem formatDouble_eq (bufLen b p : Nat) (sci : Bool) :
    formatDouble bufLen b p sci = postProc ((rawText bufLen b p sci).take (bufLen - 4)) := rfl

theorem postProc_shape (s : Bytes) (hs : AllFc s) :
    AllFc (postProc s) ∧ ((postProc s).contains 46 = true ∨ (postProc s).contains 101 = true) := by
  unfold postProc
  split
  · rename_i h; exact ⟨hs, .inr h⟩
  · split
    · exact ⟨hs.append (AllFc.cons (by decide) (AllFc.cons (by decide) AllFc.nil)), .inl (by simp)⟩
    · rename_i h46
      simp only []
      split
      · exact ⟨hs, .inl (by simpa using h46)⟩
      · rename_i d ds hfp
        have hsub : ∀ c ∈ d :: ds, c ∈ s := by
          intro c hc
          rw [← hfp] at hc
          exact (List.dropWhile_sublist _).subset (List.mem_of_mem_drop hc)
        refine ⟨?_, .inl (by simp)⟩
        refine AllFc.append (AllFc.append (hs.sub fun c hc => (List.takeWhile_sublist _).subset hc) ?_) ?_
        · exact AllFc.cons (by decide) (AllFc.cons (hs d (hsub d (by simp))) AllFc.nil)
        · exact hs.sub fun c hc => hsub c (List.mem_cons_of_mem _ (mem_stripZeros hc))

end Libconfig.C01P

/-! ### the shape of the numbers the writer prints -/

namespace Libconfig.C01L

def AllDigits (ds : Bytes) : Prop := ∀ d ∈ ds, isDigit d = true

def signBytes (neg : Bool) : Bytes := if neg then [45] else []

/-- nothing, or a point and digits -/
def FracP (fp : Bytes) : Prop := fp = [] ∨ ∃ ds, fp = 46 :: ds ∧ AllDigits ds

/-- nothing, or `e`, a sign and at least one digit -/
def ExpP (ex : Bytes) : Prop :=
  ex = [] ∨ ∃ s ds, ex = 101 :: s :: ds ∧ (s = 43 ∨ s = 45) ∧ ds ≠ [] ∧ AllDigits ds

/-- the shape of a float literal the writer can produce:
`-?digits(.digits)?(e[+-]digits)?` with a point or an exponent -/
def FloatLit (text : Bytes) : Prop :=
  ∃ neg ip fp ex, text = signBytes neg ++ ip ++ fp ++ ex ∧ ip ≠ [] ∧ AllDigits ip ∧ FracP fp ∧ ExpP ex ∧
    (fp ≠ [] ∨ ex ≠ [])

open C01P

theorem signBytes_fc (neg : Bool) : AllFc (signBytes neg) := by
  cases neg
  · exact .nil
  · exact .cons (by decide) .nil

theorem ExpP.allFc {ex : Bytes} (h : ExpP ex) : AllFc ex := by
  rcases h with rfl | ⟨sg, ds, rfl, hsg, _, hds⟩
  · exact .nil
  · exact .cons (by decide) (.cons (by rcases hsg with rfl | rfl <;> decide) (.digits hds))

theorem FloatLit.allFc {text : Bytes} (h : FloatLit text) : AllFc text := by
  obtain ⟨neg, ip, fp, ex, rfl, _, hip, hfp, hex, _⟩ := h
  refine (((signBytes_fc neg).append (.digits hip)).append ?_).append hex.allFc
  rcases hfp with rfl | ⟨ds, rfl, hds⟩
  · exact .nil
  · exact .cons (by decide) (.digits hds)

end Libconfig.C01L
