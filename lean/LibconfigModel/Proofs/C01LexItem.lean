import LibconfigModel.Proofs.C01LexYy
import LibconfigModel.Properties.C01
import LibconfigModel.Properties.C18
/-
  C01L, one item — every good item other than a string literal is one
  lexeme of the INITIAL start condition, for the table-driven matcher and for the documented
  rule list (through `C18_equiv`), and the action of its rule returns the token the item denotes.
-/
namespace Libconfig.C01L
open Flex ScanSpec

/-- the items the theorem covers, with the side conditions under which the scanner reads
them back -/
def GoodTok : WTok → Prop
  | .ws b => b = [10] ∨ (b ≠ [] ∧ ∀ x ∈ b, isBlank x = true)
  | .name nm => validName nm = true ∧ isBoolWord nm = false
  | .assign c => c = 61 ∨ c = 58
  | .semi => True
  | .comma => True
  | .punct c => c = 40 ∨ c = 41 ∨ c = 91 ∨ c = 93 ∨ c = 123 ∨ c = 125
  | .bool _ => True
  | .int bits v _ => (bits = 32 ∧ fits32 v = true) ∨ (bits = 64 ∧ fits64 v = true)
  | .float _ text => FloatLit text ∧ F64.isInf (F64.strtod text) = false
  | .str s => ∀ b ∈ s, 1 ≤ b ∧ b < 256
  | .unknown => False

/-- the bytes that may follow an item without changing how it is read -/
def itemFollow : WTok → Nat → Bool
  | .ws b => if b = [10] then (fun _ => true) else blankFollow
  | .name _ => delim
  | .bool _ => delim
  | .int .. => delim
  | .float .. => delim
  | _ => fun _ => true

/-- the scanner rule (number in scanner.l) that reads the item; 0 for a string literal, which
takes several rules, and for `???` -/
def itemRule : WTok → Nat
  | .ws b => if b = [10] then 28 else 29
  | .name _ => 36
  | .assign _ => 30
  | .semi => 46
  | .comma => 31
  | .punct c => punctRule c
  | .bool v => if v then 34 else 35
  | .int bits _ hex => if bits == 64 then (if hex then 41 else 39) else (if hex then 40 else 38)
  | .float .. => 37
  | .str _ => 0
  | .unknown => 0

def isStr : WTok → Bool
  | .str _ => true
  | _ => false

theorem blank_ne_nl {b : Bytes} (hb : ∀ x ∈ b, isBlank x = true) : b ≠ [10] := by
  intro e; subst e
  exact absurd (hb 10 (List.mem_singleton_self _)) (by decide)

theorem bool_bytes (v : Bool) : (WTok.bool v).bytes = kwWord v := by
  cases v
  · exact C01P.bytes_false
  · exact C01P.bytes_true

theorem int_bytes (bits : Nat) (v : Int) (hex : Bool) (hb : bits = 32 ∨ bits = 64) :
    (WTok.int bits v hex).bytes =
      (if hex then [48, 120] ++ hexOfInt bits v else intToDec v) ++ (if bits = 64 then [76] else []) := by
  rcases hb with rfl | rfl <;> rfl

/-- integers: decimal (rule 38), decimal with `L` (39), `0x…` (40), `0x…L` (41) -/
theorem lex_int (bits : Nat) (v : Int) (hex : Bool) (hb : bits = 32 ∨ bits = 64) :
    Lexeme (WTok.int bits v hex).bytes (itemRule (.int bits v hex)) delim := by
  obtain ⟨neg, ds, hds, hne, hdig⟩ := intToDec_shape v
  have hx := C01P.natToHex_ne_nil (v % (2 ^ bits : Int)).toNat
  have hxd := C01P.natToHex_digits (v % (2 ^ bits : Int)).toNat
  rw [int_bytes bits v hex hb, hds]
  rcases hb with rfl | rfl <;> cases hex
  · exact List.append_nil _ ▸ lex_dec neg ds hne hdig
  · exact List.append_nil _ ▸ lex_hex _ hx hxd
  · exact lex_dec64 neg ds hne hdig
  · exact lex_hex64 _ hx hxd

theorem item_lexeme (t : WTok) (hg : GoodTok t) (hns : isStr t = false) :
    Lexeme t.bytes (itemRule t) (itemFollow t) := by
  cases t with
  | ws b =>
    rcases hg with rfl | ⟨hne, hb⟩
    · exact lex_punct 10 (by decide)
    · simp only [itemRule, itemFollow, if_neg (blank_ne_nl hb)]
      exact lex_blank b hne hb
  | name nm => exact (lex_name nm hg.1 hg.2).weaken delim_nameFollow
  | assign c => rcases hg with rfl | rfl <;> exact lex_punct _ (by decide)
  | semi => exact lex_punct 59 (by decide)
  | comma => exact lex_punct 44 (by decide)
  | punct c => rcases hg with rfl | rfl | rfl | rfl | rfl | rfl <;> exact lex_punct _ (by decide)
  | bool v =>
    rw [bool_bytes]
    exact (lex_boolword v _ (by cases v <;> decide) (by cases v <;> decide)).weaken delim_nameFollow
  | int bits v hex => exact lex_int bits v hex (hg.imp And.left And.left)
  | float b text => exact lex_float hg.1
  | str x => cases hns
  | unknown => exact hg.elim

/-- **one item, one lexeme, table side**: the compiled matcher, in INITIAL, at or away from the beginning of a
line, on the item followed by anything that starts with one of its delimiters, selects the
item's rule and exactly the item's bytes -/
theorem item_next (t : WTok) (hg : GoodTok t) (hns : isStr t = false) (rest : Bytes)
    (hf : FollowOK (itemFollow t) rest) (bol : Bool) :
    next T 0 bol (t.bytes ++ rest) = some (itemRule t, t.bytes.length) :=
  (item_lexeme t hg hns).next bol rest hf

/-- **… specification side**: the same for the documented rule list — `t.bytes` is the
longest prefix matched by an active rule, and `itemRule t` is the earliest rule matching it -/
theorem item_selects (t : WTok) (hg : GoodTok t) (hns : isStr t = false) (rest : Bytes)
    (hf : FollowOK (itemFollow t) rest) (hrest : ∀ b ∈ rest, b < 256) (bol : Bool) :
    Selects documented 0 bol (t.bytes ++ rest) (itemRule t) t.bytes.length := by
  have hb : ∀ b ∈ t.bytes ++ rest, b < 256 := mem_append_lt (item_lexeme t hg hns).lt hrest
  rw [← C18.C18_flex_longest_first 0 (by omega) bol _ hb]
  exact item_next t hg hns rest hf bol

theorem item_action (t : WTok) (hg : GoodTok t) (hns : isStr t = false) (s : ScanState) :
    actOut (acts.getD (itemRule t) .unknown) s t.bytes = some (s, tokOut (t.token Generated.tokens)) := by
  cases t with
  | ws b =>
    rcases hg with rfl | ⟨_, hb⟩
    · rfl
    · simp only [itemRule, if_neg (blank_ne_nl hb)]; rfl
  | name nm => rfl
  | assign c => rcases hg with rfl | rfl <;> rfl
  | semi => rfl
  | comma => rfl
  | punct c => rcases hg with rfl | rfl | rfl | rfl | rfl | rfl <;> rfl
  | bool v => cases v <;> rfl
  | int bits v hex =>
    rw [int_bytes bits v hex (hg.imp And.left And.left)]
    rcases hg with ⟨rfl, hfit⟩ | ⟨rfl, hfit⟩ <;> cases hex
    · exact congrArg (fun x => some (s, tokOut (some x)))
        ((List.append_nil _).symm ▸ C01.C01_int_dec 259 261 277 v hfit)
    · exact congrArg (fun x => some (s, tokOut (some x)))
        ((List.append_nil _).symm ▸ C01.C01_int_hex 260 277 v hfit)
    · exact congrArg (fun x => some (s, tokOut (some x))) (C01.C01_int64_dec 261 277 v hfit)
    · exact congrArg (fun x => some (s, tokOut (some x))) (C01.C01_int64_hex 262 277 v hfit)
  | float b text => exact congrArg (fun x => some (s, tokOut (some x))) (C01.C01_float_readback 263 277 _ hg.2)
  | str x => cases hns
  | unknown => exact hg.elim

section
variable (w : World) (ic : IncludeCfg) {K : Ctx}

theorem yylex_item₁ (t : WTok) (hg : GoodTok t) (hns : isStr t = false) (rest : Bytes)
    (hf : FollowOK (itemFollow t) rest) (s : ScanState) (hs : Ready K s (t.bytes ++ rest)) :
    ∃ s', Ready K s' rest ∧
      ∀ f, yylex T acts w ic (f + 1) s =
        (match t.token Generated.tokens with
         | none => yylex T acts w ic f s'
         | some tv => (s', .tok tv.1 tv.2)) :=
  ⟨advance T s (itemRule t) t.bytes.length, hs.adv _,
    yylex_lexeme w ic (item_lexeme t hg hns) hf hs.sc hs.rest (item_action t hg hns _)⟩

end
end Libconfig.C01L
