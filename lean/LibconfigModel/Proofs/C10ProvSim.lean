import LibconfigModel.Proofs.C02DenoteSim
import LibconfigModel.Proofs.C10ProvStep
import LibconfigModel.Proofs.C10ProvSpec
/-
  The simulation, part 1.  Bison's loop over the compiled tables follows the joint interpreter of
  Proofs/DenoteJoint.lean as far as the interpreter gets (`Sim`): where it reads a value the loop
  arrives with EXACTLY its tree (source positions included) in place; where it rejects the text the
  loop aborts with the message, in the scan state right after the token `reportAt` names.  With or
  without include errors.  The items the interpreter is given may be the rest of the text or a part
  of it: the loop is in front of them and of ONE more token (`InpI … tv …`), the end marker or any
  token that does not continue the reading; a reading that is rejected has the rest of the text.
  Here: scalars (adjacent strings included) in every context that allows one, and the elements of
  an array.  The stamps the interpreter is run with are `stampAt pos`:
  the token with `k` items from it to the end of the text is stamped with the line counter and the
  current file of `pos k`, the scan state right after that token was returned.
-/
namespace Libconfig.C10Prov
open Libconfig C02P C05P C02C C01PP C04 C04R Denote C02D C09L

/-- the stamps of a run: the position a grammar action records when it runs right after the token
`k` -/
def stampAt (pos : Nat → ScanState) : Nat → Stamp := fun k => stampOf (pos k)

/-- the loop follows the interpreter as far as the interpreter gets; `Good` is where the loop
arrives when the interpreter reads something -/
def Sim (E : ParserEnv) (plain : Bool) (pos : Nat → ScanState) (a : MC) {α : Type}
    (res : Denote.ResAt α) (Good : α → List Denote.Item → MC → Prop) : Prop :=
  match res with
  | .ok x rest => ∃ b, Reaches E a b ∧ Good x rest b
  | .error k w => AbortsAt E plain a k.text (pos (reportAt k w).length)

/-- The reading is rejected.  The statements of the simulation ask for something about the end
token only under this condition (`Rejects res → endK tv = 0`: what is rejected is a whole text,
for the parser finds a syntax error by reductions that depend on the token it sees, and on the
stack below, all the way down) — a reading that succeeds may stand in the middle of a text. -/
def Rejects {α : Type} (res : Denote.ResAt α) : Prop := ∃ k w, res = .error k w

theorem Rejects.error {α : Type} {k : ErrKind} {w : List Denote.Item} :
    Rejects (.error k w : Denote.ResAt α) := ⟨k, w, rfl⟩

theorem Rejects.not_ok {α : Type} {x : α} {rest : List Denote.Item} :
    ¬ Rejects (.ok x rest : Denote.ResAt α) := fun ⟨_, _, h⟩ => nomatch h

theorem Rejects.imp {α β : Type} {r : Denote.ResAt α} {r' : Denote.ResAt β}
    (h : ∀ k w, r = .error k w → r' = .error k w) : Rejects r → Rejects r' :=
  fun ⟨k, w, e⟩ => ⟨k, w, h k w e⟩

theorem Sim.of_reaches {E : ParserEnv} {plain : Bool} {pos : Nat → ScanState} {a a' : MC}
    {α : Type} {res : Denote.ResAt α} {Good : α → List Denote.Item → MC → Prop}
    (h1 : Reaches E a a') (h2 : Sim E plain pos a' res Good) : Sim E plain pos a res Good := by
  cases res with
  | ok x rest =>
    obtain ⟨b, hb, hg⟩ := h2
    exact ⟨b, h1.trans hb, hg⟩
  | error k w => exact AbortsAt.of_reaches h1 h2

theorem Sim.mono {E : ParserEnv} {plain : Bool} {pos : Nat → ScanState} {a : MC} {α : Type}
    {res : Denote.ResAt α} {Good Good' : α → List Denote.Item → MC → Prop}
    (h : Sim E plain pos a res Good) (hg : ∀ x rest b, Good x rest b → Good' x rest b) :
    Sim E plain pos a res Good' := by
  cases res with
  | ok x rest =>
    obtain ⟨b, hb, hgood⟩ := h
    exact ⟨b, hb, hg _ _ _ hgood⟩
  | error k w => exact h

/-- the configuration after a value has been read into its slot -/
def AfterValueP (E : ParserEnv) (plain : Bool) (pos : Nat → ScanState) (tv : Nat × TokVal) (o : Options)
    (qv q : Nat) (vq : TokVal) (stk : List (Nat × TokVal)) (K : Node → Node) (pp : Path) (pn : Node) (pre : List Node)
    (d : Nat) (x : Node) (rest : List Denote.Item) (b : MC) : Prop :=
  ∃ la sc ctx vv, b = ⟨(qv, vv) :: (q, vq) :: stk, la, sc, ctx⟩ ∧ InpI E plain pos tv la sc rest ∧
    FilledP K pp pn pre x ctx ∧ Inv plain o ctx ∧ nestS d rest ≤ 1665

section
variable {E : ParserEnv} {plain : Bool} {pos : Nat → ScanState} {o : Options} {tv : Nat × TokVal}

theorem slotStamp_key (mk : Option Nat) (items : List Denote.Item) :
    slotStamp (mk.map (stampAt pos)) (pos (elemKey items)).buf.lineno
      (pos (elemKey items)).currentFilename = stampAt pos (keyOf mk items) := by
  cases mk <;> rfl

/-! ### scalars -/

section
variable {K : Node → Node} {pp : Path} {pn : Node} {st : Option Path} {pre : List Node}
  {nm : Option Bytes}

theorem tok1_elemKey {it : Denote.Item} {k s r ty : Nat} {act : ParseAct} (h : Tok1 it k s r act ty)
    (rest : List Denote.Item) : elemKey (it :: rest) = rest.length + 1 := by
  cases h <;> rfl

theorem tok1_built {it : Denote.Item} {k s r ty : Nat} {act : ParseAct} (h : Tok1 it k s r act ty)
    {tl rest : List Denote.Item} {x0 : Node} (hs : scalar nm (it :: tl) = some (x0, rest))
    {v : TokVal} (hvr : ValRel it v) (ctx : ParseCtx) : builtBy ctx v nm act = x0 := by
  cases h
  all_goals simp only [scalar, Option.some.injEq, Prod.mk.injEq] at hs
  all_goals obtain ⟨rfl, rfl⟩ := hs
  all_goals subst hvr
  all_goals rfl

/-- a one-token scalar that fits: shift it, reduce `simple_value: TOKEN` running its action — in
the scan state right after the token, for the state reduces without consulting the lookahead —
which fills the slot with the node the interpreter builds -/
theorem sim_tok1_ok (hE : Compiled E) {q qs : Nat} (hC : ScalCtx q qs) {it : Denote.Item}
    {tl rest : List Denote.Item} {k s r : Nat} {act : ParseAct} {x0 : Node} {mk : Option Nat}
    (ht : Tok1 it k s r act x0.ty) (hs : scalar nm (it :: tl) = some (x0, rest))
    {vq : TokVal} {stk : List (Nat × TokVal)} {la : Lookahead} {sc : ScanState} {ctx : ParseCtx}
    (hd : stk.length + 2 < 10000) (hinv : Inv plain o ctx) (hV : View ctx K pp pn none st)
    (hS : SlotP st pp pn pre nm (mk.map (stampAt pos)))
    (hck : pn.ty = T_ARRAY → checkType pn x0.ty = true)
    (hI : InpI E plain pos tv la sc (it :: rest)) :
    ∃ la' sc' ctx' vv, Reaches E ⟨(q, vq) :: stk, la, sc, ctx⟩
        ⟨(qs, vv) :: (q, vq) :: stk, la', sc', ctx'⟩ ∧
      InpI E plain pos tv la' sc' rest ∧
      FilledP K pp pn pre (stamped x0 (stampAt pos (keyOf mk (it :: rest)))) ctx' ∧
      Inv plain o ctx' := by
  obtain ⟨hkc, hs0, hsf, hdf, hrule, -⟩ := ht.table
  obtain ⟨v, sc1, ctx1, hR1, hI1, hS1, hvr, hsc1, -⟩ := hI.shift hE (v0 := vq) (rest := stk)
    (ctx := ctx) (room 1 hd) hC.notFinal hkc (tok1_shift hC ht) hs0
  obtain ⟨la2, ctx2, vv, hR2, hI2, hP2, hinv2⟩ := hI1.reduceAt hE
    (Post := FilledP K pp pn pre (stamped x0 (stampAt pos (keyOf mk (it :: rest)))))
    (pushed := [(s, v)]) (p := q) (vp := vq) (rest := stk) rfl rfl (room 2 hd) hsf
    (fun k _ _ => hdf.red k) hrule rfl hC.gSimple (hinv.of_same hS1)
    (by rw [if_pos (by rw [hdf.ninf]; exact beq_self_eq_true _)])
    (fun ctx₁ hs' => by
      obtain ⟨σ, hσ, hty, -⟩ := ht.spec ctx₁ v
      rw [hsc1, ← tok1_elemKey ht rest]
      have := act_scalarP ((hV.of_same hS1.sem).of_same hs'.sem) hS hσ (fun _ => rfl)
        (hty ▸ hck) (pos (elemKey (it :: rest))).buf.lineno
        (pos (elemKey (it :: rest))).currentFilename
      rwa [tok1_built ht hs hvr, slotStamp_key] at this)
  exact ⟨la2, _, ctx2, vv, hR1.trans hR2, hI2, hP2, hinv2⟩

/-- a scalar (adjacent string literals are one), in any context that admits one.  If it fits,
the loop arrives with exactly the interpreter's node in the slot.  If it does not fit its array,
the action reports it: at its own token — or, if it is a string, at the token behind its last
literal (the state for `simple_value: string` consults the lookahead) -/
theorem sim_scalar (hE : Compiled E) {q qs : Nat} (hC : ScalCtx q qs)
    {items rest : List Denote.Item} {x : Node} {mk : Option Nat}
    (hs : scalarP (stampAt pos) nm mk items = some (x, rest))
    {vq : TokVal} {stk : List (Nat × TokVal)} {la : Lookahead} {sc : ScanState} {ctx : ParseCtx}
    (hd : stk.length + 4 < 10000) (hI : InpI E plain pos tv la sc items)
    (hV : View ctx K pp pn none st) (hS : SlotP st pp pn pre nm (mk.map (stampAt pos)))
    (hinv : Inv plain o ctx) (he : endK tv ≠ 9) :
    ((pn.ty = T_ARRAY → checkType pn x.ty = true) →
      ∃ la' sc' ctx' vv, Reaches E ⟨(q, vq) :: stk, la, sc, ctx⟩
          ⟨(qs, vv) :: (q, vq) :: stk, la', sc', ctx'⟩ ∧
        InpI E plain pos tv la' sc' rest ∧ FilledP K pp pn pre x ctx' ∧ Inv plain o ctx') ∧
    (pn.ty = T_ARRAY → checkType pn x.ty = false →
      AbortsAt E plain ⟨(q, vq) :: stk, la, sc, ctx⟩ Generated.ERR_ARRAY_ELEM_TYPE
        (pos (reportAt .arrayElemType (lastLiteral items)).length)) := by
  obtain ⟨x0, hs0, rfl⟩ := scalarP_some hs
  rw [stamped_ty]
  cases items with
  | nil => simp [scalar] at hs0
  | cons it tl =>
    by_cases hstr : ∃ s, it = .string s
    · obtain ⟨s, rfl⟩ := hstr
      simp only [scalar, Option.some.injEq, Prod.mk.injEq] at hs0
      obtain ⟨rfl, rfl⟩ := hs0
      obtain ⟨v, sc1, ctx1, hR1, hI1, hS1, hvr, -⟩ := hI.shift hE (v0 := vq) (rest := stk)
        (ctx := ctx) (it := .string s) (k := 9) (room 1 hd) hC.notFinal (fun _ h => h) hC.string
        (by decide)
      have hvs : v.sval = s := hvr
      obtain ⟨la2, sc2, ctx2, vv2, hR2, hI2, hP2, hinv2⟩ := hI1.reduceI hE
        (Post := fun c2 => View c2 K pp pn (some s) st)
        (pushed := [(15, v)]) (p := q) (vp := vq) (rest := stk) rfl rfl (room 2 hd)
        (by decide) (fun k h23 _ => red_15 k h23) rule_21 rfl hC.gString (hinv.of_same hS1)
        (fun ctx₁ l f hs => by
          obtain ⟨c2, h1, h2⟩ := act_stringFirst ((hV.of_same hS1.sem).of_same hs.sem) v l f
          rw [hvs] at h2
          exact ⟨c2, h1, h2⟩)
      obtain ⟨la3, sc3, ctx3, vv3, hR3, hI3, hV3, hinv3⟩ := sim_strings hE hC tl s vq vv2 stk la2 sc2
        ctx2 (room 3 hd) hI2 hP2 hinv2
      have hR := (hR1.trans hR2).trans hR3
      have hred : ∀ k < 23, normK k = hkE (endK tv) (strings tl).2 → redOK P 22 k 29 = true :=
        fun k h23 hn => red_22 k h23 (ne_of_hk hn rfl (hkE_ne (fun _ => he) (hk_ne_9 (strings_head tl))))
      have hlook : pos (strings tl).2.length =
          (if (P.pact.get 22 == P.pactNinf) = true then sc3 else pos (strings tl).2.length) := by
        rw [if_neg (by simpa using nn_22)]
      -- `simple_value: string`, run when the token BEHIND the last literal has been seen
      refine ⟨fun hck => ?_, fun hpa hck => ?_⟩
      · obtain ⟨la4, ctx4, vv4, hR4, hI4, hP4, hinv4⟩ := hI3.reduceAt hE
          (Post := FilledP K pp pn pre
            (stamped { name := nm, ty := T_STRING, sval := some (s ++ (strings tl).1) }
              (stampAt pos (keyOf mk (.string s :: tl)))))
          (pushed := [(22, vv3)]) (p := q) (vp := vq) (rest := stk) rfl rfl (room 2 hd)
          (by decide) hred rule_29 rfl hC.gSimple hinv3 hlook
          (fun ctx₁ hs => by
            have := act_scalarP (hV3.of_same hs.sem) hS (act := .valString) (v := vv3) rfl
              (nomatch · rfl) hck (pos (strings tl).2.length).buf.lineno
              (pos (strings tl).2.length).currentFilename
            rwa [builtBy, (hV3.of_same hs.sem).str,
              show (strings tl).2.length = elemKey (.string s :: tl) from rfl, slotStamp_key] at this)
        exact ⟨la4, _, ctx4, vv4, hR.trans hR4, hI4, hP4, hinv4⟩
      · rw [report_string]
        refine AbortsAt.of_reaches hR ?_
        exact hI3.abort hE (stk := (22, vv3) :: (q, vq) :: stk) rfl (room 2 hd) (by decide) hred
          rule_29 hlook
          (fun ctx₁ l f hs => ⟨_, act_mismatch (act := .valString) (v := vv3) rfl
              (hV3.of_same hs.sem) hpa hck l f,
            fun hp =>
              ⟨yyerror_text (ctx := { ctx₁ with str := none }) ((hinv3.of_same hs).err hp) _ _,
                yyerror_line (ctx := { ctx₁ with str := none }) ((hinv3.of_same hs).err hp) _ _⟩⟩)
    ·
      have hns : ∀ s, it ≠ .string s := fun s h => hstr ⟨s, h⟩
      obtain ⟨rfl, k, s, r, act, ht⟩ := scalar_tok1 hs0 hns
      exact ⟨fun hck => sim_tok1_ok hE hC ht hs0 (room 2 hd) hinv hV hS hck hI,
        fun hpa hck => sim_tok1_mismatch hE hC ht (room 2 hd) hinv hV hI hpa hck⟩

end

/-! ### arrays -/

theorem sim_arrayRest (hE : Compiled E) {q qv : Nat} (hC : ValCtx q qv) (ty : Nat) :
    ∀ (fuel : Nat) (acc : List Node) (items : List Denote.Item) (v33 v25 v16 vq : TokVal)
      (stk : List (Nat × TokVal)) (la : Lookahead) (sc : ScanState) (ctx : ParseCtx)
      (K : Node → Node) (pp : Path) (pn : Node) (pre : List Node) (a : Node) (st : Option Path)
      (d : Nat),
    items.length < fuel → stk.length + 1 ≤ 6 * d + 5 → InpI E plain pos tv la sc items → Hole K pp →
    View ctx (fun y => K { pn with kids := pre ++ [y] }) (pp ++ [pre.length]) a none st →
    a.ty = T_ARRAY → a.kids = acc →
    (∃ k0 tl, a.kids = k0 :: tl ∧ k0.ty = ty) → Inv plain o ctx →
    nestS (d + 1) items ≤ 1665 → endK tv ≠ 9 →
    (Rejects (arrayRestJ (stampAt pos) ty fuel acc items) → endK tv = 0) →
    Sim E plain pos ⟨(33, v33) :: (25, v25) :: (16, v16) :: (q, vq) :: stk, la, sc, ctx⟩
      (arrayRestJ (stampAt pos) ty fuel acc items)
      (fun elems rest b => AfterValueP E plain pos tv o qv q vq stk K pp pn pre d
        { a with kids := elems } rest b) := by
  intro fuel
  induction fuel with
  | zero => intro acc items _ _ _ _ _ _ _ _ _ _ _ _ _ _ _ hf; exact absurd hf (Nat.not_lt_zero _)
  | succ fuel ih =>
    intro acc items v33 v25 v16 vq stk la sc ctx K pp pn pre a st d hf hd hI hH hV haty hacc
      hhead hinv hnest he herr
    have hd1 : d + 1 ≤ 1665 := Nat.le_trans (le_nestS _ _) hnest
    have hroom : stk.length + 8 < 10000 := by omega
    cases arrayRestView items with
    | done r' =>
      rw [arrayRestJ]
      -- `simple_value_list_optional: simple_value_list`
      obtain ⟨la1, sc1, ctx1, vv1, hR1, hI1, hS1⟩ := hI.reduce0 hE (ctx := ctx)
        (pushed := [(33, v33)]) (p := 25) (vp := v25) (rest := (16, v16) :: (q, vq) :: stk)
        rfl rfl (room 4 hroom) (by decide) (fun k h23 hn => red_33 k h23 (ne_of_hk hn rfl (by simp [hk])))
        rule_39 rfl go_25_svlo
      -- `]`
      obtain ⟨la2, sc2, ctx2, vv2, st2, hR2, hI2, hV2, hinv2⟩ := sim_close hE hC.gValue
        (close := .arrayEnd) (k := 14) (fun _ h => h) sh_34_arrayEnd (by decide) (by decide)
        (by decide) (by decide) red_41 rule_14 hC.gArray red_19 rule_18
        (v3 := vv1) (v2 := v25) (v1 := v16) (vq := vq) (stk := stk)
        (room 5 hroom) hH (hV.of_same hS1.sem) (hinv.of_same hS1) hI1
      refine ⟨_, hR1.trans hR2, la2, sc2, ctx2, vv2, rfl, hI2, ⟨st2, ?_⟩, hinv2, ?_⟩
      · rw [← hacc, ← node_kids_eq rfl]
        exact hV2
      · exact Nat.le_trans (nestS_close (.inl rfl)) hnest
    | comma rest' =>
      rw [arrayRestJ] at herr ⊢
      have hnest' : nestS (d + 1) rest' ≤ 1665 := by
        rw [nestS_flat rfl] at hnest; exact hnest
      obtain ⟨v, sc1, ctx1, hR1, hI1', hS1, -⟩ := hI.shift hE (v0 := v33)
        (rest := (25, v25) :: (16, v16) :: (q, vq) :: stk) (ctx := ctx) (it := .comma) (k := 17)
        (room 4 hroom) (by decide) (fun _ h => h) sh_33_comma (by decide)
      have hV1 := hV.of_same hS1.sem
      have hinv1 := hinv.of_same hS1
      cases hs : scalarP (stampAt pos) none none rest' with
      | none =>
        rw [hs] at herr
        simp only at herr ⊢
        -- an array that ends here is rejected
        have hend : rest' = [] → endK tv = 0 := fun h => by
          subst h
          cases fuel <;> exact herr .error
        -- `simple_value_list: simple_value_list ,`
        obtain ⟨la2, sc2, ctx2, vv2, hR2, hI2, hS2⟩ := hI1'.reduce0 hE (ctx := ctx1)
          (pushed := [(40, v), (33, v33)]) (p := 25) (vp := v25)
          (rest := (16, v16) :: (q, vq) :: stk)
          rfl rfl (room 5 hroom) (by decide)
          (fun k h23 hn => red_40 k h23
            (scalStart_of_hk h23 (hkE_of hend ▸ hn) (scalar_none (scalarP_none hs))))
          rule_37 rfl go_25_svl
        refine Sim.of_reaches (hR1.trans hR2) ?_
        exact ih acc rest' vv2 v25 v16 vq stk la2 sc2 ctx2 K pp pn pre a st d
          (Nat.lt_of_succ_lt_succ hf) hd hI2 hH
          (hV1.of_same hS2.sem) haty hacc hhead (hinv1.of_same hS2) hnest' he herr
      | some p =>
        obtain ⟨x, rest''⟩ := p
        rw [hs] at herr
        simp only at herr ⊢
        obtain ⟨k0, tl, hk0, hty0⟩ := hhead
        have hck : checkType a x.ty = (k0.ty == x.ty) := checkType_array haty hk0 _
        obtain ⟨x0, hs0, -⟩ := scalarP_some hs
        obtain ⟨hfit, hmis⟩ := sim_scalar (o := o) hE scal_40 hs (vq := v)
          (stk := (33, v33) :: (25, v25) :: (16, v16) :: (q, vq) :: stk) (room 8 hroom) hI1' hV1
          (SlotP.elem (.inr haty) rfl rfl) hinv1 he
        by_cases hxt : x.ty ≠ ty
        · rw [if_pos hxt]
          show AbortsAt E plain _ ErrKind.arrayElemType.text _
          rw [text_elem]
          refine AbortsAt.of_reaches hR1 (hmis haty ?_)
          rw [hck, hty0]
          exact beq_false_of_ne (fun h => hxt h.symm)
        · rw [if_neg hxt] at herr ⊢
          have hxt : x.ty = ty := Classical.not_not.mp hxt
          obtain ⟨la2, sc2, ctx2, vv2, hR2, hI2, ⟨st2, hV2⟩, hinv2⟩ := hfit (fun _ => by
            rw [hck, hty0, hxt]; exact beq_self_eq_true _)
          -- `simple_value_list: simple_value_list , simple_value`
          obtain ⟨la3, sc3, ctx3, vv3, hR3, hI3, hS3⟩ := hI2.reduce0 hE (ctx := ctx2)
            (pushed := [(45, vv2), (40, v), (33, v33)]) (p := 25) (vp := v25)
            (rest := (16, v16) :: (q, vq) :: stk)
            rfl rfl (room 6 hroom) (by decide) (fun k h23 _ => red_45 k h23) rule_36 rfl go_25_svl
          refine Sim.of_reaches ((hR1.trans hR2).trans hR3) ?_
          exact ih (acc ++ [x]) rest'' vv3 v25 v16 vq stk la3 sc3 ctx3 K pp pn pre
            { a with kids := a.kids ++ [x] } st2 d
            (Nat.lt_trans (scalar_length hs0) (Nat.lt_of_succ_lt_succ hf))
            hd hI3 hH (hV2.of_same hS3.sem) haty (by rw [hacc])
            ⟨k0, tl ++ [x], by simp [hk0], hty0⟩ (hinv2.of_same hS3)
            (by rw [scalar_nestS _ hs0]; exact hnest') he herr
    | other _ h1 h2 =>
      rw [arrayRestJ_other _ _ _ _ _ h1 h2] at herr ⊢
      have he0 : ∀ l : List Denote.Item, l = [] → endK tv = 0 := fun _ _ => herr .error
      -- neither `,` nor `]`
      show AbortsAt E plain _ ErrKind.syntax.text _
      rw [text_syntax, reportAt_syntax]
      obtain ⟨la1, sc1, ctx1, vv1, hR1, hI1, hS1⟩ := hI.reduce0 hE (ctx := ctx)
        (pushed := [(33, v33)]) (p := 25) (vp := v25) (rest := (16, v16) :: (q, vq) :: stk)
        rfl rfl (room 4 hroom) (by decide) (fun k h23 hn => red_33 k h23 (kind_ne hn (he0 _) (hk_ne_17 h2)))
        rule_39 rfl go_25_svlo
      refine AbortsAt.of_reaches hR1 ?_
      exact hI1.error hE (stk := (34, vv1) :: (25, v25) :: (16, v16) :: (q, vq) :: stk) rfl (room 4 hroom)
        (by decide) (fun k h23 hn => err_34 k h23 (kind_ne hn (he0 _) (hk_ne_14 h1))) nn_34
        (hinv.of_same hS1).err

end

end Libconfig.C10Prov
