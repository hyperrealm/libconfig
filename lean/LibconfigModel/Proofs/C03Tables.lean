import LibconfigModel.Flex
import LibconfigModel.Proofs.ParserLoop
import LibconfigModel.Proofs.Bounded
/-
  Property C03, generated-table safety: Bool-valued checkers that mirror the table
  accesses of the flex matching loop (`Flex.trans`) and of the bison skeleton
  (`yyparseLoop`), written so that the kernel can evaluate them over the translated
  tables (structural recursion on counters, `Nat.blt`/`Nat.ble`, packed tables), and
  the lemmas that turn `checker = true` into the quantified statements.
-/
namespace Libconfig.C03P

open Libconfig

/-! ### the flex transition function -/

/-- `Flex.trans` with every table access checked: the state indexes `yy_base` and `yy_def`,
`yy_base[s] + c` indexes `yy_chk` and `yy_nxt`, the class indexes `yy_meta` when the
default chain enters the template states, the state delivered is one of `1 … jam state`,
and the chase ends before the fuel does (`false` in the `0` case). -/
def transSafe (T : FlexTables) : Nat → Nat → Nat → Bool
  | 0, _, _ => false
  | fuel + 1, s, c =>
    Nat.blt s T.base.len && (Nat.blt s T.deflt.len &&
    (Nat.blt (T.base.getN s + c) T.chk.len && (Nat.blt (T.base.getN s + c) T.nxt.len &&
    (if T.chk.getN (T.base.getN s + c) == s then
       Nat.ble 1 (T.nxt.getN (T.base.getN s + c)) && Nat.ble (T.nxt.getN (T.base.getN s + c)) T.jamState
     else
       (if T.deflt.getN s ≥ T.metaThreshold then Nat.blt c T.metaT.len else true) &&
       transSafe T fuel (T.deflt.getN s)
         (if T.deflt.getN s ≥ T.metaThreshold then T.metaT.getN c else c)))))

/-- a safe chase delivers a state of the automaton, and does not depend on the fuel it was given:
it never reaches the `0` case -/
theorem transSafe_spec (T : FlexTables) : ∀ (fuel s c : Nat), transSafe T fuel s c = true →
    (1 ≤ Flex.trans T fuel s c ∧ Flex.trans T fuel s c ≤ T.jamState) ∧
    ∀ k, Flex.trans T (fuel + k) s c = Flex.trans T fuel s c
  | 0, _, _, h => by simp [transSafe] at h
  | fuel + 1, s, c, h => by
    simp only [transSafe, Bool.and_eq_true] at h
    obtain ⟨_, _, _, _, h⟩ := h
    have e (k : Nat) : fuel + 1 + k = (fuel + k) + 1 := by omega
    simp only [e, Flex.trans]
    split
    · rename_i heq
      rw [if_pos heq, Bool.and_eq_true] at h
      exact ⟨⟨Nat.le_of_ble_eq_true h.1, Nat.le_of_ble_eq_true h.2⟩, fun _ => rfl⟩
    · rename_i hne
      rw [if_neg hne, Bool.and_eq_true] at h
      exact transSafe_spec T fuel _ _ h.2

/-- the bounds of the first access of a safe chase, as propositions -/
theorem transSafe_first (T : FlexTables) (fuel s c : Nat) (h : transSafe T (fuel + 1) s c = true) :
    s < T.base.len ∧ s < T.deflt.len ∧ T.base.getN s + c < T.chk.len ∧ T.base.getN s + c < T.nxt.len := by
  simp only [transSafe, Bool.and_eq_true] at h
  obtain ⟨h1, h2, h3, h4, _⟩ := h
  exact ⟨Nat.le_of_ble_eq_true h1, Nat.le_of_ble_eq_true h2, Nat.le_of_ble_eq_true h3,
    Nat.le_of_ble_eq_true h4⟩

/-- every state `1 … nStates-1` (flex numbers its states from 1) with every class `< nClasses`
(class 0 is what the end-of-buffer NUL maps to), with the fuel `Flex.step` supplies -/
def flexTransOK (T : FlexTables) (nStates nClasses : Nat) : Bool :=
  allBelow (fun s => Nat.beq s 0 || allBelow (fun c => transSafe T (T.base.len + 1) s c) nClasses) nStates

theorem flexTransOK_spec {T : FlexTables} {nStates nClasses : Nat} (h : flexTransOK T nStates nClasses = true)
    (s c : Nat) (h1 : 1 ≤ s) (hs : s < nStates) (hc : c < nClasses) :
    transSafe T (T.base.len + 1) s c = true :=
  allBelow_spec (of_beq_or (allBelow_spec h s hs) (Nat.ne_of_gt h1)) c hc

/-- `yy_ec` has 256 entries, each a class `< nClasses`; the class used for an embedded NUL
is one of them; `yy_meta` maps classes to classes; `yy_accept` covers every state and names
a rule or the end-of-buffer action. -/
def flexClassesOK (T : FlexTables) (nClasses : Nat) : Bool :=
  Nat.beq T.ec.len 256 &&
  (allBelow (fun b => Nat.blt (T.ec.getN b) nClasses) 256 &&
  (Nat.blt T.nulClass nClasses &&
  (Nat.beq T.metaT.len nClasses &&
  (allBelow (fun c => Nat.blt (T.metaT.getN c) nClasses) nClasses &&
  (Nat.beq T.accept.len (T.jamState + 1) &&
  (allBelow (fun s => Nat.ble (T.accept.getN s) T.endOfBuffer) (T.jamState + 1) &&
   Nat.beq T.endOfBuffer (T.numRules + 1)))))))

theorem classOf_lt {T : FlexTables} {nClasses : Nat} (h : flexClassesOK T nClasses = true) (b : Nat)
    (hb : b < 256) : Flex.classOf T b < nClasses := by
  simp only [flexClassesOK, Bool.and_eq_true, allBelow_iff, Nat.blt_eq] at h
  unfold Flex.classOf
  split
  · exact h.2.2.1
  · exact h.2.1 b hb

/-- one step of the automaton on a byte, from a checked table: the result is a state, and
giving `Flex.trans` more fuel does not change it -/
theorem step_safe {T : FlexTables} {nClasses : Nat}
    (ht : flexTransOK T (T.jamState + 1) nClasses = true) (hc : flexClassesOK T nClasses = true)
    (s b : Nat) (h1 : 1 ≤ s) (hs : s ≤ T.jamState) (hb : b < 256) :
    1 ≤ Flex.step T s b ∧ Flex.step T s b ≤ T.jamState ∧ Flex.step T s b < T.accept.len ∧
    ∀ k, Flex.trans T (T.base.len + 1 + k) s (Flex.classOf T b) = Flex.step T s b := by
  have hsafe := flexTransOK_spec ht s (Flex.classOf T b) h1 (by omega) (classOf_lt hc b hb)
  obtain ⟨hle, hfuel⟩ := transSafe_spec T _ _ _ hsafe
  refine ⟨hle.1, hle.2, ?_, hfuel⟩
  simp only [flexClassesOK, Bool.and_eq_true] at hc
  have := Nat.eq_of_beq_eq_true hc.2.2.2.2.2.1
  have h2 := hle.2
  unfold Flex.step at h2 ⊢
  omega

/-! ### the bison tables -/

def nonneg (i : Int) : Bool := decide (0 ≤ i)

/-- the accesses of `yybackup` for parser state `state` and token kind `tok`: `yypact[state]`,
and — when `yypact[state] + tok` is in `0 … YYLAST` — `yycheck`, `yytable`; a positive entry
is a shift to a state `< nstates`, a non-positive one a reduction by a rule `1 … nrules`. -/
def actionOK (P : LalrTables) (state tok : Nat) : Bool :=
  Nat.blt state P.pact.len &&
  (let yyn := P.pact.get state
   let idx := yyn + tok
   if yyn == P.pactNinf then true
   else if idx < 0 || idx > P.last then true
   else
     Nat.blt idx.toNat P.check.len && (Nat.blt idx.toNat P.table.len &&
     (if P.check.get idx.toNat != tok then true
      else
        let a := P.table.get idx.toNat
        if a ≤ 0 then
          (if a == P.tableNinf then true else Nat.ble 1 (-a).toNat && Nat.ble (-a).toNat P.nrules)
        else Nat.blt a.toNat P.nstates)))

/-- the default reduction of a state: `yydefact[state]` is `0` (error) or a rule number -/
def defactOK (P : LalrTables) (state : Nat) : Bool :=
  Nat.blt state P.defact.len && (nonneg (P.defact.get state) && Nat.ble (P.defact.get state).toNat P.nrules)

/-- the accesses of `yyreduce` for rule `rule` when state `top` is uncovered: `yyr1`, `yyr2`,
`yypgoto`, `yydefgoto`, and — when `yypgoto[lhs] + top` is in `0 … YYLAST` — `yycheck`,
`yytable`; the state pushed is `< nstates`. -/
def gotoOK (P : LalrTables) (rule top : Nat) : Bool :=
  Nat.blt rule P.r1.len && (Nat.blt rule P.r2.len && (nonneg (P.r2.get rule) &&
  (decide ((P.ntokens : Int) ≤ P.r1.get rule) &&
  (let lhs := (P.r1.get rule).toNat - P.ntokens
   Nat.blt lhs P.pgoto.len && (Nat.blt lhs P.defgoto.len &&
   (let yyi := P.pgoto.get lhs + top
    if 0 ≤ yyi && yyi ≤ P.last then
      Nat.blt yyi.toNat P.check.len && (Nat.blt yyi.toNat P.table.len &&
      (if P.check.get yyi.toNat == top then
         nonneg (P.table.get yyi.toNat) && Nat.blt (P.table.get yyi.toNat).toNat P.nstates
       else nonneg (P.defgoto.get lhs) && Nat.blt (P.defgoto.get lhs).toNat P.nstates))
    else nonneg (P.defgoto.get lhs) && Nat.blt (P.defgoto.get lhs).toNat P.nstates))))))

/-- `YYTRANSLATE`: the table has `YYMAXUTOK + 1` entries, each a token kind; the kind used for
out-of-range token numbers (2, "invalid token") is one too -/
def translateOK (P : LalrTables) : Bool :=
  Nat.beq P.translate.len (P.maxutok + 1) && (Nat.blt 2 P.ntokens &&
  allBelow (fun t => nonneg (P.translate.get t) && Nat.blt (P.translate.get t).toNat P.ntokens) (P.maxutok + 1))

def lalrBoundsOK (P : LalrTables) : Bool :=
  allBelow (fun state => defactOK P state && allBelow (fun tok => actionOK P state tok) P.ntokens) P.nstates &&
  (allBelow (fun rule => rule == 0 || allBelow (fun top => gotoOK P rule top) P.nstates) (P.nrules + 1) &&
  (translateOK P && (Nat.blt P.final P.nstates && Nat.ble 1 P.nstates)))

theorem lalrBoundsOK_action {P : LalrTables} (h : lalrBoundsOK P = true) (state tok : Nat)
    (hs : state < P.nstates) (ht : tok < P.ntokens) : actionOK P state tok = true ∧ defactOK P state = true := by
  simp only [lalrBoundsOK, Bool.and_eq_true, allBelow_iff] at h
  exact ⟨(h.1 state hs).2 tok ht, (h.1 state hs).1⟩

theorem lalrBoundsOK_goto {P : LalrTables} (h : lalrBoundsOK P = true) (rule top : Nat)
    (h1 : 1 ≤ rule) (hr : rule ≤ P.nrules) (ht : top < P.nstates) : gotoOK P rule top = true := by
  simp only [lalrBoundsOK, Bool.and_eq_true, allBelow_iff, Bool.or_eq_true, beq_iff_eq] at h
  exact (h.2.1 rule (Nat.lt_succ_of_le hr)).resolve_left (Nat.ne_of_gt h1) top ht

theorem translateTok_lt {P : LalrTables} (h : lalrBoundsOK P = true) (t : Nat) :
    translateTok P t < P.ntokens := by
  simp only [lalrBoundsOK, translateOK, Bool.and_eq_true, allBelow_iff, Nat.blt_eq, Nat.lt_succ_iff] at h
  exact translateTok_lt_of h.2.2.1.2.1 (fun i hi => (h.2.2.1.2.2 i hi).2) t

/-- a positive explicit action is a shift to a state of the automaton; a non-positive one other
than the error marker is a reduction by a rule -/
theorem actionOK_entry {P : LalrTables} {state tok : Nat} {a : Int}
    (h : actionOK P state tok = true) (ha : Action P state tok a) :
    (0 < a → a.toNat < P.nstates) ∧
    (a ≤ 0 → a ≠ P.tableNinf → 1 ≤ (-a).toNat ∧ (-a).toNat ≤ P.nrules) := by
  obtain ⟨hp, h0, hl, hc, rfl⟩ := ha
  simp only [actionOK, Bool.and_eq_true] at h
  have h2 := h.2
  rw [if_neg (by simpa using hp)] at h2
  rw [if_neg (by simp only [Bool.or_eq_true, decide_eq_true_eq]; omega)] at h2
  simp only [Bool.and_eq_true] at h2
  have h3 := h2.2.2
  rw [if_neg (by simpa using hc)] at h3
  refine ⟨fun hpos => ?_, fun hle hn => ?_⟩
  · rw [if_neg (by omega)] at h3
    exact Nat.le_of_ble_eq_true h3
  · rw [if_pos hle, if_neg (by simpa using hn)] at h3
    simp only [Bool.and_eq_true] at h3
    exact ⟨Nat.le_of_ble_eq_true h3.1, Nat.le_of_ble_eq_true h3.2⟩

/-- the default reduction is by a rule (or `0`, the error) -/
theorem defactOK_rule {P : LalrTables} {state : Nat} (h : defactOK P state = true) :
    (P.defact.get state).toNat ≤ P.nrules := by
  simp only [defactOK, Bool.and_eq_true] at h
  exact Nat.le_of_ble_eq_true h.2.2

/-- the state pushed by `yyreduce` is a state of the automaton -/
theorem gotoOK_target {P : LalrTables} {rule top : Nat} (h : gotoOK P rule top = true) :
    gotoTarget P rule top < P.nstates := by
  simp only [gotoOK, Bool.and_eq_true] at h
  obtain ⟨_, _, _, _, _, _, h⟩ := h
  simp only [gotoTarget]
  split at h
  · rename_i hr
    simp only [Bool.and_eq_true] at h
    have h3 := h.2.2
    split at h3
    · rename_i hc
      rw [if_pos (by simp only [Bool.and_eq_true]; exact ⟨hr, hc⟩)]
      exact Nat.le_of_ble_eq_true ((Bool.and_eq_true _ _).mp h3).2
    · rename_i hc
      rw [if_neg (by simp only [Bool.and_eq_true]; exact fun hh => hc hh.2)]
      exact Nat.le_of_ble_eq_true ((Bool.and_eq_true _ _).mp h3).2
  · rename_i hr
    simp only [Bool.and_eq_true] at h
    rw [if_neg (by simp only [Bool.and_eq_true]; exact fun hh => hr hh.1)]
    exact Nat.le_of_ble_eq_true h.2

/-- no state shifts the `error` token (symbol kind 1): `yyerrlab1` would pop the whole stack
and abort, which is what the model's immediate abort does -/
def noErrorShift (P : LalrTables) : Bool :=
  allBelow (fun state =>
    let yyn := P.pact.get state
    if yyn == P.pactNinf then true
    else
      let idx := yyn + 1
      if idx < 0 || idx > P.last then true
      else P.check.get idx.toNat != 1) P.nstates

theorem noErrorShift_spec {P : LalrTables} (h : noErrorShift P = true) (state : Nat) (hs : state < P.nstates) :
    P.pact.get state = P.pactNinf ∨ P.pact.get state + 1 < 0 ∨ P.pact.get state + 1 > P.last ∨
      P.check.get (P.pact.get state + 1).toNat ≠ 1 := by
  have := allBelow_spec h state hs
  simp only at this
  split at this
  · rename_i heq; exact .inl (by simpa using heq)
  · split at this
    · rename_i hor
      simp only [Bool.or_eq_true, decide_eq_true_eq] at hor
      rcases hor with h1 | h2
      · exact .inr (.inl h1)
      · exact .inr (.inr (.inl h2))
    · exact .inr (.inr (.inr (by simpa using this)))

end Libconfig.C03P
