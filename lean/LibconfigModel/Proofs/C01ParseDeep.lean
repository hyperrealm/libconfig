import LibconfigModel.Proofs.C01ParseGeneral
/-
  C01 (parsing half), why the nesting depth has to be bounded: the parser's stack is limited to
  `YYMAXDEPTH` = 10000 entries.  A setting `a = ( ( … ( ) … ) )` with 4998 or more nested lists
  makes the stack reach the limit — two entries per `(` on top of the four of `NAME $@1 =` and the
  bottom — and `yyparse` returns 2 ("memory exhausted") instead of accepting.
-/
namespace Libconfig.C01PP
open Libconfig C02P C05P C02C C04R Denote C02D C09L C10Prov

/-- `d + 1` nested lists, the innermost empty -/
def nestedLists : Nat → Node
  | 0 => { ty := T_LIST }
  | d + 1 => { ty := T_LIST, kids := [nestedLists d] }

/-- the configuration `a = ( ( … ( ) … ) )` with `d + 1` nested lists -/
def deepConfig (d : Nat) : Config :=
  { root := { ty := T_GROUP, kids := [{ nestedLists d with name := some [97] }] } }

theorem nestedLists_ty (d : Nat) : (nestedLists d).ty = T_LIST := by
  cases d <;> rfl

section
variable {E : ParserEnv} (bufLen : Nat) (c : Config)

theorem tokValue_nested (d : Nat) :
    tokValue bufLen c (nestedLists d) =
      List.replicate (d + 1) tLS ++ List.replicate (d + 1) tLE := by
  induction d with
  | zero =>
    rw [tokValue_eq]
    rfl
  | succ d ih =>
    rw [tokValue_eq]
    simp only [nestedLists, beq_self_eq_true, if_true, tokElems, List.isEmpty_nil, List.append_nil, ih]
    rw [List.replicate_succ (n := d + 1), List.replicate_succ' (n := d + 1)]
    simp only [List.append_assoc, List.cons_append, List.nil_append]

theorem tokens_deep (d : Nat) :
    tokensOfConfig tk bufLen (deepConfig d) =
      tNAME [97] :: tEQ :: tLS ::
        (List.replicate d tLS ++ (List.replicate (d + 1) tLE ++ tokSuffix (deepConfig d))) := by
  rw [tokensOfConfig_eq bufLen (deepConfig d) rfl rfl]
  show tokMembers bufLen (deepConfig d) [{ nestedLists d with name := some [97] }] = _
  rw [tokMembers_cons]
  have h1 : tokValue bufLen (deepConfig d) { nestedLists d with name := some [97] } =
      tokValue bufLen (deepConfig d) (nestedLists d) := by
    rw [tokValue_eq, tokValue_eq]
    rfl
  rw [h1, tokValue_nested, List.replicate_succ]
  simp [tokPrefix, tokMembers]

/-- the tokens of the deep text are ones the parser can take -/
theorem rawOK_deep (d : Nat) : RawOK (tokensOfConfig tk bufLen (deepConfig d)) := by
  intro x hx
  rw [tokens_deep] at hx
  simp only [List.mem_cons, List.mem_append, List.mem_replicate, tokSuffix] at hx
  rcases hx with rfl | rfl | rfl | ⟨-, rfl⟩ | ⟨-, rfl⟩ | hx
  · exact TokOK.intro (by decide) (fun _ => by decide)
  · exact tokOK_punct (by simp)
  · exact tokOK_punct (by simp)
  · exact tokOK_punct (by simp)
  · exact tokOK_punct (by simp)
  · split at hx
    · rw [List.mem_singleton.mp hx]; exact tokOK_punct (by simp)
    · cases hx

section
variable {pos : Nat → ScanState} {o : Options}

/-- descending through `m` opening parentheses: two more stack entries each (`(` and `$@3`), the
items behind them still to be read -/
theorem descend (hE : Compiled E) (m : Nat) :
    ∀ (v26 : TokVal) (rest : List (Nat × TokVal)) (la : Lookahead) (sc : ScanState)
      (ctx : ParseCtx) (K : Node → Node) (pp : Path) (a : Node) (st : Option Path)
      (items : List Denote.Item),
    rest.length + 1 + 2 * m ≤ 10000 → View ctx K pp a none st → a.ty = T_LIST →
    Inv false o ctx → InpI E false pos tEOF la sc (List.replicate m .listStart ++ items) →
    ∃ vv rest' la' sc' ctx', Reaches E ⟨(26, v26) :: rest, la, sc, ctx⟩
        ⟨(26, vv) :: rest', la', sc', ctx'⟩ ∧ rest'.length = rest.length + 2 * m ∧
      InpI E false pos tEOF la' sc' items := by
  induction m with
  | zero =>
    intro v26 rest la sc ctx K pp a st items _ _ _ _ hinp
    exact ⟨v26, rest, la, sc, ctx, Reaches.refl _ _, rfl, hinp⟩
  | succ m ih =>
    intro v26 rest la sc ctx K pp a st items hd hV hty hinv hinp
    rw [List.replicate_succ, List.cons_append] at hinp
    obtain ⟨la1, sc1, ctx1, vv1, v1, st1, hR1, hI1, hV1, hinv1⟩ := sim_openP hE
      (vq := v26) (stk := rest) (by decide) (opn := .listStart) (k := 15) (fun _ h => h)
      val_26.listStart (by decide) (by decide) (dflt 17) rule_15 (ty := T_LIST) rfl go_17_M3
      (mk := none) rfl (by omega) hinp hV (SlotP.elem (.inl hty) rfl rfl) (by rw [hty]; decide)
      hinv
    obtain ⟨vv, rest', la', sc', ctx', hR2, hlen, hI2⟩ := ih vv1
      ((17, v1) :: (26, v26) :: rest) la1 sc1 ctx1 _ _ _ st1 items
      (by simp only [List.length_cons]; omega) hV1 rfl hinv1 hI1
    refine ⟨vv, rest', la', sc', ctx', hR1.trans hR2, ?_, hI2⟩
    rw [hlen]
    simp only [List.length_cons]
    omega

/-- From the start configuration of `yyparse`, `a = (` and `m` more `(`: the stack has the six
entries of `NAME $@1 = ( $@3` over the bottom and two more for each further `(`. -/
theorem deep_open (hE : Compiled E) (m : Nat) (hm : 2 * m + 6 ≤ 10000) {s₀ : ScanState}
    {ctx₀ : ParseCtx} {items : List Denote.Item}
    (hI : InpI E false pos tEOF none s₀
      (.name [97] :: .assign :: .listStart :: (List.replicate m .listStart ++ items)))
    (hroot : stripPos ctx₀.cfg.root = { ty := T_GROUP }) (hpar : ctx₀.parent = some [])
    (hstr : ctx₀.str = none) (hinv : Inv false o ctx₀) :
    ∃ vv rest' la' sc' ctx', Reaches E ⟨[(0, {})], none, s₀, ctx₀⟩
        ⟨(26, vv) :: rest', la', sc', ctx'⟩ ∧ rest'.length = 2 * m + 5 ∧
      InpI E false pos tEOF la' sc' items := by
  have hr0 := eq_of_stripPos hroot rfl
  have hr0ty : ctx₀.cfg.root.ty = T_GROUP := by rw [hr0]
  have hr0k : ctx₀.cfg.root.kids = [] := by rw [hr0]
  have hV : View ctx₀ (fun x => x) [] ctx₀.cfg.root none ctx₀.setting :=
    ⟨Hole.root, rfl, hpar, hstr, rfl⟩
  -- NAME, `$@1`
  have hnm := sim_nameP hE mem_0 (v0 := {}) (stk0 := []) (.inl rfl) (by decide) hI hV hr0ty hinv
  rw [hr0k, show enter o [] [97] = some [] from rfl] at hnm
  obtain ⟨la2, sc2, ctx2, vv2, v1, hR2, hI2, hV2, hinv2⟩ := hnm
  -- `=`
  obtain ⟨v3, sc3, ctx3, hR3, hI3, hS3, -⟩ := hI2.shift hE (v0 := vv2)
    (rest := [(1, v1), (0, ({} : TokVal))]) (ctx := ctx2) (it := .assign) (k := 11) (by simp)
    (by decide) (fun _ h => h) sh_5_equals (by decide)
  -- the outermost `(`, `$@3`
  obtain ⟨la5, sc5, ctx5, vv5, v5, st5, hR5, hI5, hV5, hinv5⟩ := sim_openP hE
    (vq := v3) (stk := [(5, vv2), (1, v1), (0, ({} : TokVal))]) (by decide) (opn := .listStart)
    (k := 15) (fun _ h => h) val_8.listStart (by decide) (by decide) (dflt 17) rule_15
    (ty := T_LIST) rfl go_17_M3 (mk := some _) rfl (by simp) hI3 (hV2.of_same hS3.sem)
    (SlotP.member [97] _ hr0ty rfl rfl rfl)
    (by rw [show _ = ctx₀.cfg.root.ty from rfl, hr0ty]; decide) (hinv2.of_same hS3)
  -- `m` more
  obtain ⟨vv, rest', la', sc', ctx', hR6, hlen, hI6⟩ := descend hE m vv5
    [(17, v5), (8, v3), (5, vv2), (1, v1), (0, ({} : TokVal))] la5 sc5 ctx5 _ _ _ st5 items
    (by simp only [List.length_cons, List.length_nil]; omega) hV5 rfl hinv5 hI5
  refine ⟨vv, rest', la', sc', ctx', ((hR2.trans hR3).trans hR5).trans hR6, ?_, hI6⟩
  rw [hlen]
  simp only [List.length_cons, List.length_nil]
  omega

end

/-- the deep text, from the start of `yyparse`, as items with positions -/
theorem inpI_deep (d : Nat) {s₀ : ScanState} {ctx₀ : ParseCtx}
    (hlex : LexT E s₀ (tokensOfConfig tk bufLen (deepConfig d) ++ [tEOF])) :
    ∃ (pos : Nat → ScanState) (o : Options), Inv false o ctx₀ ∧
      InpI E false pos tEOF none s₀ ((tokensOfConfig tk bufLen (deepConfig d)).map itemOf) := by
  obtain ⟨pos, hp, hl⟩ := hlex.at
  exact ⟨pos, ⟨_⟩, ⟨rfl, fun h => by cases h⟩, _, ⟨hp.symm, hl⟩, rfl, rawOK_deep bufLen d⟩

/-- a stack at the limit: the next iteration gives up -/
theorem run_exhausted (hE : Compiled E) {s : Nat} {v : TokVal} {rest : List (Nat × TokVal)}
    {la : Lookahead} {sc : ScanState} {ctx : ParseCtx} (hlen : rest.length + 1 = 10000) (f : Nat) :
    run E (f + 1) ⟨(s, v) :: rest, la, sc, ctx⟩ =
      (sc, ctx.yyerror sc.buf.lineno Generated.ERR_EXHAUSTED, .exhausted) := by
  unfold run
  rw [yyparseLoop_succ, bodyK_cons, if_pos]
  rw [hE.tables]
  simp only [List.length_cons, ge_iff_le]
  rw [hlen]
  decide

/-- the parse of `a = ( ( … ( ) … ) )` with at least 4998 nested lists reaches a stack of 10000
entries -/
theorem deep_reaches (hE : Compiled E) (d : Nat) (hd : 4997 ≤ d) {s₀ : ScanState}
    {ctx₀ : ParseCtx}
    (hlex : LexT E s₀ (tokensOfConfig tk bufLen (deepConfig d) ++ [tEOF]))
    (hroot : stripPos ctx₀.cfg.root = { ty := T_GROUP }) (hpar : ctx₀.parent = some [])
    (hstr : ctx₀.str = none) :
    ∃ vv rest' la' sc' ctx', Reaches E ⟨[(0, {})], none, s₀, ctx₀⟩
        ⟨(26, vv) :: rest', la', sc', ctx'⟩ ∧ rest'.length + 1 = 10000 := by
  obtain ⟨pos, o, hinv, hI⟩ := inpI_deep bufLen d hlex (ctx₀ := ctx₀)
  rw [tokens_deep] at hI
  obtain ⟨m0, hm0⟩ : ∃ m0 : Nat, m0 = 4997 := ⟨_, rfl⟩
  obtain ⟨k, rfl⟩ : ∃ k, d = m0 + k := ⟨d - m0, by omega⟩
  rw [← List.replicate_append_replicate] at hI
  simp only [List.map_cons, List.map_append, List.map_replicate, List.append_assoc] at hI
  obtain ⟨vv, rest', la', sc', ctx', hR, hlen, _⟩ :=
    deep_open hE m0 (by omega) hI hroot hpar hstr hinv
  exact ⟨vv, rest', la', sc', ctx', hR, by omega⟩

/-- … so whatever `yyparse` returns with enough fuel is "memory exhausted", not acceptance -/
theorem deep_exhausts (hE : Compiled E) (d : Nat) (hd : 4997 ≤ d) {fuel : Nat}
    {s₀ s' : ScanState} {ctx₀ ctx' : ParseCtx} {r : ParseResult}
    (hlex : LexT E s₀ (tokensOfConfig tk bufLen (deepConfig d) ++ [tEOF]))
    (hroot : stripPos ctx₀.cfg.root = { ty := T_GROUP }) (hpar : ctx₀.parent = some [])
    (hstr : ctx₀.str = none)
    (h : yyparse E fuel s₀ ctx₀ = (s', ctx', r)) (hr : r ≠ .outOfFuel) : r = .exhausted := by
  obtain ⟨vv, rest', la', sc', ctx1, hR, hlen⟩ := deep_reaches bufLen hE d hd hlex hroot hpar hstr
  have hrun := hR.run_eq (run_exhausted hE hlen) (fuel := fuel)
    (by rw [← yyparse_eq_run, h]; exact hr)
  rw [← yyparse_eq_run, h] at hrun
  injection hrun with _ h2
  injection h2 with _ h4

/-- … and with enough fuel it does return -/
theorem deep_exhausts_total (hE : Compiled E) (d : Nat) (hd : 4997 ≤ d) {s₀ : ScanState}
    {ctx₀ : ParseCtx}
    (hlex : LexT E s₀ (tokensOfConfig tk bufLen (deepConfig d) ++ [tEOF]))
    (hroot : stripPos ctx₀.cfg.root = { ty := T_GROUP }) (hpar : ctx₀.parent = some [])
    (hstr : ctx₀.str = none) :
    ∃ N, ∀ fuel, N ≤ fuel → (yyparse E fuel s₀ ctx₀).2.2 = .exhausted := by
  obtain ⟨vv, rest', la', sc', ctx1, hR, hlen⟩ := deep_reaches bufLen hE d hd hlex hroot hpar hstr
  obtain ⟨N, hN⟩ := hR.run_total (run_exhausted hE hlen)
  exact ⟨N, fun fuel hfuel => by rw [yyparse_eq_run, hN fuel hfuel]⟩

end

end Libconfig.C01PP
