import LibconfigModel.Proofs.C04ReadAct
import LibconfigModel.Proofs.C02Path
import LibconfigModel.Proofs.ReadCore
/-
  C04 (reads): the parser loop keeps the configuration well-formed.

  The loop invariant has three parts:
  * `StackPath` (C02Path): the state stack is a path of certificate edges from state 0;
  * if some stack entry is accessed by `$@1` then `ctx->setting` is not the root (such an entry
    is pushed exactly by reducing `$@1`, whose action points `setting` at a fresh child; no
    action ever points it back at the root);
  * `TInv` (C04ReadInv) for the tree and the two cursors.
  The static check `safeOK` (C04ReadStatic) says that a stack without a `$@1` entry has a state
  on top in which no action that writes through `setting` can be reduced; so those actions only
  run when `setting` is not the root, which is all `runAction_inv` asks for.
-/
namespace Libconfig.C04R
open Libconfig Grammar C04 C02P C03P C03T

/-! ### the facts established by the second static check -/

structure SFacts (P : LalrTables) (acts : List ParseAct) (ed : List (Nat × Nat)) (sf : List Nat) :
    Prop where
  zero : memB sf 0 = true
  stos0 : stosN P 0 ≠ M1
  closed : ∀ p q, (p, q) ∈ ed → memB sf p = true → stosN P q ≠ M1 → memB sf q = true
  quiet : ∀ s, memB sf s = true → quietIn P acts s = true
  m1 : ∀ r, r < rules.length → (rules.getD r (0, [])).1 = M1 →
    isSettingName (acts.getD r .unknown) = true

theorem memB_mem {l : List Nat} {x : Nat} (h : memB l x = true) : x ∈ l := any_beq_iff.mp h

theorem sfacts_of_safe {P : LalrTables} {acts : List ParseAct} {ed : List (Nat × Nat)}
    {sf : List Nat} (h : safeOK P acts ed sf = true) : SFacts P acts ed sf := by
  simp only [safeOK, Bool.and_eq_true, C02P.allBelow_iff, List.all_eq_true, Nat.beq_eq,
    Bool.not_eq_true', Bool.or_eq_true] at h
  obtain ⟨⟨⟨⟨h1, h2⟩, h3⟩, h4⟩, h5⟩ := h
  exact ⟨h1, Nat.ne_of_beq_eq_false h2,
    fun p q hpq hp hq => ((h3 _ hpq).resolve_left fun e => e.elim (by rw [hp]; exact Bool.noConfusion) hq),
    fun s hs => h4 s (memB_mem hs),
    fun r hr hl => (h5 r hr).resolve_left (by rw [hl, Nat.beq_refl]; exact Bool.noConfusion)⟩

/-- some entry of the stack is accessed by `$@1` -/
def HasM1 (P : LalrTables) (stack : List (Nat × TokVal)) : Prop :=
  ∃ e ∈ stack, stosN P e.1 = M1

theorem safe_top {P : LalrTables} {acts : List ParseAct} {ed : List (Nat × Nat)} {sf : List Nat}
    (S : SFacts P acts ed sf) {stack : List (Nat × TokVal)} (hp : StackPath ed stack)
    (hm : ¬ HasM1 P stack) : memB sf (topState stack) = true := by
  induction hp with
  | base v => exact S.zero
  | push p q v v' rest h0 he ih =>
    have h1 : ¬ HasM1 P ((p, v) :: rest) := by
      rintro ⟨e, hmem, hs⟩
      exact hm ⟨e, List.mem_cons_of_mem _ hmem, hs⟩
    have h2 : stosN P q ≠ M1 := fun hs => hm ⟨(q, v'), List.mem_cons_self, hs⟩
    exact S.closed p q he (ih h1) h2

/-- in a `safe` state no action that writes through `ctx->setting` is reduced -/
theorem reduceBy_quiet {P : LalrTables} {acts : List ParseAct} {ed : List (Nat × Nat)} {sf : List Nat}
    (F : Facts P ed) (S : SFacts P acts ed sf) {s rule : Nat} (hs : memB sf s = true)
    (h : ReduceBy P s rule) : usesSetting (acts.getD rule .unknown) = false := by
  have hq := S.quiet s hs
  unfold quietIn at hq
  simp only [Bool.and_eq_true, Bool.not_eq_true'] at hq
  rcases h with ⟨rfl, _⟩ | ⟨t, a, hact, _, _, rfl⟩
  · exact hq.1
  · have := allBelow_spec hq.2 _ (translateTok_lt F t)
    rw [actAt_of_action hact] at this
    simpa using this

/-! ### the loop -/

structure LoopInv (P : LalrTables) (ed : List (Nat × Nat)) (X : PState) : Prop where
  path : StackPath ed X.stack
  setting : HasM1 P X.stack → X.ctx.setting ≠ some []
  tree : TInv X.ctx.cfg X.ctx.parent X.ctx.setting

theorem step_good {E : ParserEnv} {ed : List (Nat × Nat)} {sf : List Nat} (F : Facts E.P ed)
    (S : SFacts E.P E.acts ed sf) (X : PState) (h : LoopInv E.P ed X) :
    (yystep E X).elim (fun r => r.2.1.cfg.WF) (LoopInv E.P ed) := by
  have hs := yystep_spec E X
  -- fetching the lookahead leaves `setting` alone and writes at most the error record
  have hlook : ∀ {la1 : Lookahead} {s1 : ScanState} {c1 : ParseCtx}, Look E X la1 s1 c1 →
      TInv c1.cfg c1.parent c1.setting ∧ c1.setting = X.ctx.setting := by
    intro la1 s1 c1 hk
    cases hk with
    | incl => exact ⟨h.tree.congr_root rfl, rfl⟩
    | _ => exact ⟨h.tree, rfl⟩
  -- an action that writes through `setting` runs only above a `$@1` entry
  have hact : ∀ {rule : Nat} {la1 : Lookahead} {s1 : ScanState} {c1 : ParseCtx},
      Look E X la1 s1 c1 → ReduceBy E.P (topState X.stack) rule →
      ActGood (isSettingName (E.acts.getD rule .unknown)) c1
        (runAction (E.acts.getD rule .unknown) c1 (X.stack.headD (0, {})).2 s1.buf.lineno
          s1.currentFilename) := fun hk hrule =>
    runAction_inv _ _ _ _ _ (hlook hk).1 fun h0 =>
      reduceBy_quiet F S (safe_top S h.path fun hM => h.setting hM ((hlook hk).2 ▸ h0)) hrule
  generalize yystep E X = o at hs
  cases hs with
  | empty h0 => exact absurd h0 h.path.ne_nil
  | exhausted => exact yyerror_wf h.tree.wf _ _
  | accept => exact h.tree.wf
  | echo => exact h.tree.wf
  | fuel => exact h.tree.wf
  | syntaxError _ hk => exact yyerror_wf (hlook hk).1.wf _ _
  | abort _ hk hrule ha => have := hact hk hrule; rw [ha] at this; exact this
  | crash _ hk hrule ha => have := hact hk hrule; rw [ha] at this; exact this
  | @reduce rule _ _ _ _ _ hl hk hrule ha =>
    have hg := hact hk hrule
    rw [ha] at hg
    obtain ⟨h1, h2, h3⟩ := hg
    have H := h.path.reduce F hl.notFinal hrule
    obtain ⟨p, v', rest', hd, _, _, hstos, _⟩ := H.below
    refine ⟨H.path _, ?_, h1⟩
    rintro ⟨e, hmem, hst⟩
    rcases List.mem_cons.mp hmem with rfl | hmem
    · apply h3
      apply S.m1 rule H.lt
      rw [← H.lhs, ← hstos]
      rw [hd] at hst
      exact hst
    · exact h2 ((hlook hk).2 ▸ h.setting ⟨e, List.mem_of_mem_drop hmem, hst⟩)
  | @shift t _ _ _ _ hl hk ha hpos =>
    obtain ⟨hp', hstos, _⟩ := h.path.shift F hl.notFinal ha hpos _
    refine ⟨hp', ?_, (hlook hk).1⟩
    rintro ⟨e, hmem, hst⟩
    rcases List.mem_cons.mp hmem with rfl | hmem
    · have h1 := translateTok_lt F t
      rw [F.ntok, ← hstos, hst] at h1
      exact absurd h1 (by decide)
    · exact (hlook hk).2 ▸ h.setting ⟨e, hmem, hst⟩

theorem yyparse_wf {E : ParserEnv} {ed : List (Nat × Nat)} {sf : List Nat}
    (hok : staticOK E.P ed = true) (hsafe : safeOK E.P E.acts ed sf = true)
    (fuel : Nat) (s₀ : ScanState) (c₀ : Config) (h : c₀.WF) :
    (yyparse E fuel s₀ { cfg := c₀ }).2.1.cfg.WF := by
  have F := facts_of_static hok
  have S := sfacts_of_safe hsafe
  refine yyparseLoop_ind (Q := fun r => r.2.1.cfg.WF) (step_good F S) (fun _ h => h.tree.wf)
    fuel ⟨[(0, {})], none, s₀, { cfg := c₀ }⟩ ⟨.base _, ?_, h, ?_, ?_, ?_⟩
  · rintro ⟨e, hmem, hst⟩
    simp only [List.mem_singleton] at hmem
    subst hmem
    exact absurd hst S.stos0
  · intro pp hpp
    cases hpp
    exact ⟨_, get?_nil _⟩
  · intro sp hsp hne
    cases hsp
    exact absurd rfl hne
  · intro sp pp hsp _ hne
    cases hsp
    exact absurd rfl hne

/-! ### `__config_read` -/

theorem readCore_wf (w : World) (c : Config) (filename : Option Bytes) (inp : Bytes) (fuel : Nat) :
    (readCore w c filename inp fuel).cfg.WF := by
  obtain ⟨f, t, h⟩ := C09P.finish_eq (C09P.parseOf w (C09P.start c filename) filename inp fuel)
  rw [C09P.readCore_cfg, h]
  have h1 := yyparse_wf (E := theEnv w (C09P.start c filename) fuel) edges_ok safe_ok fuel
    (C09P.scan0 filename inp) (C09P.start c filename)
    ⟨rfl, rfl, WF.leaf (show (1 : Nat) ≤ 8 by decide) rfl⟩
  exact ⟨h1.1, h1.2, h1.3⟩

end Libconfig.C04R
