import LibconfigModel.Proofs.C10SpliceStep
/-
  Helper lemmas for Properties/C10Splice.lean: the simulation between the scanner run with the
  include machinery (run 1) and the scanner run over the spliced text (run 2).

  `flat D s` is the text that remains to be scanned in run 1, spliced: the rest of the current
  buffer, then for every frame the files still to come and the rest of the parent buffer.
  `Rel s₁ s₂` relates the two runs between iterations of the `yylex` loop outside directives:
  run 2 stands at `flat D s₁` with the same start condition; the rest is invariants of run 1
  (`Inv`: start condition INITIAL or SINGLE_LINE_COMMENT, empty string buffer, INITIAL at the
  beginning of a line, the remaining text is a well-formed tree of the depth that is left, a
  directive line only at the beginning of a line; `StackOK`/`TopOK`: the files still to come
  exist and are well-formed, buffers that are not the last of their frame end in a newline,
  a buffer that does not is followed by nothing or a newline in the spliced text).

  The relation is kept by each kind of progress: end of an included file (`rel_eof`: run 1
  alone), a lexeme on a plain line or a newline (`rel_unit`: both runs, the same rule, the same
  lexeme), a directive line (`rel_directive`: run 1 alone, 2–3 iterations); `rel_cases` says
  which of them is next.  `call_sim` puts them together for one call of `yylex` in each run,
  without fuel (`Returns`, Proofs/ScannerStep.lean), by induction on `mu`, which bounds the
  iterations of run 1 that remain: both calls return the same, run 2 after at most as many
  iterations as run 1, run 1 after at most `mu`.  `yylex_sim'` and `yylex_bound` read it off for
  calls with given fuel.
-/
set_option autoImplicit false

namespace Libconfig.C10S

open Libconfig Libconfig.C10 Libconfig.C10P

section
variable (w : World) (ic : IncludeCfg)

/-! ### induction over the lines of a text -/

theorem lines_ind {P : Bytes → Prop}
    (h : ∀ l tail, 10 ∉ l → Follow tail → (∀ m, tail = 10 :: m → P m) → P (l ++ tail)) :
    ∀ t, P t := by
  intro t
  generalize hn : t.length = n
  induction n using Nat.strongRecOn generalizing t with
  | _ n ih =>
    obtain ⟨l, tail, rfl, hl, ht⟩ := line_split t
    refine h l tail hl ht fun m hm => ih m.length ?_ m rfl
    rw [← hn, hm]
    simp only [List.length_append, List.length_cons]
    omega

/-! ### bytes of the spliced text -/

theorem spliceLine_dir (n : Nat) {l path rest : Bytes} {files : List Bytes}
    (hd : directive? l = some (path, rest))
    (hfn : includeFnEval ic.fn ic.dir path = (some files, none)) :
    spliceLine w ic n l = (files.flatMap fun p => splice w ic n ((w.open? p).getD [])) ++ rest := by
  unfold spliceLine
  rw [hd]
  simp only [hfn]

theorem byteText_flatMap {α} {f : α → Bytes} {l : List α} (h : ∀ a ∈ l, ByteText (f a)) :
    ByteText (l.flatMap f) := by
  intro b hb
  obtain ⟨a, ha, hba⟩ := List.mem_flatMap.mp hb
  exact h a ha b hba

theorem rest_sub {l path rest : Bytes} (hd : directive? l = some (path, rest)) :
    ∀ b ∈ rest, b ∈ l := by
  obtain ⟨pre, rfl, -⟩ := directive?_shape hd
  intro b hb
  simp [hb]

theorem path_sub {l path rest : Bytes} (hd : directive? l = some (path, rest)) :
    ∀ b ∈ path, b ∈ l := by
  obtain ⟨pre, rfl, -⟩ := directive?_shape hd
  intro b hb
  simp [hb]

/-- the spliced text of a well-formed tree consists of bytes 1 … 255 (in particular it has no
NUL) -/
theorem splice_bytes : ∀ (D : Nat) (t : Bytes), TreeOK w ic D t → ByteText (splice w ic (D + 1) t) := by
  intro D
  induction D using Nat.strongRecOn with
  | _ D ihD =>
    -- one line: the included files are a level down
    have hline : ∀ l, ByteText l → LineOK w ic D l → ByteText (spliceLine w ic D l) := by
      intro l hbl hok
      cases hd : directive? l with
      | none => rw [spliceLine_nondir w ic _ hd]; exact hbl
      | some x =>
        obtain ⟨path, rest⟩ := x
        cases D with
        | zero => exact (hok.2 path rest hd).elim
        | succ D' =>
          obtain ⟨files, hfn, hfiles, -⟩ := hok.2 path rest hd
          rw [spliceLine_dir w ic _ hd hfn]
          refine byteText_append.mpr ⟨byteText_flatMap fun p hp => ?_,
            fun b hb => hbl b (rest_sub hd b hb)⟩
          obtain ⟨c, hc, hok⟩ := hfiles p hp
          rw [hc]
          exact ihD D' (Nat.lt_succ_self _) c hok
    intro t
    induction t using lines_ind with
    | h l tail hl ht ih =>
      intro h
      have hv := treeOK_line hl ht h
      rw [splice_line w ic D hl ht]
      refine byteText_append.mpr ⟨hline l hv.1 hv.2.1, ?_⟩
      rcases follow_cases ht with rfl | ⟨m, rfl⟩
      · intro b hb; cases hb
      · exact byteText_cons.mpr ⟨by decide, ih m rfl (hv.2.2 m rfl)⟩

/-! ### the remaining text of run 1, spliced -/

/-- the files of a frame still to come -/
def remOf (f : Frame) : List Bytes := f.files.drop (f.cur + 1)

def flatFiles (D : Nat) (rem : List Bytes) : Bytes :=
  rem.flatMap fun p => splice w ic (D + 1) ((w.open? p).getD [])

/-- `D` is the depth left for the current buffer -/
def flatStack : Nat → List Frame → Bytes
  | _, [] => []
  | D, f :: fs =>
    flatFiles w ic D (remOf f) ++ (splice w ic (D + 2) f.parent.rest ++ flatStack (D + 1) fs)

def flat (D : Nat) (s : ScanState) : Bytes :=
  splice w ic (D + 1) s.buf.rest ++ flatStack w ic D s.stack

/-- what follows the files of the innermost frame -/
def after (D : Nat) (f : Frame) (fs : List Frame) : Bytes :=
  splice w ic (D + 2) f.parent.rest ++ flatStack w ic (D + 1) fs

theorem flatStack_cons (D : Nat) (f : Frame) (fs : List Frame) :
    flatStack w ic D (f :: fs) = flatFiles w ic D (remOf f) ++ after w ic D f fs := rfl

/-! ### invariants of run 1 -/

/-- the files still to come exist, are well-formed one level down, and end in a newline
unless nothing or a newline follows the last of them -/
def FilesOK (D : Nat) (aft : Bytes) : List Bytes → Prop
  | [] => True
  | p :: ps =>
    (∃ c, w.open? p = some c ∧ TreeOK w ic D c ∧ (ps ≠ [] → NLT c) ∧
      (ps = [] → NLT c ∨ Follow aft)) ∧ FilesOK D aft ps

/-- the current buffer against the files still to come -/
def CurOK (rest : Bytes) (bol : Bool) (rem : List Bytes) (aft : Bytes) : Prop :=
  (rem ≠ [] → NLT rest ∧ (rest = [] → bol = true)) ∧ (rem = [] → NLT rest ∨ Follow aft)

def TopOK (D : Nat) (rest : Bytes) (bol : Bool) : List Frame → Prop
  | [] => True
  | f :: fs => CurOK rest bol (remOf f) (after w ic D f fs)

def StackOK : Nat → List Frame → Prop
  | _, [] => True
  | D, f :: fs =>
    FilesOK w ic D (after w ic D f fs) (remOf f) ∧ TreeOK w ic (D + 1) f.parent.rest ∧
    directive? (firstLine f.parent.rest) = none ∧ f.parent.bol = false ∧
    TopOK w ic (D + 1) f.parent.rest f.parent.bol fs ∧ StackOK (D + 1) fs

structure Inv (D : Nat) (s : ScanState) : Prop where
  sc01 : s.sc = 0 ∨ s.sc = 1
  str : s.str = []
  bolsc : s.buf.bol = true → s.sc = 0
  text : TreeOK w ic D s.buf.rest
  dirbol : directive? (firstLine s.buf.rest) ≠ none → s.buf.bol = true
  top : TopOK w ic D s.buf.rest s.buf.bol s.stack
  stack : StackOK w ic D s.stack
  depth : D + s.stack.length = 10

/-- the relation between the run with includes (`s₁`) and the run over the spliced text
(`s₂`), between iterations outside directives -/
def Rel (s₁ s₂ : ScanState) : Prop :=
  ∃ D, Inv w ic D s₁ ∧ s₂.sc = s₁.sc ∧ s₂.str = [] ∧ s₂.stack = [] ∧
    s₂.buf.rest = flat w ic D s₁ ∧ (s₁.buf.bol = true → s₂.buf.bol = true)

/-! ### a bound on the remaining iterations of run 1 -/

def stackWt : Nat → List Frame → Nat
  | _, [] => 0
  | D, f :: fs =>
    ((remOf f).map fun p => weight w ic (D + 1) ((w.open? p).getD [])).sum +
      weight w ic (D + 2) f.parent.rest + stackWt (D + 1) fs

/-- an upper bound on the number of iterations of the `yylex` loop until run 1 reports end of
input (the depth left for the current buffer is 10 minus the number of frames) -/
def mu (s : ScanState) : Nat :=
  weight w ic (10 - s.stack.length + 1) s.buf.rest + stackWt w ic (10 - s.stack.length) s.stack

theorem mu_eq {D : Nat} {s : ScanState} (h : D + s.stack.length = 10) :
    mu w ic s = weight w ic (D + 1) s.buf.rest + stackWt w ic D s.stack := by
  unfold mu
  rw [show 10 - s.stack.length = D by omega]

theorem weight_nil (n : Nat) : weight w ic (n + 1) [] = 1 := by
  have := weight_line w ic n (l := []) (tail := []) (by simp) follow_nil
  simpa [lineWeight_nondir w ic _ (directive?_none_of_noquote (line := []) (by simp)),
    weightTail] using this

/-! ### consequences of the invariants -/

theorem filesOK_bytes {D : Nat} {aft : Bytes} : ∀ {rem : List Bytes}, FilesOK w ic D aft rem →
    ByteText (flatFiles w ic D rem)
  | [], _ => by intro b hb; cases hb
  | p :: ps, h => by
    obtain ⟨⟨c, hc, hok, -⟩, hps⟩ := h
    unfold flatFiles
    rw [List.flatMap_cons, hc]
    exact byteText_append.mpr ⟨splice_bytes w ic D c hok, filesOK_bytes hps⟩

theorem flatStack_bytes : ∀ (D : Nat) (st : List Frame), StackOK w ic D st →
    ByteText (flatStack w ic D st)
  | _, [], _ => by intro b hb; cases hb
  | D, f :: fs, h => by
    obtain ⟨hf, hp, -, -, -, hst⟩ := h
    rw [flatStack_cons]
    exact byteText_append.mpr ⟨filesOK_bytes w ic hf,
      byteText_append.mpr ⟨splice_bytes w ic (D + 1) _ hp, flatStack_bytes (D + 1) fs hst⟩⟩

theorem flat_bytes {D : Nat} {s : ScanState} (h : Inv w ic D s) : ByteText (flat w ic D s) :=
  byteText_append.mpr ⟨splice_bytes w ic D _ h.text, flatStack_bytes w ic D _ h.stack⟩

/-- a current buffer that does not end in a newline is followed by nothing or a newline -/
theorem follow_of_not_nlt {D : Nat} {rest : Bytes} {bol : Bool} : ∀ {st : List Frame},
    TopOK w ic D rest bol st → ¬ NLT rest → Follow (flatStack w ic D st)
  | [], _, _ => .inl rfl
  | f :: fs, h, hn => by
    rw [flatStack_cons]
    by_cases hrem : (remOf f) = []
    · rw [hrem]
      rcases h.2 hrem with h | h
      · exact (hn h).elim
      · simpa [flatFiles] using h
    · exact (hn (h.1 hrem).1).elim

/-- what run 2 reads behind a line of the current buffer follows a line: the newline, or (at the
end of the buffer, which then does not end in a newline) the text after the frame -/
theorem follow_behind {D : Nat} {l tail : Bytes} {bol : Bool} {st : List Frame} (htail : Follow tail)
    (htop : TopOK w ic D (l ++ tail) bol st) (hnn : ¬ NLT l) :
    Follow (spliceTail w ic (D + 1) tail ++ flatStack w ic D st) := by
  rcases follow_cases htail with rfl | ⟨m, rfl⟩
  · rw [List.append_nil] at htop
    simpa [spliceTail] using follow_of_not_nlt w ic htop hnn
  · exact .inr rfl

theorem not_nlt_of_line {l : Bytes} (hne : l ≠ []) (hl : 10 ∉ l) : ¬ NLT l := by
  rintro (h | h)
  · exact hne h
  · exact hl (List.mem_of_getLast? h)

theorem topOK_drop {D : Nat} {rest : Bytes} {bol bol' : Bool} (n : Nat) {st : List Frame}
    (h : TopOK w ic D rest bol st)
    (hb : ∀ f fs, st = f :: fs → remOf f ≠ [] → rest.drop n = [] → bol' = true) :
    TopOK w ic D (rest.drop n) bol' st := by
  cases st with
  | nil => trivial
  | cons f fs =>
    refine ⟨fun hrem => ⟨nlt_drop n (h.1 hrem).1, fun he => hb f fs rfl hrem he⟩, fun hrem => ?_⟩
    rcases h.2 hrem with h | h
    · exact .inl (nlt_drop n h)
    · exact .inr h

/-- Behind a prefix of the first line.  The first line `pre ++ l'` of a buffer is not empty
and goes on with a remainder `l'` on which nothing special can start: the buffer `l' ++ tail`,
away from the beginning of a line, satisfies the invariants again, and is spliced and weighed
line by line. -/
theorem line_suffix {D : Nat} {pre l' tail : Bytes} {bol : Bool} {st : List Frame}
    (hl : 10 ∉ pre ++ l') (hne : pre ++ l' ≠ []) (ht : Follow tail)
    (htext : TreeOK w ic D (pre ++ l' ++ tail)) (htop : TopOK w ic D (pre ++ l' ++ tail) bol st)
    (hpl : PlainRem l') :
    TreeOK w ic D (l' ++ tail) ∧ directive? (firstLine (l' ++ tail)) = none ∧
    TopOK w ic D (l' ++ tail) false st ∧
    splice w ic (D + 1) (l' ++ tail) = l' ++ spliceTail w ic (D + 1) tail ∧
    weight w ic (D + 1) (l' ++ tail) = 1 + l'.length + weightTail w ic (D + 1) tail := by
  have hl' : 10 ∉ l' := fun h => hl (List.mem_append_right _ h)
  have hnd := directive?_none_of_noquote hpl.1
  have hv := treeOK_line hl ht htext
  refine ⟨treeOK_replace hl hl' ht htext (fun b hb => hv.1 b (List.mem_append_right _ hb))
    (lineOK_of_rem w ic D hpl), ?_, ?_, ?_, ?_⟩
  · rw [firstLine_append hl' ht]; exact hnd
  · have := topOK_drop w ic (bol' := false) pre.length htop ?_
    · rwa [List.append_assoc, List.drop_left] at this
    · -- the buffer of a file that is not the last of its frame ends in a newline
      intro f fs hst hrem hnil
      rw [List.append_assoc, List.drop_left] at hnil
      rw [hst] at htop
      have := (htop.1 hrem).1
      rw [(List.append_eq_nil_iff.mp hnil).2, List.append_nil] at this
      exact (not_nlt_of_line hne hl this).elim
  · rw [splice_line w ic D hl' ht, spliceLine_nondir w ic D hnd]
  · rw [weight_line w ic D hl' ht, lineWeight_nondir w ic _ hnd]

/-- the current buffer of run 1, cut behind its first line -/
theorem inv_line {D : Nat} {s : ScanState} (inv : Inv w ic D s) :
    ∃ l tail, s.buf.rest = l ++ tail ∧ 10 ∉ l ∧ Follow tail ∧ firstLine s.buf.rest = l ∧
      TreeOK w ic D (l ++ tail) ∧
      (ByteText l ∧ LineOK w ic D l ∧ ∀ m, tail = 10 :: m → TreeOK w ic D m) := by
  obtain ⟨l, tail, hdec, hl, htail⟩ := line_split s.buf.rest
  have htext := inv.text
  rw [hdec] at htext
  exact ⟨l, tail, hdec, hl, htail, by rw [hdec]; exact firstLine_append hl htail, htext,
    treeOK_line hl htail htext⟩

/-! ### the files of a frame still to come -/

theorem remOf_nil {f : Frame} (hq : f.files[f.cur + 1]? = none) : remOf f = [] := by
  unfold remOf
  exact List.drop_eq_nil_iff.mpr (List.getElem?_eq_none_iff.mp hq)

theorem remOf_cons {f : Frame} {q : Bytes} (hq : f.files[f.cur + 1]? = some q) :
    remOf f = q :: remOf { f with cur := f.cur + 1 } := by
  unfold remOf
  obtain ⟨hlt, hget⟩ := List.getElem?_eq_some_iff.mp hq
  rw [List.drop_eq_getElem_cons hlt, hget]

/-! ### the relation is kept: a lexeme on a plain line, or a newline -/

theorem next_end {sc : Nat} (hsc : sc = 0 ∨ sc = 1) (bol : Bool) : Flex.next T sc bol [] = none :=
  next_nil _ (by rcases hsc with h | h <;> rw [h] <;> decide) _

theorem next_nl {sc : Nat} (hsc : sc = 0 ∨ sc = 1) :
    ∃ r, Flex.next T sc false [10] = some (r, 1) ∧ ∀ s : ScanState, s.sc = sc →
      actOut (acts.getD r .unknown) s [10] = some ({ s with sc := 0 }, none) := by
  rcases hsc with rfl | rfl
  · exact ⟨28, by decide +kernel, fun s hs => by rw [← hs]; rfl⟩
  · exact ⟨2, by decide +kernel, fun _ _ => rfl⟩

theorem rel_unit {s₁ s₂ : ScanState} (h : Rel w ic s₁ s₂) (hre : s₁.buf.rest ≠ [])
    (hnd : directive? (firstLine s₁.buf.rest) = none) :
    ∃ r n sc' o, Flex.next T s₁.sc s₁.buf.bol s₁.buf.rest = some (r, n) ∧
      Flex.next T s₂.sc s₂.buf.bol s₂.buf.rest = some (r, n) ∧
      s₂.buf.rest.take n = s₁.buf.rest.take n ∧
      (∀ s : ScanState, s.sc = s₁.sc →
        actOut (acts.getD r .unknown) s (s₁.buf.rest.take n) = some ({ s with sc := sc' }, C01L.tokOut o)) ∧
      mu w ic { advance T s₁ r n with sc := sc' } < mu w ic s₁ ∧
      Rel w ic { advance T s₁ r n with sc := sc' } { advance T s₂ r n with sc := sc' } := by
  obtain ⟨D, inv, hsc, hstr, hstk, hrest, hbol⟩ := h
  obtain ⟨l, tail, hdec, hl, htail, hfl, htext, hv⟩ := inv_line w ic inv
  rw [hfl] at hnd
  have hpl : PlainRem l := plain_nondir hv.2.1.1 hnd
  have hsplice : splice w ic (D + 1) s₁.buf.rest = l ++ spliceTail w ic (D + 1) tail := by
    rw [hdec, splice_line w ic D hl htail, spliceLine_nondir w ic D hnd]
  have hrest₂ : s₂.buf.rest = l ++ (spliceTail w ic (D + 1) tail ++ flatStack w ic D s₁.stack) := by
    rw [hrest]; unfold flat; rw [hsplice, List.append_assoc]
  have hb₁ : ∀ b ∈ s₁.buf.rest, b < 256 := fun b hb => (treeOK_byteText inv.text b hb).2
  have hb₂ : ∀ b ∈ s₂.buf.rest, b < 256 := fun b hb => by
    rw [hrest] at hb
    exact (flat_bytes w ic inv b hb).2
  by_cases hle : l = []
  · -- the newline
    subst hle
    rcases follow_cases htail with rfl | ⟨m, rfl⟩
    · exact (hre (by rw [hdec]; rfl)).elim
    have hdec' : s₁.buf.rest = [10] ++ m := by rw [hdec]; rfl
    have hrest₂' : s₂.buf.rest = [10] ++ (splice w ic (D + 1) m ++ flatStack w ic D s₁.stack) := by
      rw [hrest₂]; rfl
    obtain ⟨r, hnext, hout⟩ := next_nl inv.sc01
    have hn₁ : Flex.next T s₁.sc s₁.buf.bol s₁.buf.rest = some (r, 1) := by
      rw [← hnext, hdec']
      exact next_unit inv.sc01 _ (by simp) (.inl rfl) (by simp) (by rw [← hdec']; exact hb₁)
    have hn₂ : Flex.next T s₂.sc s₂.buf.bol s₂.buf.rest = some (r, 1) := by
      rw [← hnext, hsc, hrest₂']
      exact next_unit inv.sc01 _ (by simp) (.inl rfl) (by simp) (by rw [← hrest₂']; exact hb₂)
    have htk : s₁.buf.rest.take 1 = [10] := by rw [hdec']; rfl
    refine ⟨r, 1, 0, none, hn₁, hn₂, by rw [hdec', hrest₂']; rfl, by rw [htk]; exact hout, ?_, ?_⟩
    · rw [mu_eq w ic inv.depth, mu_eq w ic (s := { advance T s₁ r 1 with sc := 0 }) inv.depth]
      show weight w ic (D + 1) (s₁.buf.rest.drop 1) + stackWt w ic D s₁.stack < _
      rw [hdec, weight_line w ic D hl htail, lineWeight_nondir w ic _ hnd]
      simp only [List.nil_append, List.drop_succ_cons, List.drop_zero, weightTail, List.length_nil]
      omega
    have hbol₁ : (advance T s₁ r 1).buf.bol = true := advance_bol (c := 10) (by rw [htk]; rfl)
    have hbol₂ : (advance T s₂ r 1).buf.bol = true :=
      advance_bol (c := 10) (by rw [hrest₂']; rfl)
    have hr₁ : (advance T s₁ r 1).buf.rest = m := by rw [advance_rest, hdec']; rfl
    refine ⟨D, ⟨.inl rfl, inv.str, fun _ => rfl, ?_, fun _ => hbol₁, ?_, inv.stack, inv.depth⟩,
      rfl, hstr, hstk, ?_, fun _ => hbol₂⟩
    · show TreeOK w ic D (advance T s₁ r 1).buf.rest
      rw [hr₁]; exact hv.2.2 m rfl
    · show TopOK w ic D (s₁.buf.rest.drop 1) (advance T s₁ r 1).buf.bol s₁.stack
      exact topOK_drop w ic 1 inv.top (fun _ _ _ _ _ => hbol₁)
    · show s₂.buf.rest.drop 1 = splice w ic (D + 1) (advance T s₁ r 1).buf.rest ++ flatStack w ic D s₁.stack
      rw [hr₁, hrest₂']; rfl
  · -- a lexeme within the line
    have hnn : ¬ NLT l := not_nlt_of_line hle hl
    have hfol := follow_behind w ic htail (hdec ▸ inv.top) hnn
    have hbl : ∀ b ∈ l, b < 256 := fun b hb => (hv.1 b hb).2
    obtain ⟨r, n, hnext, hpos, hlen, hsimple⟩ :=
      next_plain inv.sc01 hle hpl.1 (plainRem_not_prefix hpl) hbl
    have hn₁ : Flex.next T s₁.sc s₁.buf.bol s₁.buf.rest = some (r, n) := by
      rw [← hnext, hdec]
      exact next_unit inv.sc01 _ hle (.inr ⟨hl, htail⟩) hpl.1 (by rw [← hdec]; exact hb₁)
    have hn₂ : Flex.next T s₂.sc s₂.buf.bol s₂.buf.rest = some (r, n) := by
      rw [← hnext, hsc, hrest₂]
      exact next_unit inv.sc01 _ hle (.inr ⟨hl, hfol⟩) hpl.1 (by rw [← hrest₂]; exact hb₂)
    have htk₁ : s₁.buf.rest.take n = l.take n := by rw [hdec, List.take_append_of_le_length hlen]
    have htk₂ : s₂.buf.rest.take n = l.take n := by rw [hrest₂, List.take_append_of_le_length hlen]
    have hdr₁ : s₁.buf.rest.drop n = l.drop n ++ tail := by
      rw [hdec, List.drop_append_of_le_length hlen]
    have hdr₂ : s₂.buf.rest.drop n
        = l.drop n ++ (spliceTail w ic (D + 1) tail ++ flatStack w ic D s₁.stack) := by
      rw [hrest₂, List.drop_append_of_le_length hlen]
    -- the rest of the line
    have hsplit := List.take_append_drop n l
    have htop := inv.top
    rw [hdec, ← hsplit] at htop
    obtain ⟨htext', hfl', htop', hsplice', hwt'⟩ := line_suffix w ic (by rw [hsplit]; exact hl)
      (by rw [hsplit]; exact hle) htail (by rw [hsplit]; exact htext) htop (plainRem_drop n hpl)
    obtain ⟨sc', o, hsc'0, hact⟩ := actOut_simple hsimple s₁.sc (s₁.buf.rest.take n)
    refine ⟨r, n, sc', o, hn₁, hn₂, by rw [htk₁, htk₂], hact, ?_, ?_⟩
    · rw [mu_eq w ic inv.depth, mu_eq w ic (s := { advance T s₁ r n with sc := sc' }) inv.depth]
      show weight w ic (D + 1) (s₁.buf.rest.drop n) + stackWt w ic D s₁.stack < _
      rw [hdr₁, hwt', hdec, weight_line w ic D hl htail, lineWeight_nondir w ic _ hnd,
        List.length_drop]
      omega
    have hsc' : sc' = 0 ∨ sc' = 1 := hsc'0.elim (fun h => h ▸ inv.sc01) id
    have hbol₁ : (advance T s₁ r n).buf.bol = false := adv_bol_false s₁ r n hdec hpos hlen hl
    refine ⟨D, ⟨hsc', inv.str, ?_, ?_, fun hd => (hd ?_).elim, ?_, inv.stack, inv.depth⟩,
      rfl, hstr, hstk, ?_, ?_⟩
    · intro hb; rw [hbol₁] at hb; cases hb
    · show TreeOK w ic D (s₁.buf.rest.drop n)
      rw [hdr₁]; exact htext'
    · show directive? (firstLine (s₁.buf.rest.drop n)) = none
      rw [hdr₁]; exact hfl'
    · show TopOK w ic D (s₁.buf.rest.drop n) (advance T s₁ r n).buf.bol s₁.stack
      rw [hdr₁, hbol₁]; exact htop'
    · show s₂.buf.rest.drop n = splice w ic (D + 1) (s₁.buf.rest.drop n) ++ flatStack w ic D s₁.stack
      rw [hdr₂, hdr₁, hsplice', List.append_assoc]
    · intro hb; rw [hbol₁] at hb; cases hb

/-! ### the relation is kept: a directive line -/

theorem filesOK_of_dirOK {D : Nat} {aft rest : Bytes} (hfol : rest = [] → Follow aft) :
    ∀ files : List Bytes, (∀ p ∈ files, ∃ c, w.open? p = some c ∧ TreeOK w ic D c) →
      (∀ p ∈ files.dropLast, ∀ c, w.open? p = some c → NLT c) →
      (∀ p, files.getLast? = some p → ∀ c, w.open? p = some c → NLT c ∨ rest = []) →
      FilesOK w ic D aft files
  | [], _, _, _ => trivial
  | p :: ps, h1, h2, h3 => by
    obtain ⟨c, hc, hok⟩ := h1 p (List.mem_cons_self ..)
    refine ⟨⟨c, hc, hok, ?_, ?_⟩, filesOK_of_dirOK hfol ps
      (fun q hq => h1 q (List.mem_cons_of_mem _ hq)) ?_ ?_⟩
    · intro hne
      apply h2 p _ c hc
      rw [List.dropLast_cons_of_ne_nil hne]
      exact List.mem_cons_self ..
    · intro hnil
      subst hnil
      rcases h3 p rfl c hc with h | h
      · exact .inl h
      · exact .inr (hfol h)
    · intro q hq c' hc'
      have hne : ps ≠ [] := by rintro rfl; cases hq
      apply h2 q _ c' hc'
      rw [List.dropLast_cons_of_ne_nil hne]
      exact List.mem_cons_of_mem _ hq
    · intro q hq c' hc'
      have hne : ps ≠ [] := by rintro rfl; cases hq
      apply h3 q _ c' hc'
      rw [List.getLast?_cons_of_ne_nil hne]
      exact hq

/-- a directive line: run 1 goes through the directive (prefix, path, closing quote, push
or skip) without returning, run 2 stays; afterwards run 1 stands at the start of the first
file, or behind the directive -/
theorem rel_directive {s₁ s₂ : ScanState} (h : Rel w ic s₁ s₂) {x : Bytes × Bytes}
    (hd : directive? (firstLine s₁.buf.rest) = some x) :
    ∃ s₁' k, 0 < k ∧ k ≤ 3 ∧ Steps w ic k s₁ s₁' ∧ Rel w ic s₁' s₂ ∧
      mu w ic s₁' + 3 ≤ mu w ic s₁ := by
  obtain ⟨path, rest⟩ := x
  obtain ⟨D, inv, hsc, hstr, hstk, hrest, hbol⟩ := h
  obtain ⟨l, tail, hdec, hl, htail, hfl, htext, hv⟩ := inv_line w ic inv
  rw [hfl] at hd
  have hbol₁ : s₁.buf.bol = true := inv.dirbol (by rw [hfl, hd]; simp)
  have hsc₁ : s₁.sc = 0 := inv.bolsc hbol₁
  have hpr : PlainRem rest := plain_dir hv.2.1.1 hd
  have hbp : ByteText path := fun b hb => hv.1 b (path_sub hd b hb)
  have hbt : ByteText (l ++ tail) := treeOK_byteText htext
  -- the depth
  obtain ⟨D', rfl⟩ : ∃ D', D = D' + 1 := by
    cases D with
    | zero => exact (hv.2.1.2 path rest hd).elim
    | succ D' => exact ⟨D', rfl⟩
  obtain ⟨files, hfn, hfiles, hdl, hlast⟩ := hv.2.1.2 path rest hd
  have hdepth : s₁.stack.length < 10 := by have := inv.depth; omega
  -- up to the closing quote
  obtain ⟨sb, k0, hk0, hk2, hsil, hsbsc, hsbstr, hsbrest, hsbbol, hsbstack⟩ :=
    directive_prefix w ic s₁ l tail path rest hd hdec hbt hl hsc₁ hbol₁ inv.str
  -- the text behind the directive
  obtain ⟨pre, hpre, hlp⟩ := directive?_rest hd
  have hne : l ≠ [] := by rw [hlp]; simp [hpre]
  have hnn : ¬ NLT l := not_nlt_of_line hne hl
  have htop := inv.top
  rw [hdec, hlp] at htop
  obtain ⟨htext', hfl', htop', hsplice', hwt'⟩ := line_suffix w ic (by rw [← hlp]; exact hl)
    (by rw [← hlp]; exact hne) htail (by rw [← hlp]; exact htext) htop hpr
  rw [show D' + 1 + 1 = D' + 2 from rfl] at hsplice' hwt'
  have hhead : ∀ c, (rest ++ tail).head? = some c → c < 256 := fun c hc =>
    (treeOK_byteText htext' c (List.mem_of_mem_head? hc)).2
  have hsplice : splice w ic (D' + 2) s₁.buf.rest =
      (files.flatMap fun p => splice w ic (D' + 1) ((w.open? p).getD [])) ++
        (rest ++ spliceTail w ic (D' + 2) tail) := by
    rw [hdec, splice_line w ic (D' + 1) hl htail, spliceLine_dir w ic _ hd hfn, List.append_assoc]
  have hmu : mu w ic s₁ = 1 + (3 + (files.map fun p => weight w ic (D' + 1)
      ((w.open? p).getD [])).sum + rest.length) + weightTail w ic (D' + 2) tail +
      stackWt w ic (D' + 1) s₁.stack := by
    rw [mu_eq w ic inv.depth, hdec, weight_line w ic (D' + 1) hl htail,
      lineWeight_dir w ic _ hd hfn]
  cases hfs : files with
  | nil =>
    subst hfs
    obtain ⟨s', hsil', hsc', hstr', hrest', hbol', hstack'⟩ :=
      directive_close_skip w ic sb path (rest ++ tail) hsbsc hsbstr hsbrest hsbbol hhead hbp
        (by rw [hsbstack]; exact hdepth) hfn
    have hmu' : mu w ic s' + 3 ≤ mu w ic s₁ := by
      rw [hmu, mu_eq w ic (D := D' + 1) (by rw [hstack', hsbstack]; exact inv.depth), hrest', hstack',
        hsbstack, hwt']
      simp only [List.map_nil, List.sum_nil]
      omega
    refine ⟨s', k0 + 1, by omega, by omega, hsil.trans hsil', ⟨D' + 1,
      ⟨.inl hsc', hstr', fun _ => hsc', ?_, ?_, ?_, ?_, ?_⟩,
      by rw [hsc, hsc₁, hsc'], hstr, hstk, ?_, ?_⟩, hmu'⟩
    · rw [hrest']; exact htext'
    · rw [hrest']; intro hd'; exact (hd' hfl').elim
    · rw [hrest', hbol', hstack', hsbstack]; exact htop'
    · rw [hstack', hsbstack]; exact inv.stack
    · rw [hstack', hsbstack]; exact inv.depth
    · rw [hrest]
      unfold flat
      rw [hsplice, hrest', hstack', hsbstack, hsplice']
      simp
    · intro hb; rw [hbol'] at hb; cases hb
  | cons p ps =>
    subst hfs
    obtain ⟨c, hc, hcok⟩ := hfiles p (List.mem_cons_self ..)
    obtain ⟨s', hsil', hsc', hstr', hrest', hbol', ln, hstack'⟩ :=
      directive_close_push w ic sb path (rest ++ tail) hsbsc hsbstr hsbrest hsbbol hhead hbp
        (by rw [hsbstack]; exact hdepth) p ps c hfn hc
    rw [hsbstack] at hstack'
    -- what follows the files of the new frame
    have haft : after w ic D' { files := p :: ps, cur := 0, parent := ⟨rest ++ tail, false, ln⟩ }
        s₁.stack = (rest ++ spliceTail w ic (D' + 2) tail) ++ flatStack w ic (D' + 1) s₁.stack := by
      unfold after
      rw [hsplice']
    have hfolaft : rest = [] → Follow ((rest ++ spliceTail w ic (D' + 2) tail) ++
        flatStack w ic (D' + 1) s₁.stack) := by
      rintro rfl
      exact follow_behind w ic htail (hdec ▸ inv.top) hnn
    have hFiles : FilesOK w ic D' ((rest ++ spliceTail w ic (D' + 2) tail) ++
        flatStack w ic (D' + 1) s₁.stack) (p :: ps) :=
      filesOK_of_dirOK w ic hfolaft (p :: ps) hfiles hdl hlast
    obtain ⟨⟨c', hc', -, hn1, hn2⟩, hps⟩ := hFiles
    rw [hc] at hc'
    cases hc'
    have hrem : remOf { files := p :: ps, cur := 0, parent := ⟨rest ++ tail, false, ln⟩ } = ps := rfl
    have hmu' : mu w ic s' + 3 ≤ mu w ic s₁ := by
      have hd' : D' + s'.stack.length = 10 := by
        rw [hstack']
        have := inv.depth
        simp only [List.length_cons]
        omega
      rw [hmu, mu_eq w ic hd', hrest', hstack']
      simp only [stackWt, hrem, List.map_cons, List.sum_cons, hc, Option.getD_some, hwt']
      omega
    refine ⟨s', k0 + 1, by omega, by omega, hsil.trans hsil', ⟨D',
      ⟨.inl hsc', hstr', fun _ => hsc', ?_, ?_, ?_, ?_, ?_⟩,
      by rw [hsc, hsc₁, hsc'], hstr, hstk, ?_, ?_⟩, hmu'⟩
    · rw [hrest']; exact hcok
    · intro _; exact hbol'
    · rw [hrest', hbol', hstack']
      show CurOK _ _ (remOf _) (after w ic D' _ _)
      rw [hrem, haft]
      exact ⟨fun hne => ⟨hn1 hne, fun _ => rfl⟩, hn2⟩
    · rw [hstack']
      show FilesOK w ic D' (after w ic D' _ _) (remOf _) ∧ _
      rw [hrem, haft]
      exact ⟨hps, htext', hfl', rfl, htop', inv.stack⟩
    · rw [hstack']
      have := inv.depth
      simp only [List.length_cons]
      omega
    · rw [hrest]
      unfold flat
      rw [hsplice, hrest', hstack', flatStack_cons, hrem, haft]
      simp [flatFiles, hc]
    · intro _; exact hbol hbol₁

/-! ### the relation is kept: end of an included file -/

/-- end of an included file: run 1 closes it and goes on with the next file of the frame or
with the parent buffer; run 2 stays -/
theorem rel_eof {s₁ s₂ : ScanState} {f : Frame} {fs : List Frame} (h : Rel w ic s₁ s₂)
    (hre : s₁.buf.rest = []) (hst : s₁.stack = f :: fs) :
    ∃ s₁', Steps w ic 1 s₁ s₁' ∧ Rel w ic s₁' s₂ ∧ mu w ic s₁' + 1 = mu w ic s₁ := by
  obtain ⟨D, inv, hsc, hstr, hstk, hrest, hbol⟩ := h
  have hnext : Flex.next T s₁.sc s₁.buf.bol s₁.buf.rest = none := by
    rw [hre]
    exact next_end inv.sc01 _
  have hS := inv.stack
  have hT := inv.top
  have hdep := inv.depth
  have hmu := mu_eq w ic inv.depth
  rw [hst] at hS hT hdep
  rw [hre, hst, weight_nil] at hmu
  simp only [List.length_cons] at hdep
  obtain ⟨hf, hp, hdir, hpb, htop, hstk'⟩ := hS
  unfold flat at hrest
  rw [hre, hst, flatStack_cons, splice_nil] at hrest
  cases hq : f.files[f.cur + 1]? with
  | none =>
    -- the last file of the frame: back to the parent buffer
    have hrem := remOf_nil hq
    refine ⟨_, Steps.one (yylex_eof_pop hnext hst hq),
      ⟨D + 1, ⟨inv.sc01, inv.str, ?_, hp, fun hd => (hd hdir).elim, htop, hstk', by
        show D + 1 + fs.length = 10; omega⟩, hsc, hstr, hstk, ?_, ?_⟩, ?_⟩
    · intro hb; rw [hpb] at hb; cases hb
    · rw [hrest, hrem]
      simp [flat, flatFiles, after]
    · intro hb; rw [hpb] at hb; cases hb
    · show weight w ic (10 - fs.length + 1) f.parent.rest + stackWt w ic (10 - fs.length) fs + 1 = _
      rw [hmu, show 10 - fs.length + 1 = D + 2 by omega, show 10 - fs.length = D + 1 by omega]
      simp only [stackWt, hrem, List.map_nil, List.sum_nil]
      omega
  | some q =>
    -- the next file of the frame
    have hrem := remOf_cons hq
    rw [hrem] at hf
    obtain ⟨⟨c, hc, hok, hn1, hn2⟩, hps⟩ := hf
    have hb1 : s₁.buf.bol = true := (hT.1 (by rw [hrem]; simp)).2 hre
    refine ⟨_, Steps.one (yylex_eof_next hnext hst hq hc),
      ⟨D, ⟨inv.sc01, inv.str, fun _ => inv.bolsc hb1, hok, fun _ => rfl,
        ⟨fun hr => ⟨hn1 hr, fun _ => rfl⟩, hn2⟩, ⟨hps, hp, hdir, hpb, htop, hstk'⟩, by
        show D + (fs.length + 1) = 10; omega⟩, hsc, hstr, hstk, ?_, fun _ => hbol hb1⟩, ?_⟩
    · rw [hrest, hrem]
      simp [flat, flatStack_cons, flatFiles, after, hc]
    · show weight w ic (10 - (fs.length + 1) + 1) c +
        stackWt w ic (10 - (fs.length + 1)) ({ f with cur := f.cur + 1 } :: fs) + 1 = _
      rw [hmu, show 10 - (fs.length + 1) = D by omega]
      simp only [stackWt, hrem, List.map_cons, List.sum_cons, hc, Option.getD_some]
      omega

/-! ### one call of `yylex` in each run -/

/-- Where related runs stand: both at the end of their input; or run 1 has iterations of its
own to make (end of an included file, a directive line), which return nothing and lower `mu`;
or both runs are about to match the same lexeme (`rel_unit`). -/
theorem rel_cases {s₁ s₂ : ScanState} (h : Rel w ic s₁ s₂) :
    (s₁.buf.rest = [] ∧ s₁.stack = []) ∨
    (∃ s₁' k, 0 < k ∧ Steps w ic k s₁ s₁' ∧ Rel w ic s₁' s₂ ∧ mu w ic s₁' + k ≤ mu w ic s₁) ∨
    (s₁.buf.rest ≠ [] ∧ directive? (firstLine s₁.buf.rest) = none) := by
  by_cases hre : s₁.buf.rest = []
  · cases hst : s₁.stack with
    | nil => exact .inl ⟨hre, rfl⟩
    | cons f fs =>
      obtain ⟨s₁', hs, hR, hmu⟩ := rel_eof w ic h hre hst
      exact .inr (.inl ⟨s₁', 1, Nat.one_pos, hs, hR, Nat.le_of_eq hmu⟩)
  · cases hd : directive? (firstLine s₁.buf.rest) with
    | none => exact .inr (.inr ⟨hre, rfl⟩)
    | some x =>
      obtain ⟨s₁', k, hk, hk3, hs, hR, hmu⟩ := rel_directive w ic h hd
      exact .inr (.inl ⟨s₁', k, hk, hs, hR, by omega⟩)

theorem mu_pos (s : ScanState) {D : Nat} (h : D + s.stack.length = 10) : 0 < mu w ic s := by
  rw [mu_eq w ic h]
  obtain ⟨l, tail, hdec, hl, htail⟩ := line_split s.buf.rest
  rw [hdec, weight_line w ic D hl htail]
  omega

/-- **One call of `yylex` in each run, without fuel.**  From related states both calls return:
the same token with the same value, or both end of input — never an include error.  Run 2
needs at most as many iterations as run 1, run 1 at most `mu`; the states they end in are
related again, `mu` has not grown, and it is smaller after a token. -/
theorem call_sim {s₁ s₂ : ScanState} (hrel : Rel w ic s₁ s₂) :
    ∃ k₁ k₂ s₁' s₂' o, Returns T acts w ic k₁ s₁ (s₁', o) ∧ Returns T acts w ic k₂ s₂ (s₂', o) ∧
      k₂ ≤ k₁ ∧ k₁ ≤ mu w ic s₁ ∧ Rel w ic s₁' s₂' ∧ mu w ic s₁' ≤ mu w ic s₁ ∧
      (o = .eof ∨ ∃ t v, o = .tok t v ∧ mu w ic s₁' < mu w ic s₁) := by
  obtain ⟨m, hm⟩ : ∃ m, mu w ic s₁ ≤ m := ⟨_, Nat.le_refl _⟩
  induction m generalizing s₁ s₂ with
  | zero =>
    obtain ⟨D, inv, -⟩ := hrel
    have := mu_pos w ic s₁ inv.depth
    omega
  | succ m ih =>
    obtain ⟨D, inv, hsc, -, hstk, hrest, -⟩ := id hrel
    have hpos := mu_pos w ic s₁ inv.depth
    rcases rel_cases w ic hrel with ⟨hre, hst⟩ | ⟨s₁', k, hk, hsteps, hR, hmu⟩ | ⟨hre, hd⟩
    · -- end of input in both runs
      have hnil : ∀ bol, Flex.next T s₁.sc bol [] = none := next_end inv.sc01
      have hr2 : s₂.buf.rest = [] := by
        rw [hrest]; unfold flat; rw [hre, hst, splice_nil]; rfl
      exact ⟨1, 1, s₁, s₂, .eof,
        .one (LexEffect.eof (by rw [hre]; exact hnil _) hst).eq (by simp),
        .one (LexEffect.eof (by rw [hr2, hsc]; exact hnil _) hstk).eq (by simp),
        Nat.le_refl _, hpos, hrel, Nat.le_refl _, .inl rfl⟩
    · -- run 1 alone
      obtain ⟨k₁, k₂, s₁'', s₂', o, h1, h2, hk, hk1, hR', hle, ho⟩ := ih hR (by omega)
      exact ⟨k₁ + k, k₂, s₁'', s₂', o, h1.step hsteps, h2, by omega, by omega, hR', by omega,
        ho.imp id fun ⟨t, v, e, hlt⟩ => ⟨t, v, e, by omega⟩⟩
    · -- the same lexeme in both runs
      obtain ⟨r, n, sc', o, hn₁, hn₂, htk, hact, hlt, hR⟩ := rel_unit w ic hrel hre hd
      have e₁ := (LexEffect.act (w := w) (ic := ic) hn₁ (hact (advance T s₁ r n) rfl)).eq
      have e₂ := (LexEffect.act (w := w) (ic := ic) hn₂ (htk ▸ hact (advance T s₂ r n) hsc)).eq
      cases o with
      | none =>
        obtain ⟨k₁, k₂, s₁', s₂', o, h1, h2, hk, hk1, hR', hle, ho⟩ := ih hR (by omega)
        exact ⟨k₁ + 1, k₂ + 1, s₁', s₂', o, h1.step e₁, h2.step e₂, by omega, by omega, hR',
          by omega, ho.imp id fun ⟨t, v, e, h⟩ => ⟨t, v, e, by omega⟩⟩
      | some tv =>
        obtain ⟨t, v⟩ := tv
        exact ⟨1, 1, _, _, .tok t v, .one e₁ (by simp), .one e₂ (by simp), Nat.le_refl _, hpos, hR,
          Nat.le_of_lt hlt, .inr ⟨t, v, rfl, hlt⟩⟩

/-- `call_sim` for calls with fuel `f₁` and `f₂` -/
theorem yylex_sim' (f₁ f₂ : Nat) (s₁ s₂ : ScanState) (hrel : Rel w ic s₁ s₂)
    (h1 : (yylex T acts w ic f₁ s₁).2 ≠ .outOfFuel)
    (h2 : f₁ ≤ f₂ ∨ (yylex T acts w ic f₂ s₂).2 ≠ .outOfFuel) :
    Rel w ic (yylex T acts w ic f₁ s₁).1 (yylex T acts w ic f₂ s₂).1 ∧
    (((yylex T acts w ic f₁ s₁).2 = .eof ∧ (yylex T acts w ic f₂ s₂).2 = .eof) ∨
     ∃ t v, (yylex T acts w ic f₁ s₁).2 = .tok t v ∧ (yylex T acts w ic f₂ s₂).2 = .tok t v) := by
  obtain ⟨k₁, k₂, s₁', s₂', o, c1, c2, hk, -, hR, -, ho⟩ := call_sim w ic hrel
  have hf₁ := c1.le_of_ne h1
  rw [c1.ge hf₁, c2.ge (h2.elim (fun h => by omega) c2.le_of_ne)]
  exact ⟨hR, ho.imp (fun e => ⟨e, e⟩) fun ⟨t, v, e, _⟩ => ⟨t, v, e, e⟩⟩

/-- `call_sim` for a call of run 1 with at least `mu` iterations at its disposal -/
theorem yylex_bound (s₁ s₂ : ScanState) (fuel : Nat) (hrel : Rel w ic s₁ s₂)
    (hfuel : mu w ic s₁ ≤ fuel) :
    (yylex T acts w ic fuel s₁).2 ≠ .outOfFuel ∧
    mu w ic (yylex T acts w ic fuel s₁).1 ≤ mu w ic s₁ ∧
    (∀ t v, (yylex T acts w ic fuel s₁).2 = .tok t v →
      mu w ic (yylex T acts w ic fuel s₁).1 < mu w ic s₁) := by
  obtain ⟨k₁, -, s₁', -, o, c1, -, -, hk1, -, hle, ho⟩ := call_sim w ic hrel
  rw [c1.ge (by omega)]
  refine ⟨c1.1, hle, fun t v e => ?_⟩
  rcases ho with rfl | ⟨_, _, -, h⟩
  · cases e
  · exact h

end
end Libconfig.C10S
