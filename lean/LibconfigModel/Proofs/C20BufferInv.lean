import LibconfigModel.Proofs.C20BufferShadow
/-
  C20B helpers: the stages of `yy_get_next_buffer` one by one, and the
  preservation of `FlexBuffer.Inv` and of the text still to be scanned by every event.
-/
namespace Libconfig.C20BP

open Libconfig Libconfig.FlexBuffer

/-! ### log extension -/

/-- `s'` has logged some more accesses than `s`, all of them in bounds -/
def LogExt (s s' : State) : Prop := ∃ l, s'.log = s.log ++ l ∧ ∀ a ∈ l, a.ok

theorem LogExt.refl (s : State) : LogExt s s := ⟨[], by simp, by simp⟩

theorem LogExt.trans {a b c : State} (h1 : LogExt a b) (h2 : LogExt b c) : LogExt a c := by
  obtain ⟨l1, e1, o1⟩ := h1
  obtain ⟨l2, e2, o2⟩ := h2
  refine ⟨l1 ++ l2, by rw [e2, e1, List.append_assoc], ?_⟩
  intro x hx
  rcases List.mem_append.mp hx with h | h
  · exact o1 x h
  · exact o2 x h

theorem LogExt.safe {s s' : State} (h : LogExt s s') (hs : ∀ a ∈ s.log, a.ok) :
    ∀ a ∈ s'.log, a.ok := by
  obtain ⟨l, e, o⟩ := h
  intro a ha
  rw [e] at ha
  rcases List.mem_append.mp ha with h | h
  · exact hs a h
  · exact o a h

theorem LogExt.of_eq {s s' : State} (h : s'.log = s.log) : LogExt s s' := ⟨[], by simp [h], by simp⟩

/-! ### the growth loop -/

/-- With the test of scanner.c it runs exactly when the text to keep fills the buffer. -/
theorem growLoop_eq (P : Params) (hP : P.test = growTestC) (ntm : Nat) (s : State)
    (h : ntm + 1 ≤ s.bufSize) :
    growLoop P (ntm + 2) ntm s =
      if s.bufSize = ntm + 1 then
        { s with bufSize := 2 * s.bufSize, ch := resize P.junk s.ch (2 * s.bufSize + 2),
                 log := s.log ++ [.realloc s.ch.length (2 * s.bufSize + 2)] }
      else s := by
  have : P.test (numToRead s.bufSize ntm) = true ↔ s.bufSize = ntm + 1 := by
    rw [hP, growTestC_true]; unfold numToRead; omega
  rw [growLoop_once P (test_le hP) ntm s h]
  simp only [this]


/-- In general (any state with `yy_buf_size > 0`), `number_to_move + 2` iterations suffice
for the growth loop to make room for at least one byte. -/
theorem growLoop_room (P : Params) (hP : P.test = growTestC) (ntm : Nat) :
    ∀ (fuel : Nat) (s : State), 0 < s.bufSize → ntm + 2 ≤ s.bufSize + fuel →
      ntm + 1 < (growLoop P fuel ntm s).bufSize := by
  intro fuel
  induction fuel with
  | zero => intro s _ h; simp only [growLoop]; omega
  | succ f ih =>
    intro s h0 h
    rw [growLoop]
    by_cases ht : P.test (numToRead s.bufSize ntm) = true
    · rw [if_pos ht]
      exact ih _ (by show 0 < 2 * s.bufSize; omega) (by show ntm + 2 ≤ 2 * s.bufSize + f; omega)
    · rw [if_neg ht]
      rw [hP, growTestC_true] at ht
      unfold numToRead at ht
      omega

/-! ### the stages of `yy_get_next_buffer` -/

/-- after the growth loop (started with `number_to_move + 1 ≤ yy_buf_size`) -/
structure GrowSpec (ntm : Nat) (m g : State) : Prop where
  alloc : g.ch.length = g.bufSize + 2
  room : ntm + 1 < g.bufSize
  keep : ∀ i, i < m.ch.length → g.ch[i]? = m.ch[i]?
  size : g.bufSize = m.bufSize ∨ (g.bufSize = 2 * m.bufSize ∧ m.bufSize = ntm + 1)
  nChars : g.nChars = m.nChars
  textPtr : g.textPtr = m.textPtr
  cBufP : g.cBufP = m.cBufP
  holdChar : g.holdChar = m.holdChar
  status : g.status = m.status
  rest : g.rest = m.rest
  tokens : g.tokens = m.tokens
  log : LogExt m g

theorem growLoop_spec (P : Params) (hP : P.test = growTestC) (ntm : Nat) (m : State)
    (ha : m.ch.length = m.bufSize + 2) (h : ntm + 1 ≤ m.bufSize) :
    GrowSpec ntm m (growLoop P (ntm + 2) ntm m) := by
  rw [growLoop_eq P hP ntm m h]
  by_cases h1 : m.bufSize = ntm + 1
  · rw [if_pos h1]
    exact {
      alloc := by simp only [length_resize]
      room := by simp only; omega
      keep := fun i hi => getElem?_resize _ _ _ _ (by omega) hi
      size := .inr ⟨rfl, h1⟩
      nChars := rfl, textPtr := rfl, cBufP := rfl, holdChar := rfl, status := rfl, rest := rfl
      tokens := rfl
      log := ⟨[_], rfl, by simp only [List.mem_singleton, forall_eq, Access.ok]; omega⟩ }
  · rw [if_neg h1]
    exact {
      alloc := ha
      room := by omega
      keep := fun _ _ => rfl
      size := .inl rfl
      nChars := rfl, textPtr := rfl, cBufP := rfl, holdChar := rfl, status := rfl, rest := rfl
      tokens := rfl
      log := LogExt.refl _ }

/-- after the read (or the forced end of file) -/
structure ReadSpec (k ntm : Nat) (m r : State) : Prop where
  alloc : r.ch.length = r.bufSize + 2
  /-- `yy_n_chars` (the result of the read) + `number_to_move` stays below `yy_buf_size` -/
  room : ntm + r.nChars < r.bufSize
  /-- the moved text is untouched -/
  keep : ∀ i, i < ntm → r.ch[i]? = m.ch[i]?
  /-- the bytes read are the next bytes of the stream -/
  data : slice r.ch ntm r.nChars ++ r.rest = m.rest
  le : r.nChars ≤ k
  size : r.bufSize = m.bufSize ∨
    (r.bufSize = 2 * m.bufSize ∧ m.bufSize = ntm + 1 ∧ m.status ≠ .eofPending)
  eof : m.status = .eofPending → r.nChars = 0
  /-- a read from a stream that has bytes and is willing to deliver some gets some -/
  live : m.status ≠ .eofPending → 1 ≤ k → m.rest ≠ [] → r.nChars ≠ 0
  /-- a read that gets nothing: the stream is at its end or delivered nothing -/
  dry : r.nChars = 0 → m.status = .eofPending ∨ k = 0 ∨ m.rest = []
  textPtr : r.textPtr = m.textPtr
  cBufP : r.cBufP = m.cBufP
  holdChar : r.holdChar = m.holdChar
  status : r.status = m.status
  tokens : r.tokens = m.tokens
  log : LogExt m r

theorem readStage_spec (P : Params) (hP : P.OK) (k ntm : Nat) (m : State)
    (ha : m.ch.length = m.bufSize + 2) (h : ntm + 1 ≤ m.bufSize) :
    ReadSpec k ntm m (readStage P k ntm m) := by
  by_cases hs : m.status = .eofPending
  · have e : readStage P k ntm m = { m with nChars := 0 } := by
      unfold readStage; rw [hs]
    rw [e]
    exact {
      alloc := ha
      room := by simp only; omega
      keep := fun _ _ => rfl
      data := by simp [slice]
      le := Nat.zero_le _
      size := .inl rfl
      eof := fun _ => rfl
      live := fun h' => absurd hs h'
      dry := fun _ => .inl hs
      textPtr := rfl, cBufP := rfl, holdChar := rfl, status := rfl, tokens := rfl
      log := LogExt.refl _ }
  · have G := growLoop_spec P hP.test ntm m ha h
    generalize hg : growLoop P (ntm + 2) ntm m = g at G
    -- the clamped `num_to_read`
    let n0 : Int := numToRead g.bufSize ntm
    let n1 : Int := if n0 > (P.R : Int) then (P.R : Int) else n0
    let data := g.rest.take (min k n1.toNat)
    have e : readStage P k ntm m =
        { g with ch := writeAt g.ch ntm data, nChars := data.length,
                 rest := g.rest.drop data.length,
                 log := g.log ++ [.input g.ch.length ntm n1] } := by
      unfold readStage
      cases hst : m.status with
      | eofPending => exact absurd hst hs
      | new => simp only [hg]; rfl
      | normal => simp only [hg]; rfl
    have hn1 : 1 ≤ n1 ∧ (ntm : Int) + n1 < g.bufSize := by
      have := G.room; have := hP.R
      simp only [n1, n0, numToRead]
      split <;> omega
    have hdl : data.length ≤ min k n1.toNat := by
      simp only [data, List.length_take]; omega
    have hfit : ntm + data.length ≤ g.ch.length := by rw [G.alloc]; omega
    rw [e]
    exact {
      alloc := by simp only; rw [length_writeAt _ _ _ hfit]; exact G.alloc
      room := by simp only; omega
      keep := fun i hi => by
        simp only
        rw [getElem?_writeAt _ _ _ _ hfit, if_pos hi]
        exact G.keep i (by rw [ha]; omega)
      data := by
        simp only
        have : slice (writeAt g.ch ntm data) ntm data.length = data := by
          simp only [slice, writeAt, List.append_assoc]
          rw [List.drop_left' (by rw [List.length_take]; omega), List.take_left' rfl]
        rw [this, ← G.rest]
        have hd : g.rest.take data.length = data := by
          rw [List.length_take, ← List.take_eq_take_min]
        have := List.take_append_drop data.length g.rest
        rw [hd] at this
        exact this
      le := by simp only; omega
      size := by
        rcases G.size with h1 | ⟨h1, h2⟩
        · exact .inl h1
        · exact .inr ⟨h1, h2, hs⟩
      eof := fun h' => absurd h' hs
      live := fun _ hk hr => by
        simp only [data, List.length_take]
        have : 0 < g.rest.length := by
          rw [G.rest]; exact List.length_pos_iff.mpr hr
        omega
      dry := fun h0 => by
        simp only [data, List.length_take] at h0
        by_cases hk : k = 0
        · exact .inr (.inl hk)
        · refine .inr (.inr ?_)
          rw [← G.rest]
          exact List.eq_nil_of_length_eq_zero (by omega)
      textPtr := G.textPtr, cBufP := G.cBufP, holdChar := G.holdChar, status := G.status
      tokens := G.tokens
      log := G.log.trans ⟨[_], rfl, by
        intro a ha'
        simp only [List.mem_singleton] at ha'
        subst ha'
        simp only [Access.ok]
        refine ⟨hn1.1, ?_⟩
        rw [G.alloc]; omega⟩ }


/-- `yyrestart` / `YY_BUFFER_EOF_PENDING` -/
structure StatusSpec (ntm : Nat) (r x : State) : Prop where
  len : x.ch.length = r.ch.length
  bufSize : x.bufSize = r.bufSize
  nChars : x.nChars = r.nChars
  rest : x.rest = r.rest
  tokens : x.tokens = r.tokens
  keep : ∀ i, i < ntm + r.nChars → x.ch[i]? = r.ch[i]?
  status : x.status =
    if r.nChars = 0 then (if ntm = 0 then Status.new else Status.eofPending) else r.status
  log : LogExt r x

theorem statusStage_spec (ntm : Nat) (r : State) (h2 : 2 ≤ r.ch.length) :
    StatusSpec ntm r (statusStage ntm r) := by
  unfold statusStage
  by_cases h0 : r.nChars = 0
  · by_cases hn : ntm = 0
    · rw [if_pos h0, if_pos hn]
      exact {
        len := by simp [restart, flush, loadBufferState]
        bufSize := rfl
        nChars := by simp [restart, flush, loadBufferState, h0]
        rest := rfl
        tokens := rfl
        keep := fun i hi => by omega
        status := by simp [restart, flush, loadBufferState, h0, hn]
        log := ⟨[.store r.ch.length 0, .store r.ch.length 1, .load ((r.ch.set 0 0).set 1 0).length 0,
            .load ((r.ch.set 0 0).set 1 0).length 0],
          by simp [restart, flush, loadBufferState], by
          intro a ha
          simp only [List.mem_cons, List.not_mem_nil, or_false, List.length_set] at ha
          rcases ha with rfl | rfl | rfl | rfl <;> simp only [Access.ok] <;> omega⟩ }
    · rw [if_pos h0, if_neg hn]
      exact {
        len := rfl, bufSize := rfl, nChars := rfl, rest := rfl, tokens := rfl
        keep := fun _ _ => rfl
        status := by simp [h0, hn]
        log := LogExt.refl _ }
  · rw [if_neg h0]
    exact {
      len := rfl, bufSize := rfl, nChars := rfl, rest := rfl, tokens := rfl
      keep := fun _ _ => rfl
      status := by simp [h0]
      log := LogExt.refl _ }

/-- the two sentinel stores -/
structure SentinelSpec (ntm : Nat) (x f : State) : Prop where
  len : f.ch.length = x.ch.length
  bufSize : f.bufSize = x.bufSize
  nChars : f.nChars = x.nChars + ntm
  textPtr : f.textPtr = 0
  rest : f.rest = x.rest
  tokens : f.tokens = x.tokens
  status : f.status = x.status
  keep : ∀ i, i < x.nChars + ntm → f.ch[i]? = x.ch[i]?
  sentinel0 : f.ch[f.nChars]? = some 0
  sentinel1 : f.ch[f.nChars + 1]? = some 0
  log : LogExt x f

theorem sentinelStage_spec (ntm : Nat) (x : State) (h : x.nChars + ntm + 1 < x.ch.length) :
    SentinelSpec ntm x (sentinelStage ntm x) := by
  unfold sentinelStage
  exact {
    len := by simp
    bufSize := rfl, nChars := rfl, textPtr := rfl, rest := rfl, tokens := rfl, status := rfl
    keep := fun i hi => by
      simp only
      rw [getElem?_set2 _ _ _ h, if_neg (by omega)]
    sentinel0 := by
      simp only
      rw [getElem?_set2 _ _ _ h, if_pos (.inl rfl)]
    sentinel1 := by
      simp only
      rw [getElem?_set2 _ _ _ h, if_pos (.inr rfl)]
    log := ⟨[_, _], rfl, by
      intro a ha
      simp only [List.mem_cons, List.not_mem_nil, or_false] at ha
      rcases ha with rfl | rfl <;> simp only [Access.ok] <;> omega⟩ }


/-! ### `yy_get_next_buffer` as a whole -/

/-- what `yy_get_next_buffer` does to such a state; `ntm` is `number_to_move`
(`e.nChars - e.textPtr`) -/
structure RefillSpec (k ntm : Nat) (e f : State) (ret : Ret) : Prop where
  textPtr : f.textPtr = 0
  alloc : f.ch.length = f.bufSize + 2
  room : f.nChars < f.bufSize
  sentinel0 : f.ch[f.nChars]? = some 0
  sentinel1 : f.ch[f.nChars + 1]? = some 0
  ge : ntm ≤ f.nChars
  le : f.nChars - ntm ≤ k
  /-- the text from `yytext_ptr` to the old sentinel is now at the front -/
  moved : slice f.ch 0 ntm = slice e.ch e.textPtr ntm
  /-- behind it are the next bytes of the stream -/
  data : slice f.ch ntm (f.nChars - ntm) ++ f.rest = e.rest
  ret : ret = if f.nChars = ntm then
      (if ntm = 0 then Ret.endOfFile else Ret.lastMatch) else Ret.continueScan
  status : f.status = if f.nChars = ntm then
      (if ntm = 0 then Status.new else Status.eofPending) else e.status
  size : f.bufSize = e.bufSize ∨
    (f.bufSize = 2 * e.bufSize ∧ e.bufSize = ntm + 1 ∧ e.status ≠ .eofPending)
  live : e.status ≠ .eofPending → 1 ≤ k → e.rest ≠ [] → f.nChars ≠ ntm
  dry : f.nChars = ntm → e.status = .eofPending ∨ k = 0 ∨ e.rest = []
  tokens : f.tokens = e.tokens
  log : LogExt e f

/-! ### the end-of-buffer action of `yylex` -/

/-- `eobEnter` leaves the buffer as it was (the hold character is stored and put back) -/
structure EnterSpec (s e : State) : Prop where
  ch : e.ch = s.ch
  bufSize : e.bufSize = s.bufSize
  nChars : e.nChars = s.nChars
  textPtr : e.textPtr = s.textPtr
  cBufP : e.cBufP = s.nChars + 1
  status : e.status = enteredStatus s.status
  rest : e.rest = s.rest
  tokens : e.tokens = s.tokens
  log : LogExt s e

theorem eobEnter_spec (s : State) (h1 : s.nChars + 1 < s.ch.length) (h2 : s.textPtr ≤ s.nChars) :
    EnterSpec s (eobEnter s) := by
  have hlog : ∀ a ∈ [Access.scan s.ch.length s.textPtr (s.nChars + 2),
      Access.load s.ch.length (s.nChars + 1), Access.store s.ch.length (s.nChars + 1),
      Access.store (s.ch.set (s.nChars + 1) 0).length (s.nChars + 1)], a.ok := by
    intro a ha
    simp only [List.mem_cons, List.not_mem_nil, or_false] at ha
    rcases ha with rfl | rfl | rfl | rfl <;> simp only [Access.ok, List.length_set] <;> omega
  have hch : (s.ch.set (s.nChars + 1) 0).set (s.nChars + 1) (s.ch.getD (s.nChars + 1) 0) = s.ch :=
    set_getD_self _ _ _ _ h1
  unfold eobEnter
  simp only [doBeforeAction, restoreHold]
  cases hs : s.status <;>
  exact {
    ch := hch, bufSize := rfl, nChars := rfl, textPtr := rfl, cBufP := rfl
    status := by simp [enteredStatus, hs]
    rest := rfl, tokens := rfl
    log := ⟨_, by simp only [List.append_assoc]; rfl, hlog⟩ }

theorem eobStep_spec (P : Params) (hP : P.OK) (k : Nat) (s : State) (h : Inv P s) :
    EnterSpec s (eobEnter s) ∧
    RefillSpec k (s.nChars - s.textPtr) (eobEnter s) (eobStep P k s).1 (eobStep P k s).2 ∧
    (eobStep P k s).1.cBufP ≤ (eobStep P k s).1.nChars := by
  have hroom := h.room
  have htext := Nat.le_trans h.text h.cur
  have E := eobEnter_spec s (by have := h.alloc; omega) htext
  generalize hn : s.nChars - s.textPtr = ntm
  rw [eobStep_eq P (test_le hP.test) k s ntm hroom hn]
  generalize eobEnter s = e at E ⊢
  have halloc : e.ch.length = e.bufSize + 2 := by rw [E.ch, E.bufSize]; exact h.alloc
  have hntm : ntm + 1 ≤ e.bufSize := by rw [E.bufSize]; omega
  have hfit : e.textPtr + ntm ≤ e.ch.length := by rw [halloc, E.textPtr, E.bufSize]; omega
  -- the move
  have hmlen : (moveStage ntm e).ch.length = e.ch.length := length_moveFront _ _ _ hfit
  have hmkeep : ∀ i, i < ntm → (moveStage ntm e).ch[i]? = e.ch[e.textPtr + i]? := fun i hi => by
    show (moveFront e.ch e.textPtr ntm)[i]? = _
    rw [getElem?_moveFront _ _ _ _ hfit, if_pos hi]
  have hmlog : LogExt e (moveStage ntm e) := ⟨[_], rfl, by
    intro a ha
    simp only [List.mem_singleton] at ha
    subst ha
    simp only [Access.ok]; omega⟩
  -- the read, `yyrestart` or `YY_BUFFER_EOF_PENDING`, the sentinels
  have R := readStage_spec P hP k ntm (moveStage ntm e) (by rw [hmlen]; exact halloc) hntm
  generalize readStage P k ntm (moveStage ntm e) = r at R
  have S := statusStage_spec ntm r (by rw [R.alloc]; omega)
  generalize statusStage ntm r = x at S
  have F := sentinelStage_spec ntm x (by rw [S.nChars, S.len, R.alloc]; have := R.room; omega)
  generalize sentinelStage ntm x = f at F
  have hfn : f.nChars = r.nChars + ntm := by rw [F.nChars, S.nChars]
  have hst : (moveStage ntm e).status = e.status := rfl
  have hrs : (moveStage ntm e).rest = e.rest := rfl
  have G : RefillSpec k ntm e f (retVal ntm r) := {
    textPtr := F.textPtr
    alloc := by rw [F.len, F.bufSize, S.len, S.bufSize]; exact R.alloc
    room := by rw [hfn, F.bufSize, S.bufSize]; have := R.room; omega
    sentinel0 := F.sentinel0
    sentinel1 := F.sentinel1
    ge := by omega
    le := by have := R.le; omega
    moved := by
      apply slice_congr
      intro i hi
      rw [Nat.zero_add, F.keep i (by rw [S.nChars]; omega), S.keep i (by omega), R.keep i hi, hmkeep i hi]
    data := by
      rw [hfn, F.rest, S.rest, ← hrs, ← R.data]
      congr 1
      have : r.nChars + ntm - ntm = r.nChars := by omega
      rw [this]
      apply slice_congr
      intro i hi
      rw [F.keep _ (by rw [S.nChars]; omega), S.keep _ (by omega)]
    ret := by
      unfold retVal
      have e1 : (f.nChars = ntm) ↔ (r.nChars = 0) := by omega
      simp only [e1]
    status := by
      rw [F.status, S.status, R.status, hst]
      have e1 : (f.nChars = ntm) ↔ (r.nChars = 0) := by omega
      simp only [e1]
    size := by
      rw [F.bufSize, S.bufSize]
      rcases R.size with h | ⟨h1, h2, h3⟩
      · exact .inl h
      · exact .inr ⟨h1, h2, h3⟩
    live := fun h1 h2 h3 => by
      have := R.live h1 h2 h3
      omega
    dry := fun h0 => R.dry (by omega)
    tokens := by rw [F.tokens, S.tokens, R.tokens]; rfl
    log := hmlog.trans (R.log.trans (S.log.trans F.log)) }
  -- `yy_c_buf_p` is set last and nothing above looks at it
  exact ⟨E, { G with }, show ntm ≤ f.nChars by omega⟩

/-! ### preservation of `Inv` -/

theorem eobStep_inv (P : Params) (hP : P.OK) (k : Nat) (s : State) (h : Inv P s) :
    Inv P (eobStep P k s).1 := by
  obtain ⟨E, G, hc⟩ := eobStep_spec P hP k s h
  exact {
    alloc := G.alloc
    room := G.room
    text := by rw [G.textPtr]; exact Nat.zero_le _
    cur := hc
    sentinel0 := G.sentinel0
    sentinel1 := G.sentinel1
    size := by
      obtain ⟨j, hj⟩ := h.size
      rcases G.size with h1 | ⟨h1, _, _⟩
      · exact ⟨j, by rw [h1, E.bufSize, hj]⟩
      · exact ⟨j + 1, by rw [h1, E.bufSize, hj, Nat.pow_succ]; ac_rfl⟩
    safe := (E.log.trans G.log).safe h.safe }

theorem window_eq_slice (s : State) : window s = slice s.ch s.textPtr (s.nChars - s.textPtr) := rfl

/-- what a rule action is given and what it leaves: the token is the first `l` bytes of the
text still to be scanned -/
structure TokSpec (l : Nat) (s s' : State) : Prop where
  ch : s'.ch = s.ch
  bufSize : s'.bufSize = s.bufSize
  nChars : s'.nChars = s.nChars
  textPtr : s'.textPtr = s.textPtr + l
  cBufP : s'.cBufP = s.textPtr + l
  status : s'.status = s.status
  rest : s'.rest = s.rest
  tokens : s'.tokens = s.tokens ++ [slice s.ch s.textPtr l]
  log : LogExt s s'

theorem tokStep_spec (l : Nat) (s : State) (h1 : s.nChars + 1 < s.ch.length)
    (hv : s.textPtr + l ≤ s.nChars) : TokSpec l s (tokStep l s) := by
  have hp : s.textPtr + l < s.ch.length := by omega
  have hlog : ∀ a ∈ [Access.scan s.ch.length s.textPtr (s.nChars + 1),
      Access.load s.ch.length (s.textPtr + l), Access.store s.ch.length (s.textPtr + l),
      Access.store (s.ch.set (s.textPtr + l) 0).length (s.textPtr + l)], a.ok := by
    intro a ha
    simp only [List.mem_cons, List.not_mem_nil, or_false] at ha
    rcases ha with rfl | rfl | rfl | rfl <;> simp only [Access.ok, List.length_set] <;> omega
  have hch : (s.ch.set (s.textPtr + l) 0).set (s.textPtr + l) (s.ch.getD (s.textPtr + l) 0) = s.ch :=
    set_getD_self _ _ _ _ hp
  have htok : ((s.ch.set (s.textPtr + l) 0).drop s.textPtr).take l = slice s.ch s.textPtr l := by
    show slice (s.ch.set (s.textPtr + l) 0) s.textPtr l = _
    apply slice_congr
    intro i hi
    rw [List.getElem?_set_ne (by omega)]
  unfold tokStep
  rw [if_pos hv]
  simp only [doBeforeAction, restoreHold]
  exact {
    ch := hch, bufSize := rfl, nChars := rfl, textPtr := rfl, cBufP := rfl, status := rfl
    rest := rfl
    tokens := by simp only [htok]
    log := ⟨_, by simp only [List.append_assoc]; rfl, hlog⟩ }

theorem tokStep_invalid (l : Nat) (s : State) (hv : ¬ s.textPtr + l ≤ s.nChars) : tokStep l s = s := by
  unfold tokStep
  rw [if_neg hv]

theorem tokStep_fixed (l : Nat) (s : State) :
    (tokStep l s).bufSize = s.bufSize ∧ (tokStep l s).status = s.status ∧
    (tokStep l s).rest = s.rest := by
  unfold tokStep
  split <;> exact ⟨rfl, rfl, rfl⟩

theorem tokStep_inv (P : Params) (l : Nat) (s : State) (h : Inv P s) : Inv P (tokStep l s) := by
  by_cases hv : s.textPtr + l ≤ s.nChars
  · have T := tokStep_spec l s (by have := h.alloc; have := h.room; omega) hv
    exact {
      alloc := by rw [T.ch, T.bufSize]; exact h.alloc
      room := by rw [T.nChars, T.bufSize]; exact h.room
      text := by rw [T.textPtr, T.cBufP]; exact Nat.le_refl _
      cur := by rw [T.cBufP, T.nChars]; exact hv
      sentinel0 := by rw [T.ch, T.nChars]; exact h.sentinel0
      sentinel1 := by rw [T.ch, T.nChars]; exact h.sentinel1
      size := by rw [T.bufSize]; exact h.size
      safe := T.log.safe h.safe }
  · rw [tokStep_invalid l s hv]; exact h

theorem tokStep_pending (P : Params) (l : Nat) (s : State) (h : Inv P s)
    (hv : s.textPtr + l ≤ s.nChars) :
    (tokStep l s).tokens = s.tokens ++ [(pending s).take l] ∧ ((pending s).take l).length = l ∧
      pending (tokStep l s) = (pending s).drop l := by
  have T := tokStep_spec l s (by have := h.alloc; have := h.room; omega) hv
  have hl : (slice s.ch s.textPtr l).length = l :=
    length_slice _ _ _ (by have := h.alloc; have := h.room; omega)
  -- the window is the token followed by the new window
  have hp : pending s = slice s.ch s.textPtr l ++ pending (tokStep l s) := by
    unfold pending
    rw [window_eq_slice, window_eq_slice, T.ch, T.nChars, T.textPtr, T.rest, ← List.append_assoc,
      ← slice_append]
    congr 2
    omega
  rw [T.tokens, hp, List.take_left' hl, List.drop_left' hl]
  exact ⟨rfl, hl, rfl⟩

theorem create_inv (P : Params) (hB : 0 < P.B) (stream : Bytes) : Inv P (create P stream) := by
  unfold create flush loadBufferState
  exact {
    alloc := by simp
    room := by
      show 0 < P.B
      exact hB
    text := Nat.le_refl _
    cur := Nat.le_refl _
    sentinel0 := by simp
    sentinel1 := by simp
    size := ⟨0, by simp⟩
    safe := by
      intro a ha
      simp only [List.nil_append, List.cons_append, List.mem_cons, List.not_mem_nil, or_false,
        List.length_replicate, List.length_set] at ha
      rcases ha with rfl | rfl | rfl <;> simp only [Access.ok] <;> omega }

end Libconfig.C20BP
