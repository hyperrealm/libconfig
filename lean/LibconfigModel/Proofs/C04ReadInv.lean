import LibconfigModel.Proofs.C04ReadTree
import LibconfigModel.Parser
/-
  C04 (reads), the invariant of the semantic actions.  `TInv c pa se` relates the tree being
  built to the two cursors of the parse context (`ctx->parent`, `ctx->setting`, as index paths):

  * the configuration is well-formed;
  * `parent` addresses a node;
  * `setting`, unless it is the root, addresses a childless node whose own parent is not an
    array — exactly what makes retyping it (`$@2/$@3/$@4` outside a list) harmless;
  * `setting` is not at or above `parent`, so that the children the actions append below
    `parent` never become children of the node at `setting`.

  Every semantic action preserves `TInv`, provided the actions that write through `setting` do
  not run while `setting` is the root (the fact supplied by the grammar, see C04ReadStatic).
-/
namespace Libconfig.C04R
open Libconfig C04 C05P

/-! ### growing a node -/

/-- `n'` is `n` with the same type and name and all children of `n` still in place -/
def Grows (n n' : Node) : Prop :=
  n'.ty = n.ty ∧ n'.name = n.name ∧
    ∀ (j : Nat) (k : Node), n.kids[j]? = some k → n'.kids[j]? = some k

/-- editing the last child of a node -/
theorem modify_last (pn : Node) (ks : List Node) (e : Node) (g : Node → Node) :
    Node.modify g { pn with kids := ks ++ [e] } [ks.length] = { pn with kids := ks ++ [g e] } := by
  rw [modify_cons]
  simp [modify_nil]

/-- appending a child `e` and then editing it with `g` -/
theorem grown (pn : Node) (ks : List Node) (e : Node) (g : Node → Node)
    (hw : Node.WF { pn with kids := ks ++ [e] }) (hg : (g e).WF) (hc : Compat e (g e)) :
    Node.WF { pn with kids := ks ++ [g e] } := by
  rw [← modify_last]
  refine (modify_wf g [ks.length] _ e hw ?_ hg hc).1
  rw [get?_cons]
  simp [get?_nil]

theorem grows_append (pn : Node) (e : Node) : Grows pn { pn with kids := pn.kids ++ [e] } := by
  refine ⟨rfl, rfl, ?_⟩
  intro j k hj
  have hjl : j < pn.kids.length := (List.getElem?_eq_some_iff.mp hj).1
  show (pn.kids ++ [e])[j]? = some k
  rw [List.getElem?_append_left hjl]
  exact hj

/-! ### the setting cursor -/

/-- `sp` addresses a childless node whose parent is not an array -/
def SetOK (root : Node) (sp : Path) : Prop :=
  ∃ d j dn n, sp = d ++ [j] ∧ root.get? d = some dn ∧ dn.ty ≠ T_ARRAY ∧
    root.get? sp = some n ∧ n.kids = []

theorem SetOK.frame {root : Node} {sp : Path} (h : SetOK root sp) (f : Node → Node) (p : Path)
    (n : Node) (hn : root.get? p = some n) (hg : Grows n (f n)) (hsp : ¬ sp <+: p) :
    SetOK (root.modify f p) sp := by
  obtain ⟨d, j, dn, m, rfl, hd, hna, hm, hk⟩ := h
  obtain ⟨dn', h1, _, h3, h4⟩ := C04R.frame f p root n hn hg.2.2 d dn hd
  obtain ⟨m', h5, h6, _, _⟩ := C04R.frame f p root n hn hg.2.2 (d ++ [j]) m hm
  refine ⟨d, j, dn', m', rfl, h1, ?_, h5, ?_⟩
  · by_cases hdp : d = p
    · subst hdp
      rw [h4 rfl, hg.1]
      rw [hn] at hd; cases hd
      exact hna
    · rw [(h3 hdp).1]; exact hna
  · rw [h6 hsp]; exact hk

theorem SetOK.self {root : Node} {sp : Path} (h : SetOK root sp) (F : Node → Node)
    (hF : ∀ n, (F n).kids = n.kids) : SetOK (root.modify F sp) sp := by
  obtain ⟨d, j, dn, m, rfl, hd, hna, hm, hk⟩ := h
  obtain ⟨dn', h1, _, h3, _⟩ := C04R.frame F (d ++ [j]) root m hm
    (by intro j k h; rw [hF]; exact h) d dn hd
  refine ⟨d, j, dn', F m, rfl, h1, ?_, ?_, ?_⟩
  · rw [(h3 (by simp)).1]; exact hna
  · rw [get?_modify_self, hm]; rfl
  · rw [hF]; exact hk

/-! ### the invariant -/

structure TInv (c : Config) (pa se : Option Path) : Prop where
  wf : c.WF
  par : ∀ pp, pa = some pp → ∃ pn, c.root.get? pp = some pn
  set : ∀ sp, se = some sp → sp ≠ [] → SetOK c.root sp
  sep : ∀ sp pp, se = some sp → pa = some pp → sp ≠ [] → ¬ sp <+: pp

/-- only the root of the configuration matters -/
theorem TInv.congr_root {c c' : Config} {pa se : Option Path} (h : TInv c pa se)
    (hr : c'.root = c.root) : TInv c' pa se := by
  obtain ⟨⟨a, b, d⟩, h2, h3, h4⟩ := h
  exact ⟨⟨hr ▸ a, hr ▸ b, hr ▸ d⟩, hr ▸ h2, hr ▸ h3, h4⟩

/-- replacing the node at `parent` by a grown version of it -/
theorem TInv.grow {c : Config} {pa se : Option Path} (h : TInv c pa se) {pp : Path}
    {pn pn' : Node} (hpa : pa = some pp) (hpn : c.root.get? pp = some pn) (hw : pn'.WF)
    (hg : Grows pn pn') :
    TInv { c with root := c.root.modify (fun _ => pn') pp } pa se := by
  refine ⟨cfg_wf_modify h.wf _ hpn hw ⟨hg.2.1, fun _ => hg.1⟩, ?_, ?_, h.sep⟩
  · intro qq hqq
    obtain ⟨qn, hq⟩ := h.par qq hqq
    obtain ⟨m', h1, _⟩ := C04R.frame (fun _ => pn') pp c.root pn hpn hg.2.2 qq qn hq
    exact ⟨m', h1⟩
  · intro sp hsp hne
    exact (h.set sp hsp hne).frame _ pp pn hpn hg (h.sep sp pp hsp hpa hne)

/-- … and moving `parent` to the child just appended (`$@2/$@3/$@4` inside a list) -/
theorem TInv.grow_descend {c : Config} {se : Option Path} {pp : Path}
    (h : TInv c (some pp) se) {pn pn' k : Node} {i : Nat} (hpn : c.root.get? pp = some pn)
    (hw : pn'.WF) (hg : Grows pn pn') (hi : i = pn.kids.length) (hk : pn'.kids[i]? = some k) :
    TInv { c with root := c.root.modify (fun _ => pn') pp } (some (pp ++ [i])) se := by
  have h1 := h.grow rfl hpn hw hg
  refine ⟨h1.wf, ?_, h1.set, ?_⟩
  · intro qq hqq
    cases hqq
    refine ⟨k, get?_snoc_of (m0 := pn') ?_ hk⟩
    show (c.root.modify (fun _ => pn') pp).get? pp = some pn'
    rw [get?_modify_self, hpn]; rfl
  · intro sp qq hsp hqq hne hpre
    cases hqq
    rcases List.prefix_concat_iff.mp hpre with heq | hpre
    · obtain ⟨d, j, dn, n, _, _, _, hm, _⟩ := h.set sp hsp hne
      rw [heq] at hm
      obtain ⟨m0, hm0, hm1⟩ := get?_snoc hm
      rw [hpn] at hm0; cases hm0
      have := (List.getElem?_eq_some_iff.mp hm1).1
      omega
    · exact h.sep sp pp hsp rfl hne hpre

/-- `$@1`: the node at `parent` is replaced (a member may have been removed, a fresh childless
one appended as child `i`) and `setting` moves to the fresh child -/
theorem TInv.new_setting {c : Config} {se : Option Path} {pp : Path}
    (h : TInv c (some pp) se) {pn pn' k : Node} {i : Nat} (hpn : c.root.get? pp = some pn)
    (hw : pn'.WF) (hc : Compat pn pn') (hty : pn'.ty ≠ T_ARRAY) (hk : pn'.kids[i]? = some k)
    (hkk : k.kids = []) :
    TInv { c with root := c.root.modify (fun _ => pn') pp } (some pp) (some (pp ++ [i])) := by
  have hself : (c.root.modify (fun _ => pn') pp).get? pp = some pn' := by
    rw [get?_modify_self, hpn]; rfl
  refine ⟨cfg_wf_modify h.wf _ hpn hw hc, ?_, ?_, ?_⟩
  · intro qq hqq
    cases hqq
    exact ⟨pn', hself⟩
  · intro sp hsp _
    cases hsp
    exact ⟨pp, i, pn', k, rfl, hself, hty, get?_snoc_of hself hk, hkk⟩
  · intro sp qq hsp hqq _ hpre
    cases hsp; cases hqq
    have := hpre.length_le
    simp at this
    omega

/-- a scalar assignment through `setting` -/
theorem TInv.edit_setting {c : Config} {pa : Option Path} {sp : Path}
    (h : TInv c pa (some sp)) (F : Node → Node) {n : Node} (hn : c.root.get? sp = some n)
    (hw : (F n).WF) (hc : Compat n (F n)) (hF : ∀ m, (F m).kids = m.kids) :
    TInv { c with root := c.root.modify F sp } pa (some sp) := by
  refine ⟨cfg_wf_modify h.wf _ hn hw hc, ?_, ?_, h.sep⟩
  · intro qq hqq
    obtain ⟨qn, hq⟩ := h.par qq hqq
    obtain ⟨m', h1, _⟩ := C04R.frame F sp c.root n hn
      (by intro j k hj; rw [hF]; exact hj) qq qn hq
    exact ⟨m', h1⟩
  · intro sp' hsp hne
    cases hsp
    exact (h.set sp rfl hne).self F hF

/-- `$@2/$@3/$@4` outside a list: the node at `setting` (not the root) gets an aggregate type
and becomes `parent` -/
theorem TInv.retype {c : Config} {pa : Option Path} {sp : Path}
    (h : TInv c pa (some sp)) (hne : sp ≠ []) {ty : Nat} (hty : ty ≤ 8) :
    TInv { c with root := c.root.modify (fun n => { n with ty := ty }) sp } (some sp) none := by
  obtain ⟨d, j, dn, n, rfl, hd, hna, hm, hk⟩ := h.set sp rfl hne
  obtain ⟨m0, hm0, hm1⟩ := get?_snoc hm
  rw [hd] at hm0; cases hm0
  obtain ⟨h1, h2⟩ := retype_at_wf c.root dn n d j ty h.wf.nodes hd hm1 hna hk hty
  refine ⟨cfg_wf_root h.wf h1 h2, ?_, nofun, nofun⟩
  intro qq hqq
  cases hqq
  refine ⟨{ n with ty := ty }, ?_⟩
  show (c.root.modify (fun n => { n with ty := ty }) (d ++ [j])).get? (d ++ [j]) = _
  rw [get?_modify_self, hm]; rfl

/-- the end of an aggregate: `parent` moves up -/
theorem TInv.ascend {c : Config} {se : Option Path} {pp : Path} (h : TInv c (some pp) se) :
    TInv c (some pp.dropLast) se := by
  refine ⟨h.wf, ?_, h.set, ?_⟩
  · intro qq hqq
    cases hqq
    obtain ⟨pn, hpn⟩ := h.par pp rfl
    obtain ⟨r, hr⟩ := List.dropLast_prefix pp
    rw [← hr] at hpn
    obtain ⟨m0, hm0, _⟩ := get?_prefix_some hpn
    exact ⟨m0, hm0⟩
  · intro sp qq hsp hqq hne hpre
    cases hqq
    exact h.sep sp pp hsp rfl hne (hpre.trans (List.dropLast_prefix pp))

theorem TInv.no_parent {c : Config} {pa se : Option Path} (h : TInv c pa se) : TInv c none se :=
  ⟨h.wf, nofun, h.set, nofun⟩

theorem TInv.no_setting {c : Config} {pa se : Option Path} (h : TInv c pa se) : TInv c pa none :=
  ⟨h.wf, h.par, nofun, nofun⟩

end Libconfig.C04R
