import LibconfigModel.Proofs.C02Path
import LibconfigModel.Proofs.C05
import LibconfigModel.Proofs.ScannerStep
/-
  C02, dynamic part: `yyparseLoop` keeps its state stack a path of certificate edges
  (`StackPath`, Proofs/C02Path.lean) and every entry above the bottom can be decorated with a
  valid derivation tree whose root is the accessing symbol of the state (`Deco`); at acceptance
  the only tree left derives `configuration` and its yield is the sequence of token kinds
  consumed.  Also here: the loop body in front of a state on top of the stack (`bodyK_cons`, from
  which the proofs that drive the loop forward start), and that the scanner never hands out a token
  number that translates to the end marker (`tokNZ_theEnv`).
-/
namespace Libconfig.C02

/-- `LexesTo E s toks s'`: calling `yylex` repeatedly from scan state `s` returns the tokens
`toks` (token number and value) and then end of input, ending in state `s'` -/
inductive LexesTo (E : ParserEnv) : ScanState → List (Nat × TokVal) → ScanState → Prop where
  | eof (s s' : ScanState) : yylex E.T E.sacts E.w E.ic E.lexFuel s = (s', .eof) → LexesTo E s [] s'
  | tok (s s₁ s' : ScanState) (t : Nat) (v : TokVal) (rest : List (Nat × TokVal)) :
      yylex E.T E.sacts E.w E.ic E.lexFuel s = (s₁, .tok t v) → LexesTo E s₁ rest s' →
      LexesTo E s ((t, v) :: rest) s'
  /-- an include error is handed to the parser as the token TOK_ERROR (which no rule of the
  grammar contains, so a derivable sequence never has one) -/
  | incl (s s₁ s' : ScanState) (t : Nat) (text : Bytes) (file : Option Bytes) (line : Nat)
      (rest : List (Nat × TokVal)) :
      yylex E.T E.sacts E.w E.ic E.lexFuel s = (s₁, .includeError t text file line) → LexesTo E s₁ rest s' →
      LexesTo E s ((t, {}) :: rest) s'

theorem lexes_det {E : ParserEnv} {s s₁ s₂ : ScanState} {toks₁ toks₂ : List (Nat × TokVal)}
    (h1 : LexesTo E s toks₁ s₁) (h2 : LexesTo E s toks₂ s₂) : toks₁ = toks₂ := by
  induction h1 generalizing toks₂ s₂ with
  | eof s s' hy =>
    cases h2 with
    | eof _ _ hy' => rfl
    | tok _ _ _ _ _ _ hy' _ => rw [hy] at hy'; cases hy'
    | incl _ _ _ _ _ _ _ _ hy' _ => rw [hy] at hy'; cases hy'
  | tok s sa s' t v rest hy _ ih =>
    cases h2 with
    | eof _ _ hy' => rw [hy] at hy'; cases hy'
    | tok _ sb _ t' v' rest' hy' hl' =>
      rw [hy] at hy'
      cases hy'
      rw [ih hl']
    | incl _ _ _ _ _ _ _ _ hy' _ => rw [hy] at hy'; cases hy'
  | incl s sa s' t text file line rest hy _ ih =>
    cases h2 with
    | eof _ _ hy' => rw [hy] at hy'; cases hy'
    | tok _ _ _ _ _ _ hy' _ => rw [hy] at hy'; cases hy'
    | incl _ sb _ t' text' file' line' rest' hy' hl' =>
      rw [hy] at hy'
      cases hy'
      rw [ih hl']

end Libconfig.C02

namespace Libconfig.C02P
open Libconfig Grammar C05P C03P C03T C02

/-! ### trees -/

theorem yieldList_append (a b : List Tree) : yieldList (a ++ b) = yieldList a ++ yieldList b := by
  induction a with
  | nil => simp [yieldList]
  | cons t ts ih => simp [yieldList, ih, List.append_assoc]

theorem validList_iff (l : List Tree) : ValidList l ↔ ∀ t ∈ l, t.Valid := by
  induction l with
  | nil => simp [ValidList]
  | cons t ts ih => simp [ValidList, ih]

theorem yield_node (r : Nat) (kids : List Tree) : (Tree.node r kids).yield = yieldList kids := by
  rw [Tree.yield]

theorem yield_leaf (t : Nat) : (Tree.leaf t).yield = [t] := by
  rw [Tree.yield]

theorem yield_reduce (r n : Nat) (trees : List Tree) :
    yieldList ((Tree.node r (trees.take n).reverse :: trees.drop n).reverse) =
      yieldList trees.reverse := by
  conv => rhs; rw [← List.take_append_drop n trees]
  rw [List.reverse_cons, List.reverse_append, yieldList_append, yieldList_append]
  simp [yieldList, yield_node]

theorem yield_shift (tok : Nat) (trees : List Tree) :
    yieldList ((Tree.leaf tok :: trees).reverse) = yieldList trees.reverse ++ [tok] := by
  rw [List.reverse_cons, yieldList_append]
  simp [yieldList, yield_leaf]


/-! ### the stack decorated with trees -/

/-- `trees` (top first) decorates the entries of the stack above the bottom with valid trees
rooted in the accessing symbols of their states -/
inductive Deco (P : LalrTables) : List (Nat × TokVal) → List Tree → Prop where
  | base (e : Nat × TokVal) : Deco P [e] []
  | push (q : Nat) (v : TokVal) (rest : List (Nat × TokVal)) (t : Tree) (trees : List Tree) :
      Deco P rest trees → t.Valid → t.sym = stosN P q → Deco P ((q, v) :: rest) (t :: trees)

theorem Deco.drop {P : LalrTables} : ∀ (n : Nat) {stack : List (Nat × TokVal)} {trees : List Tree},
    Deco P stack trees → n < stack.length →
    Deco P (stack.drop n) (trees.drop n) ∧
      (trees.take n).map Tree.sym = (stack.take n).map (fun e => stosN P e.1) ∧
      ∀ t ∈ trees.take n, t.Valid
  | 0, _, _, h, _ => ⟨h, rfl, fun t ht => by simp at ht⟩
  | n + 1, _, _, .base e, hn => absurd hn (by simp)
  | n + 1, _, _, .push q v rest t trees h hv hsym, hn => by
    obtain ⟨h1, h2, h3⟩ := Deco.drop n h (Nat.lt_of_succ_lt_succ hn)
    refine ⟨h1, ?_, ?_⟩
    · rw [List.take_succ_cons, List.take_succ_cons, List.map_cons, List.map_cons, h2, hsym]
    · intro t' ht'
      rw [List.take_succ_cons, List.mem_cons] at ht'
      rcases ht' with rfl | ht'
      · exact hv
      · exact h3 _ ht'

theorem Deco.reduce {P : LalrTables} {ed : List (Nat × Nat)} {stack : List (Nat × TokVal)}
    {trees : List Tree} (hd : Deco P stack trees) {rule : Nat} (H : Handle P ed stack rule)
    (yyval : TokVal) :
    Deco P ((gotoTarget P rule (topState (stack.drop (P.r2.get rule).toNat)), yyval) ::
        stack.drop (P.r2.get rule).toNat)
      (Tree.node rule (trees.take (P.r2.get rule).toNat).reverse ::
        trees.drop (P.r2.get rule).toNat) := by
  obtain ⟨p, v', rest', hdrop, _, _, hstos, _⟩ := H.below
  have hlt : (P.r2.get rule).toNat < stack.length := by
    apply Classical.byContradiction
    intro hge
    rw [List.drop_eq_nil_of_le (Nat.le_of_not_lt hge)] at hdrop
    cases hdrop
  obtain ⟨h1, h2, h3⟩ := Deco.drop _ hd hlt
  refine .push _ _ _ _ _ h1 ?_ ?_
  · rw [Tree.Valid]
    refine ⟨H.ge, H.lt, ?_, (validList_iff _).2 fun t ht => h3 t (List.mem_reverse.mp ht)⟩
    rw [List.map_reverse, h2, H.syms, List.reverse_reverse]
  · rw [hdrop]
    exact H.lhs.symm.trans hstos.symm

/-! ### tokens -/

def kinds (P : LalrTables) (toks : List (Nat × TokVal)) : List Nat :=
  toks.map fun tv => translateTok P tv.1

/-- the scanner never hands out a token number that translates to the end marker -/
def TokNZ (E : ParserEnv) : Prop :=
  ∀ s s₁, (∀ t v, yylex E.T E.sacts E.w E.ic E.lexFuel s = (s₁, .tok t v) → translateTok E.P t ≠ 0) ∧
    (∀ t text file line, yylex E.T E.sacts E.w E.ic E.lexFuel s = (s₁, .includeError t text file line) →
      translateTok E.P t ≠ 0)

/-- what remains to be consumed: the lookahead, if it is a proper token, and what is still to be
lexed; nothing if it is the end marker (the scanner is never called again) -/
def Rem (E : ParserEnv) (la : Lookahead) (s : ScanState) (toks : List (Nat × TokVal))
    (s' : ScanState) : Prop :=
  match la with
  | none => LexesTo E s toks s'
  | some (t, v) =>
    (translateTok E.P t ≠ 0 ∧ ∃ rest, toks = (t, v) :: rest ∧ LexesTo E s rest s') ∨
    (translateTok E.P t = 0 ∧ toks = [] ∧ s' = s)


theorem translateTok_zero (P : LalrTables) : translateTok P 0 = 0 := rfl

/-- whatever remains to be consumed completes `toks` to a token sequence the scanner delivers
from `s₀` -/
def Consumed (E : ParserEnv) (s₀ : ScanState) (toks : List (Nat × TokVal)) (la : Lookahead)
    (s : ScanState) : Prop :=
  ∀ rest s', Rem E la s rest s' → LexesTo E s₀ (toks ++ rest) s'

theorem Consumed.look {E : ParserEnv} (hnz : TokNZ E) {s₀ : ScanState} {toks : List (Nat × TokVal)}
    {X : PState} {la1 : Lookahead} {s1 : ScanState} {c1 : ParseCtx}
    (h : Consumed E s₀ toks X.la X.s) (hk : Look E X la1 s1 c1) : Consumed E s₀ toks la1 s1 := by
  intro rest s' hr
  cases hk with
  | keep => exact h rest s' hr
  | tok hla hy =>
    rw [hla] at h
    rcases hr with ⟨_, rest', rfl, hl⟩ | ⟨h0, _, _⟩
    · exact h _ _ (.tok _ _ _ _ _ _ hy hl)
    · exact absurd h0 ((hnz _ _).1 _ _ hy)
  | eof hla hy =>
    rw [hla] at h
    rcases hr with ⟨h0, _⟩ | ⟨_, rfl, rfl⟩
    · exact absurd (translateTok_zero _) h0
    · exact h _ _ (.eof _ _ hy)
  | incl hla hy =>
    rw [hla] at h
    rcases hr with ⟨_, rest', rfl, hl⟩ | ⟨h0, _, _⟩
    · exact h _ _ (.incl _ _ _ _ _ _ _ _ hy hl)
    · exact absurd h0 ((hnz _ _).2 _ _ _ _ hy)


/-- The invariant of the iteration, for a parse started in `s₀`.  `run`: the stack is a
certificate path decorated with trees whose yield is the kinds of the tokens consumed so far;
`done`: the end marker has been shifted, the one tree left derives `configuration` (the next
iteration accepts). -/
inductive Sound (E : ParserEnv) (ed : List (Nat × Nat)) (s₀ : ScanState) (X : PState) : Prop where
  | run (trees : List Tree) (toks : List (Nat × TokVal)) : StackPath ed X.stack →
      Deco E.P X.stack trees → topState X.stack ≠ E.P.final →
      yieldList trees.reverse = kinds E.P toks → Consumed E s₀ toks X.la X.s → Sound E ed s₀ X
  | done (toks : List (Nat × TokVal)) : X.stack ≠ [] → topState X.stack = E.P.final →
      LexesTo E s₀ toks X.s → Derivable (kinds E.P toks) → Sound E ed s₀ X

theorem step_sound {E : ParserEnv} {ed : List (Nat × Nat)} (F : Facts E.P ed) (hnz : TokNZ E)
    (s₀ : ScanState) (X : PState) (h : Sound E ed s₀ X) :
    (yystep E X).elim
      (fun r => r.2.2 = .accept → ∃ toks, LexesTo E s₀ toks r.1 ∧ Derivable (kinds E.P toks))
      (Sound E ed s₀) := by
  have hs := yystep_spec E X
  generalize yystep E X = o at hs
  cases h with
  | done toks hne hfin hl hd =>
    cases hs with
    | empty h0 => exact absurd h0 hne
    | exhausted => exact nofun
    | accept => exact fun _ => ⟨toks, hl, hd⟩
    | echo hl' | fuel hl' | syntaxError hl' | abort hl' | crash hl' | reduce hl' | shift hl' =>
      exact absurd hfin hl'.notFinal
  | run trees toks hp hdeco hnf hy hc =>
    cases hs with
    | empty h0 => exact absurd h0 hp.ne_nil
    | accept _ _ hfin => exact absurd hfin hnf
    | exhausted | echo | fuel | syntaxError | abort | crash => exact nofun
    | reduce _ hk hrule =>
      have H := hp.reduce F hnf hrule
      obtain ⟨_, _, _, hd, _, _, _, hnf'⟩ := H.below
      refine .run _ toks (H.path _) (hdeco.reduce H _) ?_ (by rw [yield_reduce]; exact hy)
        (hc.look hnz hk)
      rw [hd]
      exact hnf'
    | @shift t a v s1 c1 _ hk hact hpos =>
      have hc' := hc.look hnz hk
      obtain ⟨hp', hstos, heof, hne⟩ := hp.shift F hnf hact hpos v
      by_cases htok0 : translateTok E.P t = 0
      · -- the end marker is shifted: the stack is `[state, 0]`, `state` accessed by `configuration`
        obtain ⟨hq, hconf, v0, v1, hst⟩ := heof htok0
        refine .done toks (List.cons_ne_nil _ _) hq ?_ ?_
        · have := hc' [] s1 (.inr ⟨htok0, rfl, rfl⟩)
          rwa [List.append_nil] at this
        · rw [hst] at hdeco
          cases hdeco with
          | push _ _ _ T _ h0 hv hsym =>
            cases h0 with
            | push _ _ _ _ _ h00 => cases h00
            | base =>
              refine ⟨T, hv, hsym.trans hconf, ?_⟩
              rw [← hy]
              simp [yieldList]
      · have hv : (Tree.leaf (translateTok E.P t)).Valid := by
          rw [Tree.Valid]
          have := translateTok_lt F t
          rw [F.ntok] at this
          simp only [isTerminal, this, decide_true]
        refine .run _ (toks ++ [(t, v)]) hp' (.push _ _ _ _ _ hdeco hv hstos.symm) (hne htok0) ?_ ?_
        · rw [yield_shift, hy]
          simp [kinds]
        · intro rest' s' hl
          have := hc' ((t, v) :: rest') s' (.inl ⟨htok0, rest', rfl, hl⟩)
          rwa [List.append_assoc, List.singleton_append]

/-! ### the loop body in pieces -/

/-- the part of an iteration that acts on the lookahead `(t, v)` -/
def actK (E : ParserEnv) (rec : PRec) (stack : List (Nat × TokVal)) (state : Nat)
    (t : Nat) (v : TokVal) (s : ScanState) (ctx : ParseCtx) : POut :=
  let P := E.P
  let yyn := P.pact.get state
  let tok := translateTok P t
  let idx := yyn + tok
  if idx < 0 || idx > P.last || P.check.get idx.toNat != tok then
    dfltK E rec stack state (some (t, v)) s ctx
  else
    let a := P.table.get idx.toNat
    if a ≤ 0 then
      if a == P.tableNinf then syntaxErrorK s ctx
      else reduceK E rec stack (-a).toNat (some (t, v)) s ctx
    else
      rec ((a.toNat, v) :: stack) none s ctx

theorem bodyK_cons (E : ParserEnv) (rec : PRec) (state : Nat) (v0 : TokVal)
    (rest : List (Nat × TokVal)) (la : Lookahead) (s : ScanState) (ctx : ParseCtx) :
    bodyK E rec ((state, v0) :: rest) la s ctx =
      if ((state, v0) :: rest).length ≥ E.P.maxDepth then
        (s, ctx.yyerror s.buf.lineno Generated.ERR_EXHAUSTED, .exhausted)
      else if state == E.P.final then (s, ctx, .accept)
      else if E.P.pact.get state == E.P.pactNinf then dfltK E rec ((state, v0) :: rest) state la s ctx
      else
        match fetchK E la s ctx with
        | (s, _, some r, ctx) => (s, ctx, r)
        | (s, none, none, ctx) => (s, ctx, .crash)
        | (s, some (t, v), none, ctx) => actK E rec ((state, v0) :: rest) state t v s ctx := rfl

theorem yyparse_sound {E : ParserEnv} {ed : List (Nat × Nat)} (hok : staticOK E.P ed = true)
    (hnz : TokNZ E) (fuel : Nat) (s₀ s' : ScanState) (ctx₀ ctx' : ParseCtx)
    (h : yyparse E fuel s₀ ctx₀ = (s', ctx', .accept)) :
    ∃ toks, LexesTo E s₀ toks s' ∧ Derivable (kinds E.P toks) := by
  have F := facts_of_static hok
  have := yyparseLoop_ind (step_sound F hnz s₀) (fun _ _ => nofun) fuel ⟨[(0, {})], none, s₀, ctx₀⟩
    (.run [] [] (.base _) (.base _) (fun h0 => F.final_ne h0.symm) rfl fun _ _ hl => hl)
  change (yyparse E fuel s₀ ctx₀).2.2 = .accept →
    ∃ toks, LexesTo E s₀ toks (yyparse E fuel s₀ ctx₀).1 ∧ _ at this
  rw [h] at this
  exact this rfl

/-! ### the scanner's token numbers -/

/-- what the token numbers of a scanner action satisfy: `pt` those it may return as a token (a
numeric action returns its error token that way too), `pe` the one an `@include` directive
reports a failure with -/
def actToks (pt pe : Nat → Bool) : ScanAct → Bool
  | .endString t | .tok t | .tokBool t _ | .tokName t => pt t
  | .includeDirective e => pe e
  | .tokFloat t e | .tokInteger64 t e | .tokHex t e | .tokHex64 t e => pt t && pt e
  | .tokInteger t32 t64 e => pt t32 && pt t64 && pt e
  | _ => true

def outToks (pt pe : Nat → Bool) : LexOut → Prop
  | .tok t _ => pt t = true
  | .includeError t _ _ _ => pe t = true
  | _ => True

theorem numericTok_toks (pt pe : Nat → Bool) (a : ScanAct) (text : Bytes)
    (ha : actToks pt pe a = true)
    (hnum : match a with
      | .tokFloat .. | .tokInteger .. | .tokInteger64 .. | .tokHex .. | .tokHex64 .. => True
      | _ => False) :
    pt (numericTok a text).1 = true := by
  cases a <;> simp only at hnum
  all_goals
    simp only [actToks, Bool.and_eq_true] at ha
    unfold numericTok
    simp only
    repeat' split
    all_goals first | exact ha.1 | exact ha.2 | exact ha.1.1 | exact ha.1.2

theorem actOut_toks (pt pe : Nat → Bool) {a : ScanAct} {m m' : ScanState} {text : Bytes} {o : LexOut}
    (ha : actToks pt pe a = true) (h : actOut a m text = some (m', some o)) : outToks pt pe o := by
  cases a
  case tokFloat | tokInteger | tokInteger64 | tokHex | tokHex64 =>
    simp only [actOut, Option.some.injEq, Prod.mk.injEq] at h
    obtain ⟨-, rfl⟩ := h
    exact numericTok_toks pt pe _ text ha trivial
  all_goals simp only [actOut, Option.some.injEq, Prod.mk.injEq, reduceCtorEq, and_false] at h
  all_goals obtain ⟨-, rfl⟩ := h; first | exact ha | trivial

/-- every token number `yylex` hands out is one of an action of the table, or the error token
of a failing `@include` at the end of a buffer -/
theorem yylex_outToks (pt pe : Nat → Bool) (T : FlexTables) (acts : List ScanAct) (w : World)
    (ic : IncludeCfg) (hacts : acts.all (actToks pt pe) = true)
    (herr : pe Generated.tokens.error = true) :
    ∀ (fuel : Nat) (s : ScanState), outToks pt pe (yylex T acts w ic fuel s).2 := by
  have hacts : ∀ rule, actToks pt pe (acts.getD rule .unknown) = true := by
    intro rule
    rw [List.getD_eq_getElem?_getD]
    cases hr : acts[rule]? with
    | none => rfl
    | some a => exact List.all_eq_true.mp hacts a (List.mem_of_getElem? hr)
  refine yylex_last (Q := fun r => outToks pt pe r.2) (fun _ => trivial) fun s s' o he => ?_
  generalize hr : (s', some o) = r at he
  cases he with
  | eof => cases hr; trivial
  | act _ ha => subst hr; exact actOut_toks pt pe (hacts _) ha
  | stuck => cases hr; exact herr
  | inclErr _ ha | pushFail _ ha =>
    cases hr; exact (congrArg (actToks pt pe) ha).symm.trans (hacts _)
  | _ => cases hr

theorem scanActions_ok :
    Generated.scanActions.all (actToks (translateTok Generated.parser · != 0)
      (translateTok Generated.parser · != 0)) = true := by
  decide +kernel

theorem tokNZ_theEnv (w : World) (c : Config) (fuel : Nat) : TokNZ (theEnv w c fuel) := by
  intro s s₁
  have h := yylex_outToks _ _ (theEnv w c fuel).T (theEnv w c fuel).sacts (theEnv w c fuel).w
    (theEnv w c fuel).ic scanActions_ok (by decide +kernel) (theEnv w c fuel).lexFuel s
  refine ⟨fun t v hy => ?_, fun t text file line hy => ?_⟩
  · rw [hy] at h
    exact bne_iff_ne.mp h
  · rw [hy] at h
    exact bne_iff_ne.mp h

/-- a token number above `YYMAXUTOK` = 277 translates to `$undefined` -/
theorem translateTok_above {t : Nat} (h : ¬ t ≤ 277) : translateTok Generated.parser t = 2 := by
  have h277 : Generated.parser.maxutok = 277 := by decide +kernel
  unfold translateTok
  rw [if_neg (by simpa using fun h0 : t = 0 => h (h0 ▸ Nat.zero_le _)), h277, if_neg h]

end Libconfig.C02P
