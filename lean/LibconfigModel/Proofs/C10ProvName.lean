import LibconfigModel.Proofs.C10ProvMain
/-
  C10P (provenance of the tree), what the token a setting reports IS — a sanity theorem about the
  specification of DenoteProv.lean, read off the provenance tree itself: the index a NAMED setting
  holds is that of a NAME token carrying the setting's name; the index an unnamed aggregate holds
  is that of its opening bracket; the index a one-token scalar element holds is that of a literal
  with the element's value; the index a STRING element holds is that of a token that is NOT a
  string literal, and stands right behind one.  Nothing here mentions the parser.
-/
namespace Libconfig.C10Prov
open Libconfig Denote C02D C01PP C09L

/-- the stamps of the provenance tree of a text of items `all`: the token with `k` items from it
to the end is stamped with its index -/
def idxStamp (all : List Denote.Item) : Nat → Stamp := fun k => (all.length - k, none)

/-- the item an unnamed setting that is not a string is made from -/
def ownItem (m : Node) : Option Denote.Item :=
  if m.ty = T_ARRAY then some .arrayStart
  else if m.ty = T_LIST then some .listStart
  else if m.ty = T_GROUP then some .groupStart
  else if m.ty = T_BOOL then some (.boolean m.ival)
  else if m.ty = T_INT then some (if m.fmt = FMT_HEX then .hex m.ival else .integer m.ival)
  else if m.ty = T_INT64 then some (if m.fmt = FMT_HEX then .hex64 m.ival else .integer64 m.ival)
  else if m.ty = T_FLOAT then some (.float m.fval)
  else none

/-- **what the item at the index a node holds is**: for a named setting the NAME with its name;
for an unnamed string the item behind a string literal that is none itself; for any other
unnamed setting its opening bracket resp. its literal -/
def NodeOK (all : List Denote.Item) (m : Node) : Prop :=
  match m.name with
  | some nm => all[m.line]? = some (.name nm)
  | none =>
    if m.ty = T_STRING then
      1 ≤ m.line ∧ (∃ s, all[m.line - 1]? = some (.string s)) ∧ ∀ s, all[m.line]? ≠ some (.string s)
    else ∀ it, ownItem m = some it → all[m.line]? = some it

def TreeOK (all : List Denote.Item) : Node → Prop := Node.All (NodeOK all)

def TreesOK (all : List Denote.Item) (l : List Node) : Prop := ∀ k ∈ l, TreeOK all k

theorem treeOK_node {all : List Denote.Item} {T : Node} (h0 : NodeOK all T)
    (hk : TreesOK all T.kids) : TreeOK all T :=
  (Node.all_iff T).mpr ⟨h0, hk⟩

theorem treesOK_nil (all : List Denote.Item) : TreesOK all [] := fun _ h => by cases h

theorem treesOK_snoc {all : List Denote.Item} {l : List Node} {x : Node} (h1 : TreesOK all l)
    (h2 : TreeOK all x) : TreesOK all (l ++ [x]) := by
  intro k hk
  rcases List.mem_append.mp hk with hk | hk
  · exact h1 k hk
  · rw [List.mem_singleton.mp hk]
    exact h2

theorem treesOK_enter {all : List Denote.Item} {o : Options} {m m' : List Node} {nm : Bytes}
    (h : TreesOK all m) (he : enter o m nm = some m') : TreesOK all m' := by
  unfold enter at he
  split at he
  · injection he with he
    rw [← he]
    exact h
  · split at he
    · injection he with he
      rw [← he]
      exact fun k hk => h k (List.mem_of_mem_eraseIdx hk)
    · cases he

/-- whose value is being read: a member's — then the NAME token it was given is a NAME with that
name —, or an element's -/
def Who (all : List Denote.Item) (nm : Option Bytes) (mk : Option Nat) : Prop :=
  match nm with
  | some nm' => ∃ k, mk = some k ∧ all[all.length - k]? = some (.name nm')
  | none => mk = none

/-- a node made from the item in front (no string literal), for a member or an element -/
theorem nodeOK_front {all : List Denote.Item} {it : Denote.Item} {rest : List Denote.Item}
    (hsuf : (it :: rest) <:+ all) {nm : Option Bytes} {mk : Option Nat} (hw : Who all nm mk)
    (hek : elemKey (it :: rest) = rest.length + 1) (n0 : Node) (hname : n0.name = nm)
    (hty : n0.ty ≠ T_STRING)
    (hown : nm = none → ownItem (stamped n0 (idxStamp all (rest.length + 1))) = some it) :
    NodeOK all (stamped n0 (idxStamp all (keyOf mk (it :: rest)))) := by
  unfold NodeOK
  show (match n0.name with
    | some nm => all[(idxStamp all (keyOf mk (it :: rest))).1]? = some (.name nm)
    | none => _)
  cases nm with
  | some nm' =>
    rw [hname]
    obtain ⟨k, hk, hall⟩ := hw
    subst hk
    exact hall
  | none =>
    rw [hname]
    have hmk : mk = none := hw
    subst hmk
    simp only
    rw [if_neg (show ¬ (stamped n0 (idxStamp all (keyOf none (it :: rest)))).ty = T_STRING from hty)]
    intro it' hit'
    have hh := getElem?_suffix hsuf
    simp only [List.length_cons, List.head?_cons] at hh
    show all[all.length - keyOf none (it :: rest)]? = some it'
    rw [show keyOf none (it :: rest) = rest.length + 1 from hek, hh]
    have := hown rfl
    rw [show keyOf none (it :: rest) = rest.length + 1 from hek] at hit'
    rw [this] at hit'
    exact hit'

theorem scalar_name {nm : Option Bytes} {items rest : List Denote.Item} {x : Node}
    (h : scalar nm items = some (x, rest)) : x.name = nm := by
  cases items with
  | nil => simp [scalar] at h
  | cons it tl =>
    cases it
    all_goals simp only [scalar, Option.some.injEq, Prod.mk.injEq, reduceCtorEq] at h
    all_goals
      rw [← h.1]

theorem scalarP_ok {all : List Denote.Item} {nm : Option Bytes} {mk : Option Nat}
    {items rest : List Denote.Item} {x : Node}
    (h : scalarP (idxStamp all) nm mk items = some (x, rest)) (hsuf : items <:+ all)
    (hw : Who all nm mk) : TreeOK all x := by
  obtain ⟨x0, hs0, rfl⟩ := scalarP_some h
  have hleaf := (scalar_leaf hs0).1
  refine treeOK_node ?_ (by rw [stamped_kids, hleaf]; exact treesOK_nil _)
  cases items with
  | nil => simp [scalar] at hs0
  | cons it tl =>
    cases it
    case string s =>
      simp only [scalar, Option.some.injEq, Prod.mk.injEq] at hs0
      obtain ⟨rfl, rfl⟩ := hs0
      unfold NodeOK
      cases nm with
      | some nm' =>
        obtain ⟨k, hk, hall⟩ := hw
        subst hk
        exact hall
      | none =>
        have hmk : mk = none := hw
        subst hmk
        show (if T_STRING = T_STRING then _ else _)
        rw [if_pos rfl]
        show 1 ≤ all.length - (strings tl).2.length ∧
          (∃ s', all[all.length - (strings tl).2.length - 1]? = some (.string s')) ∧
          ∀ s', all[all.length - (strings tl).2.length]? ≠ some (.string s')
        obtain ⟨s', hs'⟩ := lastLiteral_strings tl s
        have hsuf' : (Denote.Item.string s' :: (strings tl).2) <:+ all := by
          rw [← hs']
          exact (lastLiteral_suffix _).trans hsuf
        have hlen := hsuf'.length_le
        simp only [List.length_cons] at hlen
        have h1 := getElem?_suffix hsuf'
        simp only [List.length_cons, List.head?_cons] at h1
        have h2 := getElem?_suffix ((List.suffix_cons _ _).trans hsuf')
        refine ⟨by omega, ⟨s', ?_⟩, fun s'' hc => ?_⟩
        · rw [← h1]
          congr 1
        · rw [h2] at hc
          cases hr : (strings tl).2 with
          | nil => rw [hr] at hc; cases hc
          | cons it2 r2 =>
            rw [hr] at hc
            simp only [List.head?_cons, Option.some.injEq] at hc
            exact strings_head tl s'' r2 (by rw [hr, hc])
    all_goals
      simp only [scalar, Option.some.injEq, Prod.mk.injEq, reduceCtorEq] at hs0
    all_goals
      obtain ⟨rfl, rfl⟩ := hs0
      exact nodeOK_front hsuf hw rfl _ rfl (Nat.ne_of_beq_eq_false rfl) (fun hn => by subst hn; rfl)

theorem scalarP_suffix {σ : Nat → Stamp} {nm : Option Bytes} {mk : Option Nat}
    {items rest : List Denote.Item} {x : Node} (h : scalarP σ nm mk items = some (x, rest)) :
    rest <:+ items :=
  let ⟨_, hs, _⟩ := scalarP_some h
  scalar_suffix hs

theorem arrayRestP_ok {all : List Denote.Item} (ty : Nat) :
    ∀ (fuel : Nat) (acc : List Node) (items : List Denote.Item) (xs : List Node)
      (rest : List Denote.Item),
    arrayRestP (idxStamp all) ty fuel acc items = .ok xs rest → items <:+ all → TreesOK all acc →
    TreesOK all xs := by
  intro fuel
  induction fuel with
  | zero => intro acc items xs rest h; rw [arrayRestP] at h; cases h
  | succ fuel ih =>
    intro acc items xs rest h hsuf hacc
    cases arrayRestView items with
    | done r' =>
      rw [arrayRestP] at h
      injection h with h1 h2
      rw [← h1]
      exact hacc
    | comma rest' =>
      rw [arrayRestP] at h
      have hsuf' : rest' <:+ all := (List.suffix_cons _ _).trans hsuf
      cases hs : scalarP (idxStamp all) none none rest' with
      | none =>
        rw [hs] at h
        exact ih _ _ _ _ h hsuf' hacc
      | some p =>
        obtain ⟨x, r1⟩ := p
        rw [hs] at h
        simp only at h
        split at h
        · cases h
        · exact ih _ _ _ _ h ((scalarP_suffix hs).trans hsuf')
            (treesOK_snoc hacc (scalarP_ok hs hsuf' rfl))
    | other _ h1 h2 =>
      rw [arrayRestP_other _ _ _ _ _ h1 h2] at h
      cases h

/-- every tree the stamped interpreter builds from a suffix of the text `all`, stamped with token
indices, is `TreeOK`: by induction on the fuel, along the three mutual functions -/
theorem oks (all : List Denote.Item) (o : Options) : ∀ fuel : Nat,
    (∀ nm mk items x rest, valueP (idxStamp all) o fuel nm mk items = .ok x rest →
      items <:+ all → Who all nm mk → TreeOK all x) ∧
    (∀ acc items xs rest, listRestP (idxStamp all) o fuel acc items = .ok xs rest →
      items <:+ all → TreesOK all acc → TreesOK all xs) ∧
    (∀ m items xs rest, settingsP (idxStamp all) o fuel m items = .ok xs rest →
      items <:+ all → TreesOK all m → TreesOK all xs) := by
  intro fuel
  induction fuel with
  | zero =>
    refine ⟨?_, ?_, ?_⟩
    · intro nm mk items x rest h; rw [valueP] at h; cases h
    · intro acc items xs rest h; rw [listRestP] at h; cases h
    · intro m items xs rest h; rw [settingsP] at h; cases h
  | succ fuel ih =>
    obtain ⟨ihv, ihl, ihs⟩ := ih
    refine ⟨?_, ?_, ?_⟩
    · intro nm mk items x rest h hsuf hw
      cases valueView items with
      | arrNil r =>
        rw [valueP] at h
        injection h with h1 h2
        rw [← h1]
        exact treeOK_node (nodeOK_front hsuf hw rfl _ rfl (Nat.ne_of_beq_eq_false rfl)
          (fun hn => by subst hn; rfl)) (treesOK_nil _)
      | arr rest' hne =>
        rw [valueP_arr _ _ _ _ _ _ hne] at h
        have hsuf' : rest' <:+ all := (List.suffix_cons _ _).trans hsuf
        cases hs : scalarP (idxStamp all) none none rest' with
        | none => rw [hs] at h; cases h
        | some p =>
          obtain ⟨x1, r1⟩ := p
          rw [hs] at h
          simp only at h
          cases ha : arrayRestP (idxStamp all) x1.ty fuel [x1] r1 with
          | error k => rw [ha] at h; cases h
          | ok elems r2 =>
            rw [ha] at h
            injection h with h1 h2
            rw [← h1]
            exact treeOK_node (nodeOK_front hsuf hw rfl _ rfl (Nat.ne_of_beq_eq_false rfl)
                (fun hn => by subst hn; rfl))
              (arrayRestP_ok x1.ty fuel [x1] r1 elems r2 ha ((scalarP_suffix hs).trans hsuf')
                (treesOK_snoc (treesOK_nil _) (scalarP_ok hs hsuf' rfl)))
      | lstNil r =>
        rw [valueP] at h
        injection h with h1 h2
        rw [← h1]
        exact treeOK_node (nodeOK_front hsuf hw rfl _ rfl (Nat.ne_of_beq_eq_false rfl)
          (fun hn => by subst hn; rfl)) (treesOK_nil _)
      | lst rest' hne =>
        rw [valueP_lst _ _ _ _ _ _ hne] at h
        have hsuf' : rest' <:+ all := (List.suffix_cons _ _).trans hsuf
        cases hv : valueP (idxStamp all) o fuel none none rest' with
        | error k => rw [hv] at h; cases h
        | ok x1 r1 =>
          rw [hv] at h
          simp only at h
          obtain ⟨_, hr1⟩ := valueP_reads hv
          cases hl : listRestP (idxStamp all) o fuel [x1] r1 with
          | error k => rw [hl] at h; cases h
          | ok elems r2 =>
            rw [hl] at h
            injection h with h1 h2
            rw [← h1]
            exact treeOK_node (nodeOK_front hsuf hw rfl _ rfl (Nat.ne_of_beq_eq_false rfl)
                (fun hn => by subst hn; rfl))
              (ihl [x1] r1 elems r2 hl (((List.suffix_cons _ _).trans hr1).trans hsuf')
                (treesOK_snoc (treesOK_nil _) (ihv _ _ _ _ _ hv hsuf' rfl)))
      | grp rest' =>
        rw [valueP] at h
        have hsuf' : rest' <:+ all := (List.suffix_cons _ _).trans hsuf
        cases hs : settingsP (idxStamp all) o fuel [] rest' with
        | error k => rw [hs] at h; cases h
        | ok members r1 =>
          rw [hs] at h
          split at h
          · cases h
          · rename_i heq
            injection heq with heq1 heq2
            subst heq1
            injection h with h1 h2
            rw [← h1]
            exact treeOK_node (nodeOK_front hsuf hw rfl _ rfl (Nat.ne_of_beq_eq_false rfl)
                (fun hn => by subst hn; rfl))
              (ihs [] rest' _ _ hs hsuf' (treesOK_nil _))
          · cases h
      | other _ h1 h2 h3 =>
        rw [valueP_other _ _ _ _ _ _ h1 h2 h3] at h
        cases hs : scalarP (idxStamp all) nm mk items with
        | none => rw [hs] at h; cases h
        | some p =>
          obtain ⟨x1, r1⟩ := p
          rw [hs] at h
          injection h with h1' h2'
          rw [← h1']
          exact scalarP_ok hs hsuf hw
    · intro acc items xs rest h hsuf hacc
      cases listRestView items with
      | done r' =>
        rw [listRestP] at h
        injection h with h1 h2
        rw [← h1]
        exact hacc
      | comma rest' =>
        have hsuf' : rest' <:+ all := (List.suffix_cons _ _).trans hsuf
        cases listRestView rest' with
        | done r' =>
          rw [listRestP_skip _ _ _ _ _ (.inr ⟨_, rfl⟩)] at h
          exact ihl _ _ _ _ h hsuf' hacc
        | comma r' =>
          rw [listRestP_skip _ _ _ _ _ (.inl ⟨_, rfl⟩)] at h
          exact ihl _ _ _ _ h hsuf' hacc
        | other _ h1 h2 =>
          rw [listRestP_value _ _ _ _ _ h1 h2] at h
          cases hv : valueP (idxStamp all) o fuel none none rest' with
          | error k => rw [hv] at h; cases h
          | ok x1 r1 =>
            rw [hv] at h
            simp only at h
            obtain ⟨_, hr1⟩ := valueP_reads hv
            exact ihl _ _ _ _ h (((List.suffix_cons _ _).trans hr1).trans hsuf')
              (treesOK_snoc hacc (ihv _ _ _ _ _ hv hsuf' rfl))
      | other _ h1 h2 =>
        rw [listRestP_other _ _ _ _ _ h1 h2] at h
        cases h
    · intro m items xs rest h hsuf hm
      cases settingsView items with
      | setting nm rest' =>
        rw [settingsP_setting] at h
        have hsuf' : rest' <:+ all :=
          ((List.suffix_cons _ _).trans (List.suffix_cons _ _)).trans hsuf
        cases he : enter o m nm with
        | none => rw [he] at h; cases h
        | some m' =>
          rw [he] at h
          simp only at h
          have hw : Who all (some nm) (some (rest'.length + 2)) := by
            refine ⟨_, rfl, ?_⟩
            have := getElem?_suffix hsuf
            simp only [List.length_cons, List.head?_cons] at this
            exact this
          cases hv : valueP (idxStamp all) o fuel (some nm) (some (rest'.length + 2)) rest' with
          | error k => rw [hv] at h; cases h
          | ok x1 r1 =>
            rw [hv] at h
            simp only at h
            obtain ⟨_, hr1⟩ := valueP_reads hv
            exact ihs _ _ _ _ h
              (((skipTerminator_suffix r1).trans ((List.suffix_cons _ _).trans hr1)).trans hsuf')
              (treesOK_snoc (treesOK_enter hm he) (ihv _ _ _ _ _ hv hsuf' hw))
      | noAssign nm rest' hne =>
        rw [settingsP_noAssign _ _ _ _ _ _ hne] at h
        cases he : enter o m nm with
        | none => rw [he] at h; cases h
        | some m' => rw [he] at h; cases h
      | other _ hne =>
        rw [settingsP_other _ _ _ _ _ hne] at h
        injection h with h1 h2
        rw [← h1]
        exact hm

/-- **every setting of the provenance tree holds the index of the item it should** -/
theorem denoteProv_ok {o : Options} {toks : List (Nat × TokVal)} {T : Node}
    (h : denoteProv o toks = .ok T) (i : Nat) (p : Path) (m : Node)
    (hm : T.get? (i :: p) = some m) : NodeOK (toks.map itemOf) m := by
  obtain ⟨members, hs, rfl⟩ := denoteAt_ok h
  have hst : (fun k => ((toks.length - k, none) : Stamp)) = idxStamp (toks.map itemOf) := by
    funext k
    unfold idxStamp
    rw [List.length_map]
  rw [hst] at hs
  have hall := (oks (toks.map itemOf) o (toks.length + 1)).2.2 [] _ members [] hs
    (List.suffix_refl _) (treesOK_nil _)
  rw [get?_stamped, get?_cons] at hm
  show NodeOK _ m
  cases hi : members[i]? with
  | none =>
    have : ({ ty := T_GROUP, kids := members } : Node).kids[i]? = none := hi
    rw [this] at hm
    cases hm
  | some k =>
    have : ({ ty := T_GROUP, kids := members } : Node).kids[i]? = some k := hi
    rw [this] at hm
    exact hall k (List.mem_of_getElem? hi) p m hm

theorem nodeOK_congr {all : List Denote.Item} {a b : Node} (h1 : a.name = b.name)
    (h2 : a.ty = b.ty) (h3 : a.line = b.line) (h4 : a.fmt = b.fmt) (h5 : a.ival = b.ival)
    (h6 : a.fval = b.fval) (h : NodeOK all a) : NodeOK all b := by
  cases a
  cases b
  simp only at h1 h2 h3 h4 h5 h6
  subst h1
  subst h2
  subst h3
  subst h4
  subst h5
  subst h6
  exact h

/-- **the token `provIndex` names, for the settings of the tree `denote` computes** -/
theorem provIndex_ok {o : Options} {toks : List (Nat × TokVal)} {t : Node}
    (h : denote o toks = .ok t) {p : Path} {m : Node} {i : Nat} (hm : t.get? p = some m)
    (hi : provIndex o toks p = some i) : NodeOK (toks.map itemOf) { m with line := i } := by
  obtain ⟨T, hT, hst⟩ := denoteAt_of_denote (fun i => (i, none)) (0, none) h
  have hT' : denoteProv o toks = .ok T := hT
  cases p with
  | nil =>
    unfold provIndex at hi
    cases hi
  | cons j q =>
    unfold provIndex at hi
    rw [hT'] at hi
    simp only at hi
    cases hM : T.get? (j :: q) with
    | none => rw [hM] at hi; cases hi
    | some M =>
      rw [hM] at hi
      simp only [Option.map_some, Option.some.injEq] at hi
      rw [← hst, stripPos_restamp, get?_restamp, hM] at hm
      simp only [Option.map_some, Option.some.injEq] at hm
      have hok := denoteProv_ok hT' j q M hM
      rw [← hm, restamp_eq]
      exact nodeOK_congr (a := M) rfl rfl hi rfl rfl rfl hok

end Libconfig.C10Prov
