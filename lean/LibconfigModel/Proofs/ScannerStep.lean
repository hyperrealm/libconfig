import LibconfigModel.Scanner
/-
  One iteration of the loop of `yylex` (Scanner.lean).  `LexEffect` lists what an iteration can
  do to the scan state and what it returns, if it returns: every constructor is a one-step
  equation of `yylex` (`LexEffect.eq`), and one of them always applies (`lexEffect_total`).  A
  call of `yylex` is a chain of iterations that return nothing followed by one that returns
  (`yylex_ind`).  `Returns k s r` says the same with the number of iterations in place of the
  fuel: a statement about a call is proved without fuel and read off for whatever fuel a caller
  has (`Returns.ge`, `Returns.le_of_ne`).
-/
namespace Libconfig

/-- the scan state after a match of `len` bytes by rule `rule`: text consumed, line count and
beginning-of-line flag brought up to date -/
def advance (T : FlexTables) (s : ScanState) (rule len : Nat) : ScanState :=
  { s with buf :=
      { rest := s.buf.rest.drop len,
        bol := match (s.buf.rest.take len).getLast? with
          | some c => c == 10
          | none => s.buf.bol,
        lineno := if T.canMatchEol.getN rule != 0 then s.buf.lineno + countNl (s.buf.rest.take len)
          else s.buf.lineno } }

theorem advance_rest (T : FlexTables) (s : ScanState) (rule len : Nat) :
    (advance T s rule len).buf.rest = s.buf.rest.drop len := rfl

theorem advance_bol {T : FlexTables} {s : ScanState} {rule len c : Nat}
    (h : (s.buf.rest.take len).getLast? = some c) : (advance T s rule len).buf.bol = (c == 10) := by
  show (match (s.buf.rest.take len).getLast? with | some c => c == 10 | none => s.buf.bol) = _
  rw [h]

theorem cstr_of_ne_zero : ∀ {t : Bytes}, (∀ b ∈ t, b ≠ 0) → cstr t = t
  | [], _ => rfl
  | b :: t, h => by
    have ih := cstr_of_ne_zero fun x hx => h x (List.mem_cons_of_mem _ hx)
    unfold cstr at ih ⊢
    rw [List.takeWhile_cons_of_pos (p := (· != 0)) (bne_iff_ne.mpr (h b (List.mem_cons_self ..))), ih]

/-- What the action `a` of a rule other than the `@include` directive does in state `m` (the
matched `text` already consumed): the new state, and what `yylex` returns if it returns. -/
def actOut (a : ScanAct) (m : ScanState) (text : Bytes) : Option (ScanState × Option LexOut) :=
  match a with
  | .begin sc => some ({ m with sc := sc }, none)
  | .ignore => some (m, none)
  | .appendText => some ({ m with str := m.str ++ cstr text }, none)
  | .appendChar c => some ({ m with str := m.str ++ [c] }, none)
  | .appendHexChar => some ({ m with str := m.str ++ [digitsVal 16 (text.drop 2) % 256] }, none)
  | .endString t =>
    some ({ m with str := [], sc := Generated.SC_INITIAL }, some (.tok t { sval := cstr m.str }))
  | .includeDirective _ => none
  | .tok t => some (m, some (.tok t {}))
  | .tokBool t v => some (m, some (.tok t { ival := v }))
  | .tokName t => some (m, some (.tok t { sval := text }))
  | .tokFloat .. | .tokInteger .. | .tokInteger64 .. | .tokHex .. | .tokHex64 .. =>
    some (m, some (.tok (numericTok a text).1 (numericTok a text).2))
  | .echo => some (m, some (.echo (text.headD 0)))
  | .unknown => some (m, some .outOfFuel)

theorem actOut_frame {a : ScanAct} {m m' : ScanState} {text : Bytes} {o : Option LexOut}
    (h : actOut a m text = some (m', o)) : m' = { m with sc := m'.sc, str := m'.str } := by
  cases a <;> simp only [actOut, Option.some.injEq, Prod.mk.injEq, reduceCtorEq] at h <;>
    (obtain ⟨rfl, -⟩ := h; rfl)

theorem actOut_sc {a : ScanAct} {m m' : ScanState} {text : Bytes} {o : Option LexOut}
    (h : actOut a m text = some (m', o)) :
    m'.sc = m.sc ∨ m'.sc = Generated.SC_INITIAL ∨ a = .begin m'.sc := by
  cases a <;> simp only [actOut, Option.some.injEq, Prod.mk.injEq, reduceCtorEq] at h <;>
    obtain ⟨rfl, -⟩ := h
  case begin => exact .inr (.inr rfl)
  case endString => exact .inr (.inl rfl)
  all_goals exact .inl rfl

theorem nextIncludeFile_frame {w : World} {m s1 : ScanState} {first : Bool} {r : Option Bytes × Bool}
    (h : nextIncludeFile w m first = (s1, r)) :
    s1 = { m with stack := s1.stack, events := s1.events } := by
  have : ∃ st ev, (nextIncludeFile w m first).1 = { m with stack := st, events := ev } := by
    unfold nextIncludeFile
    split
    · exact ⟨_, _, rfl⟩
    · dsimp only
      split
      · exact ⟨_, _, rfl⟩
      · split <;> exact ⟨_, _, rfl⟩
  obtain ⟨st, ev, e⟩ := this
  rw [h] at e
  subst e
  rfl

/-- the state in which an `@include` directive that names `files` opens the first of them -/
def pushFrame (s : ScanState) (files : List Bytes) : ScanState :=
  { s with filenames := s.filenames ++ files,
           stack := { files := files, cur := 0, parent := s.buf } :: s.stack }

/-- the `fclose` of the file of a frame that has ended -/
def closeEv (f : Frame) : List IOEvent :=
  match f.files[f.cur]? with
  | some p => [IOEvent.fclose p]
  | none => []

/-- none of the ten start states of the compiled automaton is accepting -/
theorem start_accept : ∀ sc, sc < 5 → ∀ bol : Bool,
    Generated.scanner.accept.getN (Flex.startState sc bol) = 0 := by
  decide +kernel

theorem next_nil (sc : Nat) (hsc : sc < 5) (bol : Bool) : Flex.next Generated.scanner sc bol [] = none := by
  simp only [Flex.next, Flex.scan, start_accept sc hsc bol, bne_self_eq_false, Bool.false_eq_true,
    if_false]

section
variable (T : FlexTables) (acts : List ScanAct) (w : World) (ic : IncludeCfg)

/-- `LexEffect T acts w ic s (s', o)`: one iteration of the loop of `yylex` from `s` leads to `s'`
and returns `o`, or goes on if `o = none`.  In the directive cases `m` is `s` with the closing
quote consumed and the accumulator taken. -/
inductive LexEffect (s : ScanState) : ScanState × Option LexOut → Prop
  /-- end of the top-level buffer -/
  | eof : Flex.next T s.sc s.buf.bol s.buf.rest = none → s.stack = [] → LexEffect s (s, some .eof)
  /-- end of an included file whose frame has another file that opens -/
  | next {f : Frame} {fs : List Frame} {s1 : ScanState} {c : Bytes} {err : Bool} :
      Flex.next T s.sc s.buf.bol s.buf.rest = none → s.stack = f :: fs →
      nextIncludeFile w s false = (s1, some c, err) →
      LexEffect s ({ s1 with buf := { rest := c }, events := s1.events ++ [.delBuf, .newBuf] }, none)
  /-- … whose next file does not open -/
  | stuck {f : Frame} {fs : List Frame} {s1 : ScanState} :
      Flex.next T s.sc s.buf.bol s.buf.rest = none → s.stack = f :: fs →
      nextIncludeFile w s false = (s1, none, true) →
      LexEffect s (s1, some (.includeError Generated.tokens.error Generated.ERR_BAD_INCLUDE
        s1.currentFilename s1.buf.lineno))
  /-- … whose frame is exhausted: back to the parent buffer -/
  | pop {f : Frame} {fs : List Frame} {s1 : ScanState} :
      Flex.next T s.sc s.buf.bol s.buf.rest = none → s.stack = f :: fs →
      nextIncludeFile w s false = (s1, none, false) →
      LexEffect s ({ s1 with stack := fs, buf := f.parent, events := s1.events ++ [.delBuf] }, none)
  /-- a rule with any action but the directive -/
  | act {rule len : Nat} {r : ScanState × Option LexOut} :
      Flex.next T s.sc s.buf.bol s.buf.rest = some (rule, len) →
      actOut (acts.getD rule .unknown) (advance T s rule len) (s.buf.rest.take len) = some r →
      LexEffect s r
  /-- the directive fails before anything is opened: too deep, or the include function reports
  an error -/
  | inclErr {rule len errTok : Nat} {text : Bytes} {m : ScanState} :
      Flex.next T s.sc s.buf.bol s.buf.rest = some (rule, len) →
      acts.getD rule .unknown = .includeDirective errTok →
      m = { advance T s rule len with str := [] } →
      (s.stack.length = Generated.MAX_INCLUDE_DEPTH ∧ text = Generated.ERR_INCLUDE_TOO_DEEP) ∨
        (s.stack.length ≠ Generated.MAX_INCLUDE_DEPTH ∧
          ∃ fs, includeFnEval ic.fn ic.dir (cstr s.str) = (fs, some text)) →
      LexEffect s (m, some (.includeError errTok text m.currentFilename m.buf.lineno))
  /-- the include function names no file: the directive is skipped -/
  | skip {rule len errTok : Nat} {fs : Option (List Bytes)} :
      Flex.next T s.sc s.buf.bol s.buf.rest = some (rule, len) →
      acts.getD rule .unknown = .includeDirective errTok →
      s.stack.length ≠ Generated.MAX_INCLUDE_DEPTH →
      includeFnEval ic.fn ic.dir (cstr s.str) = (fs, none) → fs = none ∨ fs = some [] →
      LexEffect s ({ advance T s rule len with str := [], sc := Generated.SC_INITIAL }, none)
  /-- the first file of the directive opens: scanning goes on in it -/
  | push {rule len errTok : Nat} {files : List Bytes} {m s2 : ScanState} {c : Bytes} {err : Bool} :
      Flex.next T s.sc s.buf.bol s.buf.rest = some (rule, len) →
      acts.getD rule .unknown = .includeDirective errTok →
      m = { advance T s rule len with str := [] } →
      s.stack.length ≠ Generated.MAX_INCLUDE_DEPTH →
      includeFnEval ic.fn ic.dir (cstr s.str) = (some files, none) → files ≠ [] →
      nextIncludeFile w (pushFrame m files) true = (s2, some c, err) →
      LexEffect s ({ s2 with buf := { rest := c }, sc := Generated.SC_INITIAL,
                             events := s2.events ++ [.newBuf] }, none)
  /-- … does not open: the frame is dropped again -/
  | pushFail {rule len errTok : Nat} {files : List Bytes} {m s2 s3 : ScanState} {err : Bool} :
      Flex.next T s.sc s.buf.bol s.buf.rest = some (rule, len) →
      acts.getD rule .unknown = .includeDirective errTok →
      m = { advance T s rule len with str := [] } →
      s.stack.length ≠ Generated.MAX_INCLUDE_DEPTH →
      includeFnEval ic.fn ic.dir (cstr s.str) = (some files, none) → files ≠ [] →
      nextIncludeFile w (pushFrame m files) true = (s2, none, err) →
      s3 = { s2 with stack := m.stack } →
      LexEffect s (s3, some (.includeError errTok Generated.ERR_BAD_INCLUDE s3.currentFilename
        s3.buf.lineno))

theorem yylex_zero (s : ScanState) : yylex T acts w ic 0 s = (s, .outOfFuel) := by rw [yylex]

def lexCont (fuel : Nat) : ScanState × Option LexOut → ScanState × LexOut
  | (s', none) => yylex T acts w ic fuel s'
  | (s', some o) => (s', o)

variable {T acts w ic}

theorem LexEffect.eq {s : ScanState} {r : ScanState × Option LexOut} (h : LexEffect T acts w ic s r)
    (fuel : Nat) : yylex T acts w ic (fuel + 1) s = lexCont T acts w ic fuel r := by
  rw [yylex]
  cases h with
  | eof hn hst => simp only [hn, hst, lexCont]
  | next hn hst hf => simp only [hn, hst, hf, lexCont]
  | stuck hn hst hf => simp only [hn, hst, hf, lexCont, if_true]
  | pop hn hst hf => simp only [hn, hst, hf, lexCont, Bool.false_eq_true, if_false]
  | act hn ha =>
    simp only [hn]
    generalize acts.getD _ .unknown = a at ha
    cases a <;> simp only [actOut, Option.some.injEq, reduceCtorEq] at ha <;> subst ha <;> rfl
  | inclErr hn ha hm ht =>
    subst hm
    simp only [hn, ha, lexCont]
    rcases ht with ⟨hd, rfl⟩ | ⟨hd, fs, hfn⟩
    -- the line number is a `Nat`: seen through `advance`, `rfl` alone sets out to evaluate it
    · rw [if_pos (beq_iff_eq.mpr hd)]; simp only [advance]; rfl
    · rw [if_neg (mt beq_iff_eq.mp hd)]; simp only [hfn, advance]; rfl
  | skip hn ha hd hfn hfs =>
    simp only [hn, ha, lexCont]
    rw [if_neg (mt beq_iff_eq.mp hd)]
    rcases hfs with rfl | rfl <;> simp only [hfn, advance] <;> rfl
  | @push _ _ _ files _ _ _ _ hn ha hm hd hfn hne hf =>
    subst hm
    simp only [hn, ha, lexCont]
    rw [if_neg (mt beq_iff_eq.mp hd)]
    cases files with
    | nil => exact absurd rfl hne
    | cons p ps =>
      simp only [hfn]
      -- `hf` does not rewrite: the `match` of `advance` and that of `yylex` are different constants
      generalize hq : nextIncludeFile w _ true = q
      cases hq.symm.trans hf
      rfl
  | @pushFail _ _ _ files _ _ _ _ hn ha hm hd hfn hne hf h3 =>
    subst hm h3
    simp only [hn, ha, lexCont]
    rw [if_neg (mt beq_iff_eq.mp hd)]
    cases files with
    | nil => exact absurd rfl hne
    | cons p ps =>
      simp only [hfn]
      generalize hq : nextIncludeFile w _ true = q
      cases hq.symm.trans hf
      rfl

theorem yylex_eof_next {s : ScanState} {f : Frame} {fs : List Frame} {q content : Bytes}
    (hnext : Flex.next T s.sc s.buf.bol s.buf.rest = none) (hst : s.stack = f :: fs)
    (hq : f.files[f.cur + 1]? = some q) (hopen : w.open? q = some content) (fuel : Nat) :
    yylex T acts w ic (fuel + 1) s =
      yylex T acts w ic fuel { s with buf := { rest := content },
                                      stack := { f with cur := f.cur + 1 } :: fs,
                                      events := s.events ++ closeEv f ++ [.fopen q true] ++
                                        [.delBuf, .newBuf] } :=
  (LexEffect.next (acts := acts) (ic := ic) hnext hst (s1 := { s with
      stack := { f with cur := f.cur + 1 } :: fs, events := s.events ++ closeEv f ++ [.fopen q true] })
    (by simp only [nextIncludeFile, hst, hq, hopen, Bool.false_eq_true, ↓reduceIte]; rfl)).eq fuel

theorem yylex_eof_pop {s : ScanState} {f : Frame} {fs : List Frame}
    (hnext : Flex.next T s.sc s.buf.bol s.buf.rest = none) (hst : s.stack = f :: fs)
    (hq : f.files[f.cur + 1]? = none) (fuel : Nat) :
    yylex T acts w ic (fuel + 1) s =
      yylex T acts w ic fuel { s with buf := f.parent, stack := fs,
                                      events := s.events ++ closeEv f ++ [.delBuf] } :=
  (LexEffect.pop (acts := acts) (ic := ic) hnext hst (s1 := { s with
      stack := { f with cur := f.cur + 1 } :: fs, events := s.events ++ closeEv f })
    (by simp only [nextIncludeFile, hst, hq, Bool.false_eq_true, ↓reduceIte]; rfl)).eq fuel

variable (T acts w ic)

theorem lexEffect_total (s : ScanState) : ∃ r, LexEffect T acts w ic s r := by
  cases hn : Flex.next T s.sc s.buf.bol s.buf.rest with
  | none =>
    cases hst : s.stack with
    | nil => exact ⟨_, .eof hn hst⟩
    | cons f fs =>
      rcases hf : nextIncludeFile w s false with ⟨s1, _ | c, err⟩
      · cases err
        · exact ⟨_, .pop hn hst hf⟩
        · exact ⟨_, .stuck hn hst hf⟩
      · exact ⟨_, .next hn hst hf⟩
  | some rl =>
    obtain ⟨rule, len⟩ := rl
    cases ha : actOut (acts.getD rule .unknown) (advance T s rule len) (s.buf.rest.take len) with
    | some r => exact ⟨r, .act hn ha⟩
    | none =>
      obtain ⟨errTok, ha⟩ : ∃ e, acts.getD rule .unknown = .includeDirective e := by
        generalize acts.getD rule .unknown = a at ha
        cases a <;> first | exact ⟨_, rfl⟩ | cases ha
      by_cases hd : s.stack.length = Generated.MAX_INCLUDE_DEPTH
      · exact ⟨_, .inclErr hn ha rfl (.inl ⟨hd, rfl⟩)⟩
      rcases hfn : includeFnEval ic.fn ic.dir (cstr s.str) with ⟨fs, _ | e⟩
      · rcases fs with _ | _ | ⟨p, ps⟩
        · exact ⟨_, .skip hn ha hd hfn (.inl rfl)⟩
        · exact ⟨_, .skip hn ha hd hfn (.inr rfl)⟩
        · rcases hf : nextIncludeFile w
            (pushFrame { advance T s rule len with str := [] } (p :: ps)) true with ⟨s2, _ | c, err⟩
          · exact ⟨_, .pushFail hn ha rfl hd hfn (List.cons_ne_nil _ _) hf rfl⟩
          · exact ⟨_, .push hn ha rfl hd hfn (List.cons_ne_nil _ _) hf⟩
      · exact ⟨_, .inclErr hn ha rfl (.inr ⟨hd, fs, hfn⟩)⟩

variable {T acts w ic}

/-- Induction along the iterations of one call: `K` holds of the states passed through, indexed
by the fuel left; `Q` of what is returned. -/
theorem yylex_ind {K : Nat → ScanState → Prop} {Q : ScanState × LexOut → Prop}
    (hgo : ∀ fuel s s', K (fuel + 1) s → LexEffect T acts w ic s (s', none) → K fuel s')
    (hret : ∀ fuel s s' o, K (fuel + 1) s → LexEffect T acts w ic s (s', some o) → Q (s', o))
    (hfuel : ∀ s, K 0 s → Q (s, .outOfFuel)) :
    ∀ (fuel : Nat) (s : ScanState), K fuel s → Q (yylex T acts w ic fuel s) := by
  intro fuel
  induction fuel with
  | zero => intro s h; rw [yylex_zero]; exact hfuel s h
  | succ fuel ih =>
    intro s h
    obtain ⟨⟨s', o⟩, he⟩ := lexEffect_total T acts w ic s
    rw [he.eq]
    cases o with
    | none => exact ih s' (hgo fuel s s' h he)
    | some o => exact hret fuel s s' o h he

/-- a property of what a call returns that the last iteration decides -/
theorem yylex_last {Q : ScanState × LexOut → Prop} (hfuel : ∀ s, Q (s, .outOfFuel))
    (hret : ∀ s s' o, LexEffect T acts w ic s (s', some o) → Q (s', o)) (fuel : Nat) (s : ScanState) :
    Q (yylex T acts w ic fuel s) :=
  yylex_ind (K := fun _ _ => True) (fun _ _ _ _ _ => trivial) (fun _ s s' o _ he => hret s s' o he)
    (fun s _ => hfuel s) fuel s trivial

theorem LexEffect.ret {s s' : ScanState} {o : LexOut} (he : LexEffect T acts w ic s (s', some o)) :
    o = .eof ∨ (∃ t text, o = .includeError t text s'.currentFilename s'.buf.lineno) ∨
    ∃ rule len, Flex.next T s.sc s.buf.bol s.buf.rest = some (rule, len) ∧
      actOut (acts.getD rule .unknown) (advance T s rule len) (s.buf.rest.take len) =
        some (s', some o) := by
  generalize hr : (s', some o) = r at he
  cases he with
  | eof => cases hr; exact .inl rfl
  | act hn ha => subst hr; exact .inr (.inr ⟨_, _, hn, ha⟩)
  | stuck | inclErr | pushFail => cases hr; exact .inr (.inl ⟨_, _, rfl⟩)
  | _ => cases hr

/-- What every iteration preserves holds of the state `yylex` returns; and an include error
reports the file the scanner is in. -/
theorem yylex_walk (P : ScanState → Prop)
    (hP : ∀ {s r}, LexEffect T acts w ic s r → P s → P r.1) (fuel : Nat) (s : ScanState) (h : P s) :
    P (yylex T acts w ic fuel s).1 :=
  yylex_ind (K := fun _ => P) (Q := fun r => P r.1) (fun _ _ _ hs he => hP he hs)
    (fun _ _ _ _ hs he => hP he hs) (fun _ hs => hs) fuel s h

/-- the file an include error reports is the current file of the state the call leaves -/
theorem yylex_errFile (fuel : Nat) (s : ScanState) {t : Nat} {text : Bytes} {file : Option Bytes}
    {line : Nat} (e : (yylex T acts w ic fuel s).2 = .includeError t text file line) :
    file = (yylex T acts w ic fuel s).1.currentFilename := by
  refine yylex_last (Q := fun r => r.2 = .includeError t text file line → file = r.1.currentFilename)
    nofun (fun _ _ _ he e => ?_) fuel s e
  subst e
  rcases he.ret with e | ⟨_, _, e⟩ | ⟨rule, len, _, ha⟩
  · cases e
  · cases e; rfl
  · generalize acts.getD rule .unknown = a at ha
    cases a <;> simp only [actOut, Option.some.injEq, Prod.mk.injEq, reduceCtorEq, and_false] at ha

end

/-! ### a call and its fuel -/

theorem yylex_mono1 (T : FlexTables) (acts : List ScanAct) (w : World) (ic : IncludeCfg) :
    ∀ (fuel : Nat) (s : ScanState), (yylex T acts w ic fuel s).2 ≠ .outOfFuel →
      yylex T acts w ic (fuel + 1) s = yylex T acts w ic fuel s := by
  intro fuel
  induction fuel with
  | zero => intro s h; exact (h (by rw [yylex_zero])).elim
  | succ n ih =>
    intro s
    obtain ⟨⟨s', o⟩, he⟩ := lexEffect_total T acts w ic s
    rw [he.eq, he.eq]
    cases o with
    | none => exact ih s'
    | some o => exact fun _ => rfl

theorem yylex_mono (T : FlexTables) (acts : List ScanAct) (w : World) (ic : IncludeCfg)
    (fuel : Nat) (s : ScanState) (h : (yylex T acts w ic fuel s).2 ≠ .outOfFuel) :
    ∀ k, yylex T acts w ic (fuel + k) s = yylex T acts w ic fuel s := by
  intro k
  induction k with
  | zero => rfl
  | succ k ih =>
    rw [← Nat.add_assoc, yylex_mono1 T acts w ic (fuel + k) s (by rw [ih]; exact h), ih]

theorem yylex_mono_le {T : FlexTables} {acts : List ScanAct} {w : World} {ic : IncludeCfg}
    {fuel fuel' : Nat} {s : ScanState} (h : (yylex T acts w ic fuel s).2 ≠ .outOfFuel)
    (hle : fuel ≤ fuel') : yylex T acts w ic fuel' s = yylex T acts w ic fuel s := by
  obtain ⟨k, rfl⟩ : ∃ k, fuel' = fuel + k := ⟨fuel' - fuel, by omega⟩
  exact yylex_mono T acts w ic fuel s h k

section
variable (T : FlexTables) (acts : List ScanAct) (w : World) (ic : IncludeCfg)

/-- the call from `s` returns `r` after exactly `k` iterations -/
def Returns (k : Nat) (s : ScanState) (r : ScanState × LexOut) : Prop :=
  r.2 ≠ .outOfFuel ∧ (∀ fuel, yylex T acts w ic (fuel + k) s = r) ∧
    ∀ fuel, fuel < k → (yylex T acts w ic fuel s).2 = .outOfFuel

variable {T acts w ic}

theorem Returns.ge {k : Nat} {s : ScanState} {r : ScanState × LexOut} (h : Returns T acts w ic k s r)
    {fuel : Nat} (hf : k ≤ fuel) : yylex T acts w ic fuel s = r := by
  rw [← h.2.1 (fuel - k)]
  congr 1
  omega

theorem Returns.le_of_ne {k : Nat} {s : ScanState} {r : ScanState × LexOut}
    (h : Returns T acts w ic k s r) {fuel : Nat}
    (hne : (yylex T acts w ic fuel s).2 ≠ .outOfFuel) : k ≤ fuel :=
  Nat.le_of_not_lt fun hlt => hne (h.2.2 fuel hlt)

theorem Returns.one {s : ScanState} {r : ScanState × LexOut}
    (h : ∀ fuel, yylex T acts w ic (fuel + 1) s = r) (hr : r.2 ≠ .outOfFuel) :
    Returns T acts w ic 1 s r :=
  ⟨hr, h, fun fuel hf => by rw [Nat.lt_one_iff.mp hf, yylex_zero]⟩

/-- a call whose first `j` iterations return nothing has not returned with less fuel than `j`:
had it, it would return the same with `j`, but then it is the call from `s'` with no fuel -/
theorem outOfFuel_of_lt {j : Nat} {s s' : ScanState}
    (hs : ∀ fuel, yylex T acts w ic (fuel + j) s = yylex T acts w ic fuel s') {fuel : Nat}
    (hf : fuel < j) : (yylex T acts w ic fuel s).2 = .outOfFuel := by
  apply Classical.byContradiction
  intro hne
  have := yylex_mono T acts w ic fuel s hne (j - fuel)
  rw [show fuel + (j - fuel) = 0 + j by omega, hs] at this
  exact hne (by rw [← this, yylex_zero])

theorem Returns.step {j k : Nat} {s s' : ScanState} {r : ScanState × LexOut}
    (hs : ∀ fuel, yylex T acts w ic (fuel + j) s = yylex T acts w ic fuel s')
    (h : Returns T acts w ic k s' r) : Returns T acts w ic (k + j) s r := by
  refine ⟨h.1, fun fuel => by rw [← Nat.add_assoc, hs, h.2.1], fun fuel hf => ?_⟩
  by_cases hj : fuel < j
  · exact outOfFuel_of_lt hs hj
  · rw [show fuel = (fuel - j) + j by omega, hs]
    exact h.2.2 _ (by omega)

end
end Libconfig
