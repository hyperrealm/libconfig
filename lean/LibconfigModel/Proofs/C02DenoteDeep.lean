import LibconfigModel.Proofs.C01ParseDeep
/-
  C02D, why the nesting has to be bounded: for `a = ( ( … ( ) … ) );` with `d + 1` nested lists
  the reference interpreter answers with the tree of nested lists (it is what that tree is written
  as: Proofs/C01ParseDenote.lean), the nesting reaches `d + 1` — and
  (Proofs/C01ParseDeep.lean) from `d` = 4997 on the parser answers "memory exhausted".
-/
namespace Libconfig.C02D
open Libconfig C01PP Denote

/-- the items of `a = ( ( … ( ) … ) );` with `d + 1` nested lists -/
def deepItems (d : Nat) : List Denote.Item :=
  .name [97] :: .assign ::
    (List.replicate (d + 1) .listStart ++ List.replicate (d + 1) .listEnd ++ [.semicolon])

/-- the tree of nested lists is read back as itself -/
theorem expNode_nested (bufLen : Nat) (c : Config) (nm : Option Bytes) : ∀ d : Nat,
    expNode bufLen c { nestedLists d with name := nm } = { nestedLists d with name := nm }
  | 0 => rfl
  | d + 1 => by
    have := expNode_nested bufLen c none d
    have e : ({ nestedLists d with name := none } : Node) = nestedLists d := by cases d <;> rfl
    rw [e] at this
    show expNode bufLen c { name := nm, ty := T_LIST, kids := [nestedLists d] } = _
    rw [expNode, expList, expList, this]
    rfl

theorem expNode_deep (bufLen d : Nat) :
    expNode bufLen (deepConfig d) (deepConfig d).root = (deepConfig d).root := by
  show expNode bufLen _ { ty := T_GROUP, kids := [{ nestedLists d with name := some [97] }] } = _
  rw [expNode, expList, expList, expNode_nested]
  rfl

theorem nesting_replicate_open (n : Nat) : ∀ (k : Nat) (tail : List Denote.Item),
    k + n ≤ nestingFrom k (List.replicate n .listStart ++ .listEnd :: tail) := by
  induction n with
  | zero => intro k tail; exact Nat.le_max_left _ _
  | succ n ih =>
    intro k tail
    have := ih (k + 1) tail
    rw [List.replicate_succ, List.cons_append, nestingFrom]
    omega

/-- its nesting reaches the number of lists -/
theorem nesting_deep (d : Nat) : d + 1 ≤ nestingFrom 0 (deepItems d) := by
  have := nesting_replicate_open (d + 1) 0 (List.replicate d .listEnd ++ [.semicolon])
  rw [Nat.zero_add] at this
  unfold deepItems
  rw [List.append_assoc]
  exact this

section
variable (bufLen : Nat)

theorem tokSuffix_deep (d : Nat) : tokSuffix (deepConfig d) = [tSE] := by
  unfold tokSuffix
  have : (deepConfig d).opt OPT_SEMICOLON = true := by
    show optGet (OPT_SEMICOLON ||| OPT_COLON_GROUPS ||| OPT_BRACE_SEPARATE) OPT_SEMICOLON = true
    decide
  rw [if_pos this]

theorem items_deep (d : Nat) :
    (tokensOfConfig tk bufLen (deepConfig d)).map itemOf = deepItems d := by
  rw [tokens_deep, tokSuffix_deep]
  unfold deepItems
  simp only [List.map_cons, List.map_append, List.map_replicate, List.map_nil]
  rw [List.replicate_succ (n := d)]
  simp only [List.cons_append, List.append_assoc]
  rfl

end

end Libconfig.C02D
