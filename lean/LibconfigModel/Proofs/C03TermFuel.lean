import LibconfigModel.Proofs.C03Term
/-
  C03T, the fuel of the parser loop: when the scanner delivers finitely many tokens and then
  the end of input, the potential

      (R + 1) · (tokens still to be consumed, end marker included) + rank(top state) + 1

  strictly decreases with every iteration (a shift trades `R + 1` for at most `R` of rank, a
  reduction lowers the rank), so that much fuel suffices.
-/
namespace Libconfig.C03T
open Libconfig C03P

/-- an upper bound `n` on the tokens still to be consumed (the end marker counts as one),
given the lookahead: without lookahead the scanner still delivers fewer than `n` tokens before
the end of input; a lookahead of kind 0 is the last thing consumed (the scanner is not called
again: see `StackPath.shift`); any other lookahead counts as one more -/
def Rem (E : ParserEnv) (la : Lookahead) (s : ScanState) (n : Nat) : Prop :=
  match la with
  | none => ∃ toks s', C02.LexesTo E s toks s' ∧ toks.length + 1 ≤ n
  | some (t, _) =>
    (translateTok E.P t = 0 ∧ 1 ≤ n) ∨ ∃ toks s', C02.LexesTo E s toks s' ∧ toks.length + 2 ≤ n

/-- fetching the lookahead does not change the count -/
theorem fetched_rem {E : ParserEnv} {la : Lookahead} {s s1 : ScanState} {t : Nat} {v : TokVal}
    {n : Nat} (hf : Fetched E la s t v s1) (hr : Rem E la s n) : Rem E (some (t, v)) s1 n := by
  cases hf
  case «have» hla =>
    subst hla
    exact hr
  case tok hla hy =>
    subst hla
    obtain ⟨toks, s', hl, hn⟩ := hr
    cases hl with
    | eof _ _ hy' => rw [hy] at hy'; cases hy'
    | tok _ s₁ _ t' v' rest hy' hrest =>
      rw [hy] at hy'
      cases hy'
      exact .inr ⟨rest, s', hrest, by simp only [List.length_cons] at hn; omega⟩
    | incl _ s₁ _ t' text file line rest hy' hrest => rw [hy] at hy'; cases hy'
  case eof hla hy =>
    subst hla
    obtain ⟨toks, s', hl, hn⟩ := hr
    exact .inl ⟨C02P.translateTok_zero _, by omega⟩
  case incl hla hy =>
    subst hla
    obtain ⟨toks, s', hl, hn⟩ := hr
    cases hl with
    | eof _ _ hy' => rw [hy] at hy'; cases hy'
    | tok _ s₁ _ t' v' rest hy' hrest => rw [hy] at hy'; cases hy'
    | incl _ s₁ _ t' text' file' line' rest hy' hrest =>
      rw [hy] at hy'
      cases hy'
      exact .inr ⟨rest, s', hrest, by simp only [List.length_cons] at hn; omega⟩

/-- the invariant of the fuel argument: the stack is a certificate path, and either the final
state is on top (the next iteration accepts) or `n` bounds what is still to be consumed -/
def Good (E : ParserEnv) (ed : List (Nat × Nat)) (X : PState) (n : Nat) : Prop :=
  StackPath ed X.stack ∧ (topState X.stack = E.P.final ∨ Rem E X.la X.s n)

def pot (rk : List Nat) (R : Nat) (X : PState) (n : Nat) : Nat :=
  (R + 1) * n + rkOf rk (topState X.stack) + 1

/-- every iteration that continues lowers the potential -/
theorem step_good {E : ParserEnv} {ed : List (Nat × Nat)} {rk : List Nat} {R : Nat}
    (F : C02P.Facts E.P ed) (RF : RankFacts E.P ed rk R) {X Y : PState} {n : Nat}
    (hg : Good E ed X n) (h : yystep E X = .inr Y) :
    ∃ n', Good E ed Y n' ∧ pot rk R Y n' < pot rk R X n := by
  obtain ⟨_, _, hnf, hcase⟩ := yystep_inr E X Y h
  have hrem : Rem E X.la X.s n := hg.2.resolve_left hnf
  have hpY := step_path F hg.1 h
  rcases hcase with ⟨t, v, a, hf, hact, hpos, hst, hla⟩ | ⟨rule, hrule, ⟨yyval, hst⟩, hla⟩
  · have hr := fetched_rem hf hrem
    obtain ⟨hpq, _, hfin, _⟩ := hg.1.shift F hnf hact hpos v
    have hrq : rkOf rk a.toNat ≤ R := RF.le _ (hpq.top_lt F)
    have htopY : topState Y.stack = a.toNat := by rw [hst]; rfl
    rcases hr with ⟨h0, h1⟩ | ⟨toks, s', hl, hn⟩
    · refine ⟨0, ⟨hpY, .inl (by rw [htopY]; exact (hfin h0).1)⟩, ?_⟩
      unfold pot
      rw [htopY]
      have : (R + 1) * 1 ≤ (R + 1) * n := Nat.mul_le_mul_left _ h1
      omega
    · obtain ⟨m, rfl⟩ : ∃ m, n = m + 1 := ⟨n - 1, by omega⟩
      refine ⟨m, ⟨hpY, .inr ?_⟩, ?_⟩
      · rw [hla]
        exact ⟨toks, s', hl, by omega⟩
      · unfold pot
        rw [htopY, Nat.mul_succ]
        omega
  · have hrk := reduce_rank F RF hg.1 hnf hrule
    refine ⟨n, ⟨hpY, .inr ?_⟩, ?_⟩
    · rcases hla with ⟨h1, h2⟩ | ⟨t, v, hf, h1⟩
      · rw [h1, h2]; exact hrem
      · rw [h1]; exact fetched_rem hf hrem
    · unfold pot
      rw [hst]
      show _ + rkOf rk (gotoTarget E.P rule _) + 1 < _
      omega

/-- **Fuel that suffices**: from a good state, the potential bounds the number of iterations
left, so with that much fuel the loop does not end with `.outOfFuel` -/
theorem loop_fuel {E : ParserEnv} {ed : List (Nat × Nat)} {rk : List Nat} {R : Nat}
    (F : C02P.Facts E.P ed) (RF : RankFacts E.P ed rk R) :
    ∀ (fuel : Nat) (X : PState) (n : Nat), Good E ed X n → pot rk R X n ≤ fuel →
      (yyparseLoop E fuel X.stack X.la X.s X.ctx).2.2 ≠ .outOfFuel := by
  intro fuel
  induction fuel with
  | zero =>
    intro X n _ hp
    unfold pot at hp
    omega
  | succ fuel ih =>
    intro X n hg hp
    rw [yyparseLoop_succ]
    generalize hs : yystep E X = o
    cases o with
    | inl r =>
      obtain ⟨s1, c1, res⟩ := r
      show res ≠ .outOfFuel
      intro hres
      subst hres
      obtain ⟨hla, hy⟩ := (yystep_lex E X s1 c1 .outOfFuel hs).1 rfl
      rcases hg.2 with hfin | hrem
      · rcases yystep_final E X hg.1.ne_nil hfin with h1 | h1 <;> rw [hs] at h1 <;> cases h1
      · rw [hla] at hrem
        obtain ⟨toks, s', hl, _⟩ := hrem
        cases hl with
        | eof _ _ hy' => rw [hy] at hy'; cases hy'
        | tok _ _ _ _ _ _ hy' _ => rw [hy] at hy'; cases hy'
        | incl _ _ _ _ _ _ _ _ hy' _ => rw [hy] at hy'; cases hy'
    | inr Y =>
      obtain ⟨n', hg', hpot⟩ := step_good F RF hg hs
      exact ih Y n' hg' (by omega)

/-- the initial configuration of `yyparse` is good when the scanner delivers `toks` and then
the end of input -/
theorem initial_good {E : ParserEnv} (ed : List (Nat × Nat)) {s₀ s' : ScanState}
    {toks : List (Nat × TokVal)} (ctx₀ : ParseCtx) (hl : C02.LexesTo E s₀ toks s') :
    Good E ed (initial s₀ ctx₀) (toks.length + 1) :=
  ⟨.base _, .inr ⟨toks, s', hl, Nat.le_refl _⟩⟩

/-- `yyparse` with fuel `(R+1)·(n+1) + rank(0) + 1` for `n` tokens -/
theorem yyparse_fuel {E : ParserEnv} {ed : List (Nat × Nat)} {rk : List Nat} {R : Nat}
    (hok : C02P.staticOK E.P ed = true) (hrk : rankOK E.P ed rk R = true)
    (fuel : Nat) (s₀ s' : ScanState) (ctx₀ : ParseCtx) (toks : List (Nat × TokVal))
    (hl : C02.LexesTo E s₀ toks s') (hf : (R + 1) * (toks.length + 1) + rkOf rk 0 + 1 ≤ fuel) :
    (yyparse E fuel s₀ ctx₀).2.2 ≠ .outOfFuel :=
  loop_fuel (C02P.facts_of_static hok) (rankFacts_of hrk) fuel (initial s₀ ctx₀) _
    (initial_good ed ctx₀ hl) hf

end Libconfig.C03T
