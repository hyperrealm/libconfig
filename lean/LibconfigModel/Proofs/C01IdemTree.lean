import LibconfigModel.Proofs.C01IdemFloat
import LibconfigModel.Proofs.C01RoundTrip
import LibconfigModel.Proofs.C05
/-
  C01 idempotence — lifting the float lemma to trees: writing the expected result of the round trip
  (`C01Parse.expectedRoot`) under the presentation attributes of the written configuration gives
  the same bytes again.
-/
namespace Libconfig.C01I
open Libconfig F64 C01P C01L C01Parse

/-! ### the side conditions, leaf by leaf -/

/-- the text written for the float `b` is a fixed point of read-then-write -/
def floatIdem (bufLen : Nat) (c : Config) (b : Nat) : Bool :=
  formatDouble bufLen (F64.strtod (formatDouble bufLen b c.floatPrecision (c.opt OPT_SCIENTIFIC)))
      c.floatPrecision (c.opt OPT_SCIENTIFIC) ==
    formatDouble bufLen b c.floatPrecision (c.opt OPT_SCIENTIFIC)

/-- the format of an integer setting is one `config_setting_set_format` accepts (DEFAULT = 0 or
HEX = 1) — or else the configuration's default format is not HEX -/
def intFmtOK (c : Config) (fmt : Nat) : Bool := decide (fmt ≤ 1) || c.defaultFormat != FMT_HEX

mutual
/-- every integer leaf has a format that survives, every float leaf a text that is a fixed point -/
def nodeIdem (bufLen : Nat) (c : Config) : Node → Bool
  | .mk _ ty fmt _ fval _ kids _ _ _ =>
    if isAggregateTy ty then nodesIdem bufLen c kids
    else if ty == T_INT || ty == T_INT64 then intFmtOK c fmt
    else if ty == T_FLOAT then floatIdem bufLen c fval
    else true
def nodesIdem (bufLen : Nat) (c : Config) : List Node → Bool
  | [] => true
  | k :: ks => nodeIdem bufLen c k && nodesIdem bufLen c ks
end

mutual
/-- every integer leaf has a format that survives -/
def nodeFmt (c : Config) : Node → Bool
  | .mk _ ty fmt _ _ _ kids _ _ _ =>
    if isAggregateTy ty then nodesFmt c kids
    else if ty == T_INT || ty == T_INT64 then intFmtOK c fmt
    else true
def nodesFmt (c : Config) : List Node → Bool
  | [] => true
  | k :: ks => nodeFmt c k && nodesFmt c ks
end

/-- the presentation attributes `config_write` looks at -/
def SameAttrs (c c' : Config) : Prop :=
  c'.options = c.options ∧ c'.tabWidth = c.tabWidth ∧ c'.floatPrecision = c.floatPrecision ∧
    c'.defaultFormat = c.defaultFormat

theorem SameAttrs.opt {c c' : Config} (h : SameAttrs c c') (o : Nat) : c'.opt o = c.opt o := by
  unfold Config.opt; rw [h.1]

/-! ### scalars -/

/-- the effective format of the integer read back is HEX exactly when that of the written one is -/
theorem effFormat_expected (c c' : Config) (hd : c'.defaultFormat = c.defaultFormat) (n m : Node)
    (hm : m.fmt = if effFormat c n == FMT_HEX then FMT_HEX else FMT_DEFAULT)
    (hok : intFmtOK c n.fmt = true) :
    effFormat c' m = FMT_HEX ↔ effFormat c n = FMT_HEX := by
  have key : (effFormat c' m == FMT_HEX) = (effFormat c n == FMT_HEX) := by
    unfold intFmtOK at hok
    simp only [Bool.or_eq_true, decide_eq_true_eq, bne_iff_ne, ne_eq] at hok
    unfold effFormat at *
    simp only [FMT_HEX, FMT_DEFAULT] at *
    rw [hm, hd]
    by_cases h0 : n.fmt = 0
    · simp only [h0, bne_self_eq_false, Bool.false_eq_true, if_false]
      by_cases h1 : c.defaultFormat = 1
      · simp [h1]
      · simp [h1]
    · have hb : (n.fmt != 0) = true := by simpa using h0
      simp only [hb, if_true]
      by_cases h1 : n.fmt = 1
      · simp [h1]
      · have : ¬ c.defaultFormat = 1 := by
          rcases hok with h | h
          · omega
          · exact h
        rw [beq_eq_false_iff_ne.mpr h1]
        simp only [Bool.false_eq_true, if_false, bne_self_eq_false]
        rw [beq_eq_false_iff_ne.mpr this]
  rw [← beq_iff_eq, key, beq_iff_eq]

theorem writeScalar_float (bufLen : Nat) (c : Config) (n : Node) (h : n.ty = T_FLOAT) :
    writeScalar bufLen c n = formatDouble bufLen n.fval c.floatPrecision (c.opt OPT_SCIENTIFIC) := by
  unfold writeScalar; rw [h]; rfl

/-- the written form of the scalar read back, under the same presentation attributes -/
theorem scalar_idem (bufLen : Nat) (c c' : Config) (ha : SameAttrs c c') (n : Node)
    (hi : n.ty = T_INT ∨ n.ty = T_INT64 → intFmtOK c n.fmt = true)
    (hf : n.ty = T_FLOAT → floatIdem bufLen c n.fval = true) :
    writeScalar bufLen c' (expectedScalar bufLen c n) = writeScalar bufLen c n := by
  have hopt := SameAttrs.opt ha OPT_SCIENTIFIC
  obtain ⟨-, -, hprec, hdef⟩ := ha
  unfold expectedScalar
  by_cases h6 : (n.ty == T_BOOL) = true
  · rw [if_pos h6, C01.C01_writer_bool _ c' _ rfl, C01.C01_writer_bool _ c n (eq_of_beq h6)]
    by_cases hv : n.ival = 0
    · rw [hv]; rfl
    · rw [show (n.ival != 0) = true by simpa using hv]; rfl
  rw [if_neg h6]
  by_cases h2 : (n.ty == T_INT) = true
  · rw [if_pos h2, C01.C01_writer_int _ c' _ rfl, C01.C01_writer_int _ c n (eq_of_beq h2)]
    exact ite_congr (propext (effFormat_expected c c' hdef n _ rfl (hi (.inl (eq_of_beq h2)))))
      (fun _ => rfl) (fun _ => rfl)
  rw [if_neg h2]
  by_cases h3 : (n.ty == T_INT64) = true
  · rw [if_pos h3, C01.C01_writer_int64 _ c' _ rfl, C01.C01_writer_int64 _ c n (eq_of_beq h3)]
    exact ite_congr (propext (effFormat_expected c c' hdef n _ rfl (hi (.inr (eq_of_beq h3)))))
      (fun _ => rfl) (fun _ => rfl)
  rw [if_neg h3]
  by_cases h4 : (n.ty == T_FLOAT) = true
  · have hF := hf (eq_of_beq h4)
    unfold floatIdem at hF
    rw [if_pos h4, writeScalar_float _ c' _ rfl, writeScalar_float _ c n (eq_of_beq h4), hprec, hopt]
    exact eq_of_beq hF
  rw [if_neg h4]
  by_cases h5 : (n.ty == T_STRING) = true
  · rw [if_pos h5, C01.C01_writer_string _ c' _ rfl, C01.C01_writer_string _ c n (eq_of_beq h5)]
    rfl
  · rw [if_neg h5]
    unfold writeScalar
    rw [if_neg h6, if_neg h2, if_neg h3, if_neg h4, if_neg h5,
      if_neg h6, if_neg h2, if_neg h3, if_neg h4, if_neg h5]

/-- name, type and (absence of) children of the expected form of a scalar -/
theorem expectedScalar_fields (bufLen : Nat) (c : Config) (n : Node) :
    (expectedScalar bufLen c n).name = n.name ∧ (expectedScalar bufLen c n).ty = n.ty ∧
      (expectedScalar bufLen c n).kids = [] := by
  unfold expectedScalar
  by_cases h6 : (n.ty == T_BOOL) = true
  · rw [if_pos h6]; exact ⟨rfl, (eq_of_beq h6).symm, rfl⟩
  rw [if_neg h6]
  by_cases h2 : (n.ty == T_INT) = true
  · rw [if_pos h2]; exact ⟨rfl, (eq_of_beq h2).symm, rfl⟩
  rw [if_neg h2]
  by_cases h3 : (n.ty == T_INT64) = true
  · rw [if_pos h3]; exact ⟨rfl, (eq_of_beq h3).symm, rfl⟩
  rw [if_neg h3]
  by_cases h4 : (n.ty == T_FLOAT) = true
  · rw [if_pos h4]; exact ⟨rfl, (eq_of_beq h4).symm, rfl⟩
  rw [if_neg h4]
  by_cases h5 : (n.ty == T_STRING) = true
  · rw [if_pos h5]; exact ⟨rfl, (eq_of_beq h5).symm, rfl⟩
  rw [if_neg h5]
  exact ⟨rfl, rfl, rfl⟩

theorem expectedNode_name_ty (bufLen : Nat) (c : Config) (n : Node) :
    (expectedNode bufLen c n).name = n.name ∧ (expectedNode bufLen c n).ty = n.ty := by
  cases n with
  | mk name ty fmt ival fval sval kids hook line file =>
    rw [expectedNode]
    split
    · exact ⟨rfl, rfl⟩
    · have := expectedScalar_fields bufLen c (.mk name ty fmt ival fval sval [] hook line file)
      exact ⟨this.1, this.2.1⟩

/-- `__config_write_value` of a childless non-aggregate is the scalar case -/
theorem writeValue_scalar (bufLen : Nat) (c : Config) (d : Nat) (m : Node)
    (hty : isAggregateTy m.ty = false) (hk : m.kids = []) :
    writeValue bufLen c d m = writeScalar bufLen c m := by
  cases m with
  | mk name ty fmt ival fval sval kids hook line file =>
    simp only [isAggregateTy, Bool.or_eq_false_iff] at hty
    obtain ⟨⟨h7, h8⟩, h1⟩ := hty
    have hk' : kids = [] := hk
    subst hk'
    rw [writeValue]
    simp only [h7, h8, h1, Bool.false_eq_true, if_false]

/-! ### prefix and suffix depend on the presentation attributes only -/

theorem prefix_attrs (c c' : Config) (ha : SameAttrs c c') (d : Nat) (name : Option Bytes) (ty : Nat) :
    settingPrefix c' d name ty = settingPrefix c d name ty := by
  unfold settingPrefix
  rw [ha.opt, ha.opt, ha.2.1]

theorem suffix_attrs (c c' : Config) (ha : SameAttrs c c') (d : Nat) :
    settingSuffix c' d = settingSuffix c d := by
  unfold settingSuffix
  rw [ha.opt]

/-! ### the tree -/

mutual
theorem value_idem (bufLen : Nat) (c c' : Config) (ha : SameAttrs c c') (d : Nat) :
    (n : Node) → nodeIdem bufLen c n = true →
      writeValue bufLen c' d (expectedNode bufLen c n) = writeValue bufLen c d n
  | .mk name ty fmt ival fval sval kids hook line file => by
    intro h
    rw [nodeIdem] at h
    rw [expectedNode]
    by_cases hag : isAggregateTy ty = true
    · rw [if_pos hag] at h ⊢
      rw [writeValue, writeValue, elems_idem bufLen c c' ha (d + 1) kids h,
        members_idem bufLen c c' ha (d + 1) kids h, ha.opt, ha.2.1]
      simp only [isAggregateTy, Bool.or_eq_true, beq_iff_eq] at hag
      rcases hag with (e | e) | e <;> subst e <;>
        simp only [T_LIST, T_ARRAY, T_GROUP, Nat.reduceBEq, Bool.false_eq_true, if_false, if_true]
    · rw [if_neg hag] at h ⊢
      have hag' : isAggregateTy ty = false := by simpa using hag
      obtain ⟨-, e2, e3⟩ :=
        expectedScalar_fields bufLen c (.mk name ty fmt ival fval sval [] hook line file)
      rw [writeValue_scalar bufLen c' d _ (by rw [e2]; exact hag') e3]
      have hrhs : writeValue bufLen c d (.mk name ty fmt ival fval sval kids hook line file) =
          writeScalar bufLen c (.mk name ty fmt ival fval sval [] hook line file) := by
        simp only [isAggregateTy, Bool.or_eq_false_iff] at hag'
        obtain ⟨⟨h7, h8⟩, h1⟩ := hag'
        rw [writeValue]
        simp only [h7, h8, h1, Bool.false_eq_true, if_false]
      rw [hrhs]
      apply scalar_idem bufLen c c' ha
      · intro hty
        have hty' : ty = 2 ∨ ty = 3 := hty
        have : (ty == T_INT || ty == T_INT64) = true := by
          rcases hty' with e | e <;> simp [e]
        rw [if_pos this] at h
        exact h
      · intro hty
        have hty' : ty = 4 := hty
        subst hty'
        rw [if_neg (by decide), if_pos (by decide)] at h
        exact h
theorem elems_idem (bufLen : Nat) (c c' : Config) (ha : SameAttrs c c') (d : Nat) :
    (ks : List Node) → nodesIdem bufLen c ks = true →
      writeElems bufLen c' d (expectedList bufLen c ks) = writeElems bufLen c d ks
  | [] => by intro _; rw [expectedList, writeElems, writeElems]
  | k :: ks => by
    intro h
    rw [nodesIdem, Bool.and_eq_true] at h
    rw [expectedList, writeElems, writeElems, value_idem bufLen c c' ha d k h.1,
      elems_idem bufLen c c' ha d ks h.2]
    cases ks with
    | nil => rw [expectedList]
    | cons k2 ks2 => rw [expectedList]; rfl
theorem members_idem (bufLen : Nat) (c c' : Config) (ha : SameAttrs c c') (d : Nat) :
    (ks : List Node) → nodesIdem bufLen c ks = true →
      writeMembers bufLen c' d (expectedList bufLen c ks) = writeMembers bufLen c d ks
  | [] => by intro _; rw [expectedList, writeMembers, writeMembers]
  | k :: ks => by
    intro h
    rw [nodesIdem, Bool.and_eq_true] at h
    obtain ⟨e1, e2⟩ := expectedNode_name_ty bufLen c k
    rw [expectedList, writeMembers, writeMembers, value_idem bufLen c c' ha d k h.1,
      members_idem bufLen c c' ha d ks h.2, e1, e2, prefix_attrs c c' ha, suffix_attrs c c' ha]
end

/-- **the tree lemma**: `config_write` of the expected result of the round trip, under the same
presentation attributes, gives the bytes `config_write` gave for the original -/
theorem write_expected (bufLen : Nat) (c c' : Config) (ha : SameAttrs c c')
    (hroot : c'.root = expectedRoot bufLen c) (h : nodeIdem bufLen c c.root = true) :
    c'.write bufLen = c.write bufLen := by
  obtain ⟨e1, e2⟩ := expectedNode_name_ty bufLen c c.root
  unfold Config.write writeSetting
  rw [hroot]
  unfold expectedRoot
  rw [value_idem bufLen c c' ha 0 c.root h, e1, e2, prefix_attrs c c' ha, suffix_attrs c c' ha]

/-! ### source positions are not written -/

theorem SameAttrs.symm {c c' : Config} (h : SameAttrs c c') : SameAttrs c' c :=
  ⟨h.1.symm, h.2.1.symm, h.2.2.1.symm, h.2.2.2.symm⟩

/-- the scalar case looks at type, format, value and the presentation attributes only -/
theorem scalar_attrs (bufLen : Nat) (c c' : Config) (ha : SameAttrs c c') (m m' : Node)
    (h1 : m'.ty = m.ty) (h2 : m'.fmt = m.fmt) (h3 : m'.ival = m.ival) (h4 : m'.fval = m.fval)
    (h5 : m'.sval = m.sval) : writeScalar bufLen c' m' = writeScalar bufLen c m := by
  unfold writeScalar effFormat
  rw [h1, h2, h3, h4, h5, ha.opt, ha.2.2.1, ha.2.2.2]

mutual
theorem value_stripPos (bufLen : Nat) (c c' : Config) (ha : SameAttrs c c') (d : Nat) :
    (n : Node) → writeValue bufLen c' d (stripPos n) = writeValue bufLen c d n
  | .mk name ty fmt ival fval sval kids hook line file => by
    rw [stripPos, writeValue, writeValue, elems_stripPos bufLen c c' ha (d + 1) kids,
      members_stripPos bufLen c c' ha (d + 1) kids, ha.opt, ha.2.1,
      scalar_attrs bufLen c c' ha (.mk name ty fmt ival fval sval [] hook line file)
        (.mk name ty fmt ival fval sval [] hook 0 none) rfl rfl rfl rfl rfl]
theorem elems_stripPos (bufLen : Nat) (c c' : Config) (ha : SameAttrs c c') (d : Nat) :
    (ks : List Node) → writeElems bufLen c' d (stripPosList ks) = writeElems bufLen c d ks
  | [] => by rw [stripPosList, writeElems, writeElems]
  | k :: ks => by
    rw [stripPosList, writeElems, writeElems, value_stripPos bufLen c c' ha d k,
      elems_stripPos bufLen c c' ha d ks]
    cases ks with
    | nil => rw [stripPosList]
    | cons k2 ks2 => rw [stripPosList]; rfl
theorem members_stripPos (bufLen : Nat) (c c' : Config) (ha : SameAttrs c c') (d : Nat) :
    (ks : List Node) → writeMembers bufLen c' d (stripPosList ks) = writeMembers bufLen c d ks
  | [] => by rw [stripPosList, writeMembers, writeMembers]
  | k :: ks => by
    have e1 : (stripPos k).name = k.name := (C01RT.stripPos_fields k).1
    have e2 : (stripPos k).ty = k.ty := (C01RT.stripPos_fields k).2.1
    rw [stripPosList, writeMembers, writeMembers, value_stripPos bufLen c c' ha d k,
      members_stripPos bufLen c c' ha d ks, e1, e2, prefix_attrs c c' ha, suffix_attrs c c' ha]
end

/-- a configuration writes the same bytes as its position-free copy under the same presentation
attributes -/
theorem write_of_stripPos (bufLen : Nat) (c c' : Config) (ha : SameAttrs c c')
    (hroot : c.root = stripPos c'.root) : c'.write bufLen = c.write bufLen := by
  have e1 : (stripPos c'.root).name = c'.root.name := (C01RT.stripPos_fields c'.root).1
  have e2 : (stripPos c'.root).ty = c'.root.ty := (C01RT.stripPos_fields c'.root).2.1
  unfold Config.write writeSetting
  rw [hroot, value_stripPos bufLen c' c ha.symm 0 c'.root, e1, e2, prefix_attrs c c' ha,
    suffix_attrs c c' ha]

/-! ### reading the written form back and writing again -/

/-- `config_read` keeps the presentation attributes of the configuration it reads into -/
theorem sameAttrs_read {c c₀ : Config} (ha : SameAttrs c c₀) (w : World) (src : Source) (fuel : Nat) :
    SameAttrs c (read w c₀ src fuel).cfg := by
  have hattr := C05P.read_attrs w c₀ src fuel
  unfold C05P.cfgAttrs at hattr
  simp only [Prod.mk.injEq] at hattr
  obtain ⟨a1, -, a2, a3, a4, -⟩ := hattr
  obtain ⟨b1, b2, b3, b4⟩ := ha
  exact ⟨a1.trans b1, a2.trans b2, a3.trans b3, a4.trans b4⟩

/-- a read that yields the expected tree (positions apart) writes the bytes `c` wrote -/
theorem rewrite_of_roundtrip (bufLen : Nat) (c c₀ : Config) (ha : SameAttrs c c₀)
    (hid : nodeIdem bufLen c c.root = true) (w : World) (src : Source) (fuel : Nat)
    (hrt : stripPos (read w c₀ src fuel).cfg.root = expectedRoot bufLen c) :
    (read w c₀ src fuel).cfg.write bufLen = c.write bufLen := by
  rw [← write_expected bufLen c { c with root := expectedRoot bufLen c } ⟨rfl, rfl, rfl, rfl⟩ rfl hid]
  exact write_of_stripPos bufLen _ _ (sameAttrs_read ha w src fuel) hrt.symm

/-! ### discharging the side conditions -/

theorem floatIdem_fixed (c : Config) (b : Nat) (hfin : isFinite b = true)
    (hsci : c.opt OPT_SCIENTIFIC = false) (hp : c.floatPrecision ≤ 26) : floatIdem 341 c b = true := by
  unfold floatIdem
  rw [hsci, formatDouble_idem b _ hfin hp]
  exact beq_self_eq_true _

mutual
/-- every float leaf satisfies `Q` -/
def nodeFloats (Q : Nat → Bool) : Node → Bool
  | .mk _ ty _ _ fval _ kids _ _ _ =>
    if isAggregateTy ty then nodesFloats Q kids
    else if ty == T_FLOAT then Q fval
    else true
def nodesFloats (Q : Nat → Bool) : List Node → Bool
  | [] => true
  | k :: ks => nodeFloats Q k && nodesFloats Q ks
end

mutual
theorem nodeIdem_of (bufLen : Nat) (c : Config) (Q : Nat → Bool)
    (H : ∀ b, Q b = true → floatIdem bufLen c b = true) :
    (n : Node) → nodeFloats Q n = true → nodeFmt c n = true → nodeIdem bufLen c n = true
  | .mk name ty fmt ival fval sval kids hook line file => by
    intro h1 h2
    rw [nodeFloats] at h1
    rw [nodeFmt] at h2
    rw [nodeIdem]
    by_cases hag : isAggregateTy ty = true
    · rw [if_pos hag] at h1 h2 ⊢
      exact nodesIdem_of bufLen c Q H kids h1 h2
    · rw [if_neg hag] at h1 h2 ⊢
      by_cases hint : (ty == T_INT || ty == T_INT64) = true
      · rw [if_pos hint] at h2 ⊢; exact h2
      · rw [if_neg hint]
        by_cases h4 : (ty == T_FLOAT) = true
        · rw [if_pos h4] at h1 ⊢
          exact H fval h1
        · rw [if_neg h4]
theorem nodesIdem_of (bufLen : Nat) (c : Config) (Q : Nat → Bool)
    (H : ∀ b, Q b = true → floatIdem bufLen c b = true) :
    (ks : List Node) → nodesFloats Q ks = true → nodesFmt c ks = true → nodesIdem bufLen c ks = true
  | [] => by intro _ _; rw [nodesIdem]
  | k :: ks => by
    intro h1 h2
    rw [nodesFloats, Bool.and_eq_true] at h1
    rw [nodesFmt, Bool.and_eq_true] at h2
    rw [nodesIdem, nodeIdem_of bufLen c Q H k h1.1 h2.1, nodesIdem_of bufLen c Q H ks h1.2 h2.2]
    rfl
end

/-! ### … in particular for the default notation: finite floats -/

mutual
theorem nodeFloats_of_fin : (n : Node) → nodeFin n = true → nodeFloats isFinite n = true
  | .mk name ty fmt ival fval sval kids hook line file => by
    intro h
    rw [nodeFin, Bool.and_eq_true] at h
    have h' := h.2
    rw [nodeFloats]
    by_cases hag : isAggregateTy ty = true
    · rw [if_pos hag]
      refine nodesFloats_of_fin kids ?_
      simp only [isAggregateTy, Bool.or_eq_true, beq_iff_eq] at hag
      rcases hag with (e | e) | e <;> subst e <;> simpa using h'
    · rw [if_neg hag]
      by_cases h4 : ty = 4
      · subst h4
        rw [if_pos (by rfl)]
        simpa [scalarFin, T_LIST, T_ARRAY, T_GROUP, T_BOOL, T_INT, T_INT64, T_FLOAT] using h'
      · rw [if_neg (by simpa using h4)]
theorem nodesFloats_of_fin : (ks : List Node) → nodesFin ks = true → nodesFloats isFinite ks = true
  | [] => by intro _; rw [nodesFloats]
  | k :: ks => by
    intro h
    rw [nodesFin, Bool.and_eq_true] at h
    rw [nodesFloats, nodeFloats_of_fin k h.1, nodesFloats_of_fin ks h.2]
    rfl
end

theorem nodeIdem_of_fin (c : Config) (hsci : c.opt OPT_SCIENTIFIC = false) (hp : c.floatPrecision ≤ 26)
    (n : Node) (h1 : nodeFin n = true) (h2 : nodeFmt c n = true) : nodeIdem 341 c n = true :=
  nodeIdem_of 341 c isFinite (fun b hb => floatIdem_fixed c b hb hsci hp) n (nodeFloats_of_fin n h1) h2

theorem nodesIdem_of_fin (c : Config) (hsci : c.opt OPT_SCIENTIFIC = false)
    (hp : c.floatPrecision ≤ 26) :
    (ks : List Node) → nodesFin ks = true → nodesFmt c ks = true → nodesIdem 341 c ks = true :=
  fun ks h1 h2 =>
    nodesIdem_of 341 c isFinite (fun b hb => floatIdem_fixed c b hb hsci hp) ks
      (nodesFloats_of_fin ks h1) h2

end Libconfig.C01I
