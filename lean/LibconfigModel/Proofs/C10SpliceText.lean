import LibconfigModel.Properties.C10
import LibconfigModel.Proofs.C10SpliceLex
/-
  Helper lemmas for Properties/C10Splice.lean, text side: lines of a text, the shape of a
  directive line (`directive?`), plain lines, `splice` line by line, and the internal form
  `TreeOK` of the strengthened tree hypothesis with its per-line views.
-/
set_option autoImplicit false

namespace Libconfig.C10S

open Libconfig Libconfig.C10

/-! ### lines -/

theorem mem_takeWhile_imp {α} {p : α → Bool} {l : List α} {a : α} (h : a ∈ l.takeWhile p) :
    p a = true :=
  List.all_eq_true.mp List.all_takeWhile a h

/-- empty, or ending in a newline -/
def NLT (t : Bytes) : Prop := t = [] ∨ t.getLast? = some 10

/-- bytes 1 … 255 (a C string's characters; the model's `Bytes` are unbounded naturals) -/
def ByteText (t : Bytes) : Prop := ∀ b ∈ t, 1 ≤ b ∧ b < 256

def firstLine (t : Bytes) : Bytes := t.takeWhile (· != 10)

theorem follow_nil : Follow [] := .inl rfl
theorem follow_cons (m : Bytes) : Follow (10 :: m) := .inr rfl

theorem follow_append {a b : Bytes} (ha : Follow a) (hb : Follow b) : Follow (a ++ b) := by
  rcases follow_cases ha with rfl | ⟨m, rfl⟩
  · simpa using hb
  · exact .inr rfl

/-- every text is a first line followed by nothing or by a newline and more text -/
theorem line_split (t : Bytes) : ∃ l tail, t = l ++ tail ∧ 10 ∉ l ∧ Follow tail := by
  refine ⟨t.takeWhile (· != 10), t.dropWhile (· != 10), List.takeWhile_append_dropWhile.symm, ?_, ?_⟩
  · intro h
    have := mem_takeWhile_imp h
    simp at this
  · have := List.head?_dropWhile_not (· != 10) t
    cases hd : (t.dropWhile (· != 10)) with
    | nil => exact .inl rfl
    | cons c m =>
      rw [hd] at this
      simp only [List.head?_cons, bne_eq_false_iff_eq] at this
      exact .inr (by rw [this]; rfl)

theorem firstLine_append {l tail : Bytes} (hl : 10 ∉ l) (ht : Follow tail) :
    firstLine (l ++ tail) = l := by
  refine (span_append (p := (· != 10)) (fun x hx => bne_iff_ne.mpr fun h => hl (h ▸ hx))
    fun c hc => ?_).1
  rcases ht with rfl | ht
  · cases hc
  · rw [ht] at hc; cases hc; rfl

theorem splitOn_line {l tail : Bytes} (hl : 10 ∉ l) (ht : Follow tail) :
    (l ++ tail).splitOn 10 = l :: (match tail with | [] => [] | _ :: m => m.splitOn 10) := by
  rcases follow_cases ht with rfl | ⟨m, rfl⟩
  · simp only [List.append_nil]
    exact List.splitOn_eq_singleton hl
  · exact List.splitOn_append_cons_self_of_not_mem hl m

theorem byteText_append {a b : Bytes} : ByteText (a ++ b) ↔ ByteText a ∧ ByteText b :=
  List.forall_mem_append

theorem byteText_cons {c : Nat} {b : Bytes} : ByteText (c :: b) ↔ (1 ≤ c ∧ c < 256) ∧ ByteText b :=
  List.forall_mem_cons

theorem nlt_drop {t : Bytes} (n : Nat) (h : NLT t) : NLT (t.drop n) := by
  by_cases hle : t.length ≤ n
  · exact .inl (List.drop_of_length_le hle)
  · rcases h with rfl | h
    · exact .inl (by simp)
    · exact .inr (by rw [List.getLast?_drop, if_neg hle, h])

/-- the C string view of a NUL-free text is the text -/
theorem cstr_of_byteText {t : Bytes} (h : ByteText t) : cstr t = t :=
  cstr_of_ne_zero fun b hb => Nat.ne_of_gt (h b hb).1

/-! ### the shape of a directive line -/

theorem kw_eq : bytesOfString "@include" = kw := by decide +kernel
theorem slashStar_eq : bytesOfString "/*" = [47, 42] := by decide +kernel

theorem drop_takeWhile_length {α} (p : α → Bool) : ∀ l : List α,
    l.drop (l.takeWhile p).length = l.dropWhile p
  | [] => rfl
  | x :: xs => by
    simp only [List.takeWhile_cons, List.dropWhile_cons]
    split
    · simp only [List.length_cons, List.drop_succ_cons]; exact drop_takeWhile_length p xs
    · rfl

theorem blank_of_mem_takeWhile {l : Bytes} {c : Nat}
    (h : c ∈ l.takeWhile fun c => c == 32 || c == 9) : c = 32 ∨ c = 9 := by
  have := mem_takeWhile_imp h
  simpa using this

/-- **Shape of a directive line**: a text of `openStages` (blanks, `@include`, at least one
blank, a quote), a path without quote and backslash, a quote, the rest. -/
theorem directive?_shape {line path rest : Bytes} (h : directive? line = some (path, rest)) :
    ∃ pre, line = pre ++ (path ++ 34 :: rest) ∧ Flex.Stages openStages pre ∧
      ∀ c ∈ path, c ≠ 34 ∧ c ≠ 92 := by
  unfold directive? at h
  simp only [kw_eq] at h
  split at h
  · rename_i hpre
    split at h
    · rename_i hlen
      split at h
      · rename_i q hq
        split at h
        · rename_i rest' hrest
          simp only [Option.some.injEq, Prod.mk.injEq] at h
          obtain ⟨hpath, rfl⟩ := h
          -- name the pieces
          have hl : line = (line.takeWhile fun c => c == 32 || c == 9) ++ skipBlanks line :=
            List.takeWhile_append_dropWhile.symm
          obtain ⟨r, hr⟩ := List.isPrefixOf_iff_prefix.mp hpre
          have hdrop : (skipBlanks line).drop 8 = r := by rw [← hr]; rfl
          rw [hdrop] at hq hlen
          have hr2 : r = (r.takeWhile fun c => c == 32 || c == 9) ++ skipBlanks r :=
            List.takeWhile_append_dropWhile.symm
          have hq2 : q = path ++ 34 :: rest' := by
            rw [← hpath, ← hrest, drop_takeWhile_length]
            exact List.takeWhile_append_dropWhile.symm
          refine ⟨_, ?_, openStages_intro (b1 := line.takeWhile fun c => c == 32 || c == 9)
            (b2 := r.takeWhile fun c => c == 32 || c == 9)
            (fun c hc => blank_of_mem_takeWhile hc) (fun c hc => blank_of_mem_takeWhile hc) ?_, ?_⟩
          · simp only [List.append_assoc, List.cons_append, List.nil_append]
            rw [← hq2, ← hq, ← hr2, hr]
            exact hl
          · intro hnil
            rw [hnil, List.nil_append] at hr2
            rw [← hr2] at hlen
            exact Nat.lt_irrefl _ hlen
          · intro c hc
            rw [← hpath] at hc
            have := mem_takeWhile_imp hc
            simpa using this
        · cases h
      · cases h
    · cases h
  · cases h

theorem directive?_rest {line path rest : Bytes} (h : directive? line = some (path, rest)) :
    ∃ pre, pre ≠ [] ∧ line = pre ++ rest := by
  obtain ⟨pre, rfl, -⟩ := directive?_shape h
  exact ⟨pre ++ (path ++ [34]), by simp, by simp⟩

theorem directive?_none_of_noquote {line : Bytes} (h : 34 ∉ line) : directive? line = none := by
  cases hd : directive? line with
  | none => rfl
  | some x =>
    obtain ⟨pre, rfl, -⟩ := directive?_shape (path := x.1) (rest := x.2) hd
    simp at h

/-! ### plain lines -/

theorem hasInfix_of_prefix {a b : Bytes} (h : a <+: b) : hasInfix a b = true := by
  unfold hasInfix
  rw [List.any_eq_true]
  exact ⟨0, by simp, by simpa using h⟩

theorem hasInfix_drop {a b : Bytes} (n : Nat) (h : hasInfix a (b.drop n) = true) :
    hasInfix a b = true := by
  unfold hasInfix at h ⊢
  rw [List.any_eq_true] at h ⊢
  obtain ⟨i, hi, hp⟩ := h
  simp only [List.mem_range, List.length_drop] at hi
  rw [List.drop_drop] at hp
  by_cases hle : i + n ≤ b.length
  · exact ⟨i + n, by simp only [List.mem_range]; omega, by rw [Nat.add_comm]; exact hp⟩
  · -- beyond the end: the prefix is empty, found at position 0
    rw [List.drop_of_length_le (by omega)] at hp
    have : a = [] := by
      cases a with
      | nil => rfl
      | cons x xs => simp [List.isPrefixOf] at hp
    subst this
    exact ⟨0, by simp, by simp [List.isPrefixOf]⟩

/-- a line remainder on which nothing special can start: no quote, no `/*` -/
def PlainRem (l : Bytes) : Prop := 34 ∉ l ∧ hasInfix [47, 42] l = false

theorem plainRem_drop {l : Bytes} (n : Nat) (h : PlainRem l) : PlainRem (l.drop n) := by
  refine ⟨fun hm => h.1 (List.mem_of_mem_drop hm), ?_⟩
  cases hh : hasInfix [47, 42] (l.drop n) with
  | false => rfl
  | true => have h2 := h.2; rw [hasInfix_drop n hh] at h2; exact (Bool.noConfusion h2)

theorem plainRem_not_prefix {l : Bytes} (h : PlainRem l) : ¬ [47, 42] <+: l := by
  intro hp
  have h2 := h.2
  rw [hasInfix_of_prefix hp] at h2
  exact Bool.noConfusion h2

theorem plainRem_nil : PlainRem [] := ⟨by simp, by decide⟩

theorem plainRem_iff {l : Bytes} :
    (!l.contains 34 && !hasInfix (bytesOfString "/*") l) = true ↔ PlainRem l := by
  simp only [PlainRem, slashStar_eq, Bool.and_eq_true, Bool.not_eq_true', List.contains_eq_mem,
    decide_eq_false_iff_not]

theorem plain_nondir {l : Bytes} (hp : plainLine l = true) (hd : directive? l = none) :
    PlainRem l := by
  unfold plainLine at hp
  rw [hd] at hp
  exact plainRem_iff.mp hp

theorem plain_dir {l path rest : Bytes} (hp : plainLine l = true)
    (hd : directive? l = some (path, rest)) : PlainRem rest := by
  unfold plainLine at hp
  rw [hd] at hp
  exact plainRem_iff.mp hp

theorem plainLine_of_rem {l : Bytes} (h : PlainRem l) : plainLine l = true := by
  unfold plainLine
  rw [directive?_none_of_noquote h.1]
  exact plainRem_iff.mpr h

/-! ### `splice`, line by line -/

/-- what `splice` (with `n + 1` levels) puts in place of one line -/
def spliceLine (w : World) (ic : IncludeCfg) (n : Nat) (line : Bytes) : Bytes :=
  match directive? line with
  | some (path, rest) =>
    match includeFnEval ic.fn ic.dir path with
    | (some files, none) => (files.flatMap fun p => splice w ic n ((w.open? p).getD [])) ++ rest
    | _ => rest
  | none => line

/-- what `splice` makes of the lines after the current one -/
def spliceTail (w : World) (ic : IncludeCfg) (n : Nat) : Bytes → Bytes
  | [] => []
  | _ :: m => 10 :: splice w ic n m

theorem splice_succ (w : World) (ic : IncludeCfg) (n : Nat) (text : Bytes) :
    splice w ic (n + 1) text = [10].intercalate ((text.splitOn 10).map (spliceLine w ic n)) := by
  rw [splice]
  congr 2

theorem splice_line (w : World) (ic : IncludeCfg) (n : Nat) {l tail : Bytes} (hl : 10 ∉ l)
    (ht : Follow tail) :
    splice w ic (n + 1) (l ++ tail) = spliceLine w ic n l ++ spliceTail w ic (n + 1) tail := by
  rw [splice_succ, splitOn_line hl ht]
  rcases follow_cases ht with rfl | ⟨m, rfl⟩
  · simp [spliceTail]
  · simp only [List.map_cons, spliceTail]
    rw [List.intercalate_cons_of_ne_nil (by simp), splice_succ]
    simp

theorem follow_spliceTail (w : World) (ic : IncludeCfg) (n : Nat) (tail : Bytes) :
    Follow (spliceTail w ic n tail) := by
  cases tail with
  | nil => exact .inl rfl
  | cons c m => exact .inr rfl

theorem spliceLine_nondir (w : World) (ic : IncludeCfg) (n : Nat) {l : Bytes}
    (h : directive? l = none) : spliceLine w ic n l = l := by
  unfold spliceLine; rw [h]

theorem splice_nil (w : World) (ic : IncludeCfg) (n : Nat) : splice w ic n [] = [] := by
  cases n with
  | zero => rfl
  | succ n =>
    have := splice_line w ic n (l := []) (tail := []) (by simp) follow_nil
    simpa [spliceLine_nondir w ic n (directive?_none_of_noquote (line := []) (by simp)),
      spliceTail] using this

/-! ### a bound on the iterations of the scanner loop over a text with its includes -/

/-- iterations for one line: its bytes; for a directive line the three iterations of the
directive, the included files, and the rest of the line -/
def lineWeight (w : World) (ic : IncludeCfg) (weight : Bytes → Nat) (line : Bytes) : Nat :=
  match directive? line with
  | some (path, rest) =>
    match includeFnEval ic.fn ic.dir path with
    | (some files, none) => 3 + (files.map fun p => weight ((w.open? p).getD [])).sum + rest.length
    | _ => 3 + rest.length
  | none => line.length

/-- an upper bound on the number of iterations of the `yylex` loop it takes to scan `text` with
its includes (`n` levels), including the end-of-buffer iteration: one per line (the newline,
or the end of the buffer) plus the weight of the line -/
def weight (w : World) (ic : IncludeCfg) : Nat → Bytes → Nat
  | 0, text => text.length + 1
  | n + 1, text => ((text.splitOn 10).map fun line => 1 + lineWeight w ic (weight w ic n) line).sum

def weightTail (w : World) (ic : IncludeCfg) (n : Nat) : Bytes → Nat
  | [] => 0
  | _ :: m => weight w ic n m

theorem weight_line (w : World) (ic : IncludeCfg) (n : Nat) {l tail : Bytes} (hl : 10 ∉ l)
    (ht : Follow tail) :
    weight w ic (n + 1) (l ++ tail) =
      1 + lineWeight w ic (weight w ic n) l + weightTail w ic (n + 1) tail := by
  rw [weight, splitOn_line hl ht]
  rcases follow_cases ht with rfl | ⟨m, rfl⟩
  · simp [weightTail]
  · simp only [List.map_cons, List.sum_cons, weightTail]
    rw [weight]

theorem lineWeight_nondir (w : World) (ic : IncludeCfg) (f : Bytes → Nat) {l : Bytes}
    (h : directive? l = none) : lineWeight w ic f l = l.length := by
  unfold lineWeight; rw [h]

theorem lineWeight_dir (w : World) (ic : IncludeCfg) (f : Bytes → Nat) {l path rest : Bytes}
    {files : List Bytes} (hd : directive? l = some (path, rest))
    (hfn : includeFnEval ic.fn ic.dir path = (some files, none)) :
    lineWeight w ic f l = 3 + (files.map fun p => f ((w.open? p).getD [])).sum + rest.length := by
  unfold lineWeight
  rw [hd]
  simp only [hfn]

/-! ### the tree hypothesis, line by line -/

/-- internal form of `IncludeTreeOK'` (Properties/C10Splice.lean) -/
def TreeOK (w : World) (ic : IncludeCfg) : Nat → Bytes → Prop
  | 0, text => ByteText text ∧
      ∀ line ∈ text.splitOn 10, plainLine line = true ∧ directive? line = none
  | D + 1, text => ByteText text ∧
      ∀ line ∈ text.splitOn 10, plainLine line = true ∧
        ∀ path rest, directive? line = some (path, rest) →
          ∃ files, includeFnEval ic.fn ic.dir path = (some files, none) ∧
            (∀ p ∈ files, ∃ content, w.open? p = some content ∧ TreeOK w ic D content) ∧
            (∀ p ∈ files.dropLast, ∀ content, w.open? p = some content → NLT content) ∧
            (∀ p, files.getLast? = some p → ∀ content, w.open? p = some content →
              NLT content ∨ rest = [])

/-- a directive with path `path` and rest of line `rest` is resolvable at depth `D` -/
def DirOK (w : World) (ic : IncludeCfg) : Nat → Bytes → Bytes → Prop
  | 0, _, _ => False
  | D + 1, path, rest =>
    ∃ files, includeFnEval ic.fn ic.dir path = (some files, none) ∧
      (∀ p ∈ files, ∃ content, w.open? p = some content ∧ TreeOK w ic D content) ∧
      (∀ p ∈ files.dropLast, ∀ content, w.open? p = some content → NLT content) ∧
      (∀ p, files.getLast? = some p → ∀ content, w.open? p = some content →
        NLT content ∨ rest = [])

def LineOK (w : World) (ic : IncludeCfg) (D : Nat) (line : Bytes) : Prop :=
  plainLine line = true ∧ ∀ path rest, directive? line = some (path, rest) → DirOK w ic D path rest

theorem treeOK_iff (w : World) (ic : IncludeCfg) (D : Nat) (text : Bytes) :
    TreeOK w ic D text ↔ ByteText text ∧ ∀ line ∈ text.splitOn 10, LineOK w ic D line := by
  cases D with
  | zero =>
    simp only [TreeOK, LineOK, DirOK]
    constructor
    · rintro ⟨hb, h⟩
      exact ⟨hb, fun line hl => ⟨(h line hl).1, fun path rest hd => by
        rw [(h line hl).2] at hd; cases hd⟩⟩
    · rintro ⟨hb, h⟩
      refine ⟨hb, fun line hl => ⟨(h line hl).1, ?_⟩⟩
      cases hd : directive? line with
      | none => rfl
      | some x => exact ((h line hl).2 x.1 x.2 hd).elim
  | succ D => simp only [TreeOK, LineOK, DirOK]

theorem lineOK_of_rem (w : World) (ic : IncludeCfg) (D : Nat) {l : Bytes} (h : PlainRem l) :
    LineOK w ic D l :=
  ⟨plainLine_of_rem h, fun path rest hd => by
    rw [directive?_none_of_noquote h.1] at hd; cases hd⟩

/-- the first line of a well-formed text, and the text after it -/
theorem treeOK_line {w : World} {ic : IncludeCfg} {D : Nat} {l tail : Bytes} (hl : 10 ∉ l)
    (ht : Follow tail) (h : TreeOK w ic D (l ++ tail)) :
    ByteText l ∧ LineOK w ic D l ∧ ∀ m, tail = 10 :: m → TreeOK w ic D m := by
  rw [treeOK_iff, splitOn_line hl ht] at h
  obtain ⟨hb, hlines⟩ := h
  refine ⟨(byteText_append.mp hb).1, hlines l (List.mem_cons_self ..), ?_⟩
  rintro m rfl
  rw [treeOK_iff]
  exact ⟨fun b hbm => (byteText_append.mp hb).2 b (List.mem_cons_of_mem _ hbm),
    fun line hm => hlines line (List.mem_cons_of_mem _ hm)⟩

/-- replacing the first line -/
theorem treeOK_replace {w : World} {ic : IncludeCfg} {D : Nat} {l l' tail : Bytes} (hl : 10 ∉ l)
    (hl' : 10 ∉ l') (ht : Follow tail) (h : TreeOK w ic D (l ++ tail)) (hb' : ByteText l')
    (hok : LineOK w ic D l') : TreeOK w ic D (l' ++ tail) := by
  rw [treeOK_iff, splitOn_line hl ht] at h
  rw [treeOK_iff, splitOn_line hl' ht]
  obtain ⟨hb, hlines⟩ := h
  refine ⟨byteText_append.mpr ⟨hb', (byteText_append.mp hb).2⟩, ?_⟩
  intro line hm
  rcases List.mem_cons.mp hm with rfl | hm
  · exact hok
  · exact hlines line (List.mem_cons_of_mem _ hm)

theorem treeOK_byteText {w : World} {ic : IncludeCfg} {D : Nat} {t : Bytes} (h : TreeOK w ic D t) :
    ByteText t := ((treeOK_iff w ic D t).mp h).1

end Libconfig.C10S
