import LibconfigModel.Proofs.C03StackSeeded
/-
  C03S: replays at the constants of grammar.c (`YYINITDEPTH` 200, `YYMAXDEPTH` 10000):
  on the integer shadow (`ctl_run`: exact) the instances of `Ctl.run_shifts_init` and
  `seeded_shifts`.
-/
namespace Libconfig.C03SP

open Libconfig Libconfig.BisonStack

/-- `n` shifts (state 1, value 7; `YYSTACK_ALLOC` succeeds) -/
def shifts (n : Nat) : List (Event Nat) := List.replicate n (.shift 1 7 true)

/-- the integers of the full model after `n` shifts from the start of `yyparse` are those of the
shadow -/
theorem ctl_shifts (P : Params) (n : Nat) :
    ctlOf (BisonStack.run P (shifts n) (init P true)) = Ctl.run P (shifts n) (Ctl.init P true) := by
  rw [ctl_run, ctl_init]

/-- 198 shifts: 199 entries, the automatic arrays (200 slots) are still in use -/
theorem replay_198 : Ctl.run parserParams (shifts 198) (Ctl.init parserParams true) =
    { loc := .auto, stacksize := 200, capS := 200, capV := 200, ssp := 198, vsp := 198,
      status := .running, nextId := 0, sizes := [] } :=
  Ctl.run_shifts_init parserParams rfl (by decide) 1 7 0 198 (by decide) (by decide) (by decide)

/-- the 199th shift fills slot 199, the last one: the stacks move to a heap block of 400 slots -/
theorem replay_199 : Ctl.run parserParams (shifts 199) (Ctl.init parserParams true) =
    { loc := .heap 0, stacksize := 400, capS := 400, capV := 400, ssp := 199, vsp := 199,
      status := .running, nextId := 1, sizes := [400] } :=
  Ctl.run_shifts_init parserParams rfl (by decide) 1 7 1 199 (by decide) (by decide) (by decide)

/-- 9998 shifts: 9999 entries in the sixth heap block; the blocks had 400, 800, 1600, 3200, 6400,
10000 slots -/
theorem replay_9998 : Ctl.run parserParams (shifts 9998) (Ctl.init parserParams true) =
    { loc := .heap 5, stacksize := 10000, capS := 10000, capV := 10000, ssp := 9998, vsp := 9998,
      status := .running, nextId := 6, sizes := [10000, 6400, 3200, 1600, 800, 400] } :=
  Ctl.run_shifts_init parserParams rfl (by decide) 1 7 6 9998 (by decide) (by decide) (by decide)

theorem shifts_succ (n : Nat) : shifts (n + 1) = shifts n ++ [.shift 1 7 true] :=
  List.replicate_succ' ..

/-- the 9999th shift stores the 10000th entry into the last slot, and that is the end: "memory
exhausted", the stack is emptied, the block released -/
theorem replay_9999 : Ctl.run parserParams (shifts 9999) (Ctl.init parserParams true) =
    { loc := .heap 5, stacksize := 10000, capS := 10000, capV := 10000, ssp := 0, vsp := 0,
      status := .done .nomem, nextId := 6, sizes := [10000, 6400, 3200, 1600, 800, 400] } := by
  rw [shifts_succ, Ctl.run_append, replay_9998]
  exact Ctl.block_nomem parserParams rfl 1 7 true 6 9998 (by decide) (by decide)

/-- the constants of grammar.c with the seeded test -/
def seededParams : Params := { parserParams with test := fullTestSeeded }

/-- with the seeded test, 199 shifts leave `yyssp` at the LAST slot of the automatic arrays and
nothing allocated -/
theorem replay_seeded_199 : Ctl.run seededParams (shifts 199) (Ctl.init seededParams true) =
    { loc := .auto, stacksize := 200, capS := 200, capV := 200, ssp := 199, vsp := 199,
      status := .running, nextId := 0, sizes := [] } :=
  seeded_shifts seededParams rfl 1 7 true 199 (by decide)

end Libconfig.C03SP
