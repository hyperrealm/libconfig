import LibconfigModel.Api
/-
  Well-formedness of the setting tree (property C04) as a proposition and as an
  executable check.
-/
namespace Libconfig

/-- Constraints a node places on itself and on its immediate children. -/
structure Node.LocalWF (n : Node) : Prop where
  tyRange : n.ty ≤ 8
  scalarNoKids : n.isAggregate = false → n.kids = []
  groupNames : n.ty = T_GROUP → ∀ k ∈ n.kids, ∃ nm, k.name = some nm ∧ validName nm = true
  groupDistinct : n.ty = T_GROUP → (n.kids.map (·.name)).Nodup
  listNameless : n.ty = T_LIST → ∀ k ∈ n.kids, k.name = none
  arrayNameless : n.ty = T_ARRAY → ∀ k ∈ n.kids, k.name = none
  arrayScalar : n.ty = T_ARRAY → ∀ k ∈ n.kids, isScalarTy k.ty = true
  arrayHomog : n.ty = T_ARRAY → ∀ k ∈ n.kids, ∀ k' ∈ n.kids, k.ty = k'.ty

/-- Every node reachable from `n` is locally well-formed. -/
def Node.WF (n : Node) : Prop := ∀ p m, n.get? p = some m → m.LocalWF

/-- The C04 invariant (nodes of type NONE are allowed). -/
structure Config.WF (c : Config) : Prop where
  rootNameless : c.root.name = none
  rootGroup : c.root.ty = T_GROUP
  nodes : c.root.WF

/-! ### executable version (driver op `wf`) -/

def nodupB : List (Option Bytes) → Bool
  | [] => true
  | x :: xs => !xs.contains x && nodupB xs

def Node.localWFb (n : Node) : Bool :=
  decide (n.ty ≤ 8) &&
  (n.isAggregate || n.kids.isEmpty) &&
  (n.ty != T_GROUP ||
    (n.kids.all (fun k => match k.name with | some nm => validName nm | none => false) &&
     nodupB (n.kids.map (·.name)))) &&
  (n.ty != T_LIST || n.kids.all (fun k => k.name.isNone)) &&
  (n.ty != T_ARRAY ||
    (n.kids.all (fun k => k.name.isNone && isScalarTy k.ty) &&
     match n.kids with
     | [] => true
     | k0 :: ks => ks.all (fun k => k.ty == k0.ty)))

mutual
def Node.wfb : Node → Bool
  | .mk name ty fmt ival fval sval kids hook line file =>
    (Node.mk name ty fmt ival fval sval kids hook line file).localWFb && wfbList kids
def wfbList : List Node → Bool
  | [] => true
  | k :: ks => k.wfb && wfbList ks
end

def Config.wfb (c : Config) : Bool := c.root.name.isNone && c.root.ty == T_GROUP && c.root.wfb

/-! ### executable lookup oracle (driver op `lookup_all`): every setting is
found from every ancestor by the spellings the harness enumerates -/

def sepFor (i : Nat) : Nat := [46, 58, 47].getD (i % 3) 46

def sepBytes : Option Nat → Bytes
  | some c => [c]
  | none => []

mutual
/-- all (path text, relative index path) pairs below `n`, built like the harness does -/
def spellingsBelow : Nat → Node → Bytes → Path → Nat → List (Bytes × Path)
  | 0, _, _, _, _ => []
  | fuel+1, n, pre, rel, depth => spellingsKids fuel n.kids 0 pre rel depth
def spellingsKids : Nat → List Node → Nat → Bytes → Path → Nat → List (Bytes × Path)
  | 0, _, _, _, _, _ => []
  | _, [], _, _, _, _ => []
  | fuel+1, k :: ks, i, pre, rel, depth =>
    let comps : List Bytes := [[91] ++ natToDec i ++ [93]] ++ (match k.name with | some nm => [nm] | none => [])
    let seps : List (Option Nat) := [some (sepFor depth), some (sepFor (depth + 1)), some (sepFor (depth + 2))] ++
      (if depth == 0 then [none] else [])
    let here : List (Bytes × Path) := comps.flatMap fun comp => seps.map fun s =>
      (pre ++ sepBytes s ++ comp, rel ++ [i])
    let deeper : List (Bytes × Path) := comps.flatMap fun comp =>
      ([some (sepFor depth)] ++ (if depth == 0 then [none] else [])).flatMap fun s =>
        spellingsBelow fuel k (pre ++ sepBytes s ++ comp) (rel ++ [i]) (depth + 1)
    here ++ deeper ++ spellingsKids fuel ks (i + 1) pre rel depth
end

mutual
def lookupAllFrom : Nat → Node → Bool
  | 0, _ => true
  | fuel+1, base =>
    (spellingsBelow 64 base [] [] 0).all (fun (txt, rel) => lookupFrom base txt == some rel) &&
    lookupAllKids fuel base.kids
def lookupAllKids : Nat → List Node → Bool
  | 0, _ => true
  | _, [] => true
  | fuel+1, k :: ks => lookupAllFrom fuel k && lookupAllKids fuel ks
end

end Libconfig
