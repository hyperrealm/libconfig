import LibconfigModel.Basic
import LibconfigModel.Regex
/-
  The documented lexical rules of libconfig, as an ordered list of regular
  expressions, and the meaning of "the scanner's next token": the longest
  non-empty prefix matched by a rule that is active in the current start
  condition, the earliest rule on ties.

  Sources: doc/libconfig.texi (chapter "Configuration Files", the escape
  sequences of "String Values", and the terminals of "Configuration File
  Grammar") and the rule section of lib/scanner.l, which the manual's terminal
  table copies.  Rule `i` of scanner.l is flex rule number `i` (`case i:` in
  lib/scanner.c, entry `i` of `Generated.scanActions`).

  Where the two disagree this file follows scanner.l:
  * the manual's `<float>` prints the second alternative as `[-+]([0-9]+)…`
    (sign mandatory) — a typo for `[-+]?([0-9]+)…`;
  * the manual's `<hex64>` is `0[Xx][0-9A-Fa-f]+(L(L)?)?`, i.e. the union of
    scanner.l's `hex` and `hex64`; scanner.l (and the manual's own `<hex>`
    line) tell them apart by the mandatory `L`.

  flex conventions used in the transcription: `.` is every byte except `\n`;
  a negated class such as `[^\"\\]` contains every other byte, including NUL
  and `\n`; `\a \b \f \n \r \t \v` are the C escapes (7 8 12 10 13 9 11); a
  pattern starting with `^` is active only at the beginning of a line; a
  pattern without `<...>` is active only in INITIAL because all other start
  conditions are exclusive (`%x`).
-/
namespace Libconfig
namespace ScanSpec
open Rx

/-! ### byte classes (bit `b` set ⇔ byte `b` in the class)
Literals printed by a small Python helper (genmasks.py); `classes_ok` at the end
of this file ties every constant to its meaning. -/
/-- every byte (flex default rule) -/
def cAny : Nat := 0xffffffffffffffffffffffffffffffffffffffffffffffffffffffffffffffff
/-- `.` : every byte except \n -/
def cDot : Nat := 0xfffffffffffffffffffffffffffffffffffffffffffffffffffffffffffffbff
/-- `[^\"\\]` : every byte except `"` and `\` -/
def cNotQB : Nat := 0xffffffffffffffffffffffffffffffffffffffffeffffffffffffffbffffffff
/-- `\n` -/
def cNl : Nat := 0x400
/-- `\r` -/
def cCr : Nat := 0x2000
/-- `\f` -/
def cFormFeed : Nat := 0x1000
/-- `\a` -/
def cBel : Nat := 0x80
/-- `\b` -/
def cBs : Nat := 0x100
/-- `\v` -/
def cVt : Nat := 0x800
/-- `[ \t]` -/
def cSpTab : Nat := 0x100000200
/-- `#` -/
def cHash : Nat := 0x800000000
/-- `/` -/
def cSlash : Nat := 0x800000000000
/-- `*` -/
def cStar : Nat := 0x40000000000
/-- `"` -/
def cQuote : Nat := 0x400000000
/-- `\` -/
def cBackslash : Nat := 0x100000000000000000000000
/-- `@` -/
def cAt : Nat := 0x10000000000000000
/-- `=` -/
def cEq : Nat := 0x2000000000000000
/-- `:` -/
def cColon : Nat := 0x400000000000000
/-- `,` -/
def cComma : Nat := 0x100000000000
/-- `{` -/
def cLBrace : Nat := 0x8000000000000000000000000000000
/-- `}` -/
def cRBrace : Nat := 0x20000000000000000000000000000000
/-- `[` -/
def cLBrack : Nat := 0x80000000000000000000000
/-- `]` -/
def cRBrack : Nat := 0x200000000000000000000000
/-- `(` -/
def cLParen : Nat := 0x10000000000
/-- `)` -/
def cRParen : Nat := 0x20000000000
/-- `;` -/
def cSemi : Nat := 0x800000000000000
/-- `\.` (a literal full stop) -/
def cPeriod : Nat := 0x400000000000
/-- `0` -/
def cZero : Nat := 0x1000000000000
/-- `L` -/
def cUpperL : Nat := 0x10000000000000000000
/-- `[-+]` -/
def cSign : Nat := 0x280000000000
/-- `[0-9]` -/
def cDigit : Nat := 0x3ff000000000000
/-- `[0-9A-Fa-f]` -/
def cHexDigit : Nat := 0x7e0000007e03ff000000000000
/-- `[Xx]` -/
def cXx : Nat := 0x1000000010000000000000000000000
/-- `[eE]` -/
def cEe : Nat := 0x20000000200000000000000000
/-- `[A-Za-z\*]` -/
def cNameStart : Nat := 0x7fffffe07fffffe0000040000000000
/-- `[-A-Za-z0-9_\*]` -/
def cNameRest : Nat := 0x7fffffe87fffffe03ff240000000000
/-- `[Tt]` -/
def cTt : Nat := 0x100000001000000000000000000000
/-- `[Rr]` -/
def cRr : Nat := 0x40000000400000000000000000000
/-- `[Uu]` -/
def cUu : Nat := 0x200000002000000000000000000000
/-- `[Ff]` -/
def cFf : Nat := 0x40000000400000000000000000
/-- `[Aa]` -/
def cAa : Nat := 0x2000000020000000000000000
/-- `[Ll]` -/
def cLl : Nat := 0x1000000010000000000000000000
/-- `[Ss]` -/
def cSs : Nat := 0x80000000800000000000000000000
/-- `a` -/
def c_a : Nat := 0x2000000000000000000000000
/-- `b` -/
def c_b : Nat := 0x4000000000000000000000000
/-- `c` -/
def c_c : Nat := 0x8000000000000000000000000
/-- `d` -/
def c_d : Nat := 0x10000000000000000000000000
/-- `e` -/
def c_e : Nat := 0x20000000000000000000000000
/-- `f` -/
def c_f : Nat := 0x40000000000000000000000000
/-- `i` -/
def c_i : Nat := 0x200000000000000000000000000
/-- `l` -/
def c_l : Nat := 0x1000000000000000000000000000
/-- `n` -/
def c_n : Nat := 0x4000000000000000000000000000
/-- `r` -/
def c_r : Nat := 0x40000000000000000000000000000
/-- `t` -/
def c_t : Nat := 0x100000000000000000000000000000
/-- `u` -/
def c_u : Nat := 0x200000000000000000000000000000
/-- `v` -/
def c_v : Nat := 0x400000000000000000000000000000

/-! ### start conditions -/
@[reducible] def INITIAL : Nat := 0
@[reducible] def SINGLE_LINE_COMMENT : Nat := 1
@[reducible] def MULTI_LINE_COMMENT : Nat := 2
@[reducible] def STRING : Nat := 3
@[reducible] def INCLUDE : Nat := 4

structure SpecRule where
  rx : Rx
  /-- start conditions in which the rule is active -/
  scs : List Nat
  /-- `^` : only at the beginning of a line -/
  bol : Bool

/-! ### named definitions of scanner.l -/
/-- `[Tt][Rr][Uu][Ee]` -/
def rxTrue : Rx := .cat (.cls cTt) (.cat (.cls cRr) (.cat (.cls cUu) (.cls cEe)))
/-- `[Ff][Aa][Ll][Ss][Ee]` -/
def rxFalse : Rx :=
  .cat (.cls cFf) (.cat (.cls cAa) (.cat (.cls cLl) (.cat (.cls cSs) (.cls cEe))))
/-- `[A-Za-z\*][-A-Za-z0-9_\*]*` -/
def rxName : Rx := .cat (.cls cNameStart) (.star (.cls cNameRest))
/-- `[-+]?[0-9]+` -/
def rxInteger : Rx := .cat (opt (.cls cSign)) (plus (.cls cDigit))
/-- `[-+]?[0-9]+L(L)?` -/
def rxInteger64 : Rx :=
  .cat (opt (.cls cSign)) (.cat (plus (.cls cDigit)) (.cat (.cls cUpperL) (opt (.cls cUpperL))))
/-- `0[Xx][0-9A-Fa-f]+` -/
def rxHex : Rx := .cat (.cls cZero) (.cat (.cls cXx) (plus (.cls cHexDigit)))
/-- `0[Xx][0-9A-Fa-f]+L(L)?` -/
def rxHex64 : Rx :=
  .cat (.cls cZero) (.cat (.cls cXx) (.cat (plus (.cls cHexDigit))
    (.cat (.cls cUpperL) (opt (.cls cUpperL)))))
/-- `\\[Xx][0-9A-Fa-f]{2}` -/
def rxHexChar : Rx := .cat (.cls cBackslash) (.cat (.cls cXx) (rep 2 (.cls cHexDigit)))
/-- `[eE][-+]?[0-9]+` -/
def rxExponent : Rx := .cat (.cls cEe) (.cat (opt (.cls cSign)) (plus (.cls cDigit)))
/-- `([-+]?([0-9]*)?\.[0-9]*([eE][-+]?[0-9]+)?)|([-+]?([0-9]+)(\.[0-9]*)?[eE][-+]?[0-9]+)` -/
def rxFloat : Rx :=
  .alt
    (.cat (opt (.cls cSign)) (.cat (opt (.star (.cls cDigit)))
      (.cat (.cls cPeriod) (.cat (.star (.cls cDigit)) (opt rxExponent)))))
    (.cat (opt (.cls cSign)) (.cat (plus (.cls cDigit))
      (.cat (opt (.cat (.cls cPeriod) (.star (.cls cDigit)))) rxExponent)))
/-- `^[ \t]*@include[ \t]+\"` (the `^` is the rule's `bol` flag) -/
def rxIncludeOpen : Rx :=
  .cat (.star (.cls cSpTab)) (.cat (.cls cAt) (.cat (.cls c_i) (.cat (.cls c_n) (.cat (.cls c_c)
    (.cat (.cls c_l) (.cat (.cls c_u) (.cat (.cls c_d) (.cat (.cls c_e)
      (.cat (plus (.cls cSpTab)) (.cls cQuote))))))))))
/-- `\\c` for a letter `c` -/
def rxEsc (c : Nat) : Rx := .cat (.cls cBackslash) (.cls c)

/-- The rules of scanner.l in order (rule numbers 1 … 47), followed by the
default rule that flex appends to every scanner (number 48: any single byte,
in every start condition, action ECHO). -/
def documented : List SpecRule := [
  /-  1  (#|\/\/)                 -/ ⟨.alt (.cls cHash) (.cat (.cls cSlash) (.cls cSlash)), [INITIAL], false⟩,
  /-  2  <SINGLE_LINE_COMMENT>\n  -/ ⟨.cls cNl, [SINGLE_LINE_COMMENT], false⟩,
  /-  3  <SINGLE_LINE_COMMENT>.   -/ ⟨.cls cDot, [SINGLE_LINE_COMMENT], false⟩,
  /-  4  \/\*                     -/ ⟨.cat (.cls cSlash) (.cls cStar), [INITIAL], false⟩,
  /-  5  <MULTI_LINE_COMMENT>\*\/ -/ ⟨.cat (.cls cStar) (.cls cSlash), [MULTI_LINE_COMMENT], false⟩,
  /-  6  <MULTI_LINE_COMMENT>.    -/ ⟨.cls cDot, [MULTI_LINE_COMMENT], false⟩,
  /-  7  <MULTI_LINE_COMMENT>\n   -/ ⟨.cls cNl, [MULTI_LINE_COMMENT], false⟩,
  /-  8  \"                       -/ ⟨.cls cQuote, [INITIAL], false⟩,
  /-  9  <STRING>[^\"\\]+         -/ ⟨plus (.cls cNotQB), [STRING], false⟩,
  /- 10  <STRING>\\a              -/ ⟨rxEsc c_a, [STRING], false⟩,
  /- 11  <STRING>\\b              -/ ⟨rxEsc c_b, [STRING], false⟩,
  /- 12  <STRING>\\n              -/ ⟨rxEsc c_n, [STRING], false⟩,
  /- 13  <STRING>\\r              -/ ⟨rxEsc c_r, [STRING], false⟩,
  /- 14  <STRING>\\t              -/ ⟨rxEsc c_t, [STRING], false⟩,
  /- 15  <STRING>\\v              -/ ⟨rxEsc c_v, [STRING], false⟩,
  /- 16  <STRING>\\f              -/ ⟨rxEsc c_f, [STRING], false⟩,
  /- 17  <STRING>\\\\             -/ ⟨rxEsc cBackslash, [STRING], false⟩,
  /- 18  <STRING>\\\"             -/ ⟨rxEsc cQuote, [STRING], false⟩,
  /- 19  <STRING>{hexchar}        -/ ⟨rxHexChar, [STRING], false⟩,
  /- 20  <STRING>\\               -/ ⟨.cls cBackslash, [STRING], false⟩,
  /- 21  <STRING>\"               -/ ⟨.cls cQuote, [STRING], false⟩,
  /- 22  {include_open}           -/ ⟨rxIncludeOpen, [INITIAL], true⟩,
  /- 23  <INCLUDE>[^\"\\]+        -/ ⟨plus (.cls cNotQB), [INCLUDE], false⟩,
  /- 24  <INCLUDE>\\\\            -/ ⟨rxEsc cBackslash, [INCLUDE], false⟩,
  /- 25  <INCLUDE>\\\"            -/ ⟨rxEsc cQuote, [INCLUDE], false⟩,
  /- 26  <INCLUDE>\\              -/ ⟨.cls cBackslash, [INCLUDE], false⟩,
  /- 27  <INCLUDE>\"              -/ ⟨.cls cQuote, [INCLUDE], false⟩,
  /- 28  \n|\r|\f|\a|\b|\v        -/ ⟨.alt (.cls cNl) (.alt (.cls cCr) (.alt (.cls cFormFeed)
                                        (.alt (.cls cBel) (.alt (.cls cBs) (.cls cVt))))), [INITIAL], false⟩,
  /- 29  [ \t]+                   -/ ⟨plus (.cls cSpTab), [INITIAL], false⟩,
  /- 30  \=|\:                    -/ ⟨.alt (.cls cEq) (.cls cColon), [INITIAL], false⟩,
  /- 31  ,                        -/ ⟨.cls cComma, [INITIAL], false⟩,
  /- 32  \{                       -/ ⟨.cls cLBrace, [INITIAL], false⟩,
  /- 33  \}                       -/ ⟨.cls cRBrace, [INITIAL], false⟩,
  /- 34  {true}                   -/ ⟨rxTrue, [INITIAL], false⟩,
  /- 35  {false}                  -/ ⟨rxFalse, [INITIAL], false⟩,
  /- 36  {name}                   -/ ⟨rxName, [INITIAL], false⟩,
  /- 37  {float}                  -/ ⟨rxFloat, [INITIAL], false⟩,
  /- 38  {integer}                -/ ⟨rxInteger, [INITIAL], false⟩,
  /- 39  {integer64}              -/ ⟨rxInteger64, [INITIAL], false⟩,
  /- 40  {hex}                    -/ ⟨rxHex, [INITIAL], false⟩,
  /- 41  {hex64}                  -/ ⟨rxHex64, [INITIAL], false⟩,
  /- 42  \[                       -/ ⟨.cls cLBrack, [INITIAL], false⟩,
  /- 43  \]                       -/ ⟨.cls cRBrack, [INITIAL], false⟩,
  /- 44  \(                       -/ ⟨.cls cLParen, [INITIAL], false⟩,
  /- 45  \)                       -/ ⟨.cls cRParen, [INITIAL], false⟩,
  /- 46  ;                        -/ ⟨.cls cSemi, [INITIAL], false⟩,
  /- 47  .                        -/ ⟨.cls cDot, [INITIAL], false⟩,
  /- 48  flex default rule        -/ ⟨.cls cAny,
      [INITIAL, SINGLE_LINE_COMMENT, MULTI_LINE_COMMENT, STRING, INCLUDE], false⟩
]

/-! ### which rules compete -/
def memNat (x : Nat) : List Nat → Bool
  | [] => false
  | y :: ys => Nat.beq x y || memNat x ys

theorem memNat_iff {x : Nat} {l : List Nat} : memNat x l = true ↔ x ∈ l := by
  induction l with
  | nil => simp [memNat]
  | cons y ys ih => simp [memNat, ih]

/-- the rule competes in start condition `sc`, at (`bol`) or away from the
beginning of a line -/
def SpecRule.active (r : SpecRule) (sc : Nat) (bol : Bool) : Bool :=
  memNat sc r.scs && (!r.bol || bol)

theorem SpecRule.active_iff {r : SpecRule} {sc : Nat} {bol : Bool} :
    r.active sc bol = true ↔ sc ∈ r.scs ∧ (r.bol = true → bol = true) := by
  unfold SpecRule.active
  rw [Bool.and_eq_true, memNat_iff]
  cases r.bol <;> cases bol <;> simp

/-- Rule number `i` (counting from 1) is active in `(sc, bol)` and matches `w`. -/
def RuleMatches (rules : List SpecRule) (sc : Nat) (bol : Bool) (i : Nat) (w : List Nat) : Prop :=
  ∃ rule, 1 ≤ i ∧ rules[i - 1]? = some rule ∧ rule.active sc bol = true ∧ rule.rx.Matches w

/-- The documented choice: `inp.take n` is a non-empty prefix matched by the
active rule `r`; no active rule matches a longer prefix; no earlier active
rule matches the same prefix. -/
structure Selects (rules : List SpecRule) (sc : Nat) (bol : Bool) (inp : List Nat)
    (r n : Nat) : Prop where
  pos : 0 < n
  le : n ≤ inp.length
  matched : RuleMatches rules sc bol r (inp.take n)
  longest : ∀ m, n < m → m ≤ inp.length → ∀ i, ¬ RuleMatches rules sc bol i (inp.take m)
  first : ∀ i, i < r → ¬ RuleMatches rules sc bol i (inp.take n)

theorem Selects.unique {rules : List SpecRule} {sc : Nat} {bol : Bool} {inp : List Nat}
    {r n r' n' : Nat} (h : Selects rules sc bol inp r n) (h' : Selects rules sc bol inp r' n') :
    r = r' ∧ n = n' := by
  have hn : n = n' := by
    apply Nat.le_antisymm
    · apply Nat.le_of_not_lt; intro hlt
      exact h'.longest n hlt h.le r h.matched
    · apply Nat.le_of_not_lt; intro hlt
      exact h.longest n' hlt h'.le r' h'.matched
  subst hn
  refine ⟨?_, rfl⟩
  apply Nat.le_antisymm
  · apply Nat.le_of_not_lt; intro hlt
    exact h.first r' hlt h'.matched
  · apply Nat.le_of_not_lt; intro hlt
    exact h'.first r hlt h.matched

/-! ### executable definition: run all active rules in parallel by derivatives -/

/-- the rules still alive with what remains to be matched -/
abbrev Vec := List (Nat × Rx)

def startVecFrom (sc : Nat) (bol : Bool) : Nat → List SpecRule → Vec
  | _, [] => []
  | i, r :: rs =>
    if r.active sc bol then (i, r.rx) :: startVecFrom sc bol (i + 1) rs
    else startVecFrom sc bol (i + 1) rs

def startVec (rules : List SpecRule) (sc : Nat) (bol : Bool) : Vec :=
  startVecFrom sc bol 1 rules

/-- consume one byte; rules whose derivative is `∅` are dropped -/
def derivVec (b : Nat) : Vec → Vec
  | [] => []
  | (i, r) :: v =>
    match deriv b r with
    | .empty => derivVec b v
    | d => (i, d) :: derivVec b v

/-- smallest rule number whose remainder accepts the empty word -/
def acceptLabel : Vec → Option Nat
  | [] => none
  | (i, d) :: v =>
    match acceptLabel v with
    | none => if nullable d then some i else none
    | some j => if nullable d && Nat.ble i j then some i else some j

/-- remember the match ending here, if there is one -/
def bump (v : Vec) (pos : Nat) (last : Option (Nat × Nat)) : Option (Nat × Nat) :=
  match acceptLabel v with
  | some r => some (r, pos)
  | none => last

/-- `pos` bytes consumed, `last` = best match so far -/
def specScan : Vec → List Nat → Nat → Option (Nat × Nat) → Option (Nat × Nat)
  | v, [], pos, last => bump v pos last
  | v, c :: cs, pos, last =>
    match derivVec c v with
    | [] => bump v pos last
    | x :: v' => specScan (x :: v') cs (pos + 1) (bump v pos last)

/-- Rule number and length of the token at the head of `inp`.  Only non-empty
matches count. -/
def specNext (rules : List SpecRule) (sc : Nat) (bol : Bool) (inp : List Nat) :
    Option (Nat × Nat) :=
  match inp with
  | [] => none
  | c :: cs => specScan (derivVec c (startVec rules sc bol)) cs 1 none

/-! ### the executable definition means `Selects` -/

/-- entry `i` of the vector matches `w` -/
def MatchesAt (v : Vec) (i : Nat) (w : List Nat) : Prop := ∃ d, (i, d) ∈ v ∧ d.Matches w

theorem not_matchesAt_nil {i : Nat} {w : List Nat} : ¬ MatchesAt [] i w := by
  intro ⟨_, h, _⟩; cases h

theorem matchesAt_cons {j : Nat} {r : Rx} {v : Vec} {i : Nat} {w : List Nat} :
    MatchesAt ((j, r) :: v) i w ↔ (i = j ∧ r.Matches w) ∨ MatchesAt v i w := by
  constructor
  · intro ⟨d, hm, hd⟩
    cases hm with
    | head => exact .inl ⟨rfl, hd⟩
    | tail _ hm => exact .inr ⟨d, hm, hd⟩
  · intro h
    cases h with
    | inl h => exact ⟨r, h.1 ▸ List.Mem.head _, h.2⟩
    | inr h => obtain ⟨d, hm, hd⟩ := h; exact ⟨d, List.Mem.tail _ hm, hd⟩

theorem derivVec_iff {b : Nat} {v : Vec} {i : Nat} {w : List Nat} :
    MatchesAt (derivVec b v) i w ↔ MatchesAt v i (b :: w) := by
  induction v with
  | nil => exact ⟨fun h => (not_matchesAt_nil h).elim, fun h => (not_matchesAt_nil h).elim⟩
  | cons x v ih =>
    obtain ⟨j, r⟩ := x
    rw [matchesAt_cons, ← ih, ← deriv_iff]
    simp only [derivVec]
    split
    · next h =>
      rw [h]
      exact ⟨.inr, fun h => h.elim (fun h => (not_matches_empty h.2).elim) id⟩
    · exact matchesAt_cons

/-- entry `i - k` of a list whose entries are numbered from `k` -/
theorem getElem?_cons_sub {α : Type} {r x : α} {rs : List α} {i k : Nat} (hk : k ≤ i) :
    (r :: rs)[i - k]? = some x ↔ (i = k ∧ x = r) ∨ (k + 1 ≤ i ∧ rs[i - (k + 1)]? = some x) := by
  by_cases hik : i = k
  · subst hik
    rw [Nat.sub_self, List.getElem?_cons_zero, Option.some.injEq]
    exact ⟨fun h => .inl ⟨rfl, h.symm⟩, fun h => h.elim (fun h => h.2.symm) (fun h => by omega)⟩
  · rw [show i - k = (i - (k + 1)) + 1 by omega, List.getElem?_cons_succ]
    exact ⟨fun h => .inr ⟨by omega, h⟩, fun h => h.elim (fun h => (hik h.1).elim) (fun h => h.2)⟩

theorem startVecFrom_iff {sc : Nat} {bol : Bool} {rules : List SpecRule} :
    ∀ {k i : Nat} {w : List Nat}, MatchesAt (startVecFrom sc bol k rules) i w ↔
      ∃ rule, k ≤ i ∧ rules[i - k]? = some rule ∧ rule.active sc bol = true ∧ rule.rx.Matches w := by
  induction rules with
  | nil =>
    intro k i w
    simp only [startVecFrom]
    exact ⟨fun h => (not_matchesAt_nil h).elim, fun ⟨_, _, h, _⟩ => by simp at h⟩
  | cons r rs ih =>
    intro k i w
    have step : MatchesAt (startVecFrom sc bol k (r :: rs)) i w ↔
        (i = k ∧ r.active sc bol = true ∧ r.rx.Matches w) ∨
          MatchesAt (startVecFrom sc bol (k + 1) rs) i w := by
      simp only [startVecFrom]
      cases ha : r.active sc bol with
      | true => simp only [if_true, matchesAt_cons, true_and]
      | false => simp only [Bool.false_eq_true, if_false, false_and, and_false, false_or]
    rw [step, ih]
    constructor
    · rintro (⟨rfl, ha, hm⟩ | ⟨rule, hk, hget, ha, hm⟩)
      · exact ⟨r, Nat.le_refl _, (getElem?_cons_sub (Nat.le_refl _)).mpr (.inl ⟨rfl, rfl⟩), ha, hm⟩
      · exact ⟨rule, by omega, (getElem?_cons_sub (by omega)).mpr (.inr ⟨hk, hget⟩), ha, hm⟩
    · rintro ⟨rule, hk, hget, ha, hm⟩
      rcases (getElem?_cons_sub hk).mp hget with ⟨rfl, rfl⟩ | ⟨hk', hget'⟩
      · exact .inl ⟨rfl, ha, hm⟩
      · exact .inr ⟨rule, hk', hget', ha, hm⟩

theorem startVec_iff {rules : List SpecRule} {sc : Nat} {bol : Bool} {i : Nat} {w : List Nat} :
    MatchesAt (startVec rules sc bol) i w ↔ RuleMatches rules sc bol i w :=
  startVecFrom_iff

theorem acceptLabel_none {v : Vec} (h : acceptLabel v = none) : ∀ i, ¬ MatchesAt v i [] := by
  induction v with
  | nil => intro i; exact not_matchesAt_nil
  | cons x v ih =>
    obtain ⟨j, d⟩ := x
    intro i
    simp only [acceptLabel] at h
    split at h
    · next hv =>
      split at h
      · cases h
      · next hn =>
        rw [matchesAt_cons]
        intro hm
        cases hm with
        | inl hm => exact hn (nullable_iff.mpr hm.2)
        | inr hm => exact ih hv i hm
    · split at h <;> cases h

theorem acceptLabel_some {v : Vec} {r : Nat} (h : acceptLabel v = some r) :
    MatchesAt v r [] ∧ ∀ i, i < r → ¬ MatchesAt v i [] := by
  induction v generalizing r with
  | nil => cases h
  | cons x v ih =>
    obtain ⟨j, d⟩ := x
    simp only [acceptLabel] at h
    split at h
    · next hv =>
      split at h
      · next hn =>
        cases h
        refine ⟨matchesAt_cons.mpr (.inl ⟨rfl, nullable_iff.mp hn⟩), ?_⟩
        intro i hi hm
        cases matchesAt_cons.mp hm with
        | inl hm => omega
        | inr hm => exact acceptLabel_none hv i hm
      · cases h
    · next j' hv =>
      have ⟨ih1, ih2⟩ := ih hv
      split at h
      · next hc =>
        cases h
        simp only [Bool.and_eq_true] at hc
        have hle : r ≤ j' := Nat.le_of_ble_eq_true hc.2
        refine ⟨matchesAt_cons.mpr (.inl ⟨rfl, nullable_iff.mp hc.1⟩), ?_⟩
        intro i hi hm
        cases matchesAt_cons.mp hm with
        | inl hm => omega
        | inr hm => exact ih2 i (by omega) hm
      · next hc =>
        cases h
        refine ⟨matchesAt_cons.mpr (.inr ih1), ?_⟩
        intro i hi hm
        cases matchesAt_cons.mp hm with
        | inl hm =>
          obtain ⟨hij, hd⟩ := hm
          apply hc
          simp only [Bool.and_eq_true]
          exact ⟨nullable_iff.mpr hd, Nat.ble_eq_true_of_le (by omega)⟩
        | inr hm => exact ih2 i hi hm

theorem bump_spec (v : Vec) (pos : Nat) (last : Option (Nat × Nat)) :
    (bump v pos last = last ∧ ∀ i, ¬ MatchesAt v i []) ∨
    (∃ r, bump v pos last = some (r, pos) ∧ MatchesAt v r [] ∧ ∀ i, i < r → ¬ MatchesAt v i []) := by
  unfold bump
  split
  · next r h => exact .inr ⟨r, rfl, acceptLabel_some h⟩
  · next h => exact .inl ⟨rfl, acceptLabel_none h⟩

/-- Result of a scan from vector `v`: either nothing in `v` matches any prefix
and `last` is returned, or the longest prefix matched by an entry of `v`, with
the smallest entry number among those matching it. -/
theorem specScan_spec : ∀ (inp : List Nat) (v : Vec) (pos : Nat) (last : Option (Nat × Nat)),
    (specScan v inp pos last = last ∧ ∀ m, m ≤ inp.length → ∀ i, ¬ MatchesAt v i (inp.take m)) ∨
    (∃ r n, specScan v inp pos last = some (r, pos + n) ∧ n ≤ inp.length ∧
      MatchesAt v r (inp.take n) ∧
      (∀ i, i < r → ¬ MatchesAt v i (inp.take n)) ∧
      (∀ m, n < m → m ≤ inp.length → ∀ i, ¬ MatchesAt v i (inp.take m))) := by
  intro inp
  induction inp with
  | nil =>
    intro v pos last
    simp only [specScan, List.length_nil, List.take_nil]
    cases bump_spec v pos last with
    | inl h => exact .inl ⟨h.1, fun _ _ => h.2⟩
    | inr h =>
      obtain ⟨r, h1, h2, h3⟩ := h
      exact .inr ⟨r, 0, h1, Nat.le_refl _, h2, h3, fun m h1 h2 => by omega⟩
  | cons c cs ih =>
    intro v pos last
    -- what happens at length 0, and that longer prefixes go through the derivative
    have hlong : ∀ m, 0 < m → ∀ i, MatchesAt v i ((c :: cs).take m) ↔
        MatchesAt (derivVec c v) i (cs.take (m - 1)) := by
      intro m hm i
      obtain ⟨m', rfl⟩ : ∃ m', m = m' + 1 := ⟨m - 1, by omega⟩
      simp only [List.take_succ_cons, Nat.add_sub_cancel]
      exact derivVec_iff.symm
    -- the result when nothing longer than the empty prefix matches
    have short : (∀ m, 0 < m → m ≤ (c :: cs).length → ∀ i, ¬ MatchesAt v i ((c :: cs).take m)) →
        (bump v pos last = last ∧
            ∀ m, m ≤ (c :: cs).length → ∀ i, ¬ MatchesAt v i ((c :: cs).take m)) ∨
        (∃ r n, bump v pos last = some (r, pos + n) ∧ n ≤ (c :: cs).length ∧
          MatchesAt v r ((c :: cs).take n) ∧
          (∀ i, i < r → ¬ MatchesAt v i ((c :: cs).take n)) ∧
          (∀ m, n < m → m ≤ (c :: cs).length → ∀ i, ¬ MatchesAt v i ((c :: cs).take m))) := by
      intro hno
      cases bump_spec v pos last with
      | inl h =>
        refine .inl ⟨h.1, ?_⟩
        intro m hm i
        by_cases h0 : m = 0
        · subst h0; exact h.2 i
        · exact hno m (by omega) hm i
      | inr h =>
        obtain ⟨r, h1, h2, h3⟩ := h
        exact .inr ⟨r, 0, h1, Nat.zero_le _, h2, h3, fun m h1 h2 => hno m h1 h2⟩
    simp only [specScan]
    split
    · next hnil =>
      apply short
      intro m hm _ i
      rw [hlong m hm, hnil]
      exact not_matchesAt_nil
    · next x v' hcons =>
      rw [← hcons]
      cases ih (derivVec c v) (pos + 1) (bump v pos last) with
      | inl h =>
        rw [h.1]
        apply short
        intro m hm hle i
        rw [hlong m hm]
        exact h.2 (m - 1) (by simp only [List.length_cons] at hle; omega) i
      | inr h =>
        obtain ⟨r, n, h1, h2, h3, h4, h5⟩ := h
        refine .inr ⟨r, n + 1, ?_, ?_, ?_, ?_, ?_⟩
        · rw [h1]; congr 2; omega
        · simp only [List.length_cons]; omega
        · exact (hlong (n + 1) (by omega) r).mpr h3
        · intro i hi hm
          exact h4 i hi ((hlong (n + 1) (by omega) i).mp hm)
        · intro m hm hle i hmm
          exact h5 (m - 1) (by omega) (by simp only [List.length_cons] at hle; omega) i
            ((hlong m (by omega) i).mp hmm)

/-- The meaning of `specNext`: the documented choice, or nothing matches. -/
theorem specNext_spec (rules : List SpecRule) (sc : Nat) (bol : Bool) (inp : List Nat) :
    match specNext rules sc bol inp with
    | some (r, n) => Selects rules sc bol inp r n
    | none => ∀ m, 0 < m → m ≤ inp.length → ∀ i, ¬ RuleMatches rules sc bol i (inp.take m) := by
  cases inp with
  | nil =>
    simp only [specNext]
    intro m h1 h2
    simp only [List.length_nil] at h2
    omega
  | cons c cs =>
    have hlong : ∀ m, 0 < m → ∀ i, RuleMatches rules sc bol i ((c :: cs).take m) ↔
        MatchesAt (derivVec c (startVec rules sc bol)) i (cs.take (m - 1)) := by
      intro m hm i
      obtain ⟨m', rfl⟩ : ∃ m', m = m' + 1 := ⟨m - 1, by omega⟩
      simp only [List.take_succ_cons, Nat.add_sub_cancel]
      rw [derivVec_iff, startVec_iff]
    simp only [specNext]
    cases specScan_spec cs (derivVec c (startVec rules sc bol)) 1 none with
    | inl h =>
      rw [h.1]
      intro m hm hle i
      rw [hlong m hm]
      exact h.2 (m - 1) (by simp only [List.length_cons] at hle; omega) i
    | inr h =>
      obtain ⟨r, n, h1, h2, h3, h4, h5⟩ := h
      rw [h1]
      have e : 1 + n = n + 1 := Nat.add_comm _ _
      show Selects rules sc bol (c :: cs) r (1 + n)
      rw [e]
      exact {
        pos := by omega
        le := by simp only [List.length_cons]; omega
        matched := (hlong (n + 1) (by omega) r).mpr h3
        longest := fun m hm hle i hmm =>
          h5 (m - 1) (by omega) (by simp only [List.length_cons] at hle; omega) i
            ((hlong m (by omega) i).mp hmm)
        first := fun i hi hm => h4 i hi ((hlong (n + 1) (by omega) i).mp hm) }

theorem specNext_eq_some_iff {rules : List SpecRule} {sc : Nat} {bol : Bool} {inp : List Nat}
    {r n : Nat} : specNext rules sc bol inp = some (r, n) ↔ Selects rules sc bol inp r n := by
  have hs := specNext_spec rules sc bol inp
  constructor
  · intro h; rw [h] at hs; exact hs
  · intro h
    cases hn : specNext rules sc bol inp with
    | none =>
      rw [hn] at hs
      exact (hs n h.pos h.le r h.matched).elim
    | some p =>
      obtain ⟨r', n'⟩ := p
      rw [hn] at hs
      obtain ⟨rfl, rfl⟩ := hs.unique h
      rfl

theorem specNext_eq_none_iff {rules : List SpecRule} {sc : Nat} {bol : Bool} {inp : List Nat} :
    specNext rules sc bol inp = none ↔
      ∀ m, 0 < m → m ≤ inp.length → ∀ i, ¬ RuleMatches rules sc bol i (inp.take m) := by
  have hs := specNext_spec rules sc bol inp
  constructor
  · intro h; rw [h] at hs; exact hs
  · intro h
    cases hn : specNext rules sc bol inp with
    | none => rfl
    | some p =>
      obtain ⟨r, n⟩ := p
      rw [hn] at hs
      exact (h n hs.pos hs.le r hs.matched).elim

/-! ### the byte classes are what their names say -/
def classesOkAt (b : Nat) : Bool :=
  (mem cAny b == true) && (mem cDot b == (b != 10)) && (mem cNotQB b == (b != 34 && b != 92)) &&
  (mem cNl b == (b == 10)) && (mem cCr b == (b == 13)) && (mem cFormFeed b == (b == 12)) &&
  (mem cBel b == (b == 7)) && (mem cBs b == (b == 8)) && (mem cVt b == (b == 11)) &&
  (mem cSpTab b == (b == 32 || b == 9)) && (mem cHash b == (b == 35)) &&
  (mem cSlash b == (b == 47)) && (mem cStar b == (b == 42)) && (mem cQuote b == (b == 34)) &&
  (mem cBackslash b == (b == 92)) && (mem cAt b == (b == 64)) && (mem cEq b == (b == 61)) &&
  (mem cColon b == (b == 58)) && (mem cComma b == (b == 44)) && (mem cLBrace b == (b == 123)) &&
  (mem cRBrace b == (b == 125)) && (mem cLBrack b == (b == 91)) &&
  (mem cRBrack b == (b == 93)) && (mem cLParen b == (b == 40)) && (mem cRParen b == (b == 41)) &&
  (mem cSemi b == (b == 59)) && (mem cPeriod b == (b == 46)) && (mem cZero b == (b == 48)) &&
  (mem cUpperL b == (b == 76)) && (mem cSign b == (b == 45 || b == 43)) &&
  (mem cDigit b == isDigit b) && (mem cHexDigit b == isHexDigit b) &&
  (mem cXx b == (b == 88 || b == 120)) && (mem cEe b == (b == 69 || b == 101)) &&
  (mem cNameStart b == (isAlpha b || b == 42)) &&
  (mem cNameRest b == (isAlpha b || isDigit b || b == 45 || b == 95 || b == 42)) &&
  (mem cTt b == (b == 84 || b == 116)) && (mem cRr b == (b == 82 || b == 114)) &&
  (mem cUu b == (b == 85 || b == 117)) && (mem cFf b == (b == 70 || b == 102)) &&
  (mem cAa b == (b == 65 || b == 97)) && (mem cLl b == (b == 76 || b == 108)) &&
  (mem cSs b == (b == 83 || b == 115)) && (mem c_a b == (b == 97)) && (mem c_b b == (b == 98)) &&
  (mem c_c b == (b == 99)) && (mem c_d b == (b == 100)) && (mem c_e b == (b == 101)) &&
  (mem c_f b == (b == 102)) && (mem c_i b == (b == 105)) && (mem c_l b == (b == 108)) &&
  (mem c_n b == (b == 110)) && (mem c_r b == (b == 114)) && (mem c_t b == (b == 116)) &&
  (mem c_u b == (b == 117)) && (mem c_v b == (b == 118))

theorem classes_ok : ∀ b, b < 256 → classesOkAt b = true := by decide +kernel

/-- no byte ≥ 256 is in any class: the masks have 256 bits -/
theorem cAny_lt : cAny < 2 ^ 256 := by decide +kernel

end ScanSpec
end Libconfig
